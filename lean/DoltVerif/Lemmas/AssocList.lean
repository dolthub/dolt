/-! Association lists read with `List.lookup` (first binding wins), restricted by a filter on the key (the keep-set of
`Store.gc` of `Model/NbsStore`), updated by filtering one key out, and rebound by putting the new binding in front of that
(`setRef` of `Model/Puller`, `setB`/`delB` of `Model/Replication`): the facts the stores, ref maps and branch maps need
beyond core's `lookup` lemmas. -/
namespace DoltVerif

theorem mem_of_lookup {α β} [BEq α] [LawfulBEq α] {l : List (α × β)} {a : α} {b : β}
    (h : l.lookup a = some b) : (a, b) ∈ l := by
  obtain ⟨l₁, l₂, rfl, _⟩ := List.lookup_eq_some_iff.1 h
  exact List.mem_append_right _ (List.mem_cons_self ..)

theorem lookup_filter_key {α β} [BEq α] [LawfulBEq α] (keep : α → Bool) (l : List (α × β)) (a : α) :
    (l.filter (fun p => keep p.1)).lookup a = if keep a then l.lookup a else none := by
  induction l with
  | nil => simp
  | cons p l ih =>
    obtain ⟨k, v⟩ := p
    rw [List.filter_cons, List.lookup_cons]
    by_cases hak : a = k
    · -- the first binding is for `a`: it stays, and is then the one found, iff `a` is kept
      subst hak
      by_cases hk : keep a = true
      · rw [if_pos hk, if_pos hk, List.lookup_cons, beq_self_eq_true]
      · rw [if_neg hk, if_neg hk, ih, if_neg hk]
    · rw [beq_false_of_ne hak]
      split
      · rw [List.lookup_cons, beq_false_of_ne hak, ih]
      · exact ih

theorem lookup_filter_self {α β} [BEq α] [LawfulBEq α] (l : List (α × β)) (n : α) :
    (l.filter (fun p => p.1 != n)).lookup n = none := by
  rw [lookup_filter_key (· != n), if_neg (by simp)]

theorem lookup_filter_ne {α β} [BEq α] [LawfulBEq α] (l : List (α × β)) {n m : α} (hne : m ≠ n) :
    (l.filter (fun p => p.1 != n)).lookup m = l.lookup m := by
  rw [lookup_filter_key (· != n), if_pos (bne_iff_ne.mpr hne)]

theorem lookup_cons_filter_ne {α β} [BEq α] [LawfulBEq α] (l : List (α × β)) (v : β) {n m : α} (hne : m ≠ n) :
    ((n, v) :: l.filter (fun p => p.1 != n)).lookup m = l.lookup m := by
  rw [List.lookup_cons, beq_false_of_ne hne, lookup_filter_ne l hne]

end DoltVerif
