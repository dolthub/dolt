import DoltVerif.Model.AutoInc
/-!
C28: the tracker never goes down under inserts, and along a schedule without a lowering `Set` the
generated ids lie in `[cur, final)` and increase strictly (`gens_spec`).
-/
namespace DoltVerif.AutoInc

theorem nextNil_mono (cur : Nat) : cur ≤ (nextNil cur).2 := by
  unfold nextNil; split <;> simp

theorem nextGiven_mono (tmax cur v : Nat) : cur ≤ (nextGiven tmax cur v).2 := by
  -- the tracker stays (`v` below it, or out of bounds) or moves to `v + 1` or `v`, where `cur ≤ v`
  fun_cases nextGiven tmax cur v <;> simp <;> omega

theorem finalCur_ge {tmax : Nat} : ∀ {ops : List Op} {cur : Nat}, NoLowering tmax cur ops →
    cur ≤ finalCur tmax cur ops
  | [], _, _ => Nat.le_refl _
  | _ :: ops, _, h => Nat.le_trans h.1 (finalCur_ge (ops := ops) h.2)

theorem step_gen (tmax : Nat) {cur : Nat} (h : cur < maxU64) :
    step tmax cur .gen = (cur + 1, some (cur, true)) := by
  simp [step, nextNil, Nat.ne_of_lt h]

theorem step_explicit (tmax : Nat) {cur v : Nat} (hv : cur ≤ v) (hb : v + 1 ≤ tmax) (hmax : tmax ≤ maxU64) :
    step tmax cur (.explicit v) = (v + 1, some (v, false)) := by
  have h1 : ¬ cur > v := by omega
  have h2 : inBounds tmax v = true := by simp [inBounds]; omega
  have h3 : (v != maxU64) = true := by simp; unfold maxU64 at *; omega
  have h4 : inBounds tmax (v + 1) = true := by simp [inBounds]; omega
  simp [step, nextGiven, h1, h2, h3, h4]

theorem gens_spec {tmax : Nat} : ∀ {ops : List Op} {cur : Nat}, NoLowering tmax cur ops →
    finalCur tmax cur ops < maxU64 →
    (∀ g ∈ gens tmax cur ops, cur ≤ g ∧ g < finalCur tmax cur ops) ∧
    (gens tmax cur ops).Pairwise (· < ·)
  | [], _, _, _ => by simp [gens]
  | op :: ops, cur, h, hend => by
    have ih := gens_spec (ops := ops) h.2 hend
    have hge := finalCur_ge h.2
    cases op with
    | gen =>
      have hs := step_gen tmax (Nat.lt_of_le_of_lt (Nat.le_trans h.1 hge) hend)
      simp only [gens, finalCur, hs] at ih hge ⊢
      exact ⟨List.forall_mem_cons.mpr ⟨⟨Nat.le_refl _, hge⟩,
          fun g hg => ⟨Nat.le_of_succ_le (ih.1 g hg).1, (ih.1 g hg).2⟩⟩,
        List.pairwise_cons.mpr ⟨fun g hg => (ih.1 g hg).1, ih.2⟩⟩
    | explicit _ | set _ _ _ =>
      exact ⟨fun g hg => ⟨Nat.le_trans h.1 (ih.1 g hg).1, (ih.1 g hg).2⟩, ih.2⟩

end DoltVerif.AutoInc
