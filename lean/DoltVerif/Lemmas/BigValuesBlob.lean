import DoltVerif.Model.BigValues
/-! Blob trees: leaves concatenate to the data; full reads; capacity of the top level; single-column
row placement and JSON scan offsets (C16). -/
namespace DoltVerif.BigValues
open DoltVerif.ValCodec (Bytes)

/-- every `Read` returns at least one byte while data remains -/
def PositiveReads (seg : List Nat) : Prop := ∀ s ∈ seg, 0 < s

/-- every `Read` fills the buffer (what `bytes.Reader` does) -/
def FullReads (bufLen : Nat) (seg : List Nat) : Prop := ∀ s ∈ seg, bufLen ≤ s

theorem leafChunks_step (bufLen fuel : Nat) (data : Bytes) (seg : List Nat) (want : Nat)
    (hw : want = match seg with | [] => bufLen | s :: _ => min bufLen s) :
    leafChunks bufLen (fuel + 1) data seg =
      if min want data.length = 0 then []
      else data.take (min want data.length) :: leafChunks bufLen fuel (data.drop (min want data.length)) seg.tail := by
  subst hw; rfl

theorem leafChunks_flatten (bufLen : Nat) (hb : 0 < bufLen) :
    ∀ (fuel : Nat) (data : Bytes) (seg : List Nat), data.length < fuel → PositiveReads seg →
      (leafChunks bufLen fuel data seg).flatten = data := by
  intro fuel
  induction fuel with
  | zero => intro data seg h; omega
  | succ fuel ih =>
    intro data seg hf hp
    obtain ⟨want, hw, hpos⟩ : ∃ w, (w = match seg with | [] => bufLen | s :: _ => min bufLen s) ∧ 0 < w := by
      cases seg with
      | nil => exact ⟨bufLen, rfl, hb⟩
      | cons s ss => exact ⟨min bufLen s, rfl, by have := hp s (by simp); omega⟩
    rw [leafChunks_step bufLen fuel data seg want hw]
    by_cases hn : min want data.length = 0
    · rw [if_pos hn, List.length_eq_zero_iff.1 ((Nat.min_eq_zero_iff.1 hn).resolve_left (Nat.ne_of_gt hpos))]
      rfl
    · have hp' : PositiveReads seg.tail := fun s hs => hp s (List.mem_of_mem_tail hs)
      have hk := Nat.pos_of_ne_zero hn
      have hlt : (data.drop (min want data.length)).length < fuel := by
        rw [List.length_drop]
        exact Nat.lt_of_lt_of_le (Nat.sub_lt (Nat.lt_of_lt_of_le hk (Nat.min_le_right ..)) hk) (Nat.le_of_lt_succ hf)
      rw [if_neg hn, List.flatten_cons, ih _ _ hlt hp', List.take_append_drop]

theorem leafChunks_full (bufLen : Nat) :
    ∀ (fuel : Nat) (data : Bytes) (seg : List Nat), FullReads bufLen seg →
      leafChunks bufLen fuel data seg = leafChunks bufLen fuel data [] := by
  intro fuel
  induction fuel with
  | zero => intro data seg _; rfl
  | succ fuel ih =>
    intro data seg hfull
    cases seg with
    | nil => rfl
    | cons s ss =>
      have hs : bufLen ≤ s := hfull s (by simp)
      have hss : FullReads bufLen ss := fun x hx => hfull x (by simp [hx])
      unfold leafChunks
      simp only [List.tail_cons, Nat.min_eq_left hs]
      simp only [List.tail_nil]
      rw [ih (data.drop (min bufLen data.length)) ss hss]

theorem leafChunks_nil (bufLen fuel : Nat) (seg : List Nat) : leafChunks bufLen fuel [] seg = [] := by
  cases fuel with
  | zero => rfl
  | succ fuel => rw [leafChunks_step bufLen fuel [] seg _ rfl, List.length_nil, Nat.min_zero, if_pos rfl]

theorem leafChunks_short (cs fuel : Nat) (data : Bytes) (h0 : 0 < data.length) (hle : data.length ≤ cs) :
    leafChunks cs (fuel + 1) data [] = [data] := by
  rw [leafChunks_step cs fuel data [] cs rfl, Nat.min_eq_right hle, if_neg (Nat.ne_of_gt h0), List.take_length,
    List.drop_length, leafChunks_nil]

theorem leafChunks_long (cs fuel : Nat) (data : Bytes) (hc : 0 < cs) (h : cs < data.length) :
    leafChunks cs (fuel + 1) data [] = data.take cs :: leafChunks cs fuel (data.drop cs) [] := by
  rw [leafChunks_step cs fuel data [] cs rfl, Nat.min_eq_left (Nat.le_of_lt h), if_neg (Nat.ne_of_gt hc)]
  rfl

theorem leafChunks_count (cs : Nat) (hc : 0 < cs) :
    ∀ (fuel : Nat) (data : Bytes), (leafChunks cs fuel data []).length ≤ data.length / cs + 1
  | 0, _ => Nat.zero_le _
  | fuel + 1, data => by
    rcases Nat.lt_or_ge cs data.length with h | h
    · rw [leafChunks_long cs fuel data hc h, List.length_cons, Nat.div_eq_sub_div hc (Nat.le_of_lt h),
        ← List.length_drop]
      exact Nat.succ_le_succ (leafChunks_count cs hc fuel _)
    · cases data with
      | nil => rw [leafChunks_nil]; exact Nat.zero_le _
      | cons x xs => rw [leafChunks_short cs fuel (x :: xs) (Nat.succ_pos _) h]; exact Nat.le_add_left ..

theorem topLevelLoop_bound (sz : Nat) (hs : 2 ≤ sz) :
    ∀ (fuel ds : Nat), ds < fuel → ds < sz ^ topLevelLoop sz fuel ds := by
  intro fuel ds h
  fun_induction topLevelLoop sz fuel ds with
  | case1 => omega  -- no fuel: excluded by `ds < fuel`
  | case2 fuel ds h0 ih =>  -- one more level
    have hlt : ds / sz < ds := Nat.div_lt_self h0 (by omega)
    have := ih (by omega)
    rw [Nat.add_comm, Nat.pow_succ]
    exact (Nat.div_lt_iff_lt_mul (by omega)).1 this
  | case3 fuel ds h0 => simp; omega  -- `ds = 0`

theorem topLevelOf_pos (cs n : Nat) (hc : 0 < cs) (h : cs < n) : 1 ≤ topLevelOf cs n := by
  unfold topLevelOf topLevelLoop
  have : n / cs > 0 := Nat.div_pos (Nat.le_of_lt h) hc
  simp [this]

theorem cs_pos {cs : Nat} (hs : 2 ≤ cs / addrLen) : 0 < cs :=
  Nat.pos_of_ne_zero fun h => by subst h; simp at hs

/-- with full reads every leaf fits under the single node of the top level -/
theorem leaves_fit (cs : Nat) (hs : 2 ≤ cs / addrLen) (data : Bytes) (fuel : Nat) :
    (leafChunks cs fuel data []).length ≤ (cs / addrLen) ^ topLevelOf cs data.length :=
  Nat.le_trans (leafChunks_count cs (cs_pos hs) fuel data)
    (topLevelLoop_bound (cs / addrLen) hs (data.length + 1) (data.length / cs)
      (Nat.lt_succ_of_le (Nat.div_le_self ..)))

theorem selectOut_head (target total : Nat) (c : Cand) (cs : List Cand) :
    (selectOut target total (c :: cs)).contains c.col = true := by
  unfold selectOut; dsimp only; split <;> simp

/-- a row with a single adaptive column: if the row fits, `PutAdaptiveFromInline` alone decides;
if not, the value goes out of band exactly when that makes it shorter -/
theorem placeRow_single (target fixed len : Nat) :
    placeRow target fixed [some len] =
      [some (if fixed + (len + 1) ≤ target then putOutOfBand target len
        else decide (len + 1 > if putOutOfBand target len then varintLen len + addrLen else 1 + addrLen))] := by
  unfold placeRow
  simp only [List.map_cons, List.map_nil, List.sum_cons, List.sum_nil, Nat.add_zero, Option.map_some,
    List.length_cons, List.length_nil, List.range, List.range.loop, List.zip_cons_cons, List.zip_nil_right,
    List.filterMap_cons, List.filterMap_nil]
  split
  · rfl
  · by_cases h3 : len + 1 > if putOutOfBand target len then varintLen len + addrLen else 1 + addrLen
    · simp only [h3, if_true, decide_true]
      exact congrArg (fun b => [some b]) (selectOut_head ..)
    · simp only [h3, if_false, decide_false]
      rfl

theorem build_full_reads (cs : Nat) (data : Bytes) (seg : List Nat) (hf : FullReads cs seg) :
    build cs data seg = build cs data [] := by
  unfold build buildWith
  dsimp only
  by_cases h0 : data.length = 0
  · rw [if_pos h0, if_pos h0]
  · rw [if_neg h0, if_neg h0]
    by_cases hle : data.length ≤ cs
    · rw [if_pos hle, if_pos hle, leafChunks_full _ _ _ _ fun s hs => Nat.le_trans hle (hf s hs)]
    · rw [if_neg hle, if_neg hle, leafChunks_full _ _ _ _ hf]

theorem ScanOffsets.of_le {len s p : Nat} {ps : List Nat} (h : s ≤ p) :
    ScanOffsets len p ps → ScanOffsets len s ps := by
  cases ps with
  | nil => exact id
  | cons q qs => exact fun ⟨a, b⟩ => ⟨Nat.le_trans h a, b⟩

end DoltVerif.BigValues
