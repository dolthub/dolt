import DoltVerif.Lemmas.BigValuesBlob
import DoltVerif.Lemmas.ValCodecBytes
/-! Comparing two chunked values by their first differing aligned chunk (C16). -/
namespace DoltVerif.BigValues
open DoltVerif.ValCodec

/-- what a single `Next` can deliver at best: the first pair of leaves that differ (a missing leaf
counts as empty) -/
def leafCmp : List Bytes → List Bytes → Ordering
  | [], [] => .eq
  | [], r :: _ => bytesCompare [] r
  | l :: _, [] => bytesCompare l []
  | l :: ls, r :: rs => if l = r then leafCmp ls rs else bytesCompare l r

theorem leafCmp_drop_common : ∀ (n : Nat) (A B : List Bytes), A.take n = B.take n →
    leafCmp A B = leafCmp (A.drop n) (B.drop n) := by
  intro n
  induction n with
  | zero => intro A B _; rfl
  | succ n ih =>
    intro A B h
    cases A with
    | nil => cases B with
      | nil => rfl
      | cons b B' => simp at h
    | cons a A' => cases B with
      | nil => simp at h
      | cons b B' =>
        simp only [List.take_succ_cons, List.cons.injEq] at h
        obtain ⟨rfl, h'⟩ := h
        simp only [leafCmp, if_true, List.drop_succ_cons]
        exact ih A' B' h'

theorem leafCmp_self (A : List Bytes) : leafCmp A A = .eq := by
  rw [leafCmp_drop_common A.length A A rfl, List.drop_length]; rfl

theorem leafCmp_head : ∀ A B : List Bytes, (∀ a b, A.head? = some a → B.head? = some b → a ≠ b) →
    leafCmp A B = bytesCompare (A.head?.getD []) (B.head?.getD [])
  | [], [], _ => rfl
  | [], _ :: _, _ => rfl
  | _ :: _, [], _ => rfl
  | a :: _, b :: _, h => if_neg (h a b rfl rfl)

/-- leaves of a fixed-size chunking: none empty, all of size `cs` except possibly the last -/
def Aligned (cs : Nat) : List Bytes → Prop
  | [] => True
  | [l] => 0 < l.length ∧ l.length ≤ cs
  | l :: r :: rest => l.length = cs ∧ Aligned cs (r :: rest)

theorem Aligned.tail {cs : Nat} {l : Bytes} {ls : List Bytes} (h : Aligned cs (l :: ls)) : Aligned cs ls := by
  cases ls with
  | nil => trivial
  | cons r rest => exact h.2

theorem Aligned.cons {cs : Nat} {l : Bytes} {ls : List Bytes} (hc : 0 < cs) (hl : l.length = cs)
    (h : Aligned cs ls) : Aligned cs (l :: ls) := by
  cases ls with
  | nil => exact ⟨by omega, by omega⟩
  | cons r rest => exact ⟨hl, h⟩

theorem Aligned.head_pos {cs : Nat} (hc : 0 < cs) {l : Bytes} {ls : List Bytes} (h : Aligned cs (l :: ls)) :
    0 < l.length ∧ l.length ≤ cs := by
  cases ls with
  | nil => exact h
  | cons r rest => have := h.1; omega

theorem Aligned.short_is_last {cs : Nat} {l : Bytes} {ls : List Bytes} (h : Aligned cs (l :: ls))
    (hs : l.length < cs) : ls = [] := by
  cases ls with
  | nil => rfl
  | cons r rest => have := h.1; omega

theorem leafCmp_flatten (cs : Nat) (hc : 0 < cs) : ∀ (ls rs : List Bytes), Aligned cs ls → Aligned cs rs →
    leafCmp ls rs = bytesCompare ls.flatten rs.flatten := by
  intro ls rs hl hr
  fun_induction leafCmp ls rs with
  | case1 => rfl
  | case2 r rs =>  -- the left value ends
    exact (bytesCompare_append [] r [] rs.flatten
      (fun e => by subst e; exact Nat.lt_irrefl 0 (Aligned.head_pos hc hr).1) (fun _ => rfl) nofun).symm
  | case3 l ls =>  -- the right value ends
    exact (bytesCompare_append l [] ls.flatten []
      (fun e => by subst e; exact Nat.lt_irrefl 0 (Aligned.head_pos hc hl).1) nofun (fun _ => rfl)).symm
  | case4 l ls rs ih =>  -- equal leaves
    rw [List.flatten_cons, List.flatten_cons, bytesCompare_prefix, ih hl.tail hr.tail]
  | case5 l ls r rs he =>
    -- a chunk shorter than the other one is shorter than `cs`, hence the last of its value
    have hlp := Aligned.head_pos hc hl
    have hrp := Aligned.head_pos hc hr
    rw [List.flatten_cons, List.flatten_cons, bytesCompare_append l r _ _ he
      (fun h => by rw [hl.short_is_last (Nat.lt_of_lt_of_le h hrp.2)]; rfl)
      (fun h => by rw [hr.short_is_last (Nat.lt_of_lt_of_le h hlp.2)]; rfl)]

theorem leafChunks_aligned (cs : Nat) (hc : 0 < cs) : ∀ (fuel : Nat) (data : Bytes),
    Aligned cs (leafChunks cs fuel data [])
  | 0, _ => trivial
  | fuel + 1, data => by
    rcases Nat.lt_or_ge cs data.length with h | h
    · rw [leafChunks_long cs fuel data hc h]
      exact Aligned.cons hc (List.length_take_of_le (Nat.le_of_lt h)) (leafChunks_aligned cs hc fuel _)
    · cases data with
      | nil => rw [leafChunks_nil]; trivial
      | cons x xs => rw [leafChunks_short cs fuel (x :: xs) (Nat.succ_pos _) h]; exact ⟨Nat.succ_pos _, h⟩

end DoltVerif.BigValues
