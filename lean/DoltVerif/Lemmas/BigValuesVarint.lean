import DoltVerif.Model.BigValues
import DoltVerif.Lemmas.ValCodecLE
/-! SQLite4 varint (C16): the four forms `varintEncode` produces, what `varintDecode` reads from
each, and the round trip as their pairing. -/
namespace DoltVerif.BigValues
open DoltVerif.ValCodec

theorem decode1 (b0 : UInt8) (rest : Bytes) (h : b0.toNat ≤ 240) :
    varintDecode (b0 :: rest) = some (b0.toNat, 1) := by
  have h0 : b0 ≤ 0xF0 := UInt8.le_iff_toNat_le.2 h
  unfold varintDecode; simp only [h0, if_true]

theorem decode2 (b0 b1 : UInt8) (rest : Bytes) (h1 : 240 < b0.toNat) (h2 : b0.toNat ≤ 248) :
    varintDecode (b0 :: b1 :: rest) = some (240 + 256 * (b0.toNat - 241) + b1.toNat, 2) := by
  have h0 : ¬ b0 ≤ 0xF0 := fun h => Nat.not_le.2 h1 (UInt8.le_iff_toNat_le.1 h)
  have h8 : b0 ≤ 0xF8 := UInt8.le_iff_toNat_le.2 h2
  unfold varintDecode; simp only [h0, h8, if_true, if_false]

theorem decode3 (b1 b2 : UInt8) (rest : Bytes) :
    varintDecode (0xF9 :: b1 :: b2 :: rest) = some (2288 + 256 * b1.toNat + b2.toNat, 3) := rfl

theorem decode_be (tag : UInt8) (k n : Nat) (rest : Bytes) (htag : tag.toNat = 0xFA + (k - 3)) (hk : 3 ≤ k)
    (hn : n < 256 ^ k) :
    varintDecode (tag :: (beBytes k n ++ rest)) = some (n, k + 1) := by
  have ht : 249 < tag.toNat := by omega
  have h0 : ¬ tag ≤ 0xF0 := fun h => Nat.not_le.2 ht (Nat.le_trans (UInt8.le_iff_toNat_le.1 h) (by decide))
  have h8 : ¬ tag ≤ 0xF8 := fun h => Nat.not_le.2 ht (Nat.le_trans (UInt8.le_iff_toNat_le.1 h) (by decide))
  have h9 : ¬ tag = 0xF9 := fun e => Nat.ne_of_gt ht (congrArg UInt8.toNat e)
  have hn' : tag.toNat - 0xFA + 3 = k := by omega
  unfold varintDecode
  simp only [h0, h8, h9, if_false, hn']
  rw [if_neg (by simp [beBytes_length]), List.take_left' (beBytes_length k n), beNat_beBytes, Nat.mod_eq_of_lt hn]

theorem enc1 {n : Nat} (h : n < 241) : varintEncode n = [UInt8.ofNat n] := by
  unfold varintEncode; rw [if_pos h]

theorem enc2 {n : Nat} (h1 : ¬ n < 241) (h2 : n < 2288) :
    ∃ a b, a < 8 ∧ b < 256 ∧ n = 240 + 256 * a + b ∧ varintEncode n = [UInt8.ofNat (a + 241), UInt8.ofNat b] :=
  ⟨(n - 240) / 256, (n - 240) % 256, Nat.div_lt_of_lt_mul (by omega), Nat.mod_lt _ (by decide),
    by have := Nat.div_add_mod (n - 240) 256; omega, by unfold varintEncode; rw [if_neg h1, if_pos h2]⟩

theorem enc3 {n : Nat} (h2 : ¬ n < 2288) (h3 : n < 67824) :
    ∃ a b, a < 256 ∧ b < 256 ∧ n = 2288 + 256 * a + b ∧ varintEncode n = [0xF9, UInt8.ofNat a, UInt8.ofNat b] :=
  ⟨(n - 2288) / 256, (n - 2288) % 256, Nat.div_lt_of_lt_mul (by omega), Nat.mod_lt _ (by decide),
    by have := Nat.div_add_mod (n - 2288) 256; omega,
    by unfold varintEncode; rw [if_neg (by omega), if_neg h2, if_pos h3]⟩

theorem encBE {n : Nat} (h3 : ¬ n < 67824) (hn : n < 2 ^ 64) :
    ∃ (tag : UInt8) (k : Nat), varintEncode n = tag :: beBytes k n ∧ tag.toNat = 0xFA + (k - 3) ∧ 3 ≤ k ∧
      n < 256 ^ k := by
  fun_cases varintEncode n with
  | case1 | case2 | case3 => omega  -- the forms without a length tag end below 67824
  | case4 => exact ⟨0xFA, 3, rfl, by decide, by decide, Nat.lt_of_lt_of_le ‹n < 2 ^ 24› (by decide)⟩
  | case5 => exact ⟨0xFB, 4, rfl, by decide, by decide, Nat.lt_of_lt_of_le ‹n < 2 ^ 32› (by decide)⟩
  | case6 => exact ⟨0xFC, 5, rfl, by decide, by decide, Nat.lt_of_lt_of_le ‹n < 2 ^ 40› (by decide)⟩
  | case7 => exact ⟨0xFD, 6, rfl, by decide, by decide, Nat.lt_of_lt_of_le ‹n < 2 ^ 48› (by decide)⟩
  | case8 => exact ⟨0xFE, 7, rfl, by decide, by decide, Nat.lt_of_lt_of_le ‹n < 2 ^ 56› (by decide)⟩
  | case9 => exact ⟨0xFF, 8, rfl, by decide, by decide, Nat.lt_of_lt_of_le hn (by decide)⟩

theorem varint_roundtrip (n : Nat) (hn : n < 2 ^ 64) (rest : Bytes) :
    varintDecode (varintEncode n ++ rest) = some (n, (varintEncode n).length) := by
  by_cases c1 : n < 241
  · rw [enc1 c1]
    have hb : (UInt8.ofNat n).toNat = n := UInt8.toNat_ofNat_of_lt' (show _ < 256 by omega)
    exact (decode1 _ rest (by omega)).trans (by rw [hb]; rfl)
  by_cases c2 : n < 2288
  · obtain ⟨a, b, ha, hb, rfl, he⟩ := enc2 c1 c2
    have ta : (UInt8.ofNat (a + 241)).toNat = a + 241 := UInt8.toNat_ofNat_of_lt' (show _ < 256 by omega)
    rw [he]
    refine (decode2 _ _ rest (by omega) (by omega)).trans ?_
    rw [ta, UInt8.toNat_ofNat_of_lt' hb, Nat.add_sub_cancel]
    rfl
  by_cases c3 : n < 67824
  · obtain ⟨a, b, ha, hb, rfl, he⟩ := enc3 c2 c3
    rw [he]
    refine (decode3 _ _ rest).trans ?_
    rw [UInt8.toNat_ofNat_of_lt' ha, UInt8.toNat_ofNat_of_lt' hb]
    rfl
  · obtain ⟨tag, k, he, ht, k3, hk⟩ := encBE c3 hn
    rw [he, List.length_cons, beBytes_length]
    exact decode_be tag k n rest ht k3 hk

/-- a leading 0 is read back as the number 0 -/
theorem varint_head_ne_zero (n : Nat) (h0 : 0 < n) (hn : n < 2 ^ 64) :
    ∃ b bs, varintEncode n = b :: bs ∧ b ≠ 0 := by
  have hr := varint_roundtrip n hn []
  cases he : varintEncode n with
  | nil => rw [he] at hr; cases hr
  | cons b bs =>
    refine ⟨b, bs, rfl, fun e => ?_⟩
    rw [he, e, List.cons_append, decode1 0 _ (Nat.zero_le _)] at hr
    exact Nat.ne_of_lt h0 (congrArg Prod.fst (Option.some.inj hr))

end DoltVerif.BigValues
