import DoltVerif.Lemmas.BigValuesCompare
/-! `blobChunkDiffer.Next` on two fixed-fan-out trees of the same height (C16).  While both sides are
alive the two stacks hold the same frames, so the state is one stack over two leaf lists; `walkN` follows
it from any such state to the first pair of leaves that differ. -/
namespace DoltVerif.BigValues
open DoltVerif.ValCodec

/-- what `compareAdaptive` makes of the result of its one call of `Next` -/
def resultOrd : NextResult → Option Ordering
  | .eof => some .eq
  | .pair l r => some (bytesCompare (l.getD []) (r.getD []))
  | .outOfFuel => none

theorem resultOrd_leaves (a b : Option Bytes) :
    resultOrd (if a.isNone && b.isNone then .eof else .pair a b) = some (bytesCompare (a.getD []) (b.getD [])) := by
  cases a <;> cases b <;> rfl

/-- an out-of-band side in the middle of a walk -/
abbrev onTree (T : Tree) (S : List Frame) : Side := ⟨some T, S, none, false⟩

theorem compareAdaptive_oob (a b : Tree) :
    compareAdaptive (.oob (some a)) (.oob (some b)) =
      if a = b then some .eq
      else resultOrd (differNext (fuelFor (.oob (some a)) + fuelFor (.oob (some b)))
        (onTree a [⟨a.level, 0, 0⟩]) (onTree b [⟨b.level, 0, 0⟩])) := by
  unfold compareAdaptive resultOrd
  simp only [decide_eq_true_eq, mkSide]
  rfl

theorem count0 (t : Tree) (o i : Nat) : nodeCount t ⟨0, o, i⟩ = 1 := by simp [nodeCount]

theorem count_spec (L : List Bytes) (tl sz m o j x : Nat) (hsz : 1 ≤ sz) :
    x < nodeCount ⟨tl, sz, L⟩ ⟨m + 1, o, j⟩ ↔ (x < sz ∧ o + x * sz ^ m < L.length) := by
  have hw : 0 < sz ^ m := Nat.pow_pos (by omega)
  unfold nodeCount span
  simp only [Nat.add_one_ne_zero, if_false, Nat.add_sub_cancel]
  have key : ∀ s : Nat, x < (s + sz ^ m - 1) / sz ^ m ↔ x * sz ^ m < s := by
    intro s
    rw [show (x < (s + sz ^ m - 1) / sz ^ m) = (x + 1 ≤ (s + sz ^ m - 1) / sz ^ m) from rfl,
      Nat.le_div_iff_mul_le hw, Nat.add_mul]
    omega
  rw [key, Nat.lt_min, Nat.pow_succ', Nat.mul_lt_mul_right hw, Nat.lt_sub_iff_add_lt']

theorem count_le (L : List Bytes) (tl sz m o j : Nat) (hsz : 1 ≤ sz) :
    nodeCount ⟨tl, sz, L⟩ ⟨m + 1, o, j⟩ ≤ sz :=
  Nat.le_of_not_lt fun h => Nat.lt_irrefl _ ((count_spec L tl sz m o j sz hsz).1 h).1

theorem child_eq (tl sz m o i : Nat) (L : List Bytes) :
    childLeaves ⟨tl, sz, L⟩ ⟨m + 1, o, i⟩ = (L.drop (o + i * sz ^ m)).take (sz ^ m) := by
  simp [childLeaves]

theorem descend_eq (T : Tree) (k o i : Nat) (S : List Frame) :
    (onTree T (⟨k, o, i⟩ :: S)).descend = onTree T (⟨k - 1, o + i * T.sz ^ (k - 1), 0⟩ :: ⟨k, o, i + 1⟩ :: S) := by
  simp [Side.descend]

/-- where the next child of a frame starts -/
def nextStart (sz : Nat) (f : Frame) : Nat := f.off + f.idx * sz ^ (f.level - 1)

/-- all frames of a stack are internal and resume at or after leaf index `e` -/
def Above (sz e : Nat) (S : List Frame) : Prop := ∀ g ∈ S, 1 ≤ g.level ∧ e ≤ nextStart sz g

theorem above_cons {sz m o i : Nat} {S : List Frame} (hi : i ≤ sz) (h : Above sz (o + sz ^ (m + 1)) S) :
    Above sz (o + i * sz ^ m) (⟨m + 1, o, i⟩ :: S) := by
  intro g hg
  rcases List.mem_cons.1 hg with rfl | hg
  · exact ⟨Nat.le_add_left 1 m, Nat.le_refl _⟩
  · refine ⟨(h g hg).1, Nat.le_trans ?_ (h g hg).2⟩
    rw [Nat.pow_succ']
    exact Nat.add_le_add_left (Nat.mul_le_mul_right _ hi) o

theorem trim_keep (t : Tree) (f : Frame) (rest : List Frame) (h : ¬ f.idx ≥ nodeCount t f) :
    (onTree t (f :: rest)).trim = onTree t (f :: rest) := by
  simp [Side.trim, List.dropWhile, h]

theorem trim_all (L : List Bytes) (tl sz e : Nat) (hsz : 1 ≤ sz) (he : L.length ≤ e) :
    ∀ (S : List Frame), Above sz e S → (onTree ⟨tl, sz, L⟩ S).trim = onTree ⟨tl, sz, L⟩ [] := by
  intro S
  induction S with
  | nil => intro _; rfl
  | cons g S ih =>
    intro ha
    obtain ⟨k, o, i⟩ := g
    obtain ⟨(h1 : 1 ≤ k), h2⟩ := ha _ (List.mem_cons_self ..)
    obtain ⟨m, rfl⟩ : ∃ m, k = m + 1 := ⟨k - 1, by omega⟩
    have hex : i ≥ nodeCount ⟨tl, sz, L⟩ ⟨m + 1, o, i⟩ := Nat.le_of_not_lt fun hlt => by
      have := ((count_spec L tl sz m o i i hsz).1 hlt).2
      simp only [nextStart, Nat.add_sub_cancel] at h2
      omega
    have ih' := ih fun x hx => ha x (List.mem_cons_of_mem _ hx)
    simp only [Side.trim, List.dropWhile, hex, decide_true] at ih' ⊢
    exact ih'

theorem trim_frame (L : List Bytes) (tl sz m o i : Nat) (S : List Frame) (hsz : 1 ≤ sz) (hi : i < sz)
    (hab : Above sz (o + sz ^ (m + 1)) S) :
    (onTree ⟨tl, sz, L⟩ (⟨m + 1, o, i⟩ :: S)).trim =
      onTree ⟨tl, sz, L⟩ (if o + i * sz ^ m < L.length then ⟨m + 1, o, i⟩ :: S else []) := by
  split
  · next h => exact trim_keep _ _ _ (Nat.not_le.2 ((count_spec L tl sz m o i i hsz).2 ⟨hi, h⟩))
  · next h => exact trim_all L tl sz _ hsz (Nat.le_of_not_lt h) _ (above_cons (Nat.le_of_lt hi) hab)

theorem nextLeaf_nil (t : Option Tree) (fuel : Nat) :
    (Side.nextLeaf (fuel + 1) ⟨t, [], none, false⟩).1 = none := by
  rw [Side.nextLeaf]; cases t <;> simp

theorem nextLeaf_leaf (t : Tree) (o : Nat) (rest : List Frame) (fuel : Nat) :
    (Side.nextLeaf (fuel + 1) (onTree t (⟨0, o, 0⟩ :: rest))).1 = t.leaves[o]? := by
  rw [Side.nextLeaf]; simp [nodeCount]

theorem nextLeaf_descend (L : List Bytes) (tl sz m o i : Nat) (S : List Frame) (fuel : Nat) (hsz : 1 ≤ sz)
    (hi : i < sz) (h : o + i * sz ^ m < L.length) :
    Side.nextLeaf (fuel + 1) (onTree ⟨tl, sz, L⟩ (⟨m + 1, o, i⟩ :: S)) =
      Side.nextLeaf fuel (onTree ⟨tl, sz, L⟩ (⟨m, o + i * sz ^ m, 0⟩ :: ⟨m + 1, o, i + 1⟩ :: S)) := by
  have hc : ¬ i ≥ nodeCount ⟨tl, sz, L⟩ ⟨m + 1, o, i⟩ := Nat.not_le.2 ((count_spec L tl sz m o i i hsz).2 ⟨hi, h⟩)
  rw [Side.nextLeaf]; simp [hc, Side.descend]

theorem nextLeaf_first (L : List Bytes) (tl sz : Nat) (hsz : 1 ≤ sz) :
    ∀ (k q : Nat) (S : List Frame) (fuel : Nat), q < L.length → k ≤ fuel →
      (Side.nextLeaf (fuel + 1) (onTree ⟨tl, sz, L⟩ (⟨k, q, 0⟩ :: S))).1 = L[q]? := by
  intro k
  induction k with
  | zero => intro q S fuel _ _; exact nextLeaf_leaf _ q S fuel
  | succ k ih =>
    intro q S fuel hq hf
    obtain ⟨f, rfl⟩ : ∃ f, fuel = f + 1 := ⟨fuel - 1, by omega⟩
    have := nextLeaf_descend L tl sz k q 0 S (f + 1) hsz (by omega) (by omega)
    rw [Nat.zero_mul, Nat.add_zero] at this
    rw [this]
    exact ih q _ f hq (by omega)

theorem nextLeaf_frame (L : List Bytes) (tl sz : Nat) (hsz : 1 ≤ sz) (m o i : Nat) (S : List Frame) (fuel : Nat)
    (hi : i < sz) (hf : m + 1 ≤ fuel) :
    (Side.nextLeaf (fuel + 1) (onTree ⟨tl, sz, L⟩ (if o + i * sz ^ m < L.length then ⟨m + 1, o, i⟩ :: S else []))).1 =
      L[o + i * sz ^ m]? := by
  split
  · next h =>
    obtain ⟨f, rfl⟩ : ∃ f, fuel = f + 1 := ⟨fuel - 1, by omega⟩
    rw [nextLeaf_descend L tl sz m o i S _ hsz hi h, nextLeaf_first L tl sz hsz m _ _ f h (by omega)]
  · next h => rw [nextLeaf_nil, List.getElem?_eq_none (Nat.le_of_not_lt h)]

theorem dn_sameLevel (fuel : Nat) (l r : Side) (lt rt : Tree) (k lo li ro ri : Nat) (lrest rrest : List Frame)
    (hl : l.trim = onTree lt (⟨k + 1, lo, li⟩ :: lrest)) (hr : r.trim = onTree rt (⟨k + 1, ro, ri⟩ :: rrest)) :
    differNext (fuel + 1) l r =
      (if childLeaves lt ⟨k + 1, lo, li⟩ = childLeaves rt ⟨k + 1, ro, ri⟩ ∧ lt.sz = rt.sz then
          differNext fuel (onTree lt (⟨k + 1, lo, li + 1⟩ :: lrest)) (onTree rt (⟨k + 1, ro, ri + 1⟩ :: rrest))
       else differNext fuel (onTree lt (⟨k, lo + li * lt.sz ^ k, 0⟩ :: ⟨k + 1, lo, li + 1⟩ :: lrest))
            (onTree rt (⟨k, ro + ri * rt.sz ^ k, 0⟩ :: ⟨k + 1, ro, ri + 1⟩ :: rrest))) := by
  rw [differNext]; simp only [hl, hr]
  simp [Side.exhausted, descend_eq]

theorem dn_leaves (fuel : Nat) (l r : Side) (lt rt : Tree) (Sl Sr : List Frame)
    (hl : l.trim = onTree lt Sl) (hr : r.trim = onTree rt Sr)
    (h : ∀ lf rf, Sl.head? = some lf → Sr.head? = some rf → ¬ (lf.level > 0 ∧ rf.level > 0 ∧ lf.level = rf.level)) :
    resultOrd (differNext (fuel + 1) l r) =
      some (bytesCompare ((Side.nextLeaf (fuel + 1) (onTree lt Sl)).1.getD [])
        ((Side.nextLeaf (fuel + 1) (onTree rt Sr)).1.getD [])) := by
  rw [← resultOrd_leaves, differNext]; simp only [hl, hr]
  cases Sl with
  | nil => cases Sr <;> simp [Side.exhausted, nextLeaf_nil]
  | cons lf lrest =>
    cases Sr with
    | nil => simp [Side.exhausted, nextLeaf_nil]
    | cons rf rrest => simp [Side.exhausted, h lf rf rfl rfl]

/-- the two values differ somewhere in the leaves `[q, e)` -/
def DifferIn (L R : List Bytes) (q e : Nat) : Prop := (L.drop q).take (e - q) ≠ (R.drop q).take (e - q)

theorem DifferIn.lt {L R : List Bytes} {q e : Nat} (h : DifferIn L R q e) : q < e :=
  Nat.lt_of_not_le fun hle => h (by rw [Nat.sub_eq_zero_of_le hle]; rfl)

theorem DifferIn.skip {L R : List Bytes} {q e w : Nat} (h : DifferIn L R q e) (hw : q + w ≤ e)
    (he : (L.drop q).take w = (R.drop q).take w) : DifferIn L R (q + w) e := by
  intro hcon
  apply h
  have hle : w ≤ e - q := Nat.le_sub_of_add_le' hw
  rw [← Nat.add_sub_cancel' hle, List.take_add, List.take_add, he, List.drop_drop, List.drop_drop, Nat.sub_sub, hcon]

/-- **the walk over two same-height fixed-fan-out trees**: synchronized frames of level `k` resuming at
leaf `q` (child `i`), parents resuming after the frame's window `[o, o + sz ^ k)`, and the two values
differ in what is left of the window.  Then `Next` never returns to the parents with both sides alive:
it skips equal children, descends into the first pair that differs, and a side that ends is exhausted
in all its frames — the result is the first pair of leaves from `q` on that differ.  That it never
returns is also what keeps the walk within the linear `fuelFor`: every skipped child holds a leaf of `L`. -/
theorem walkN (sz : Nat) (hsz : 1 ≤ sz) (L R : List Bytes) (tl tr : Nat) :
    ∀ (fuel k o i q : Nat) (S : List Frame), nextStart sz ⟨k, o, i⟩ = q → Above sz (o + sz ^ k) S →
      DifferIn L R q (o + sz ^ k) → (L.length - q) + 2 * k + 3 ≤ fuel →
      resultOrd (differNext fuel (onTree ⟨tl, sz, L⟩ (⟨k, o, i⟩ :: S)) (onTree ⟨tr, sz, R⟩ (⟨k, o, i⟩ :: S))) =
        some (leafCmp (L.drop q) (R.drop q)) := by
  intro fuel
  induction fuel with
  | zero => intro k o i q S _ _ _ h; omega
  | succ fuel ih =>
    intro k o i q S hq hab hD hf
    cases k with
    | zero =>
      -- leaf frames: the window is the one leaf `o`
      simp only [nextStart, Nat.zero_sub, Nat.pow_zero, Nat.mul_one] at hq hD
      obtain rfl : i = 0 := by have := hD.lt; omega
      rw [Nat.add_zero] at hq
      subst hq
      have k0 : ∀ t : Tree, ¬ (⟨0, o, 0⟩ : Frame).idx ≥ nodeCount t ⟨0, o, 0⟩ := fun t => by
        rw [count0]; exact Nat.not_succ_le_zero 0
      rw [dn_leaves fuel _ _ _ _ _ _ (trim_keep _ _ S (k0 _)) (trim_keep _ _ S (k0 _))
          (fun _ _ hl _ h => by cases hl; exact Nat.lt_irrefl 0 h.1),
        nextLeaf_leaf, nextLeaf_leaf, leafCmp_head, List.head?_drop, List.head?_drop]
      intro a b ha hb e
      apply hD
      rw [Nat.add_sub_cancel_left, List.take_one, List.take_one, ha, hb, e]
    | succ m =>
      simp only [nextStart, Nat.add_sub_cancel] at hq
      subst hq
      have hw : 0 < sz ^ m := Nat.pow_pos hsz
      have hi : i < sz := Nat.lt_of_mul_lt_mul_right (a := sz ^ m) (by
        have := hD.lt; rw [Nat.pow_succ'] at this; omega)
      have tL := trim_frame L tl sz m o i S hsz hi hab
      have tR := trim_frame R tr sz m o i S hsz hi hab
      by_cases hb : o + i * sz ^ m < L.length ∧ o + i * sz ^ m < R.length
      · rw [if_pos hb.1] at tL
        rw [if_pos hb.2] at tR
        rw [dn_sameLevel fuel _ _ _ _ _ _ _ _ _ _ _ tL tR, child_eq, child_eq]
        dsimp only
        have hq' : o + (i + 1) * sz ^ m = o + i * sz ^ m + sz ^ m := by rw [Nat.succ_mul, Nat.add_assoc]
        have hab' : Above sz (o + i * sz ^ m + sz ^ m) (⟨m + 1, o, i + 1⟩ :: S) := hq' ▸ above_cons hi hab
        by_cases he : (L.drop (o + i * sz ^ m)).take (sz ^ m) = (R.drop (o + i * sz ^ m)).take (sz ^ m)
        · -- the skipped child holds at least one leaf of `L`, which pays for this step
          have hf' : L.length - (o + i * sz ^ m + sz ^ m) + 2 * (m + 1) + 3 ≤ fuel :=
            Nat.le_of_lt_succ (Nat.lt_of_lt_of_le (Nat.add_lt_add_right (Nat.add_lt_add_right
              (Nat.sub_lt_sub_left hb.1 (Nat.lt_add_of_pos_right hw)) _) _) hf)
          have hle : o + i * sz ^ m + sz ^ m ≤ o + sz ^ (m + 1) := by
            rw [← hq', Nat.pow_succ']; exact Nat.add_le_add_left (Nat.mul_le_mul_right _ hi) o
          rw [if_pos ⟨he, rfl⟩, ih (m + 1) o (i + 1) _ S hq' hab (hD.skip hle he) hf',
            leafCmp_drop_common (sz ^ m) _ _ he, List.drop_drop, List.drop_drop]
        · rw [if_neg (fun h => he h.1)]
          exact ih m (o + i * sz ^ m) 0 _ _ (by rw [nextStart, Nat.zero_mul, Nat.add_zero]) hab'
            (by rw [DifferIn, Nat.add_sub_cancel_left]; exact he) (by omega)
      · rw [dn_leaves fuel _ _ _ _ _ _ tL tR, nextLeaf_frame L tl sz hsz m o i S fuel hi (by omega),
          nextLeaf_frame R tr sz hsz m o i S fuel hi (by omega), leafCmp_head, List.head?_drop, List.head?_drop]
        · intro a b ha hb'
          rw [List.head?_drop] at ha hb'
          exact absurd ⟨(List.getElem?_eq_some_iff.1 ha).1, (List.getElem?_eq_some_iff.1 hb').1⟩ hb
        · intro lf rf hl hr
          split at hl
          · split at hr
            · exact absurd ⟨‹_›, ‹_›⟩ hb
            · cases hr
          · cases hl

theorem compareAdaptive_sameHeight (sz : Nat) (hsz : 1 ≤ sz) (L R : List Bytes) (k : Nat)
    (hL : L.length ≤ sz ^ k) (hR : R.length ≤ sz ^ k) :
    compareAdaptive (.oob (some ⟨k, sz, L⟩)) (.oob (some ⟨k, sz, R⟩)) = some (leafCmp L R) := by
  rw [compareAdaptive_oob]
  split
  · next e => injection e with _ _ e; rw [e, leafCmp_self]
  · next e =>
    -- different trees of the same shape: the root window holds both values, and they differ
    have hD : DifferIn L R 0 (0 + sz ^ k) := by
      rw [DifferIn, Nat.zero_add, Nat.sub_zero, List.drop_zero, List.drop_zero, List.take_of_length_le hL,
        List.take_of_length_le hR]
      exact fun h => e (by rw [h])
    exact walkN sz hsz L R k k _ k 0 0 0 [] (by rw [nextStart, Nat.zero_mul]) nofun hD
      (Nat.le_trans (Nat.add_le_add_right (Nat.add_le_add_right (Nat.sub_le ..) _) _) (by simp only [fuelFor]; omega))

end DoltVerif.BigValues
