import DoltVerif.Model.Binlog
/-! Byte-level lemmas for the C40 model: little/big-endian codecs, framing (`takeN`), and the
arithmetic reading of the `<<<`/`|||` bit-field packing and of two's complement (`twos`, `signExtend`). -/
namespace DoltVerif.Binlog

theorem byteOf_toNat (n : Nat) : (byteOf n).toNat = n % 256 := by
  simp [byteOf, UInt8.toNat_ofNat']

theorem leBytes_length (k v : Nat) : (leBytes k v).length = k := by
  induction k generalizing v with
  | zero => rfl
  | succ k ih => simp [leBytes, ih]

theorem beBytes_length (k v : Nat) : (beBytes k v).length = k := by
  induction k with
  | zero => rfl
  | succ k ih => simp [beBytes, ih]

theorem readLE_leBytes (k v : Nat) (r : Bytes) :
    readLE k (leBytes k v ++ r) = some (v % 256 ^ k, r) := by
  induction k generalizing v with
  | zero => simp [readLE, leBytes, Nat.mod_one]
  | succ k ih =>
    simp only [leBytes, List.cons_append, readLE, ih, byteOf_toNat]
    rw [Nat.pow_succ', Nat.mod_mul]

theorem readBEAux_append (i j a acc : Nat) (t : Bytes) :
    readBEAux (i + j) (beBytes i a ++ t) acc = readBEAux j t (acc * 256 ^ i + a % 256 ^ i) := by
  induction i generalizing acc with
  | zero => simp [beBytes, Nat.mod_one]
  | succ i ih =>
    rw [Nat.add_right_comm]
    simp only [beBytes, List.cons_append, readBEAux, ih, byteOf_toNat]
    congr 1
    rw [Nat.mod_pow_succ, Nat.pow_succ, Nat.add_mul, Nat.mul_assoc, Nat.mul_comm 256, Nat.add_assoc,
      Nat.mul_comm (a / 256 ^ i % 256), Nat.add_comm (a % 256 ^ i)]

theorem readBEAux_beBytes (k v acc : Nat) (r : Bytes) :
    readBEAux k (beBytes k v ++ r) acc = some (acc * 256 ^ k + v % 256 ^ k, r) :=
  readBEAux_append k 0 v acc r

theorem readBE_beBytes (k v : Nat) (r : Bytes) :
    readBE k (beBytes k v ++ r) = some (v % 256 ^ k, r) := by
  simp [readBE, readBEAux_beBytes]

theorem takeN_append (b r : Bytes) : takeN b.length (b ++ r) = some (b, r) := by
  induction b with
  | nil => simp [takeN]
  | cons x xs ih => simp [takeN, ih]

theorem shl_or (a b i : Nat) (h : b < 2 ^ i) : a <<< i ||| b = a * 2 ^ i + b := by
  rw [← Nat.shiftLeft_add_eq_or_of_lt h, Nat.shiftLeft_eq]

theorem shl_or3 (a b c i j : Nat) (hb : b < 2 ^ i) (hc : c < 2 ^ j) :
    a <<< (i + j) ||| b <<< j ||| c = (a * 2 ^ i + b) * 2 ^ j + c := by
  rw [Nat.shiftLeft_add, ← Nat.shiftLeft_or_distrib, shl_or a b i hb, shl_or _ c j hc]

/-- the remainder is core's `Nat.mul_add_mod_of_lt` -/
theorem pack_div {a b m : Nat} (h : b < m) : (a * m + b) / m = a := by
  rw [Nat.mul_comm, Nat.mul_add_div (Nat.zero_lt_of_lt h), Nat.div_eq_of_lt h]; rfl

theorem pack_lt {a b m n : Nat} (ha : a < n) (hb : b < m) : a * m + b < n * m :=
  Nat.lt_of_lt_of_le (Nat.add_lt_add_left hb _)
    (Nat.succ_mul a m ▸ Nat.mul_le_mul_right m (Nat.succ_le_of_lt ha))

theorem unpack3 (a b c i j : Nat) (hb : b < 2 ^ i) (hc : c < 2 ^ j) :
    ((a * 2 ^ i + b) * 2 ^ j + c) / 2 ^ (i + j) = a ∧ ((a * 2 ^ i + b) * 2 ^ j + c) / 2 ^ j % 2 ^ i = b ∧
      ((a * 2 ^ i + b) * 2 ^ j + c) % 2 ^ j = c := by
  refine ⟨?_, ?_, Nat.mul_add_mod_of_lt hc⟩
  · rw [Nat.add_comm i j, Nat.pow_add, ← Nat.div_div_eq_div_mul, pack_div hc, pack_div hb]
  · rw [pack_div hc, Nat.mul_add_mod_of_lt hb]

/-- hours, minutes, seconds as TIME2 and DATETIME2 pack them -/
theorem hms_pack (h m s : Nat) (hm : m < 64) (hs : s < 64) :
    h <<< 12 ||| m <<< 6 ||| s = (h * 64 + m) * 64 + s :=
  shl_or3 h m s 6 6 hm hs

theorem hms_unpack (h m s : Nat) (hm : m < 64) (hs : s < 64) :
    ((h * 64 + m) * 64 + s) / 4096 = h ∧ ((h * 64 + m) * 64 + s) / 64 % 64 = m ∧
      ((h * 64 + m) * 64 + s) % 64 = s :=
  unpack3 h m s 6 6 hm hs

theorem and_ff (x : Nat) : x &&& 0xff = x % 256 := Nat.and_two_pow_sub_one_eq_mod x 8

theorem pow_le_256 (n k : Nat) (h : n ≤ 8 * k) : 2 ^ n ≤ 256 ^ k := by
  rw [show (256 : Nat) = 2 ^ 8 from rfl, ← Nat.pow_mul]
  exact Nat.pow_le_pow_right (by decide) h

theorem word_mod (hi lo : Nat) (hhi : hi < 256) (hlo : lo < 256) :
    (hi <<< 8 ||| lo) % 65536 = hi <<< 8 ||| lo := by
  rw [shl_or _ _ 8 hlo]; exact Nat.mod_eq_of_lt (pack_lt hhi hlo)

theorem word_hi (hi lo : Nat) (hlo : lo < 256) : (hi <<< 8 ||| lo) >>> 8 = hi := by
  rw [shl_or _ _ 8 hlo, Nat.shiftRight_eq_div_pow]; exact pack_div hlo

theorem word_lo (hi lo : Nat) (hlo : lo < 256) : (hi <<< 8 ||| lo) &&& 0xff = lo := by
  rw [shl_or _ _ 8 hlo, and_ff]; exact Nat.mul_add_mod_of_lt hlo

theorem twos_mod (m n : Nat) (h : n ≤ m) (v : Int) : twos m v % 2 ^ n = twos n v := by
  have hm : (0 : Int) < 2 ^ m := Int.pow_pos (by decide)
  have e : v % 2 ^ m % 2 ^ n = v % 2 ^ n :=
    Int.emod_emod_of_dvd v (Int.natCast_dvd_natCast.mpr (Nat.pow_dvd_pow 2 h))
  unfold twos
  rw [← e, Int.toNat_emod (Int.emod_nonneg _ (Int.ne_of_gt hm)) (Int.le_of_lt (Int.pow_pos (by decide)))]
  rfl

theorem twos_of_nonneg (n : Nat) (x : Int) (h0 : 0 ≤ x) (h1 : x < 2 ^ n) : twos n x = x.toNat := by
  rw [twos, Int.emod_eq_of_lt h0 h1]

/-- `M` is the weight of the sign bit: `2 ^ (8 * w) = 2 * M`, and everything is linear in `M`. -/
theorem signExtend_twos (w : Nat) (hw : 1 ≤ w) (sg : Bool) (v : Int)
    (h : if sg = true then -(2 : Int) ^ (8 * w - 1) ≤ v ∧ v < (2 : Int) ^ (8 * w - 1)
         else 0 ≤ v ∧ v < (2 : Int) ^ (8 * w)) :
    signExtend w sg (twos (8 * w) v) = v := by
  have e : (2 : Int) ^ (8 * w) = 2 * 2 ^ (8 * w - 1) := by
    rw [show 8 * w = (8 * w - 1) + 1 by omega, Int.pow_succ, Int.mul_comm]; rfl
  obtain ⟨M, hM⟩ : ∃ M : Nat, 2 ^ (8 * w - 1) = M := ⟨_, rfl⟩
  have hM' : (2 : Int) ^ (8 * w - 1) = M := by rw [← hM]; rfl
  simp only [signExtend, twos, e, hM, hM'] at h ⊢
  cases sg
  · simp only [Bool.false_eq_true, if_false, false_and] at h ⊢
    rw [Int.emod_eq_of_lt h.1 h.2]; omega
  · simp only [if_true, true_and] at h ⊢
    by_cases hv : 0 ≤ v
    · rw [Int.emod_eq_of_lt hv (by omega)]; split <;> omega
    · rw [← Int.add_emod_right, Int.emod_eq_of_lt (by omega) (by omega)]; split <;> omega

end DoltVerif.Binlog
