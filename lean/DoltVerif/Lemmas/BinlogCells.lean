import DoltVerif.Lemmas.BinlogDecimal
import DoltVerif.Lemmas.BinlogTime
/-! Per-type round-trip lemmas for C40: the replica-side decoder applied to dolt's encoder.
`decodeCell_*` give the decoder's dispatch as one equation per type byte; each `decode_*` is the round
trip of one column type over its `inDomain` (TIME2 and NEWDECIMAL: the dispatch in front of `BinlogTime`,
`BinlogDecimal`). -/
namespace DoltVerif.Binlog

section dispatch
-- `rfl` only has to walk down the `if` chain: with the sub-decoders unfoldable it would also
-- unfold them on both sides, which is slow for the large ones.
seal decIntLE decTime2 decDateTime2 decTimestamp2 decNewDecimal decLenPrefixed readLE readBE

theorem decodeCell_int (w : IntW) (sg s : Bool) (bs : Bytes) :
    decodeCell sg (colMeta (.int w s)).1 (colMeta (.int w s)).2 bs = decIntLE w.bytes sg bs := by
  cases w <;> rfl

theorem decodeCell_float (sg : Bool) (md : Nat) (bs : Bytes) :
    decodeCell sg tFloat md bs = decIntLE 4 false bs := rfl

theorem decodeCell_double (sg : Bool) (md : Nat) (bs : Bytes) :
    decodeCell sg tDouble md bs = decIntLE 8 false bs := rfl

theorem decodeCell_year (sg : Bool) (md : Nat) (b : UInt8) (r : Bytes) :
    decodeCell sg tYear md (b :: r) = some (.int (if b.toNat = 0 then 0 else 1900 + b.toNat), r) := rfl

theorem decodeCell_date (sg : Bool) (md : Nat) (bs : Bytes) :
    decodeCell sg tDate md bs =
      match readLE 3 bs with
      | none => none
      | some (v, r) => some (.date (v / 512) (v / 32 % 16) (v % 32), r) := rfl

theorem decodeCell_time2 (sg : Bool) (md : Nat) (bs : Bytes) :
    decodeCell sg tTime2 md bs = decTime2 md bs := rfl

theorem decodeCell_datetime2 (sg : Bool) (md : Nat) (bs : Bytes) :
    decodeCell sg tDateTime2 md bs = decDateTime2 md bs := rfl

theorem decodeCell_timestamp2 (sg : Bool) (md : Nat) (bs : Bytes) :
    decodeCell sg tTimestamp2 md bs = decTimestamp2 md bs := rfl

theorem decodeCell_newdecimal (sg : Bool) (md : Nat) (bs : Bytes) :
    decodeCell sg tNewDecimal md bs = decNewDecimal (md >>> 8) (md &&& 0xff) bs := rfl

theorem decodeCell_bit (sg : Bool) (md : Nat) (bs : Bytes) :
    decodeCell sg tBit md bs =
      match readBE (((md >>> 8) * 8 + (md &&& 0xff) + 7) / 8) bs with
      | none => none
      | some (v, r) => some (.int v, r) := rfl

theorem decodeCell_string (sg : Bool) (md : Nat) (bs : Bytes) :
    decodeCell sg tString md bs =
      if md >>> 8 = tEnum ∨ md >>> 8 = tSet then
        match readLE (md &&& 0xff) bs with
        | none => none
        | some (v, r) => some (.int v, r)
      else decLenPrefixed (if (((md >>> 4) &&& 0x300) ^^^ 0x300) + (md &&& 0xff) > 255 then 2 else 1) bs := rfl

theorem decodeCell_varchar (sg : Bool) (md : Nat) (bs : Bytes) :
    decodeCell sg tVarchar md bs = decLenPrefixed (if md > 255 then 2 else 1) bs := rfl

theorem decodeCell_lenPrefixed (sg : Bool) (tc md : Nat) (bs : Bytes)
    (htc : tc = tBlob ∨ tc = tJSON ∨ tc = tGeometry) (hmd : 1 ≤ md ∧ md ≤ 4) :
    decodeCell sg tc md bs = decLenPrefixed md bs := by
  rcases htc with rfl | rfl | rfl <;> exact if_pos hmd

end dispatch

theorem decode_int (w : IntW) (sg : Bool) (v : Int) (r : Bytes) (h : intInRange w sg v = true) :
    decodeCell sg (colMeta (.int w sg)).1 (colMeta (.int w sg)).2 (encInt w v ++ r) = some (.int v, r) := by
  have hw : 1 ≤ w.bytes ∧ 8 * w.bytes ≤ 64 := by cases w <;> decide
  have e : 256 ^ w.bytes = 2 ^ (8 * w.bytes) := (Nat.pow_mul 2 8 _).symm
  simp only [decodeCell_int, decIntLE, encInt, readLE_leBytes, e, twos_mod 64 _ hw.2]
  rw [signExtend_twos _ hw.1]
  cases sg <;> simpa [intInRange] using h

theorem toNat_mod {v : Int} {b m : Nat} (h0 : 0 ≤ v) (h1 : v < b) (hm : b ≤ m) : v.toNat % m = v.toNat :=
  Nat.mod_eq_of_lt (Nat.lt_of_lt_of_le ((Int.toNat_lt h0).mpr h1) hm)

theorem decIntLE_leBytes (k : Nat) (v : Int) (r : Bytes) (h0 : 0 ≤ v) (h1 : v < (256 ^ k : Nat)) :
    decIntLE k false (leBytes k v.toNat ++ r) = some (.int v, r) := by
  simp only [decIntLE, readLE_leBytes, signExtend, Bool.false_eq_true, false_and, if_false]
  rw [toNat_mod h0 h1 (Nat.le_refl _), Int.toNat_of_nonneg h0]

theorem decode_float32 (v : Int) (r : Bytes) (hd : inDomain .float32 (.int v) = true) :
    decodeCell false tFloat 4 (leBytes 4 v.toNat ++ r) = some (.int v, r) :=
  decodeCell_float .. ▸ decIntLE_leBytes 4 v r (of_decide_eq_true hd).1 (of_decide_eq_true hd).2

theorem decode_float64 (v : Int) (r : Bytes) (hd : inDomain .float64 (.int v) = true) :
    decodeCell false tDouble 8 (leBytes 8 v.toNat ++ r) = some (.int v, r) :=
  decodeCell_double .. ▸ decIntLE_leBytes 8 v r (of_decide_eq_true hd).1 (of_decide_eq_true hd).2

theorem decode_year (v : Int) (r : Bytes) (hd : inDomain .year (.int v) = true) :
    decodeCell false tYear 0 (encYear v ++ r) = some (.int v, r) := by
  have h : v = 0 ∨ (1901 ≤ v ∧ v ≤ 2155) := of_decide_eq_true hd
  unfold encYear
  split
  · subst v; rfl
  · obtain ⟨n, rfl⟩ : ∃ n : Nat, v = n + 1900 := ⟨(v - 1900).toNat, by omega⟩
    have hn : n % 256 = n ∧ n ≠ 0 := by omega
    simp only [List.cons_append, List.nil_append, decodeCell_year, byteOf_toNat, Int.add_sub_cancel,
      twos_of_nonneg 16 n (by omega) (by omega), Int.toNat_natCast, hn.1, if_neg hn.2]
    rw [Int.add_comm]

theorem bits_fit (n : Nat) (v : Int) (hn : n ≤ 64) (h0 : 0 ≤ v) (h1 : v < 2 ^ n) :
    ((v.toNat % 2 ^ 64 % 256 ^ ((n + 7) / 8) : Nat) : Int) = v := by
  rw [toNat_mod (b := 2 ^ n) h0 h1 (Nat.pow_le_pow_right (by decide) hn),
    toNat_mod (b := 2 ^ n) h0 h1 (pow_le_256 n _ (by omega)), Int.toNat_of_nonneg h0]

theorem decode_bit (n : Nat) (v : Int) (r : Bytes) (hd : inDomain (.bit n) (.int v) = true) :
    decodeCell false (colMeta (.bit n)).1 (colMeta (.bit n)).2 (encBit n v.toNat ++ r) = some (.int v, r) := by
  obtain ⟨hn1, hn, h0, h1⟩ := of_decide_eq_true hd
  have hhi : n / 8 < 256 := by omega
  have hlo : n % 8 < 256 := by omega
  simp only [colMeta, Nat.mod_eq_of_lt (Nat.lt_trans hhi (show 256 < 65536 by decide)),
    Nat.mod_eq_of_lt (Nat.lt_trans hlo (show 256 < 65536 by decide)),
    word_mod _ _ hhi hlo, decodeCell_bit, word_hi _ _ hlo, word_lo _ _ hlo, Nat.div_add_mod' n 8, encBit,
    readBE_beBytes, bits_fit n v hn h0 h1]

theorem decode_enum (n : Nat) (v : Int) (r : Bytes) (hd : inDomain (.enum n) (.int v) = true) :
    decodeCell false (colMeta (.enum n)).1 (colMeta (.enum n)).2 (encEnum n v.toNat ++ r) = some (.int v, r) := by
  obtain ⟨hn1, hn, h0, h1⟩ := of_decide_eq_true hd
  have hv : ((v.toNat : Nat) : Int) = v := Int.toNat_of_nonneg h0
  have h1 : v < ((n + 1 : Nat) : Int) := Int.lt_add_one_iff.mpr h1
  by_cases hc : n ≤ 0xFF
  · have e : [byteOf v.toNat] = leBytes 1 v.toNat := rfl
    simp only [colMeta, encEnum, hc, if_true, decodeCell_string, e,
      word_hi tEnum 1 (by decide), word_lo tEnum 1 (by decide), true_or, readLE_leBytes]
    rw [toNat_mod h0 h1 (Nat.succ_le_succ hc), hv]
  · simp only [colMeta, encEnum, hc, if_false, decodeCell_string,
      word_hi tEnum 2 (by decide), word_lo tEnum 2 (by decide), true_or, if_true, readLE_leBytes]
    rw [toNat_mod h0 h1 (Nat.succ_le_succ hn), toNat_mod h0 h1 (Nat.succ_le_succ hn), hv]

theorem decode_set (n : Nat) (v : Int) (r : Bytes) (hd : inDomain (.set n) (.int v) = true) :
    decodeCell false (colMeta (.set n)).1 (colMeta (.set n)).2 (encSet n v.toNat ++ r) = some (.int v, r) := by
  obtain ⟨hn1, hn, h0, h1⟩ := of_decide_eq_true hd
  have hk : (n + 7) / 8 < 256 := by omega
  simp only [colMeta, Nat.mod_eq_of_lt (show (n + 7) / 8 < 65536 by omega), word_mod tSet _ (by decide) hk,
    decodeCell_string, word_hi _ _ hk, word_lo _ _ hk, or_true, if_true, encSet, readLE_leBytes,
    bits_fit n v hn h0 h1]

theorem decode_date (y m d : Nat) (r : Bytes) (hdom : inDomain .date (.date y m d) = true) :
    decodeCell false tDate 0 (encDate y m d ++ r) = some (.date y m d, r) := by
  obtain ⟨hy, hm, hd⟩ := of_decide_eq_true hdom
  have hm4 : m < 2 ^ 4 := Nat.lt_of_le_of_lt hm (by decide)
  have hd5 : d < 2 ^ 5 := Nat.lt_of_le_of_lt hd (by decide)
  have hp := shl_or3 y m d 4 5 hm4 hd5
  obtain ⟨u1, u2, u3⟩ := unpack3 y m d 4 5 hm4 hd5
  simp only [Nat.reduceAdd, Nat.reducePow] at hp u1 u2 u3
  have hlt : (y * 16 + m) * 32 + d < 256 ^ 3 :=
    Nat.lt_of_lt_of_le (pack_lt (pack_lt (Nat.lt_succ_of_le hy) hm4) hd5) (by decide)
  simp only [decodeCell_date, encDate, hp, readLE_leBytes]
  rw [Nat.mod_eq_of_lt (Nat.lt_trans hlt (by decide)), Nat.mod_eq_of_lt hlt, u1, u2, u3]

theorem decLenPrefixed_ok (k : Nat) (b r : Bytes) (h : b.length < 256 ^ k) :
    decLenPrefixed k (leBytes k b.length ++ b ++ r) = some (.bytes b, r) := by
  simp [decLenPrefixed, List.append_assoc, readLE_leBytes, Nat.mod_eq_of_lt h, takeN_append]

theorem decLenPrefixed_encVar (m : Nat) (b r : Bytes) (hm : m ≤ 65535) (hb : b.length ≤ m) :
    decLenPrefixed (if m > 255 then 2 else 1) (encVar m b ++ r) = some (.bytes b, r) := by
  unfold encVar
  split
  · rw [Nat.mod_eq_of_lt (by omega)]
    exact decLenPrefixed_ok 2 b r (by omega)
  · exact decLenPrefixed_ok 1 b r (by omega)

theorem decode_varchar (m : Nat) (b r : Bytes) (hd : inDomain (.varchar m) (.bytes b) = true) :
    decodeCell false tVarchar (colMeta (.varchar m)).2 (encVar m b ++ r) = some (.bytes b, r) := by
  obtain ⟨hm, hb⟩ := of_decide_eq_true hd
  simp only [colMeta, Nat.mod_eq_of_lt (show m < 65536 by omega), decodeCell_varchar]
  exact decLenPrefixed_encVar m b r hm hb

/-- CHAR/BINARY metadata (`stringSerializer.metadata`): over every field length the 10-bit
"real type ^ upper bits | low byte" encoding is read back by a replica as the same maximum
length and is never mistaken for ENUM/SET. -/
theorem char_meta_table : ∀ m ∈ List.range 1024,
    ((colMeta (.char m)).2 >>> 8 ≠ tEnum ∧ (colMeta (.char m)).2 >>> 8 ≠ tSet) ∧
    ((((colMeta (.char m)).2 >>> 4) &&& 0x300) ^^^ 0x300) + ((colMeta (.char m)).2 &&& 0xff) = m := by
  decide +kernel

theorem decode_char (m : Nat) (b r : Bytes) (hd : inDomain (.char m) (.bytes b) = true) :
    decodeCell false tString (colMeta (.char m)).2 (encVar m b ++ r) = some (.bytes b, r) := by
  obtain ⟨hm, hb⟩ := of_decide_eq_true hd
  obtain ⟨⟨h1, h2⟩, h3⟩ := char_meta_table m (List.mem_range.mpr (by omega))
  simp only [decodeCell_string, h1, h2, h3, or_self, if_false]
  exact decLenPrefixed_encVar m b r (by omega) hb

theorem blobLenBytes_fits (m : Nat) (hm : m < 2 ^ 32) :
    (1 ≤ blobLenBytes m ∧ blobLenBytes m ≤ 4) ∧ m < 256 ^ blobLenBytes m := by
  -- four length classes; the tests passed on the way bound `m`
  fun_cases blobLenBytes m <;> omega

theorem decode_blob (tc : Nat) (htc : tc = tBlob ∨ tc = tJSON ∨ tc = tGeometry) (m : Nat) (b r : Bytes)
    (hm : m < 2 ^ 32) (hb : b.length ≤ m) :
    decodeCell false tc (blobLenBytes m) (encBlob m b ++ r) = some (.bytes b, r) := by
  obtain ⟨hk, hlt⟩ := blobLenBytes_fits m hm
  rw [decodeCell_lenPrefixed _ _ _ _ htc hk, encBlob, Nat.mod_eq_of_lt (by omega)]
  exact decLenPrefixed_ok _ b r (by omega)

theorem decode_len4 (tc : Nat) (htc : tc = tJSON ∨ tc = tGeometry) (b r : Bytes) (hb : b.length < 2 ^ 32) :
    decodeCell false tc 4 (leBytes 4 (b.length % 2 ^ 32) ++ b ++ r) = some (.bytes b, r) :=
  decode_blob tc (.inr htc) 0xFFFFFFFF b r (by decide) (by omega)

theorem encFrac_eq (fsp us : Nat) (hf : fsp ≤ 6) :
    encFrac fsp us = beBytes (fracBytes fsp) (us / 10 ^ (6 - 2 * fracBytes fsp)) := by
  have : fsp = 0 ∨ fsp = 1 ∨ fsp = 2 ∨ fsp = 3 ∨ fsp = 4 ∨ fsp = 5 ∨ fsp = 6 := by omega
  rcases this with rfl | rfl | rfl | rfl | rfl | rfl | rfl <;> simp [encFrac, fracBytes, beBytes]

/-- two decimal digits per byte (`100^k ≤ 256^k`), and the byte unit divides the precision's unit. -/
theorem frac_roundtrip (fsp us : Nat) (r : Bytes) (hf : fsp ≤ 6) (hus : us < 1000000) (hm : us % 10 ^ (6 - fsp) = 0) :
    ∃ f, readBE (fracBytes fsp) (encFrac fsp us ++ r) = some (f, r) ∧ fracToMicros fsp f = us := by
  rw [encFrac_eq fsp us hf]
  refine ⟨_, readBE_beBytes _ _ r, ?_⟩
  have hk : 2 * fracBytes fsp ≤ 6 ∧ 6 - 2 * fracBytes fsp ≤ 6 - fsp := by unfold fracBytes; omega
  unfold fracToMicros
  generalize fracBytes fsp = k at *
  have hdvd : 10 ^ (6 - 2 * k) ∣ us :=
    Nat.dvd_trans (Nat.pow_dvd_pow 10 hk.2) (Nat.dvd_of_mod_eq_zero hm)
  have hlt : us / 10 ^ (6 - 2 * k) < 256 ^ k := by
    apply Nat.div_lt_of_lt_mul
    calc us < 10 ^ (6 - 2 * k + 2 * k) := by rwa [Nat.sub_add_cancel hk.1]
      _ = 10 ^ (6 - 2 * k) * 100 ^ k := by rw [Nat.pow_add, Nat.pow_mul]
      _ ≤ 10 ^ (6 - 2 * k) * 256 ^ k := Nat.mul_le_mul_left _ (Nat.pow_le_pow_left (by decide) k)
  rw [Nat.mod_eq_of_lt hlt, Nat.div_mul_cancel hdvd]

theorem decode_timestamp (fsp secs us : Nat) (r : Bytes) (hd : inDomain (.timestamp fsp) (.timestamp secs us) = true) :
    decodeCell false tTimestamp2 (colMeta (.timestamp fsp)).2 (encTimestamp fsp secs us ++ r) = some (.timestamp secs us, r) := by
  obtain ⟨hf, hs, hus, hm⟩ := of_decide_eq_true hd
  obtain ⟨f, hf1, hf2⟩ := frac_roundtrip fsp us r hf hus hm
  simp only [colMeta, Nat.mod_eq_of_lt (show fsp < 65536 by omega), decodeCell_timestamp2, decTimestamp2, encTimestamp,
    List.append_assoc, readBE_beBytes, hf1, hf2]
  rw [Nat.mod_eq_of_lt hs, Nat.mod_eq_of_lt hs]

theorem decode_datetime (fsp y mo d h mi s us : Nat) (r : Bytes)
    (hdom : inDomain (.datetime fsp) (.datetime y mo d h mi s us) = true) :
    decodeCell false tDateTime2 (colMeta (.datetime fsp)).2 (encDatetime fsp y mo d h mi s us ++ r)
      = some (.datetime y mo d h mi s us, r) := by
  obtain ⟨hf, hy, hmo, hd, hh, hmi, hs, hus, hm⟩ := of_decide_eq_true hdom
  obtain ⟨f, hf1, hf2⟩ := frac_roundtrip fsp us r hf hus hm
  have hmi6 : mi < 64 := Nat.lt_of_le_of_lt hmi (by decide)
  have hs6 : s < 64 := Nat.lt_of_le_of_lt hs (by decide)
  have hd5 : d < 2 ^ 5 := Nat.lt_of_le_of_lt hd (by decide)
  have hmo13 : mo < 13 := Nat.lt_succ_of_le hmo
  -- 17 bits of time below 22 bits of date (`10000 * 13 < 2 ^ 17`): 40 bits with the offset
  have hhms : (h * 64 + mi) * 64 + s < 2 ^ 17 := pack_lt (pack_lt (Nat.lt_of_le_of_lt hh (by decide) : h < 32) hmi6) hs6
  have hlt : ((y * 13 + mo) * 2 ^ 5 + d) * 2 ^ 17 + ((h * 64 + mi) * 64 + s) + 0x8000000000 < 256 ^ 5 :=
    Nat.lt_of_lt_of_le
      (Nat.add_lt_add_right (pack_lt (pack_lt (pack_lt (Nat.lt_succ_of_le hy) hmo13) hd5) hhms) _) (by decide)
  have hp : ((y * 13 + mo) <<< 5 ||| d) <<< 17 ||| (h <<< 12 ||| mi <<< 6 ||| s)
      = ((y * 13 + mo) * 2 ^ 5 + d) * 2 ^ 17 + ((h * 64 + mi) * 64 + s) := by
    rw [hms_pack h mi s hmi6 hs6, shl_or _ d 5 hd5, shl_or _ _ 17 hhms]
  simp only [colMeta, Nat.mod_eq_of_lt (show fsp < 65536 by omega), decodeCell_datetime2, decDateTime2, encDatetime, hp,
    List.append_assoc, readBE_beBytes, hf1, hf2]
  rw [Nat.mod_eq_of_lt (Nat.lt_trans hlt (by decide)), Nat.mod_eq_of_lt hlt, Nat.add_sub_cancel]
  obtain ⟨u1, u2, u3⟩ := hms_unpack h mi s hmi6 hs6
  have u4 : (y * 13 + mo) / 13 = y ∧ (y * 13 + mo) % 13 = mo :=
    ⟨pack_div hmo13, Nat.mul_add_mod_of_lt hmo13⟩
  have u5 : ((y * 13 + mo) * 2 ^ 5 + d) % 32 = d := Nat.mul_add_mod_of_lt hd5
  simp only [Nat.shiftRight_eq_div_pow, pack_div hhms, Nat.mul_add_mod_of_lt hhms, pack_div hd5,
    Nat.reducePow, u1, u2, u3, u4, u5]

theorem decode_time (us : Int) (r : Bytes) (hdom : inDomain .time (.time us) = true)
    (hgood : ¬ (us < 0 ∧ us.natAbs % 1000000 > 0 ∧ us.natAbs / 1000000 % 60 = 59)) :
    decodeCell false tTime2 6 (encTime us ++ r) = some (.time us, r) :=
  decodeCell_time2 .. ▸ decTime2_encTime us r hdom hgood

theorem decimal_meta (p s : Nat) (hp : p ≤ 65) (hs : s ≤ 30) :
    (colMeta (.decimal p s)).2 >>> 8 = p ∧ (colMeta (.decimal p s)).2 &&& 0xff = s := by
  have hp8 : p < 256 := by omega
  have hs8 : s < 256 := by omega
  simp only [colMeta, Nat.mod_eq_of_lt (Nat.lt_trans hp8 (show 256 < 65536 by decide)),
    Nat.mod_eq_of_lt (Nat.lt_trans hs8 (show 256 < 65536 by decide)), word_mod p s hp8 hs8]
  exact ⟨word_hi p s hs8, word_lo p s hs8⟩

theorem decode_decimal (p s : Nat) (neg : Bool) (u : Nat) (b r : Bytes)
    (hd : inDomain (.decimal p s) (.decimal neg u) = true) (hs : s < p) (he : encDecimal p s neg u = .ok b) :
    decodeCell false tNewDecimal (colMeta (.decimal p s)).2 (b ++ r) = some (.decimal neg u, r) := by
  obtain ⟨_, hp, hs30, _, hu⟩ := of_decide_eq_true hd
  obtain ⟨hm1, hm2⟩ := decimal_meta p s hp hs30
  rw [decodeCell_newdecimal, hm1, hm2]
  exact decNewDecimal_encDecimal p s neg u b r hs hu he

end DoltVerif.Binlog
