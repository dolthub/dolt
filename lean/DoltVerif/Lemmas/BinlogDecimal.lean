import DoltVerif.Lemmas.BinlogBytes
/-! NEWDECIMAL for C40 (`bin2decimal` applied to `decimalSerializer.serialize`): digit lists; the digit string cut
into groups (`encBySizes`), which the replica's group reader reads back; dolt's serializer computes exactly that
with the sign applied (`encDecimal_eq`); the replica's sign handling undoes dolt's. -/
namespace DoltVerif.Binlog

theorem atoi_foldl (ds : List Nat) (acc : Nat) :
    ds.foldl (fun a d => a * 10 + d) acc = acc * 10 ^ ds.length + atoi ds := by
  induction ds generalizing acc with
  | nil => simp [atoi]
  | cons d ds ih =>
    simp only [List.foldl_cons, List.length_cons, atoi]
    rw [ih (acc * 10 + d), ih (0 * 10 + d)]
    rw [Nat.pow_succ, Nat.add_mul, Nat.add_mul, Nat.mul_assoc, Nat.mul_comm 10]
    omega

theorem atoi_append (a b : List Nat) : atoi (a ++ b) = atoi a * 10 ^ b.length + atoi b := by
  simp only [atoi, List.foldl_append]
  exact atoi_foldl b _

theorem atoi_cons (d : Nat) (ds : List Nat) : atoi (d :: ds) = d * 10 ^ ds.length + atoi ds := by
  simpa [atoi] using atoi_append [d] ds

theorem atoi_lt (ds : List Nat) (h : ∀ d ∈ ds, d < 10) : atoi ds < 10 ^ ds.length := by
  induction ds with
  | nil => simp [atoi]
  | cons d ds ih =>
    have hd : d < 10 := h d (by simp)
    have := ih (fun x hx => h x (by simp [hx]))
    rw [atoi_cons, List.length_cons, Nat.pow_succ, Nat.mul_comm (10 ^ ds.length) 10]
    calc d * 10 ^ ds.length + atoi ds < d * 10 ^ ds.length + 10 ^ ds.length := by omega
      _ = (d + 1) * 10 ^ ds.length := by rw [Nat.add_mul, Nat.one_mul]
      _ ≤ 10 * 10 ^ ds.length := Nat.mul_le_mul_right _ (by omega)

theorem atoi_take_lt (ds : List Nat) (sz : Nat) (hd : ∀ d ∈ ds, d < 10) (h : sz ≤ ds.length) :
    atoi (ds.take sz) < 10 ^ sz := by
  have := atoi_lt (ds.take sz) (fun d hm => hd d (List.mem_of_mem_take hm))
  rwa [List.length_take, Nat.min_eq_left h] at this

theorem fixedDigits_length (k n : Nat) : (fixedDigits k n).length = k := by
  induction k generalizing n with
  | zero => rfl
  | succ k ih => simp [fixedDigits, ih]

theorem fixedDigits_lt (k n : Nat) : ∀ d ∈ fixedDigits k n, d < 10 := by
  induction k generalizing n with
  | zero => simp [fixedDigits]
  | succ k ih =>
    intro d hd
    simp only [fixedDigits, List.mem_append, List.mem_singleton] at hd
    rcases hd with h | h
    · exact ih _ d h
    · omega

theorem atoi_fixedDigits (k n : Nat) : atoi (fixedDigits k n) = n % 10 ^ k := by
  induction k generalizing n with
  | zero => simp [fixedDigits, atoi, Nat.mod_one]
  | succ k ih =>
    simp only [fixedDigits]
    rw [atoi_append, ih]
    have e : 10 ^ (k + 1) = 10 * 10 ^ k := by rw [Nat.pow_succ, Nat.mul_comm]
    rw [e, Nat.mod_mul]
    simp only [List.length_cons, List.length_nil, atoi, List.foldl_cons, List.foldl_nil, Nat.zero_add, Nat.pow_one,
      Nat.zero_mul]
    omega

theorem fixedDigits_add (a b n : Nat) :
    fixedDigits (a + b) n = fixedDigits a (n / 10 ^ b) ++ fixedDigits b (n % 10 ^ b) := by
  induction b generalizing n with
  | zero => simp [fixedDigits]
  | succ b ih =>
    rw [← Nat.add_assoc, fixedDigits, fixedDigits, ih, Nat.div_div_eq_div_mul, List.append_assoc, Nat.pow_succ',
      Nat.mod_mul_right_div_self, Nat.mod_mul_right_mod]

theorem fixedDigits_zero (k : Nat) : fixedDigits k 0 = List.replicate k 0 := by
  induction k with
  | zero => rfl
  | succ k ih => simp [fixedDigits, ih, List.replicate_succ']

theorem natDigits_length_pos (n : Nat) : 0 < (natDigits n).length := by
  unfold natDigits
  split <;> simp

theorem padLeft_natDigits (k n : Nat) (hk : 1 ≤ k) (hn : n < 10 ^ k) : padLeft k (natDigits n) = fixedDigits k n := by
  induction n using natDigits.induct generalizing k with
  | case1 n h =>
    obtain ⟨k, rfl⟩ : ∃ k', k = k' + 1 := ⟨k - 1, by omega⟩
    rw [natDigits, dif_pos h, fixedDigits, Nat.div_eq_of_lt h, Nat.mod_eq_of_lt h, fixedDigits_zero]
    rfl
  | case2 n h ih =>
    obtain ⟨k, rfl⟩ : ∃ k', k = k' + 1 := ⟨k - 1, by omega⟩
    have hk1 : 1 ≤ k := by
      rcases Nat.eq_zero_or_pos k with rfl | hk
      · exact absurd hn h
      · exact hk
    have hlt : n / 10 < 10 ^ k := Nat.div_lt_of_lt_mul (by rwa [Nat.pow_succ, Nat.mul_comm] at hn)
    rw [natDigits, dif_neg h, fixedDigits, ← ih k hk1 hlt]
    simp only [padLeft, List.length_append, List.length_singleton, Nat.add_sub_add_right, List.append_assoc]

def encBySizes : List Nat → List Nat → Bytes
  | [], _ => []
  | sz :: rest, ds => beBytes (dig2bytes sz) (atoi (ds.take sz)) ++ encBySizes rest (ds.drop sz)

theorem group_fits : ∀ sz, sz < 10 → 10 ^ sz ≤ 256 ^ dig2bytes sz := by decide

theorem readGroups_encBySizes (szs : List Nat) (ds : List Nat) (r : Bytes) (acc : Nat)
    (hlen : ds.length = szs.sum) (hd : ∀ d ∈ ds, d < 10) (hsz : ∀ sz ∈ szs, sz ≤ 9) :
    readGroups szs (encBySizes szs ds ++ r) acc = some (acc * 10 ^ szs.sum + atoi ds, r) := by
  induction szs generalizing ds acc with
  | nil =>
    have : ds = [] := List.eq_nil_of_length_eq_zero (by simpa using hlen)
    subst this
    simp [readGroups, encBySizes, atoi]
  | cons sz rest ih =>
    have hsz9 : sz ≤ 9 := hsz sz (by simp)
    simp only [List.sum_cons] at hlen
    have hdl : (ds.drop sz).length = rest.sum := by simp; omega
    have hlt := atoi_take_lt ds sz hd (by omega)
    have hfit : atoi (ds.take sz) < 256 ^ dig2bytes sz := Nat.lt_of_lt_of_le hlt (group_fits sz (by omega))
    simp only [readGroups, encBySizes, List.append_assoc, readBE_beBytes, Nat.mod_eq_of_lt hfit]
    rw [ih (ds.drop sz) (acc * 10 ^ sz + atoi (ds.take sz)) hdl (fun d hm => hd d (List.mem_of_mem_drop hm))
      (fun s hs => hsz s (by simp [hs]))]
    congr 2
    have hsplit : atoi ds = atoi (ds.take sz) * 10 ^ rest.sum + atoi (ds.drop sz) := by
      have := atoi_append (ds.take sz) (ds.drop sz)
      rw [List.take_append_drop, hdl] at this
      exact this
    rw [hsplit, List.sum_cons, Nat.pow_add, Nat.add_mul, Nat.mul_assoc]
    omega

theorem encBySizes_length (szs ds) : (encBySizes szs ds).length = (szs.map dig2bytes).sum := by
  induction szs generalizing ds with
  | nil => rfl
  | cons sz rest ih => simp [encBySizes, beBytes_length, ih]

theorem encBySizes_append (a b : List Nat) (ds : List Nat) :
    encBySizes (a ++ b) ds = encBySizes a ds ++ encBySizes b (ds.drop a.sum) := by
  induction a generalizing ds with
  | nil => simp [encBySizes]
  | cons sz rest ih =>
    simp only [List.cons_append, encBySizes, ih, List.append_assoc, List.sum_cons, List.drop_drop]

theorem encBySizes_prefix (szs : List Nat) (a b : List Nat) (h : szs.sum ≤ a.length) :
    encBySizes szs (a ++ b) = encBySizes szs a := by
  induction szs generalizing a with
  | nil => rfl
  | cons sz rest ih =>
    simp only [List.sum_cons] at h
    simp only [encBySizes]
    rw [List.take_append_of_le_length (by omega), List.drop_append_of_le_length (by omega)]
    rw [ih (a.drop sz) (by simp; omega)]


theorem digitsToBytes_eq : ∀ n, n ≤ 9 → digitsToBytes n = dig2bytes n := by decide

/-- the left side is how the serializer counts the leftover digits -/
theorem leftover_eq (n : Nat) : n - n / 9 * 9 = n % 9 := by rw [Nat.mod_def, Nat.mul_comm]

theorem encPartial_eq (ds : List Nat) (h : ds.length ≤ 9) :
    encPartial ds = encBySizes [ds.length] ds := by
  unfold encPartial
  by_cases h0 : ds.length = 0
  · have : ds = [] := List.eq_nil_of_length_eq_zero h0
    subst this
    simp [encBySizes, dig2bytes, beBytes]
  · simp only [h0, if_false, encBySizes, List.take_length, List.append_nil]
    rw [digitsToBytes_eq _ h]

theorem encGroups_eq (ds : List Nat) (hd : ∀ d ∈ ds, d < 10) :
    encGroups ds = (encBySizes (List.replicate (ds.length / 9) 9) ds, ds.drop (9 * (ds.length / 9))) := by
  induction ds using encGroups.induct with
  | case1 ds h9 ih =>
    have hk : ds.length / 9 = (ds.drop 9).length / 9 + 1 := by
      rw [List.length_drop]; exact Nat.div_eq_sub_div (by decide) h9
    have hm : atoi (ds.take 9) % 2 ^ 32 = atoi (ds.take 9) :=
      Nat.mod_eq_of_lt (Nat.lt_trans (atoi_take_lt ds 9 hd h9) (by decide))
    rw [encGroups, dif_pos h9, ih (fun d hm => hd d (List.mem_of_mem_drop hm)), hk, hm]
    simp only [List.replicate_succ, encBySizes, List.drop_drop, show dig2bytes 9 = 4 from rfl, Nat.mul_add, Nat.mul_one,
      Nat.add_comm 9]
  | case2 ds h9 =>
    rw [encGroups, dif_neg h9, Nat.div_eq_of_lt (by omega)]
    rfl

theorem xor_xor (b m : UInt8) : (b ^^^ m) ^^^ m = b := by
  rw [UInt8.xor_assoc, UInt8.xor_self, UInt8.xor_zero]

theorem xor_xor_xor_xor (b m n : UInt8) : (((b ^^^ m) ^^^ n) ^^^ m) ^^^ n = b := by
  rw [UInt8.xor_assoc (b ^^^ m), UInt8.xor_comm n m, ← UInt8.xor_assoc, xor_xor, xor_xor]

theorem sign_bit_table : ∀ n ∈ List.range 128,
    ¬ (UInt8.ofNat n ^^^ 0x80).toNat < 128 ∧ ((UInt8.ofNat n ^^^ 0x80) ^^^ 0xff).toNat < 128 := by
  decide +kernel

theorem sign_bit (b : UInt8) (hb : b.toNat < 128) :
    ¬ (b ^^^ 0x80).toNat < 128 ∧ ((b ^^^ 0x80) ^^^ 0xff).toNat < 128 := by
  have := sign_bit_table b.toNat (List.mem_range.mpr hb)
  rwa [UInt8.ofNat_toNat] at this

theorem xorAll_xorAll (m : UInt8) (bs : Bytes) : xorAll m (xorAll m bs) = bs := by
  induction bs with
  | nil => rfl
  | cons b t ih =>
    simp only [xorAll, List.map_cons] at ih ⊢
    rw [xor_xor, ih]

theorem xorAll_length (m : UInt8) (bs : Bytes) : (xorAll m bs).length = bs.length := by simp [xorAll]

theorem decimalSign_length (neg : Bool) (bs : Bytes) : (decimalSign neg bs).length = bs.length := by
  cases bs with
  | nil => rfl
  | cons b t => cases neg <;> simp [decimalSign, xorAll]

theorem dig2bytes_pos (n : Nat) (h : 1 ≤ n) : 1 ≤ dig2bytes n := by unfold dig2bytes; omega

/-- a group of `sz ≥ 1` digits leaves the top bit of its first byte clear. -/
theorem head_fits : ∀ sz, sz < 10 → 1 ≤ sz → 10 ^ sz ≤ 128 * 256 ^ (dig2bytes sz - 1) := by decide

/-- `head_fits` for the first group that is not empty -/
theorem encBySizes_head (szs : List Nat) (ds : List Nat) (hd : ∀ d ∈ ds, d < 10) (hsz : ∀ sz ∈ szs, sz ≤ 9)
    (hlen : szs.sum ≤ ds.length) (hpos : 1 ≤ szs.sum) : ∃ b t, encBySizes szs ds = b :: t ∧ b.toNat < 128 := by
  induction szs generalizing ds with
  | nil => cases hpos
  | cons sz rest ih =>
    simp only [List.sum_cons] at hlen hpos
    rcases Nat.eq_zero_or_pos sz with rfl | h0
    · exact ih ds hd (fun s hs => hsz s (List.mem_cons_of_mem _ hs)) (by omega) (by omega)
    · obtain ⟨w, hwe⟩ : ∃ w, dig2bytes sz = w + 1 := ⟨dig2bytes sz - 1, by have := dig2bytes_pos sz h0; omega⟩
      have hfit := head_fits sz (by have := hsz sz List.mem_cons_self; omega) h0
      rw [hwe, Nat.add_sub_cancel] at hfit
      have : atoi (ds.take sz) / 256 ^ w < 128 :=
        Nat.div_lt_of_lt_mul (Nat.mul_comm _ _ ▸ Nat.lt_of_lt_of_le (atoi_take_lt ds sz hd (by omega)) hfit)
      refine ⟨_, _, by rw [encBySizes, hwe, beBytes, List.cons_append], ?_⟩
      rw [byteOf_toNat, Nat.mod_eq_of_lt (Nat.lt_trans this (by decide))]
      exact this

/-- the buffer before the sign is applied -/
def bufOf (p s u : Nat) : Bytes := encBySizes (decimalGroups p s) (fixedDigits p u)

theorem bufOf_length (p s u : Nat) : (bufOf p s u).length = decimalLen p s := encBySizes_length _ _

theorem div_pow_lt (p s u : Nat) (hs : s ≤ p) (hu : u < 10 ^ p) : u / 10 ^ s < 10 ^ (p - s) := by
  apply Nat.div_lt_of_lt_mul
  rwa [← Nat.pow_add, Nat.add_sub_cancel' hs]

theorem decimalGroups_sum (p s : Nat) (hs : s ≤ p) : (decimalGroups p s).sum = p := by
  simp only [decimalGroups, List.sum_append, List.sum_cons, List.sum_nil, List.sum_replicate_nat, Nat.add_zero]
  rw [Nat.mul_comm, Nat.mul_comm (s / 9), Nat.mod_add_div, Nat.add_assoc, Nat.div_add_mod, Nat.sub_add_cancel hs]

theorem decimalLen_eq (p s : Nat) :
    decimalLen p s = (p - s) / 9 * 4 + dig2bytes ((p - s) % 9) + s / 9 * 4 + dig2bytes (s % 9) := by
  simp only [decimalLen, decimalGroups, List.map_append, List.map_replicate, List.sum_append, List.sum_replicate_nat,
    List.map_cons, List.map_nil, List.sum_cons, List.sum_nil, show dig2bytes 9 = 4 from rfl, Nat.add_zero]
  rw [Nat.add_comm (dig2bytes _)]

theorem decimalGroups_le9 (p s : Nat) : ∀ sz ∈ decimalGroups p s, sz ≤ 9 := by
  intro sz h
  simp only [decimalGroups, List.mem_append, List.mem_cons, List.mem_replicate, List.not_mem_nil, or_false] at h
  have h9 (n : Nat) : n % 9 ≤ 9 := Nat.le_of_lt (Nat.mod_lt n (by decide))
  rcases h with ((rfl | ⟨-, rfl⟩) | ⟨-, rfl⟩) | rfl
  · exact h9 _
  · exact Nat.le_refl 9
  · exact Nat.le_refl 9
  · exact h9 _

/-! For an integer digit string `I` the serializer writes the `|I| % 9` leading digits with
`encodePartialDecimalBits` and the rest with `encodeDecimalBits`, which leaves nothing over; for a
fraction string `F` it writes the full groups first and the `|F| % 9` digits left over last. -/

theorem length_drop_mod9 (I : List Nat) : (I.drop (I.length % 9)).length = 9 * (I.length / 9) := by
  rw [List.length_drop]; exact Nat.sub_eq_of_eq_add (Nat.div_add_mod _ 9).symm

theorem encPartial_take (I : List Nat) :
    encPartial (I.take (I.length % 9)) = encBySizes [I.length % 9] (I.take (I.length % 9)) := by
  have h := encPartial_eq (I.take (I.length % 9)) (by rw [List.length_take]; omega)
  rwa [List.length_take, Nat.min_eq_left (Nat.mod_le _ _)] at h

theorem encPartial_drop (F : List Nat) :
    encPartial (F.drop (9 * (F.length / 9))) = encBySizes [F.length % 9] (F.drop (9 * (F.length / 9))) := by
  have h := encPartial_eq (F.drop (9 * (F.length / 9))) (by rw [List.length_drop]; omega)
  rwa [List.length_drop, ← Nat.mod_def] at h

theorem encGroups_drop_mod (I : List Nat) (hI : ∀ d ∈ I, d < 10) :
    encGroups (I.drop (I.length % 9)) = (encBySizes (List.replicate (I.length / 9) 9) (I.drop (I.length % 9)), []) := by
  have hl := length_drop_mod9 I
  rw [encGroups_eq _ (fun d hm => hI d (List.mem_of_mem_drop hm)), hl, Nat.mul_div_cancel_left _ (by decide),
    List.drop_eq_nil_of_le (Nat.le_of_eq hl)]

theorem encBySizes_groups (I F : List Nat) :
    encBySizes ([I.length % 9] ++ List.replicate (I.length / 9) 9 ++ List.replicate (F.length / 9) 9 ++ [F.length % 9])
        (I ++ F)
      = encBySizes [I.length % 9] (I.take (I.length % 9))
        ++ encBySizes (List.replicate (I.length / 9) 9) (I.drop (I.length % 9))
        ++ encBySizes (List.replicate (F.length / 9) 9) F
        ++ encBySizes [F.length % 9] (F.drop (9 * (F.length / 9))) := by
  have hm : I.length % 9 ≤ I.length := Nat.mod_le _ _
  have hl := length_drop_mod9 I
  rw [encBySizes_append, encBySizes_append, encBySizes_append]
  simp only [List.sum_append, List.sum_cons, List.sum_nil, List.sum_replicate_nat, Nat.add_zero, Nat.mul_comm _ 9,
    Nat.mod_add_div, List.drop_length_add_append, List.drop_append_of_le_length hm, List.drop_left]
  rw [encBySizes_prefix (List.replicate (I.length / 9) 9) (I.drop (I.length % 9)) F
    (by rw [List.sum_replicate_nat, hl, Nat.mul_comm]; exact Nat.le_refl _)]
  simp only [encBySizes, List.append_nil, List.take_append_of_le_length hm, List.take_take, Nat.min_self]

theorem encDecimal_eq (p s : Nat) (neg : Bool) (u : Nat) (hs : s < p) (hu : u < 10 ^ p) :
    encDecimal p s neg u = .ok (decimalSign neg (bufOf p s u)) := by
  have hpad := padLeft_natDigits (p - s) (u / 10 ^ s) (by omega) (div_pow_lt p s u (by omega) hu)
  have hg1 := encGroups_drop_mod _ (fixedDigits_lt (p - s) (u / 10 ^ s))
  have hg2 := encGroups_eq _ (fixedDigits_lt s (u % 10 ^ s))
  have hp1 := encPartial_take (fixedDigits (p - s) (u / 10 ^ s))
  have hp2 := encPartial_drop (fixedDigits s (u % 10 ^ s))
  have hbuf := encBySizes_groups (fixedDigits (p - s) (u / 10 ^ s)) (fixedDigits s (u % 10 ^ s))
  have hdig : fixedDigits p u = fixedDigits (p - s) (u / 10 ^ s) ++ fixedDigits s (u % 10 ^ s) := by
    rw [← fixedDigits_add, Nat.sub_add_cancel (Nat.le_of_lt hs)]
  simp only [fixedDigits_length] at hg1 hg2 hp1 hp2 hbuf
  unfold encDecimal
  simp only [show ¬ (u ≥ 10 ^ p) by omega, if_false, hpad, leftover_eq, hg1, hg2, hp1, hp2, List.length_nil, Nat.lt_irrefl]
  rw [bufOf, hdig, show encBySizes (decimalGroups p s) _ = _ from hbuf]
  split
  · rfl
  · obtain rfl : s = 0 := by omega
    simp [fixedDigits, encBySizes, dig2bytes, beBytes]

theorem bufOf_head (p s u : Nat) (hp : 1 ≤ p) (hs : s ≤ p) : ∃ b0 t, bufOf p s u = b0 :: t ∧ b0.toNat < 128 :=
  encBySizes_head _ _ (fixedDigits_lt p u) (decimalGroups_le9 p s)
    (by rw [decimalGroups_sum p s hs, fixedDigits_length]; exact Nat.le_refl _) (by rwa [decimalGroups_sum p s hs])

theorem readGroups_bufOf (p s u : Nat) (hs : s ≤ p) (hu : u < 10 ^ p) :
    readGroups (decimalGroups p s) (bufOf p s u) 0 = some (u, []) := by
  have := readGroups_encBySizes (decimalGroups p s) (fixedDigits p u) [] 0
    (by rw [decimalGroups_sum p s hs, fixedDigits_length]) (fixedDigits_lt p u) (decimalGroups_le9 p s)
  rwa [List.append_nil, atoi_fixedDigits, Nat.mod_eq_of_lt hu, Nat.zero_mul, Nat.zero_add] at this

theorem decNewDecimal_decimalSign (p s : Nat) (neg : Bool) (b0 : UInt8) (t r : Bytes) (hb0 : b0.toNat < 128)
    (hlen : (b0 :: t).length = decimalLen p s) :
    decNewDecimal p s (decimalSign neg (b0 :: t) ++ r) =
      match readGroups (decimalGroups p s) (b0 :: t) 0 with
      | some (u, _) => some (.decimal neg u, r)
      | none => none := by
  obtain ⟨g1, g2⟩ := sign_bit b0 hb0
  have htake : takeN (decimalLen p s) (decimalSign neg (b0 :: t) ++ r) = some (decimalSign neg (b0 :: t), r) := by
    rw [← hlen, ← decimalSign_length neg]; exact takeN_append _ r
  have hxx : (t.map (· ^^^ 0xff)).map (· ^^^ 0xff) = t := xorAll_xorAll 0xff t
  unfold decNewDecimal
  rw [htake]
  cases neg
  · simp only [decimalSign, Bool.false_eq_true, if_false, decide_eq_false g1, xor_xor]
    rfl
  · simp only [decimalSign, if_true, xorAll, List.map_cons, decide_eq_true g2, xor_xor_xor_xor, hxx]
    rfl

/-- `s = p` (no integer digit) is not covered. -/
theorem decNewDecimal_encDecimal (p s : Nat) (neg : Bool) (u : Nat) (b r : Bytes) (hs : s < p) (hu : u < 10 ^ p)
    (he : encDecimal p s neg u = .ok b) : decNewDecimal p s (b ++ r) = some (.decimal neg u, r) := by
  rw [encDecimal_eq p s neg u hs hu] at he
  cases he
  obtain ⟨b0, t, hbt, hb0⟩ := bufOf_head p s u (by omega) (Nat.le_of_lt hs)
  have hrg := readGroups_bufOf p s u (Nat.le_of_lt hs) hu
  have hlen := bufOf_length p s u
  rw [hbt] at hrg hlen
  rw [hbt, decNewDecimal_decimalSign p s neg b0 t r hb0 hlen, hrg]

end DoltVerif.Binlog
