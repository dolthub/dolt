import DoltVerif.Lemmas.BinlogBytes
/-! NULL bitmap and row-image framing lemmas for C40. -/
namespace DoltVerif.Binlog

theorem packByte_lt : ∀ l : List Bool, packByte l < 2 ^ l.length
  | [] => by simp [packByte]
  | b :: r => by
    rw [packByte, List.length_cons, Nat.pow_succ, Nat.add_comm, Nat.mul_comm]
    exact pack_lt (packByte_lt r) (by split <;> decide)

theorem unpackByte_packByte : ∀ l : List Bool, unpackByte l.length (packByte l) = l
  | [] => rfl
  | b :: r => by
    have ih := unpackByte_packByte r
    simp only [packByte, List.length_cons, unpackByte]
    cases b
    · simp [ih]
    · have e : 1 + 2 * packByte r = packByte r * 2 + 1 := by rw [Nat.add_comm, Nat.mul_comm]
      simp [e, pack_div, Nat.mul_add_mod_of_lt, ih]

theorem unpackBits_packBits (fl : List Bool) : unpackBits fl.length (packBits fl) = some fl := by
  induction fl using packBits.induct with
  | case1 fl h => rw [h, List.eq_nil_of_length_eq_zero h, unpackBits.eq_def, dif_pos rfl]
  | case2 fl h ih =>
    have ht : (fl.take 8).length = min fl.length 8 := by rw [List.length_take, Nat.min_comm]
    have hlt : packByte (fl.take 8) < 2 ^ 8 :=
      Nat.lt_of_lt_of_le (packByte_lt _) (Nat.pow_le_pow_right (show 0 < 2 by decide) (ht ▸ Nat.min_le_right _ _))
    rw [List.length_drop] at ih
    rw [packBits, dif_neg h, unpackBits.eq_def, dif_neg h]
    simp only [ih, byteOf_toNat, Nat.mod_eq_of_lt hlt, ← ht, unpackByte_packByte, List.take_append_drop]

theorem packBits_length (fl : List Bool) : (packBits fl).length = (fl.length + 7) / 8 := by
  induction fl using packBits.induct with
  | case1 fl h => rw [packBits, dif_pos h, h]; rfl
  | case2 fl h ih => rw [packBits, dif_neg h, List.length_cons, ih, List.length_drop]; omega

theorem decodeRow_encodeRow (cols : List (ColType × Option Cell))
    (hcell : ∀ t c, (t, some c) ∈ cols → ∀ b r, encode t c = .ok b →
      decodeCell (signedOf t) (colMeta t).1 (colMeta t).2 (b ++ r) = some (c, r)) :
    ∀ d fl r, encodeRow cols = .ok (d, fl) →
      decodeRow (cols.map (fun tc => colDesc tc.1)) fl (d ++ r) = some (cols.map (·.2), r) ∧ fl.length = cols.length := by
  fun_induction encodeRow cols with
  | case1 => rintro d fl r ⟨⟩; simp [decodeRow]
  | case2 t rest d' fl' he ih =>
    -- a NULL cell: flagged, no bytes
    rintro d fl r ⟨⟩
    obtain ⟨h1, h2⟩ := ih (fun t c hm => hcell t c (List.mem_cons_of_mem _ hm)) d' fl' r he
    simp only [colDesc] at h1
    simp [decodeRow, colDesc, h1, h2]
  | case5 t c rest b hb d' fl' he ih =>
    rintro d fl r ⟨⟩
    obtain ⟨h1, h2⟩ := ih (fun t c hm => hcell t c (List.mem_cons_of_mem _ hm)) d' fl' r he
    have hc := hcell t c (List.mem_cons_self) b (d' ++ r) hb
    simp only [colDesc] at h1
    simp only [List.map_cons, decodeRow, colDesc, List.append_assoc, hc, h1]
    simp [h2]
  -- the cell or the rest of the row does not encode
  | case3 | case4 | case6 => nofun

end DoltVerif.Binlog
