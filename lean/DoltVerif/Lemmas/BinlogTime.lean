import DoltVerif.Lemmas.BinlogBytes
/-! TIME2 round trip for C40 (`my_time_packed_from_binary` applied to `timeSerializer.serialize`), away from the
seconds-carry defect point.  A replica takes the signed value `word - 2^47` of the six bytes; in each of its three
branches dolt writes a word whose signed value is `±n` for the plain split of `|micros|` (the negative fractional branch
adds a second and writes `2^24 - fraction`: the same number).  16777216 = 2^24, 8388608 = 2^23, 140737488355328 = 2^47. -/
namespace DoltVerif.Binlog

theorem readBE_33 (a b : Nat) (r : Bytes) :
    readBE 6 (beBytes 3 a ++ (beBytes 3 b ++ r)) = some (a % 16777216 * 16777216 + b % 16777216, r) := by
  rw [readBE, show (6 : Nat) = 3 + 3 by rfl, readBEAux_append, readBEAux_beBytes]
  simp

/-- microseconds held by the magnitude of the signed 48-bit TIME2 value -/
def time2Micros (n : Nat) : Nat :=
  (n / 16777216 / 4096 % 1024 * 3600 + n / 16777216 / 64 % 64 * 60 + n / 16777216 % 64) * 1000000 + n % 16777216

/-- the TIME a replica reads from the signed 48-bit value -/
def time2Value (sv : Int) : Int := if sv < 0 then -(time2Micros sv.natAbs : Int) else time2Micros sv.natAbs

theorem decTime2_6 (a b : Nat) (r : Bytes) :
    decTime2 6 (beBytes 3 a ++ (beBytes 3 b ++ r)) =
      some (.time (time2Value (((a % 16777216 * 16777216 + b % 16777216 : Nat) : Int) - 140737488355328)), r) := by
  simp [decTime2, fracBytes, readBE_33, fracToMicros, Nat.shiftRight_eq_div_pow, time2Value,
    time2Micros]

theorem time2Value_natCast (n : Nat) : time2Value n = time2Micros n := by
  simp [time2Value, show ¬ (n : Int) < 0 by omega]

theorem time2Value_neg (n : Nat) : time2Value (-(n : Int)) = -(time2Micros n : Int) := by
  rcases Nat.eq_zero_or_pos n with rfl | h
  · rfl
  · rw [time2Value, if_pos (by omega), Int.natAbs_neg, Int.natAbs_natCast]

theorem time2Micros_pack (H M S us : Nat) (hH : H < 1024) (hM : M < 64) (hS : S < 64) (hus : us < 16777216) :
    time2Micros (((H * 64 + M) * 64 + S) * 16777216 + us) = (H * 3600 + M * 60 + S) * 1000000 + us := by
  obtain ⟨u1, u2, u3⟩ := hms_unpack H M S hM hS
  rw [time2Micros, pack_div hus, Nat.mul_add_mod_of_lt hus, u1, u2, u3, Nat.mod_eq_of_lt hH]

theorem div_mod3 (n a b : Nat) : n / (a * b) * (a * b) + n / b % a * b + n % b = n := by
  rw [Nat.mul_comm a b, ← Nat.div_div_eq_div_mul, Nat.mul_comm b a, ← Nat.mul_assoc, ← Nat.add_mul, Nat.div_add_mod',
    Nat.div_add_mod']

theorem time_split (d : Nat) (hd : d ≤ 3020399000000) :
    d / 1000000 / (60 * 60) ≤ 838 ∧ d / 1000000 / 60 % 60 < 60 ∧ d / 1000000 % 60 < 60 ∧ d % 1000000 < 1000000 ∧
    (d / 1000000 / (60 * 60) * 3600 + d / 1000000 / 60 % 60 * 60 + d / 1000000 % 60) * 1000000 + d % 1000000 = d :=
  ⟨Nat.le_trans (Nat.div_le_div_right (Nat.div_le_div_right hd)) (by decide),
   Nat.mod_lt _ (by decide), Nat.mod_lt _ (by decide), Nat.mod_lt _ (by decide),
   by rw [div_mod3 (d / 1000000) 60 60, Nat.div_add_mod']⟩

/-! the signed value of the word dolt writes: `uint32(±(bits + 0x800000))`, low three bytes, above
the three fraction bytes -/

theorem time2_word_pos (bits uf : Nat) (hb : bits < 8388608) (hu : uf < 16777216) :
    ((twos 32 ((bits + 8388608 : Nat) : Int) % 16777216 * 16777216 + uf % 16777216 : Nat) : Int) - 140737488355328
      = ((bits * 16777216 + uf : Nat) : Int) := by
  -- the low three bytes of the `uint32` are the 24-bit image, and `bits + 2^23 < 2^24` is its own; `2^23 * 2^24 = 2^47`
  rw [twos_mod 32 24 (by decide),
    twos_of_nonneg 24 _ (Int.natCast_nonneg _) (Int.ofNat_lt.mpr (Nat.add_lt_add_right hb 8388608)),
    Int.toNat_natCast, Nat.mod_eq_of_lt hu, Nat.add_mul, Nat.add_right_comm, Int.natCast_add _ (8388608 * 16777216)]
  exact Int.add_sub_cancel _ _

theorem time2_word_neg (bits uf n : Nat) (hb : bits ≤ 8388608) (hu : uf < 16777216)
    (hn : bits * 16777216 = n + uf) :
    ((twos 32 (-((bits + 8388608 : Nat) : Int)) % 16777216 * 16777216 + uf % 16777216 : Nat) : Int) - 140737488355328
      = -(n : Int) := by
  unfold twos; omega

/-- `hgood`: away from the seconds-carry defect point. -/
theorem decTime2_encTime (us : Int) (r : Bytes) (hdom : inDomain .time (.time us) = true)
    (hgood : ¬ (us < 0 ∧ us.natAbs % 1000000 > 0 ∧ us.natAbs / 1000000 % 60 = 59)) :
    decTime2 6 (encTime us ++ r) = some (.time us, r) := by
  have hd : us.natAbs ≤ 3020399000000 := of_decide_eq_true hdom
  have hsplit := time_split us.natAbs hd
  -- the four fields get their names before the serializer is unfolded: it mentions each of them several times
  generalize eH : us.natAbs / 1000000 / (60 * 60) = H at hsplit
  generalize eM : us.natAbs / 1000000 / 60 % 60 = M at hsplit
  generalize eS : us.natAbs / 1000000 % 60 = S at hsplit hgood
  generalize ef : us.natAbs % 1000000 = f at hsplit hgood
  simp only [encTime, timeFields, eH, eM, eS, ef]
  obtain ⟨hH, hM, hS, hu, hsum⟩ := hsplit
  have hM64 : M < 64 := Nat.lt_trans hM (by decide)
  have hS64 : S < 64 := Nat.lt_trans hS (by decide)
  have hf24 : f < 16777216 := Nat.lt_trans hu (by decide)
  have hH10 : H < 1024 := Nat.lt_of_le_of_lt hH (by decide)
  have hpk := time2Micros_pack H M S f hH10 hM64 hS64 hf24
  rw [hsum] at hpk
  have hB : (H * 64 + M) * 64 + S < 8388608 := Nat.lt_of_lt_of_le (pack_lt (pack_lt hH10 hM64) hS64) (by decide)
  by_cases hneg : us < 0
  · have husd : -(us.natAbs : Int) = us := by rw [Int.ofNat_natAbs_of_nonpos (Int.le_of_lt hneg), Int.neg_neg]
    by_cases h0 : f > 0
    · have hS58 : S < 59 := Nat.lt_of_le_of_ne (Nat.le_of_lt_succ hS) fun h => hgood ⟨hneg, h0, h⟩
      simp only [decide_eq_true hneg, true_and, h0, if_true,
        show ¬ S + 1 = 60 from fun h => Nat.ne_of_lt hS58 (Nat.succ.inj h), show ¬ M = 60 from Nat.ne_of_lt hM, if_false,
        hms_pack H M (S + 1) hM64 (Nat.lt_trans (Nat.succ_lt_succ hS58) (by decide)), List.append_assoc, decTime2_6]
      rw [← Nat.add_assoc,
        time2_word_neg _ _ (((H * 64 + M) * 64 + S) * 16777216 + f) hB (Nat.sub_lt (by decide) h0)
          (by rw [Nat.succ_mul, Nat.add_assoc, Nat.add_sub_cancel' (Nat.le_of_lt hf24)]),
        time2Value_neg, hpk, husd]
    · obtain rfl : f = 0 := Nat.eq_zero_of_not_pos h0
      simp only [decide_eq_true hneg, true_and, h0, if_true, if_false, hms_pack H M S hM64 hS64, List.append_assoc, decTime2_6]
      rw [time2_word_neg _ 0 (((H * 64 + M) * 64 + S) * 16777216 + 0) (Nat.le_of_lt hB) (by decide) (by rw [Nat.add_zero]),
        time2Value_neg, hpk, husd]
  · simp only [decide_eq_false hneg, Bool.false_eq_true, false_and, if_false, hms_pack H M S hM64 hS64, List.append_assoc,
      decTime2_6]
    rw [time2_word_pos _ _ hB hf24, time2Value_natCast, hpk, Int.natAbs_of_nonneg (Int.not_lt.mp hneg)]

end DoltVerif.Binlog
