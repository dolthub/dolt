import DoltVerif.Model.BranchControl
/-!
C38: the longest-match loop of `Access.MatchIgnoringRow`.
-/
namespace DoltVerif.BranchControl

/-- the greatest pattern length among the results (0 when there is none) -/
def maxLen : List (Data × Nat) → Nat
  | [] => 0
  | r :: rs => max r.2 (maxLen rs)

/-- OR of the permissions of the results whose length is exactly `L` -/
def orAt : List (Data × Nat) → Nat → Nat
  | [], _ => 0
  | r :: rs, L => (if r.2 = L then r.1.perms else 0) ||| orAt rs L

theorem longestLoop_inv (rs : List (Data × Nat)) (len perms : Nat) :
    longestLoop none rs len perms =
      if maxLen rs > len then (maxLen rs, orAt rs (maxLen rs)) else (len, perms ||| orAt rs len) := by
  fun_induction longestLoop none rs len perms with
  | case1 len perms => simp [maxLen, orAt]
  | case2 d l rs len perms h => cases h
  | case3 d l rs len perms _ h1 ih =>
    rw [ih]
    simp only [maxLen, orAt]
    by_cases h2 : maxLen rs > l
    · have hm : max l (maxLen rs) = maxLen rs := by omega
      have hne : ¬ l = maxLen rs := by omega
      have hgt : maxLen rs > len := by omega
      simp [h2, hm, hne, hgt]
    · have hm : max l (maxLen rs) = l := by omega
      simp [h2, hm, h1]
  | case4 d rs len perms _ _ ih =>
    rw [ih]
    simp only [maxLen, orAt]
    by_cases h2 : maxLen rs > len
    · have hm : max len (maxLen rs) = maxLen rs := by omega
      have hne : ¬ len = maxLen rs := by omega
      simp [h2, hm, hne]
    · have hm : max len (maxLen rs) = len := by omega
      simp [h2, hm, Nat.or_assoc]
  | case5 d l rs len perms _ h1 h3 ih =>
    rw [ih]
    simp only [maxLen, orAt]
    by_cases h2 : maxLen rs > len
    · have hm : max l (maxLen rs) = maxLen rs := by omega
      have hne : ¬ l = maxLen rs := by omega
      simp [h2, hm, hne]
    · have hm : ¬ max l (maxLen rs) > len := by omega
      simp [h2, hm, h3]

theorem longestLoop_spec (rs : List (Data × Nat)) :
    longestLoop none rs 0 0 = (maxLen rs, orAt rs (maxLen rs)) := by
  rw [longestLoop_inv]
  by_cases h : maxLen rs > 0
  · simp [h]
  · have : maxLen rs = 0 := by omega
    simp [this]

theorem longestLoop_ignore (ignore : Option Nat) : ∀ (rs : List (Data × Nat)) (len perms : Nat),
    longestLoop ignore rs len perms =
      longestLoop none (rs.filter fun r => decide (ignore ≠ some r.1.row)) len perms := by
  intro rs
  induction rs with
  | nil => intro len perms; rfl
  | cons r rs ih =>
    intro len perms
    obtain ⟨d, l⟩ := r
    by_cases h : ignore = some d.row
    · rw [List.filter_cons_of_neg (by simp [h]), ← ih]
      simp only [longestLoop, h, if_true]
    · simp only [longestLoop, h, if_false, ne_eq, not_false_eq_true, decide_true, List.filter_cons_of_pos,
        reduceCtorEq, ih]

theorem matchIgnoring_spec (ai bin : Rune → Int) (a : Access) (db br us ho : List Rune) (ignore : Option Nat) :
    a.matchIgnoring ai bin db br us ho ignore =
      (!(a.root.matchTokens (parse4 ai bin db br us ho)).isEmpty,
        closePerms (orAt ((a.root.matchTokens (parse4 ai bin db br us ho)).filter
            fun r => decide (ignore ≠ some r.1.row))
          (maxLen ((a.root.matchTokens (parse4 ai bin db br us ho)).filter
            fun r => decide (ignore ≠ some r.1.row))))) := by
  simp only [Access.matchIgnoring, longestLoop_ignore ignore, longestLoop_spec]

end DoltVerif.BranchControl
