import DoltVerif.Lemmas.BranchControlLike
/-!
C38: `FoldExpression`.  One pass in loop state `st` over the rest `t` rewrites the input `st.held ++ t`;
its output has the same unescaped `_`, no greater potential — equal only if nothing changed and no `%`
was followed by `_` or `%` — and the same LIKE meaning.
-/
namespace DoltVerif.BranchControl

theorem bs_ne_pct : bs ≠ pct := by decide
theorem pct_ne_und : pct ≠ und := by decide

/-- the scanners are behind an escape -/
def St.esc : St → Bool
  | .skip => true
  | _ => false

/-- input read but not yet written -/
def St.held : St → List Rune
  | .consider => [pct]
  | _ => []

/-- a pass never meets a `_` or `%` right after an unescaped `%` -/
def noPair : St → List Rune → Bool
  | _, [] => true
  | .skip, _ :: t => noPair .normal t
  | .consider, r :: t =>
    if r = bs then noPair .skip t else if r = und then false else if r = pct then false else noPair .normal t
  | .normal, r :: t =>
    if r = bs then noPair .skip t else if r = pct then noPair .consider t else noPair .normal t

structure PassFacts (st : St) (t : List Rune) : Prop where
  uc : undCount st.esc (foldGo st t) = undCount st.esc (st.held ++ t)
  le : potential st.esc (foldGo st t) ≤ potential st.esc (st.held ++ t)
  eq : potential st.esc (foldGo st t) = potential st.esc (st.held ++ t) →
    foldGo st t = st.held ++ t ∧ noPair st t = true

theorem passFacts (st : St) (t : List Rune) : PassFacts st t := by
  fun_induction foldGo st t with
  | case1 => exact ⟨rfl, Nat.le_refl _, fun _ => ⟨rfl, rfl⟩⟩
  | case2 st h =>
    cases st with
    | consider => exact absurd rfl h
    | _ => exact ⟨rfl, Nat.le_refl _, fun _ => ⟨rfl, rfl⟩⟩
  | case3 r t ih => exact ⟨ih.uc, ih.le, fun h => ⟨congrArg (r :: ·) (ih.eq h).1, (ih.eq h).2⟩⟩
  | case4 t ih =>
    -- the input is `%` then `\`; the potential of a `%` is 1 + the unescaped `_` after it
    have hu : undCount true (foldGo .skip t) = undCount true t := ih.uc
    have hl : potential true (foldGo .skip t) ≤ potential true t := ih.le
    refine ⟨hu, ?_, fun h => ?_⟩
    · show 1 + undCount true (foldGo .skip t) + potential true (foldGo .skip t) ≤
        1 + undCount true t + potential true t
      omega
    · have h : 1 + undCount true (foldGo .skip t) + potential true (foldGo .skip t) =
          1 + undCount true t + potential true t := h
      have := ih.eq (show potential true (foldGo .skip t) = potential true t by omega)
      exact ⟨congrArg (pct :: bs :: ·) this.1, this.2⟩
  | case5 t _ ih =>
    -- `%_` is rewritten to `_%`: the `%` has one `_` less after it
    have hu : undCount false (foldGo .normal t) = undCount false t := ih.uc
    have hl : potential false (foldGo .normal t) ≤ potential false t := ih.le
    refine ⟨congrArg (1 + ·) hu, ?_, fun h => ?_⟩
    · show 1 + undCount false (foldGo .normal t) + potential false (foldGo .normal t) ≤
        1 + (1 + undCount false t) + potential false t
      omega
    · have h : 1 + undCount false (foldGo .normal t) + potential false (foldGo .normal t) =
          1 + (1 + undCount false t) + potential false t := h
      omega
  | case6 t _ _ ih =>
    -- `%%` is rewritten to `%`: one `%` less
    have hu : undCount false (foldGo .normal t) = undCount false t := ih.uc
    have hl : potential false (foldGo .normal t) ≤ potential false t := ih.le
    refine ⟨hu, ?_, fun h => ?_⟩
    · show 1 + undCount false (foldGo .normal t) + potential false (foldGo .normal t) ≤
        1 + undCount false t + (1 + undCount false t + potential false t)
      omega
    · have h : 1 + undCount false (foldGo .normal t) + potential false (foldGo .normal t) =
          1 + undCount false t + (1 + undCount false t + potential false t) := h
      omega
  | case7 r t hb hu hp ih =>
    have hnu : undCount false (foldGo .normal t) = undCount false t := ih.uc
    have hnl : potential false (foldGo .normal t) ≤ potential false t := ih.le
    constructor
    · simpa [foldGo, undCount, St.esc, St.held, hb, hp, hu, bs_ne_pct.symm, pct_ne_und] using hnu
    · simp [foldGo, potential, undCount, St.esc, St.held, hb, hp, hu, bs_ne_pct.symm]; omega
    · intro h
      have : potential false (foldGo .normal t) = potential false t := by
        simp [foldGo, potential, undCount, St.esc, St.held, hb, hp, hu, bs_ne_pct.symm] at h; omega
      have := ih.eq this
      simp [foldGo, noPair, St.held, hb, hp, hu, this.1, this.2]
  | case8 t ih => exact ⟨ih.uc, ih.le, fun h => ⟨congrArg (bs :: ·) (ih.eq h).1, (ih.eq h).2⟩⟩
  | case9 t _ ih => exact ⟨ih.uc, ih.le, ih.eq⟩
  | case10 r t hb hp ih =>
    have hnu : undCount false (foldGo .normal t) = undCount false t := ih.uc
    have hnl : potential false (foldGo .normal t) ≤ potential false t := ih.le
    constructor
    · simp [foldGo, undCount, St.esc, St.held, hb, hp, hnu]
    · simpa [foldGo, potential, St.esc, St.held, hb, hp] using hnl
    · intro h
      have := ih.eq (by simpa [foldGo, potential, St.esc, St.held, hb, hp] using h)
      simp [foldGo, noPair, St.held, hb, hp, this.1, this.2]

theorem foldPass_lt (s : List Rune) (h : foldPass s ≠ s) : potential false (foldPass s) < potential false s := by
  have f := passFacts .normal s
  have hle := f.le
  by_cases he : potential false (foldGo .normal s) = potential false s
  · exact absurd (f.eq he).1 h
  · exact Nat.lt_of_le_of_ne hle he

theorem foldLoop_fix (n : Nat) (s : List Rune) (h : potential false s < n) :
    foldPass (foldLoop n s) = foldLoop n s := by
  fun_induction foldLoop n s with
  | case1 s => omega
  | case2 n s s' he => exact he
  | case3 n s s' he ih =>
    have : potential false s' < potential false s := foldPass_lt s he
    exact ih (by omega)

theorem foldLoop_fuel : ∀ (n m : Nat) (s : List Rune), potential false s < n → potential false s < m →
    foldLoop n s = foldLoop m s := by
  intro n
  induction n with
  | zero => intro m s h; omega
  | succ n ih =>
    intro m s hn hm
    cases m with
    | zero => omega
    | succ m =>
      simp only [foldLoop]
      by_cases he : foldPass s = s
      · simp [he]
      · simp only [he, if_false]
        have := foldPass_lt s he
        exact ih m _ (by omega) (by omega)

theorem fold_fix (s : List Rune) : foldPass (fold s) = fold s :=
  foldLoop_fix _ s (Nat.lt_succ_self _)

theorem fold_of_fix (s : List Rune) (h : foldPass s = s) : fold s = s := by
  simp [fold, foldLoop, h]

theorem noPair_of_fix (s : List Rune) (h : foldPass s = s) : noPair .normal s = true :=
  ((passFacts .normal s).eq (congrArg (potential false) h)).2

/-- used with lower-casing for `lower` -/
theorem parseGo_map (so : Rune → Int) (lower : Rune → Rune)
    (hl : ∀ r, (lower r = bs ↔ r = bs) ∧ (lower r = pct ↔ r = pct) ∧ (lower r = und ↔ r = und)) :
    ∀ (t : List Rune) (b : Bool), parseGo so b (t.map lower) = parseGo (fun r => so (lower r)) b t := by
  intro t
  induction t with
  | nil => intro b; cases b <;> rfl
  | cons r t ih =>
    intro b
    obtain ⟨h1, h2, h3⟩ := hl r
    have e1 : (lower r = bs) = (r = bs) := propext h1
    have e2 : (lower r = pct) = (r = pct) := propext h2
    have e3 : (lower r = und) = (r = und) := propext h3
    cases b <;> simp only [List.map_cons, parseGo, e1, e2, e3, ih]

theorem folded_lit (x : Int) (p : List Int) (hx : x ≠ anyMatch) : folded (x :: p) = folded p := by
  cases p with
  | nil => rfl
  | cons y t => simp only [folded, hx, decide_false, Bool.false_and, Bool.not_false, Bool.true_and]

theorem folded_any_lit (x : Int) (p : List Int) (h1 : x ≠ anyMatch) (h2 : x ≠ singleMatch) :
    folded (anyMatch :: x :: p) = folded p := by
  rw [← folded_lit x p h1]
  simp only [folded, h1, h2, decide_false, Bool.or_false, Bool.and_false, Bool.not_false, Bool.true_and]

theorem foldedFacts (so : Rune → Int) (hso : ∀ r, 0 ≤ so r) (st : St) (t : List Rune) :
    noPair st t = true → folded (parseGo so st.esc (st.held ++ t)) = true := by
  have hne1 : ∀ r, so r ≠ anyMatch := fun r h => by have := hso r; rw [h] at this; simp [anyMatch] at this
  have hne2 : ∀ r, so r ≠ singleMatch := fun r h => by have := hso r; rw [h] at this; simp [singleMatch] at this
  fun_induction noPair st t with
  | case1 st => cases st <;> exact fun _ => rfl
  | case2 r t ih => exact fun h => (folded_lit _ _ (hne1 r)).trans (ih h)
  | case3 t ih =>
    -- the token after an escape is a literal sort order
    intro h
    have := ih h
    cases t with
    | nil => rfl
    | cons r' t' => exact (folded_any_lit _ _ (hne1 r') (hne2 r')).trans ((folded_lit _ _ (hne1 r')).symm.trans this)
  | case4 t _ => exact fun h => nomatch h
  | case5 t _ _ => exact fun h => nomatch h
  | case6 r t hb hu hp ih =>
    intro h
    simp only [St.esc, St.held, List.cons_append, List.nil_append, parseGo, bs_ne_pct.symm, hb, hp, hu, if_false,
      if_true]
    exact (folded_any_lit _ _ (hne1 r) (hne2 r)).trans (ih h)
  | case7 t ih => exact ih
  | case8 t _ ih => exact ih
  | case9 r t hb hp ih =>
    intro h
    by_cases hu : r = und
    · subst hu; exact (folded_lit _ _ any_ne_single.symm).trans (ih h)
    · simp only [St.esc, St.held, List.nil_append, parseGo, hb, hp, hu, if_false]
      exact (folded_lit _ _ (hne1 r)).trans (ih h)

def LikeEq (p q : List Int) : Prop := ∀ x, likeSpec p x = likeSpec q x

theorem LikeEq.refl (p : List Int) : LikeEq p p := fun _ => rfl
theorem LikeEq.trans {p q r : List Int} (h1 : LikeEq p q) (h2 : LikeEq q r) : LikeEq p r :=
  fun x => (h1 x).trans (h2 x)
theorem LikeEq.symm {p q : List Int} (h : LikeEq p q) : LikeEq q p := fun x => (h x).symm

theorem likeEq_cons (a : Int) {p q : List Int} (h : LikeEq p q) : LikeEq (a :: p) (a :: q) := by
  have hf : likeSpec p = likeSpec q := funext h
  intro x
  simp only [likeSpec, hf]

theorem anySuffix_idem (f : List Int → Bool) : ∀ x, anySuffix (anySuffix f) x = anySuffix f x := by
  intro x
  induction x with
  | nil => rfl
  | cons c x ih =>
    simp only [anySuffix, ih]
    cases f (c :: x) <;> cases anySuffix f x <;> rfl

theorem likeSpec_any (p : List Int) : likeSpec (anyMatch :: p) = anySuffix (likeSpec p) := by
  funext s; simp [likeSpec]

theorem like_any_any (p : List Int) : LikeEq (anyMatch :: anyMatch :: p) (anyMatch :: p) := by
  intro x
  rw [likeSpec_any, likeSpec_any, anySuffix_idem]

theorem like_any_single (p : List Int) :
    LikeEq (anyMatch :: singleMatch :: p) (singleMatch :: anyMatch :: p) := by
  have hS : ∀ (q : List Int) c s, likeSpec (singleMatch :: q) (c :: s) = likeSpec q s := by
    intro q c s; simp [likeSpec, any_ne_single.symm]
  have hS0 : ∀ (q : List Int), likeSpec (singleMatch :: q) [] = false := by
    intro q; simp [likeSpec, any_ne_single.symm]
  intro x
  rw [likeSpec_any]
  induction x with
  | nil => simp [anySuffix, hS0]
  | cons c x ih =>
    rw [hS, likeSpec_any]
    simp only [anySuffix, hS, ih]
    cases x with
    | nil => simp [hS0, anySuffix]
    | cons d x' => rw [hS, likeSpec_any]; simp [anySuffix]

theorem likeFacts (so : Rune → Int) (st : St) (t : List Rune) :
    LikeEq (parseGo so st.esc (foldGo st t)) (parseGo so st.esc (st.held ++ t)) := by
  fun_induction foldGo st t with
  | case1 => exact LikeEq.refl _
  | case2 st h =>
    cases st with
    | consider => exact absurd rfl h
    | _ => exact LikeEq.refl _
  | case3 r t ih => exact likeEq_cons (so r) ih
  | case4 t ih => exact likeEq_cons anyMatch ih
  | case5 t _ ih =>
    exact (likeEq_cons singleMatch (likeEq_cons anyMatch ih)).trans (like_any_single (parseGo so false t)).symm
  | case6 t _ _ ih => exact (likeEq_cons anyMatch ih).trans (like_any_any (parseGo so false t)).symm
  | case7 r t hb hu hp ih =>
    simpa [parseGo, St.esc, St.held, hb, hp, hu, bs_ne_pct.symm] using likeEq_cons anyMatch (likeEq_cons (so r) ih)
  | case8 t ih => exact ih
  | case9 t _ ih => exact ih
  | case10 r t hb hp ih =>
    by_cases hu : r = und
    · subst hu; exact likeEq_cons singleMatch ih
    · simpa [parseGo, St.esc, St.held, hb, hp, hu] using likeEq_cons (so r) ih

theorem foldPass_like (so : Rune → Int) (s : List Rune) : LikeEq (parse so (foldPass s)) (parse so s) :=
  likeFacts so .normal s

theorem foldLoop_like (so : Rune → Int) (n : Nat) (s : List Rune) :
    LikeEq (parse so (foldLoop n s)) (parse so s) := by
  fun_induction foldLoop n s with
  | case1 s => exact LikeEq.refl _
  | case2 n s s' he => exact LikeEq.refl _
  | case3 n s s' he ih => exact ih.trans (foldPass_like so s)

end DoltVerif.BranchControl
