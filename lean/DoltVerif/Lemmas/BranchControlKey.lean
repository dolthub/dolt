import DoltVerif.Lemmas.BranchControlLike
/-!
C38: the trie's step on one rule key (`kstep`: `processMatch` on a childless node) and acceptance of a request by
a key (`dacc`).  Off the column markers `kstep` has the successors of `Matches` (`kstep_any`), so a column of
a concatenated key is read as LIKE reads it (`dacc_column`).
-/
namespace DoltVerif.BranchControl

/-- what `processMatch` does to a single rule key (a childless node): the sort orders consumed,
with the key left over.  It differs from `matchesStep` in one point only: a `%` does not take a
column marker. -/
def kstep (k : List Int) (c : Int) : List (Nat × List Int) :=
  match k with
  | [] => []
  | x :: q =>
    if x = singleMatch then (if c < singleMatch then [] else [(1, q)])
    else if x = anyMatch then
      (match q with
        | z :: q' => if z = c then [(2, q')] else []
        | [] => [])
      ++ (if c ≠ columnMarker then [(0, x :: q)] else [])
    else if c = x then [(1, q)] else []

/-- acceptance of a whole concatenated request by one concatenated rule key -/
def dacc : List Int → List Int → Bool
  | k, [] => isAtEnd k
  | k, c :: t => (kstep k c).any (fun nq => dacc nq.2 t)

theorem dacc_nil (k : List Int) : dacc k [] = isAtEnd k := by
  cases k <;> rfl

theorem dacc_cons (k : List Int) (c : Int) (t : List Int) :
    dacc k (c :: t) = (kstep k c).any (fun nq => dacc nq.2 t) := by
  cases k <;> rfl

theorem kstep_single (q : List Int) (c : Int) :
    kstep (singleMatch :: q) c = if c < singleMatch then [] else [(1, q)] := rfl

theorem kstep_any_cons (z : Int) (q' : List Int) (c : Int) :
    kstep (anyMatch :: z :: q') c =
      (if z = c then [(2, q')] else []) ++ (if c ≠ columnMarker then [(0, anyMatch :: z :: q')] else []) := rfl

theorem kstep_any_nil (c : Int) : kstep [anyMatch] c = if c ≠ columnMarker then [(0, [anyMatch])] else [] := rfl

theorem kstep_lit (x : Int) (q : List Int) (c : Int) (h1 : x ≠ singleMatch) (h2 : x ≠ anyMatch) :
    kstep (x :: q) c = if c = x then [(1, q)] else [] := by
  simp only [kstep, if_neg h1, if_neg h2]

theorem kstep_length (k : List Int) (c : Int) (nq : Nat × List Int) (h : nq ∈ kstep k c) :
    nq.1 + nq.2.length = k.length := by
  induction k using pat_cases with
  | nil => cases h
  | single q =>
    simp only [kstep_single, List.mem_ite_nil_left, List.mem_singleton] at h
    rw [h.2]; exact Nat.add_comm _ _
  | anyEnd =>
    simp only [kstep_any_nil, List.mem_ite_nil_right, List.mem_singleton] at h
    rw [h.2]; rfl
  | anyCons z q =>
    simp only [kstep_any_cons, List.mem_append, List.mem_ite_nil_right, List.mem_singleton] at h
    rcases h with ⟨_, rfl⟩ | ⟨_, rfl⟩
    · simp only [List.length_cons]; omega
    · exact Nat.zero_add _
  | lit x q h1 h2 =>
    simp only [kstep_lit x q c h1 h2, List.mem_ite_nil_right, List.mem_singleton] at h
    rw [h.2]; exact Nat.add_comm _ _

theorem kstep_append (so t : List Int) (c : Int) (h0 : so ≠ []) (h1 : so ≠ [anyMatch]) :
    kstep (so ++ t) c = (kstep so c).map fun nq => (nq.1, nq.2 ++ t) := by
  induction so using pat_cases with
  | nil => exact absurd rfl h0
  | single q => simp only [List.cons_append, kstep_single, apply_ite (List.map _), List.map_cons, List.map_nil]
  | anyEnd => exact absurd rfl h1
  | anyCons z q =>
    simp only [List.cons_append, kstep_any_cons, apply_ite (List.map _), List.map_append, List.map_cons, List.map_nil]
  | lit x q hs hx =>
    simp only [List.cons_append, kstep_lit _ _ _ hs hx, apply_ite (List.map _), List.map_cons, List.map_nil]

theorem kstep_any (k : List Int) (c : Int) (hc : c ≠ columnMarker) (f : List Int → Bool) :
    (kstep k c).any (fun nq => f nq.2) = (matchesStep k c).any f := by
  induction k using pat_cases with
  | nil => rfl
  | single q => rw [kstep_single, matchesStep_single]; split <;> rfl
  | anyEnd => rw [kstep_any_nil, matchesStep_any_nil, if_pos hc]; rfl
  | anyCons z q =>
    rw [kstep_any_cons, matchesStep_any_cons, if_pos hc]
    split
    · simp only [List.cons_append, List.nil_append, List.any_cons, List.any_nil, Bool.or_false]
      exact Bool.or_comm _ _
    · rfl
  | lit x q hs hx => rw [kstep_lit _ _ _ hs hx, matchesStep_lit _ _ _ hs hx]; split <;> rfl

theorem marker_facts : columnMarker ≠ singleMatch ∧ columnMarker ≠ anyMatch ∧ columnMarker < singleMatch ∧
    ¬ (0 : Int) ≤ columnMarker := by decide

/-- no column marker inside, nothing below `anyMatch` -/
def plainPat (p : List Int) : Prop := ∀ x ∈ p, x = singleMatch ∨ x = anyMatch ∨ 0 ≤ x

theorem plainPat_marker (p : List Int) (h : plainPat p) : columnMarker ∉ p := by
  obtain ⟨m1, m2, _, m4⟩ := marker_facts
  intro hm
  rcases h _ hm with e | e | e
  · exact m1 e
  · exact m2 e
  · exact m4 e

/-- what may follow a column: nothing, or the next column marker -/
def colEnd (l : List Int) : Prop := l = [] ∨ ∃ t, l = columnMarker :: t

theorem dacc_marker (X Y : List Int) : dacc (columnMarker :: X) (columnMarker :: Y) = dacc X Y := by
  obtain ⟨m1, m2, _, _⟩ := marker_facts
  simp [dacc_cons, kstep, m1, m2]

theorem dacc_end_any (P' S' : List Int) (hP : colEnd P') (hS : colEnd S') :
    dacc (anyMatch :: P') S' = dacc P' S' := by
  obtain ⟨m1, m2, _, _⟩ := marker_facts
  rcases hS with rfl | ⟨S'', rfl⟩
  · rcases hP with rfl | ⟨P'', rfl⟩ <;> simp [dacc_nil, isAtEnd, m2]
  · rcases hP with rfl | ⟨P'', rfl⟩ <;> simp [dacc_cons, kstep, any_ne_single, m1, m2]

theorem dacc_end_lit (x : Int) (l S' : List Int) (hS : colEnd S') (hx : x ≠ anyMatch)
    (hm : S' = [] ∨ x ≠ columnMarker) : dacc (x :: l) S' = false := by
  rcases hS with rfl | ⟨S'', rfl⟩
  · simp [dacc_nil, isAtEnd, hx]
  · have hm' : columnMarker ≠ x := fun e => hm.elim (by simp) (fun h => h e.symm)
    by_cases hs : x = singleMatch
    · simp [dacc_cons, kstep, hs, marker_facts.2.2.1]
    · simp [dacc_cons, kstep, hs, hx, hm']

theorem dacc_end_any_lit (z : Int) (l S' : List Int) (hS : colEnd S') (hm : S' = [] ∨ z ≠ columnMarker) :
    dacc (anyMatch :: z :: l) S' = false := by
  rcases hS with rfl | ⟨S'', rfl⟩
  · simp [dacc_nil, isAtEnd]
  · have hm' : z ≠ columnMarker := hm.elim (by simp) id
    simp [dacc_cons, kstep, any_ne_single, hm']

theorem dacc_colEnd (p P' S' : List Int) (hP : colEnd P') (hS : colEnd S') (hm : S' = [] ∨ columnMarker ∉ p) :
    dacc (p ++ P') S' = (isAtEnd p && dacc P' S') := by
  match p with
  | [] => rfl
  | [x] =>
    by_cases hx : x = anyMatch
    · subst hx; exact dacc_end_any P' S' hP hS
    · have : isAtEnd [x] = false := by simp [isAtEnd, hx]
      rw [this]
      exact dacc_end_lit x _ S' hS hx (hm.imp id fun h e => h (by simp [e]))
  | x :: z :: q =>
    have : isAtEnd (x :: z :: q) = false := by simp [isAtEnd]
    rw [this]
    by_cases hx : x = anyMatch
    · subst hx; exact dacc_end_any_lit z _ S' hS (hm.imp id fun h e => h (by simp [e]))
    · exact dacc_end_lit x _ S' hS hx (hm.imp id fun h e => h (by simp [e]))

/-- at the end of a column `kstep_append` holds for every `so` -/
theorem kstep_append_col (so t : List Int) (c : Int) (ht : colEnd t) (hc : c ≠ columnMarker) :
    kstep (so ++ t) c = (kstep so c).map fun nq => (nq.1, nq.2 ++ t) := by
  obtain ⟨m1, m2, _, _⟩ := marker_facts
  have hmc : ¬ columnMarker = c := fun h => hc h.symm
  by_cases h0 : so = []
  · subst h0
    rcases ht with rfl | ⟨t', rfl⟩ <;> simp [kstep, m1, m2, hc]
  · by_cases h1 : so = [anyMatch]
    · -- the `%` stays: what follows it is the end of the key or a marker, never `c`
      subst h1
      rcases ht with rfl | ⟨t', rfl⟩ <;> simp [kstep, any_ne_single, hc, hmc]
    · exact kstep_append so t c h0 h1

theorem dacc_column : ∀ (s : List Int) (p P' S' : List Int), folded p = true →
    (∀ c ∈ s, 0 ≤ c) → colEnd P' → colEnd S' → (S' = [] ∨ columnMarker ∉ p) →
    dacc (p ++ P') (s ++ S') = (likeSpec p s && dacc P' S') := by
  intro s
  induction s with
  | nil =>
    intro p P' S' hf _ hP hS hm
    rw [likeSpec_nil p hf, List.nil_append, dacc_colEnd p P' S' hP hS hm]
  | cons c s ih =>
    intro p P' S' hf hs hP hS hm
    have hc : 0 ≤ c := hs c (by simp)
    have hcm : c ≠ columnMarker := by intro h; rw [h] at hc; exact marker_facts.2.2.2 hc
    -- the key steps as `Matches` steps `p`, which is the derivative of LIKE; the successors are suffixes of `p`,
    -- so the induction hypothesis applies to them
    rw [List.cons_append, dacc_cons, kstep_append_col p P' c hP hcm, List.any_map,
      likeSpec_cons p c s hf hc, List.and_any_distrib_right]
    refine (kstep_any p c hcm fun q => dacc (q ++ P') (s ++ S')).trans (any_congr_mem _ _ _ fun q hq => ?_)
    have hsuf := matchesStep_suffix p c q hq
    exact ih q P' S' (folded_suffix p q hsuf hf) (fun a ha => hs a (by simp [ha])) hP hS
      (hm.imp id fun h e => h (hsuf.subset e))

theorem dacc_parse4 (p1 p2 p3 p4 s1 s2 s3 s4 : List Int)
    (hf : folded p1 = true ∧ folded p2 = true ∧ folded p3 = true ∧ folded p4 = true)
    (hp : plainPat p1 ∧ plainPat p2 ∧ plainPat p3)
    (hs : (∀ c ∈ s1, 0 ≤ c) ∧ (∀ c ∈ s2, 0 ≤ c) ∧ (∀ c ∈ s3, 0 ≤ c) ∧ (∀ c ∈ s4, 0 ≤ c)) :
    dacc (columnMarker :: p1 ++ columnMarker :: p2 ++ columnMarker :: p3 ++ columnMarker :: p4)
         (columnMarker :: s1 ++ columnMarker :: s2 ++ columnMarker :: s3 ++ columnMarker :: s4) =
      (likeSpec p1 s1 && likeSpec p2 s2 && likeSpec p3 s3 && likeSpec p4 s4) := by
  have e4 := dacc_column s4 p4 [] [] hf.2.2.2 hs.2.2.2 (Or.inl rfl) (Or.inl rfl) (Or.inl rfl)
  simp only [List.append_nil] at e4
  have e3 := dacc_column s3 p3 (columnMarker :: p4) (columnMarker :: s4) hf.2.2.1 hs.2.2.1
    (Or.inr ⟨_, rfl⟩) (Or.inr ⟨_, rfl⟩) (Or.inr (plainPat_marker _ hp.2.2))
  have e2 := dacc_column s2 p2 (columnMarker :: p3 ++ columnMarker :: p4) (columnMarker :: s3 ++ columnMarker :: s4)
    hf.2.1 hs.2.1 (Or.inr ⟨_, rfl⟩) (Or.inr ⟨_, rfl⟩) (Or.inr (plainPat_marker _ hp.2.1))
  have e1 := dacc_column s1 p1 (columnMarker :: p2 ++ columnMarker :: p3 ++ columnMarker :: p4)
    (columnMarker :: s2 ++ columnMarker :: s3 ++ columnMarker :: s4)
    hf.1 hs.1 (Or.inr ⟨_, rfl⟩) (Or.inr ⟨_, rfl⟩) (Or.inr (plainPat_marker _ hp.1))
  simp only [List.cons_append, List.append_assoc] at e1 e2 e3 ⊢
  rw [dacc_marker, e1, dacc_marker, e2, dacc_marker, e3, dacc_marker, e4, dacc_nil]
  simp [Bool.and_assoc, isAtEnd]

end DoltVerif.BranchControl
