import DoltVerif.Model.BranchControl
/-!
C38: the textbook LIKE (`likeSpec`) and the flat `Match`.  On a folded pattern `Matches` is the derivative of
LIKE (`likeSpec_cons`) and `IsAtEnd` its value on the empty string (`likeSpec_nil`); that the NFA decides
LIKE is then an induction on the string.
-/
namespace DoltVerif.BranchControl

/-- some suffix of `s` satisfies `f` (what a `%` may leave over) -/
def anySuffix (f : List Int → Bool) : List Int → Bool
  | [] => f []
  | c :: s => f (c :: s) || anySuffix f s

/-- `likeSpec p s`: the pattern (sort orders, `singleMatch` for `_`, `anyMatch` for `%`) matches the
string of sort orders.  `_` is exactly one character, `%` any run (possibly empty), anything else
must be the same sort order. -/
def likeSpec : List Int → List Int → Bool
  | [], s => s.isEmpty
  | x :: p, s =>
    if x = anyMatch then anySuffix (likeSpec p) s
    else match s with
      | [] => false
      | c :: s' => (x = singleMatch || x = c) && likeSpec p s'

/-- no `%` is directly followed by `%` or `_` (what `FoldExpression` establishes) -/
def folded : List Int → Bool
  | x :: y :: t => !(x = anyMatch && (y = anyMatch || y = singleMatch)) && folded (y :: t)
  | _ => true

/-- acceptance by the NFA of `Matches`, one expression -/
def accN : List Int → List Int → Bool
  | p, [] => isAtEnd p
  | p, c :: s => (matchesStep p c).any (fun q => accN q s)

theorem folded_tail (x : Int) (p : List Int) (h : folded (x :: p) = true) : folded p = true := by
  cases p with
  | nil => rfl
  | cons y t =>
    simp only [folded, Bool.and_eq_true] at h
    exact h.2

theorem folded_suffix (p q : List Int) (h : q <:+ p) (hf : folded p = true) : folded q = true := by
  obtain ⟨a, rfl⟩ := h
  induction a with
  | nil => exact hf
  | cons x a ih => exact ih (folded_tail x _ hf)

theorem any_ne_single : anyMatch ≠ singleMatch := by decide

theorem folded_any_cons (z : Int) (q : List Int) (h : folded (anyMatch :: z :: q) = true) :
    z ≠ anyMatch ∧ z ≠ singleMatch := by
  simp only [folded, Bool.and_eq_true, Bool.not_eq_true', Bool.and_eq_false_iff, Bool.or_eq_false_iff,
    decide_eq_false_iff_not] at h
  simpa using h.1

theorem likeSpec_any_cons (p : List Int) (c : Int) (s : List Int) :
    likeSpec (anyMatch :: p) (c :: s) = (likeSpec p (c :: s) || likeSpec (anyMatch :: p) s) := by
  simp [likeSpec, anySuffix]

theorem likeSpec_any_nil (p : List Int) : likeSpec (anyMatch :: p) [] = likeSpec p [] := by
  simp [likeSpec, anySuffix]

theorem likeSpec_cons_cons (x : Int) (p : List Int) (c : Int) (s : List Int) (h : x ≠ anyMatch) :
    likeSpec (x :: p) (c :: s) = ((x = singleMatch || x = c) && likeSpec p s) := by
  simp [likeSpec, h]

theorem likeSpec_cons_nil (x : Int) (p : List Int) (h : x ≠ anyMatch) : likeSpec (x :: p) [] = false := by
  simp [likeSpec, h]

/-- the case tree of `Matches` / `processMatch` on a pattern -/
theorem pat_cases {motive : List Int → Prop} (nil : motive []) (single : ∀ q, motive (singleMatch :: q))
    (anyEnd : motive [anyMatch]) (anyCons : ∀ z q, motive (anyMatch :: z :: q))
    (lit : ∀ x q, x ≠ singleMatch → x ≠ anyMatch → motive (x :: q)) (p : List Int) : motive p := by
  match p with
  | [] => exact nil
  | x :: q =>
    by_cases hs : x = singleMatch
    · exact hs ▸ single q
    · by_cases hx : x = anyMatch
      · subst hx
        cases q with
        | nil => exact anyEnd
        | cons z q' => exact anyCons z q'
      · exact lit x q hs hx

theorem matchesStep_single (q : List Int) (c : Int) :
    matchesStep (singleMatch :: q) c = if c < singleMatch then [] else [q] := by
  simp [matchesStep]

theorem matchesStep_any_cons (y : Int) (q' : List Int) (c : Int) :
    matchesStep (anyMatch :: y :: q') c =
      if y = c then [anyMatch :: y :: q', q'] else [anyMatch :: y :: q'] := by
  simp [matchesStep, any_ne_single]

theorem matchesStep_any_nil (c : Int) : matchesStep [anyMatch] c = [[anyMatch]] := by
  simp [matchesStep, any_ne_single]

theorem matchesStep_lit (x : Int) (q : List Int) (c : Int) (h1 : x ≠ singleMatch) (h2 : x ≠ anyMatch) :
    matchesStep (x :: q) c = if c = x then [q] else [] := by
  simp [matchesStep, h1, h2]

theorem matchesStep_suffix (p : List Int) (c : Int) : ∀ q ∈ matchesStep p c, q <:+ p := by
  have tail2 : ∀ (a b : Int) (t : List Int), t <:+ a :: b :: t := fun a b t => ⟨[a, b], rfl⟩
  fun_cases matchesStep p c <;> simp [List.suffix_cons, tail2]

theorem accN_cons (p : List Int) (c : Int) (s : List Int) :
    accN p (c :: s) = (matchesStep p c).any (fun q => accN q s) := rfl

theorem likeSpec_nil (p : List Int) (hf : folded p = true) : likeSpec p [] = isAtEnd p := by
  match p with
  | [] => rfl
  | [x] => by_cases hx : x = anyMatch <;> simp [likeSpec, anySuffix, isAtEnd, hx]
  | x :: z :: q =>
    by_cases hx : x = anyMatch
    · subst hx
      rw [likeSpec_any_nil, likeSpec_cons_nil z q (folded_any_cons z q hf).1]; rfl
    · rw [likeSpec_cons_nil x _ hx]; simp [isAtEnd]

/-- **`Matches` is the derivative of LIKE.**  Foldedness is what makes the look-ahead of a `%` (one token) enough. -/
theorem likeSpec_cons (p : List Int) (c : Int) (s : List Int) (hf : folded p = true) (hc : 0 ≤ c) :
    likeSpec p (c :: s) = (matchesStep p c).any (likeSpec · s) := by
  induction p using pat_cases with
  | nil => rfl
  | single q =>
    have hlt : ¬ c < singleMatch := by simp only [singleMatch]; omega
    simp [matchesStep_single, likeSpec_cons_cons _ _ _ _ any_ne_single.symm, hlt]
  | anyEnd => rw [likeSpec_any_cons]; simp [matchesStep_any_nil, likeSpec]
  | anyCons z q =>
    obtain ⟨hz1, hz2⟩ := folded_any_cons z q hf
    rw [likeSpec_any_cons, likeSpec_cons_cons z q c s hz1, matchesStep_any_cons]
    by_cases hzc : z = c
    · simp [hzc, Bool.or_comm]
    · simp [hzc, hz2]
  | lit x q h1 h2 =>
    rw [likeSpec_cons_cons x q c s h2, matchesStep_lit x q c h1 h2]
    by_cases hxc : c = x
    · simp [hxc]
    · have : ¬ x = c := fun h => hxc h.symm
      simp [hxc, this, h1]

theorem any_congr_mem {α} (l : List α) (p q : α → Bool) (h : ∀ a ∈ l, p a = q a) : l.any p = l.any q := by
  induction l with
  | nil => rfl
  | cons a l ih => rw [List.any_cons, List.any_cons, h a (by simp), ih fun b hb => h b (by simp [hb])]

theorem accN_eq_like : ∀ (s p : List Int), folded p = true → (∀ c ∈ s, 0 ≤ c) → accN p s = likeSpec p s
  | [], p, hf, _ => (likeSpec_nil p hf).symm
  | c :: s, p, hf, hs => by
    rw [accN_cons, likeSpec_cons p c s hf (hs c (by simp))]
    refine any_congr_mem _ _ _ fun q hq => ?_
    exact accN_eq_like s q (folded_suffix p q (matchesStep_suffix p c q hq) hf) fun a ha => hs a (by simp [ha])

theorem mem_stepAll (states : List (Nat × List Int)) (c : Int) (i : Nat) (q : List Int) :
    (i, q) ∈ stepAll states c ↔ ∃ p, (i, p) ∈ states ∧ q ∈ matchesStep p c := by
  simp only [stepAll, List.mem_flatMap, List.mem_map, Prod.mk.injEq]
  constructor
  · rintro ⟨⟨j, p⟩, hst, q', hq', rfl, rfl⟩
    exact ⟨p, hst, hq'⟩
  · rintro ⟨p, hst, hq⟩
    exact ⟨(i, p), hst, q, hq, rfl, rfl⟩

theorem mem_collect : ∀ (states : List (Nat × List Int)) (acc : List Nat) (i : Nat),
    i ∈ collect states acc ↔ (i ∈ acc ∨ ∃ p, (i, p) ∈ states ∧ isAtEnd p = true) := by
  intro states
  induction states with
  | nil => intro acc i; simp [collect]
  | cons st rest ih =>
    intro acc i
    obtain ⟨j, p⟩ := st
    have hex : (∃ q, (i, q) ∈ (j, p) :: rest ∧ isAtEnd q = true) ↔
        ((i = j ∧ isAtEnd p = true) ∨ ∃ q, (i, q) ∈ rest ∧ isAtEnd q = true) := by
      simp only [List.mem_cons, Prod.mk.injEq, or_and_right, exists_or]
      exact or_congr ⟨fun ⟨q, ⟨e, hq⟩, h⟩ => ⟨e, hq ▸ h⟩, fun ⟨e, h⟩ => ⟨p, ⟨e, rfl⟩, h⟩⟩ Iff.rfl
    rw [collect, hex]
    split
    · next h =>
      simp only [Bool.and_eq_true] at h
      simp only [ih, List.mem_cons, h.1, and_true, or_assoc, or_left_comm]
    · next h =>
      rw [ih]
      constructor
      · rintro (h' | h')
        · exact Or.inl h'
        · exact Or.inr (Or.inr h')
      · rintro (h' | ⟨rfl, he⟩ | h')
        · exact Or.inl h'
        · -- skipped although finished: equal to the last appended index, which is in `acc`
          cases acc with
          | nil => simp [notLast, he] at h
          | cons last t => simp [notLast, he] at h; simp [h]
        · exact Or.inr h'

/-- the sort orders `Match` actually reads: those of the string, except that the empty string is
read as the single rune `utf8.RuneError` -/
def tokensRead (so : Rune → Int) (str : List Rune) : List Int :=
  match str with
  | [] => [so runeError]
  | r :: t => so r :: t.map so

theorem mem_collect_run (toks : List Int) : ∀ (states : List (Nat × List Int)) (i : Nat),
    i ∈ collect (toks.foldl stepAll states) [] ↔ ∃ p, (i, p) ∈ states ∧ accN p toks = true := by
  induction toks with
  | nil => intro states i; simp [mem_collect, accN]
  | cons c t ih =>
    intro states i
    simp only [List.foldl_cons, ih, accN_cons, List.any_eq_true]
    constructor
    · rintro ⟨q, hq, ha⟩
      obtain ⟨p, hp, hst⟩ := (mem_stepAll states c i q).mp hq
      exact ⟨p, hp, q, hst, ha⟩
    · rintro ⟨p, hp, q, hst, ha⟩
      exact ⟨q, (mem_stepAll states c i q).mpr ⟨p, hp, hst⟩, ha⟩

/-- the early exit of `Match` on an empty first subset changes nothing: no state, no result -/
theorem matchFlat_eq (so : Rune → Int) (exprs : List (Nat × List Int)) (str : List Rune) :
    matchFlat so exprs str = collect ((tokensRead so str).foldl stepAll exprs) [] := by
  have hnil : ∀ l : List Rune, l.foldl (fun st r => stepAll st (so r)) [] = [] := by
    intro l
    induction l with
    | nil => rfl
    | cons r t ih => exact ih
  have key : ∀ (c : Int) (rest : List Rune),
      (if (stepAll exprs c).isEmpty then [] else
          collect (rest.foldl (fun st r => stepAll st (so r)) (stepAll exprs c)) []) =
        collect ((rest.map so).foldl stepAll (stepAll exprs c)) [] := by
    intro c rest
    rw [List.foldl_map]
    split
    · next h => rw [List.isEmpty_iff.mp h, hnil]; rfl
    · rfl
  cases str with
  | nil => exact key (so runeError) []
  | cons r t => exact key (so r) t

theorem mem_matchFlat (so : Rune → Int) (exprs : List (Nat × List Int)) (str : List Rune) (i : Nat) :
    i ∈ matchFlat so exprs str ↔ ∃ p, (i, p) ∈ exprs ∧ accN p (tokensRead so str) = true := by
  rw [matchFlat_eq, mem_collect_run]

theorem mem_matchFlat_like (so : Rune → Int) (exprs : List (Nat × List Int)) (str : List Rune) (i : Nat)
    (hso : ∀ r, 0 ≤ so r) (hf : ∀ e ∈ exprs, folded e.2 = true) :
    i ∈ matchFlat so exprs str ↔ ∃ p, (i, p) ∈ exprs ∧ likeSpec p (tokensRead so str) = true := by
  have hs : ∀ c ∈ tokensRead so str, 0 ≤ c := by
    intro c hc
    cases str with
    | nil => cases List.mem_singleton.mp hc; exact hso _
    | cons r t =>
      obtain ⟨r', _, rfl⟩ := List.mem_map.mp (show c ∈ (r :: t).map so from hc)
      exact hso r'
  rw [mem_matchFlat]
  constructor
  · rintro ⟨p, hp, h⟩
    exact ⟨p, hp, by rw [← accN_eq_like _ p (hf (i, p) hp) hs]; exact h⟩
  · rintro ⟨p, hp, h⟩
    exact ⟨p, hp, by rw [accN_eq_like _ p (hf (i, p) hp) hs]; exact h⟩

theorem tokensRead_of_ne (so : Rune → Int) (str : List Rune) (hne : str ≠ []) : tokensRead so str = str.map so := by
  cases str with
  | nil => exact absurd rfl hne
  | cons r t => rfl

end DoltVerif.BranchControl
