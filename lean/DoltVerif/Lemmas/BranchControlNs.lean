import DoltVerif.Lemmas.BranchControlLike
/-!
C38: the index plumbing of `Namespace.CanCreate`, each filtering stage in terms of the stored rows.
-/
namespace DoltVerif.BranchControl

theorem mem_indexed (xs : List (List Int)) (i : Nat) (p : List Int) :
    (i, p) ∈ indexed xs ↔ xs[i]? = some p := by
  simp only [indexed, List.mem_map]
  constructor
  · rintro ⟨pi, hpi, he⟩
    have := List.mem_zipIdx_iff_getElem?.mp hpi
    simp only [Prod.mk.injEq] at he
    rw [← he.1, ← he.2]; exact this
  · intro h
    exact ⟨(p, i), List.mem_zipIdx_iff_getElem?.mpr h, rfl⟩

theorem indexed_getElem? (xs : List (List Int)) (j : Nat) :
    (indexed xs)[j]? = (xs[j]?).map (fun p => (j, p)) := by
  simp only [indexed, List.getElem?_map, List.getElem?_zipIdx, Nat.zero_add]
  cases xs[j]? <;> rfl

theorem mem_filterExprs (xs : List (List Int)) (idxs : List Nat) (i : Nat) (p : List Int) :
    (i, p) ∈ filterExprs (indexed xs) idxs ↔ i ∈ idxs ∧ xs[i]? = some p := by
  simp only [filterExprs, List.mem_filterMap, indexed_getElem?]
  constructor
  · rintro ⟨j, hj, he⟩
    cases hx : xs[j]? with
    | none => rw [hx] at he; simp at he
    | some q =>
      rw [hx] at he
      simp only [Option.map_some, Option.some.injEq, Prod.mk.injEq] at he
      rw [← he.1, ← he.2]; exact ⟨hj, hx⟩
  · rintro ⟨hi, hx⟩
    exact ⟨i, hi, by rw [hx]; rfl⟩

def blen (ns : Namespace) (m : Nat) : Int :=
  match ns[m]? with
  | some v => byteLen v.br
  | none => -1

def maxBlen (ns : Namespace) (rest : List Nat) (a : Int) : Int := rest.foldl (fun a m => max a (blen ns m)) a

theorem maxBlen_le_iff (ns : Namespace) (rest : List Nat) (a b : Int) :
    maxBlen ns rest a ≤ b ↔ a ≤ b ∧ ∀ j ∈ rest, blen ns j ≤ b := by
  induction rest generalizing a with
  | nil => simp [maxBlen]
  | cons m rest ih =>
    have := ih (max a (blen ns m))
    simp only [maxBlen, List.foldl_cons] at this ⊢
    rw [this, Int.max_le]
    simp [and_assoc]

theorem longestBranches_eq (ns : Namespace) (rest : List Nat) (longest : Int) (acc : List Nat)
    (hv : ∀ m ∈ rest, m < ns.length) :
    longestBranches ns rest longest acc =
      (if maxBlen ns rest longest ≤ longest then acc else []) ++
        rest.filter fun m => decide (maxBlen ns rest longest ≤ blen ns m) := by
  induction rest generalizing longest acc with
  | nil => simp [longestBranches, maxBlen]
  | cons m rest ih =>
    obtain ⟨v, hvm⟩ : ∃ v, ns[m]? = some v := ⟨ns[m]'(hv m (by simp)), by simp [hv m (by simp)]⟩
    have hbl : blen ns m = byteLen v.br := by simp [blen, hvm]
    have hT : maxBlen ns (m :: rest) longest = maxBlen ns rest (max longest (blen ns m)) := rfl
    have hge := (maxBlen_le_iff ns rest (max longest (blen ns m)) _).mp (Int.le_refl _)
    unfold longestBranches
    simp only [hvm, ← hbl]
    rw [hT]
    by_cases hgt : blen ns m > longest
    · -- reset, then append: `m` stays iff nothing later exceeds it
      have e : max longest (blen ns m) = blen ns m := by omega
      rw [e] at hge ⊢
      simp only [hgt, if_true, Int.le_refl, ge_iff_le, List.nil_append]
      rw [ih _ _ (fun a ha => hv a (by simp [ha]))]
      have : ¬ maxBlen ns rest (blen ns m) ≤ longest := by omega
      simp only [this, if_false, List.nil_append, List.filter_cons]
      by_cases h : maxBlen ns rest (blen ns m) ≤ blen ns m <;> simp [h]
    · have e : max longest (blen ns m) = longest := by omega
      rw [e] at hge ⊢
      simp only [hgt, if_false, ge_iff_le]
      simp only [ih _ _ (fun a ha => hv a (by simp [ha])), List.filter_cons]
      by_cases h1 : longest ≤ blen ns m
      · have : blen ns m = longest := by omega
        by_cases h2 : maxBlen ns rest longest ≤ longest <;> simp [h2, this]
      · have : ¬ maxBlen ns rest longest ≤ blen ns m := by omega
        simp [h1, this]

/-- one filtering stage of `CanCreate` -/
theorem stage_of (so : Rune → Int) (hso : ∀ r, 0 ≤ so r) (ns : Namespace) (col : NsRow → List Rune)
    (hf : ∀ v ∈ ns, folded (parse so (col v)) = true) (exprs : List (Nat × List Int)) (P : Nat → Prop)
    (hE : ∀ i p, (i, p) ∈ exprs ↔ P i ∧ ∃ v, ns[i]? = some v ∧ parse so (col v) = p)
    (str : List Rune) (i : Nat) :
    i ∈ matchFlat so exprs str ↔
      P i ∧ ∃ v, ns[i]? = some v ∧ likeSpec (parse so (col v)) (tokensRead so str) = true := by
  rw [mem_matchFlat_like so _ str i hso]
  · constructor
    · rintro ⟨p, hp, hl⟩
      obtain ⟨hi, v, hv, rfl⟩ := (hE i p).mp hp
      exact ⟨hi, v, hv, hl⟩
    · rintro ⟨hi, v, hv, hl⟩
      exact ⟨_, (hE i _).mpr ⟨hi, v, hv, rfl⟩, hl⟩
  · rintro ⟨j, p⟩ he
    obtain ⟨_, v, hv, rfl⟩ := (hE j p).mp he
    exact hf v (List.mem_iff_getElem?.mpr ⟨j, hv⟩)

theorem stage_rows (so : Rune → Int) (hso : ∀ r, 0 ≤ so r) (ns : Namespace) (col : NsRow → List Rune)
    (hf : ∀ v ∈ ns, folded (parse so (col v)) = true) (idxs : List Nat) (P : NsRow → Prop)
    (hidx : ∀ i, i ∈ idxs ↔ ∃ v, ns[i]? = some v ∧ P v) (str : List Rune) (i : Nat) :
    i ∈ matchFlat so (filterExprs (indexed (ns.map (fun v => parse so (col v)))) idxs) str ↔
      ∃ v, ns[i]? = some v ∧ P v ∧ likeSpec (parse so (col v)) (tokensRead so str) = true := by
  rw [stage_of so hso ns col hf _ (· ∈ idxs)
    (fun i p => by simp [mem_filterExprs, List.getElem?_map, Option.map_eq_some_iff]) str i, hidx]
  constructor
  · rintro ⟨⟨v, hv, hp⟩, v', hv', hl⟩
    cases hv.symm.trans hv'
    exact ⟨v, hv, hp, hl⟩
  · rintro ⟨v, hv, hp, hl⟩
    exact ⟨⟨v, hv, hp⟩, v, hv, hl⟩

theorem stage0_mem (so : Rune → Int) (hso : ∀ r, 0 ≤ so r) (ns : Namespace) (col : NsRow → List Rune)
    (hf : ∀ v ∈ ns, folded (parse so (col v)) = true) (str : List Rune) (i : Nat) :
    i ∈ matchFlat so (indexed (ns.map (fun v => parse so (col v)))) str ↔
      ∃ v, ns[i]? = some v ∧ likeSpec (parse so (col v)) (tokensRead so str) = true := by
  simpa using stage_of so hso ns col hf _ (fun _ => True)
    (fun i p => by simp [mem_indexed, List.getElem?_map, Option.map_eq_some_iff]) str i

theorem longest_rows (ns : Namespace) (idxs : List Nat) (P : NsRow → Prop)
    (hidx : ∀ i, i ∈ idxs ↔ ∃ v, ns[i]? = some v ∧ P v) (i : Nat) :
    i ∈ longestBranches ns idxs (-1) [] ↔
      ∃ v, ns[i]? = some v ∧ P v ∧ ∀ w ∈ ns, P w → byteLen w.br ≤ byteLen v.br := by
  have hvalid : ∀ m ∈ idxs, m < ns.length := fun m hm => by
    obtain ⟨v, hv, _⟩ := (hidx m).mp hm
    exact (List.getElem?_eq_some_iff.mp hv).1
  have hblen : ∀ i v, ns[i]? = some v → blen ns i = byteLen v.br := fun i v hv => by simp [blen, hv]
  rw [longestBranches_eq ns idxs (-1) [] hvalid]
  simp only [ite_self, List.nil_append, List.mem_filter, decide_eq_true_eq, maxBlen_le_iff, hidx]
  constructor
  · rintro ⟨⟨v, hv, hp⟩, _, hmax⟩
    refine ⟨v, hv, hp, fun w hw hpw => ?_⟩
    obtain ⟨j, hj⟩ := List.mem_iff_getElem?.mp hw
    have := hmax j ⟨w, hj, hpw⟩
    rw [hblen j w hj, hblen i v hv] at this
    exact Int.ofNat_le.mp this
  · rintro ⟨v, hv, hp, hmax⟩
    refine ⟨⟨v, hv, hp⟩, by rw [hblen i v hv]; omega, ?_⟩
    rintro j ⟨w, hw, hpw⟩
    rw [hblen j w hw, hblen i v hv]
    exact Int.ofNat_le.mpr (hmax w (List.mem_iff_getElem?.mpr ⟨j, hw⟩) hpw)

theorem rows_empty (f : List Nat) (ns : Namespace) (P : NsRow → Prop)
    (h : ∀ i, i ∈ f ↔ ∃ v, ns[i]? = some v ∧ P v) :
    (f.isEmpty = true ↔ ∀ v ∈ ns, ¬ P v) ∧ ((!f.isEmpty) = true ↔ ∃ v ∈ ns, P v) := by
  have none_of_nil : f = [] → ∀ v ∈ ns, ¬ P v := by
    rintro rfl v hv hp
    obtain ⟨i, hi⟩ := List.mem_iff_getElem?.mp hv
    cases (h i).mpr ⟨v, hi, hp⟩
  cases f with
  | nil =>
    refine ⟨⟨fun _ => none_of_nil rfl, fun _ => rfl⟩, ⟨fun e => ?_, fun ⟨v, hv, hp⟩ => ?_⟩⟩
    · cases e
    · exact absurd hp (none_of_nil rfl v hv)
  | cons a t =>
    obtain ⟨v, hv, hp⟩ := (h a).mp List.mem_cons_self
    have hm : v ∈ ns := List.mem_iff_getElem?.mpr ⟨a, hv⟩
    refine ⟨⟨fun e => ?_, fun hn => absurd hp (hn v hm)⟩, ⟨fun _ => ⟨v, hm, hp⟩, fun _ => rfl⟩⟩
    cases e

end DoltVerif.BranchControl
