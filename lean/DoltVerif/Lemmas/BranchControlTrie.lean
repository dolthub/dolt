import DoltVerif.Lemmas.BranchControlKey
/-!
C38: the radix trie's `Match` on a well-formed trie: a trie state stands for the rules in flight below it
(`flat`), each of which the matcher steps as `kstep` steps a key on its own, so the trie reports the
rules whose key accepts the request (`dacc`), each with the length of its key.
-/
namespace DoltVerif.BranchControl

mutual
/-- every (full sort-order key below this node, data) stored in the subtree -/
def rulesN : Node → List (List Int × Data)
  | .mk so ch d =>
    (match d with | some x => [(so, x)] | none => []) ++ (rulesL ch).map (fun kd => (so ++ kd.1, kd.2))
def rulesL : List (Int × Node) → List (List Int × Data)
  | [] => []
  | (_, n) :: t => rulesN n ++ rulesL t
end

mutual
/-- well-formed: sort orders non-empty, every child is filed under its first sort order, child keys
are distinct -/
def wfN : Node → Bool
  | .mk so ch _ => !so.isEmpty && wfL ch
def wfL : List (Int × Node) → Bool
  | [] => true
  | (k, n) :: t => (n.so.head? == some k) && wfN n && (lookupChild t k).isNone && wfL t
end

mutual
/-- no node has an any-match child that is a bare `[%]` destination (the shape on which `Match`'s
final loop loses the rule, known finding `trailing-any-at-node-end`) -/
def noAnyLeafN : Node → Bool
  | .mk _ ch _ => noAnyLeafL ch
def noAnyLeafL : List (Int × Node) → Bool
  | [] => true
  | (_, n) :: t => !(n.so == [anyMatch] && n.data.isSome) && noAnyLeafN n && noAnyLeafL t
end

theorem mem_rulesL (ch : List (Int × Node)) (kd : List Int × Data) :
    kd ∈ rulesL ch ↔ ∃ kn ∈ ch, kd ∈ rulesN kn.2 := by
  induction ch with
  | nil => simp [rulesL]
  | cons a t ih =>
    obtain ⟨k, n⟩ := a
    simp only [rulesL, List.mem_append, ih, List.mem_cons]
    constructor
    · rintro (h | ⟨kn, hkn, h⟩)
      · exact ⟨(k, n), Or.inl rfl, h⟩
      · exact ⟨kn, Or.inr hkn, h⟩
    · rintro ⟨kn, (rfl | hkn), h⟩
      · exact Or.inl h
      · exact Or.inr ⟨kn, hkn, h⟩

theorem mem_rulesN (so : List Int) (ch : List (Int × Node)) (d : Option Data) (k : List Int) (x : Data) :
    (k, x) ∈ rulesN (.mk so ch d) ↔
      ((d = some x ∧ k = so) ∨ ∃ kn ∈ ch, ∃ ck, (ck, x) ∈ rulesN kn.2 ∧ k = so ++ ck) := by
  simp only [rulesN, List.mem_append, List.mem_map, mem_rulesL]
  constructor
  · rintro (h | ⟨kd, ⟨kn, hkn, hkd⟩, he⟩)
    · cases d with
      | none => simp at h
      | some y => simp at h; exact Or.inl ⟨by rw [h.2], h.1⟩
    · simp only [Prod.mk.injEq] at he
      refine Or.inr ⟨kn, hkn, kd.1, ?_, he.1.symm⟩
      rw [← he.2]; exact hkd
  · rintro (⟨rfl, rfl⟩ | ⟨kn, hkn, ck, hck, rfl⟩)
    · exact Or.inl (by simp)
    · exact Or.inr ⟨(ck, x), ⟨kn, hkn, hck⟩, rfl⟩


theorem rulesN_append (p s : List Int) (ch : List (Int × Node)) (data : Option Data) :
    rulesN (.mk (p ++ s) ch data) = (rulesN (.mk s ch data)).map fun kd => (p ++ kd.1, kd.2) := by
  cases data <;> simp [rulesN, List.append_assoc, Function.comp_def]

theorem rules_prefix (p s : List Int) (ch : List (Int × Node)) (data : Option Data) (K : List Int) (x : Data) :
    (K, x) ∈ rulesN (.mk (p ++ s) ch data) ↔ ∃ k0, K = p ++ k0 ∧ (k0, x) ∈ rulesN (.mk s ch data) := by
  rw [rulesN_append, List.mem_map]
  constructor
  · rintro ⟨kd, h, e⟩
    cases e
    exact ⟨kd.1, rfl, h⟩
  · rintro ⟨k0, rfl, h⟩
    exact ⟨(k0, x), h, rfl⟩

theorem rules_cons (x : Int) (q : List Int) (ch : List (Int × Node)) (data : Option Data) (k : List Int) (d : Data) :
    (x :: k, d) ∈ rulesN (.mk (x :: q) ch data) ↔ (k, d) ∈ rulesN (.mk q ch data) := by
  show ([x] ++ k, d) ∈ rulesN (.mk ([x] ++ q) ch data) ↔ _
  rw [rules_prefix [x] q]
  constructor
  · rintro ⟨k0, e, h⟩
    cases e
    exact h
  · exact fun h => ⟨k, rfl, h⟩

theorem rules_nil (ch : List (Int × Node)) (data : Option Data) (k : List Int) (d : Data) :
    (k, d) ∈ rulesN (.mk [] ch data) ↔ ((data = some d ∧ k = []) ∨ (k, d) ∈ rulesL ch) := by
  cases data <;> simp [rulesN, eq_comm, and_comm]

theorem lookup_mem (ch : List (Int × Node)) (k : Int) (n : Node) (h : lookupChild ch k = some n) : (k, n) ∈ ch := by
  fun_induction lookupChild ch k with
  | case1 => cases h
  | case2 n' t => cases h; exact List.mem_cons_self
  | case3 k' n' t hk ih => exact List.mem_cons_of_mem _ (ih h)

theorem wfL_mem : ∀ (ch : List (Int × Node)) (k : Int) (n : Node), wfL ch = true → (k, n) ∈ ch →
    n.so.head? = some k ∧ wfN n = true ∧ lookupChild ch k = some n
  | [], _, _, _, h => by simp at h
  | (k', n') :: t, k, n, hw, h => by
    simp only [wfL, Bool.and_eq_true, beq_iff_eq, Option.isNone_iff_eq_none] at hw
    obtain ⟨⟨⟨h1, h2⟩, h3⟩, h4⟩ := hw
    rcases List.mem_cons.mp h with he | hm
    · simp only [Prod.mk.injEq] at he
      obtain ⟨rfl, rfl⟩ := he
      exact ⟨h1, h2, by simp [lookupChild]⟩
    · obtain ⟨a, b, c⟩ := wfL_mem t k n h4 hm
      refine ⟨a, b, ?_⟩
      have hne : k' ≠ k := by
        intro e; subst e; rw [c] at h3; simp at h3
      simp [lookupChild, hne, c]

theorem naL_mem : ∀ (ch : List (Int × Node)) (k : Int) (n : Node), noAnyLeafL ch = true → (k, n) ∈ ch →
    ¬ (n.so = [anyMatch] ∧ n.data.isSome = true) ∧ noAnyLeafN n = true
  | [], _, _, _, h => by simp at h
  | (k', n') :: t, k, n, hw, h => by
    simp only [noAnyLeafL, Bool.and_eq_true, Bool.not_eq_true', Bool.and_eq_false_iff, beq_eq_false_iff_ne] at hw
    obtain ⟨⟨h1, h2⟩, h3⟩ := hw
    rcases List.mem_cons.mp h with he | hm
    · simp only [Prod.mk.injEq] at he
      obtain ⟨rfl, rfl⟩ := he
      refine ⟨?_, h2⟩
      rintro ⟨ha, hb⟩
      rcases h1 with h1 | h1
      · exact h1 ha
      · rw [hb] at h1; simp at h1
    · exact naL_mem t k n h3 hm

theorem wfN_mk (so : List Int) (ch : List (Int × Node)) (d : Option Data) :
    wfN (.mk so ch d) = true ↔ so ≠ [] ∧ wfL ch = true := by
  simp [wfN]

theorem naN_mk (so : List Int) (ch : List (Int × Node)) (d : Option Data) :
    noAnyLeafN (.mk so ch d) = noAnyLeafL ch := by
  simp [noAnyLeafN]

theorem lookup_wf (ch : List (Int × Node)) (k : Int) (cso : List Int) (cch : List (Int × Node)) (cd : Option Data)
    (hw : wfL ch = true) (hl : lookupChild ch k = some (.mk cso cch cd)) :
    (∃ cso', cso = k :: cso') ∧ wfL cch = true := by
  obtain ⟨hh, hwn, _⟩ := wfL_mem ch k _ hw (lookup_mem ch k _ hl)
  obtain ⟨hne, hwc⟩ := (wfN_mk _ _ _).mp hwn
  cases cso with
  | nil => exact absurd rfl hne
  | cons a t =>
    simp only [Node.so, List.head?_cons, Option.some.injEq] at hh
    exact ⟨⟨t, by rw [hh]⟩, hwc⟩

theorem rules_nonempty (nd : Node) (hw : wfN nd = true) (k : List Int) (d : Data) (h : (k, d) ∈ rulesN nd) :
    k ≠ [] := by
  obtain ⟨so, ch, data⟩ := nd
  obtain ⟨hne, _⟩ := (wfN_mk _ _ _).mp hw
  rw [mem_rulesN] at h
  rcases h with ⟨_, rfl⟩ | ⟨_, _, ck, _, rfl⟩
  · exact hne
  · intro e; exact hne (List.append_eq_nil_iff.mp e).1

theorem rulesL_lookup (ch : List (Int × Node)) (hw : wfL ch = true) (k : Int) (t : List Int) (d : Data) :
    (k :: t, d) ∈ rulesL ch ↔ (k :: t, d) ∈ (lookupChild ch k).elim [] rulesN := by
  rw [mem_rulesL]
  constructor
  · rintro ⟨⟨kk, ⟨so, cch, cd⟩⟩, hkn, h⟩
    obtain ⟨hh, hwn, hl⟩ := wfL_mem ch kk _ hw hkn
    -- the key starts with the child's sort orders, and these with `kk`
    obtain ⟨k0, e, _⟩ := (rules_prefix so [] cch cd _ _).mp (by rwa [List.append_nil])
    cases so with
    | nil => exact absurd rfl ((wfN_mk _ _ _).mp hwn).1
    | cons a s =>
      simp only [Node.so, List.head?_cons, Option.some.injEq] at hh
      simp only [List.cons_append, List.cons.injEq] at e
      obtain ⟨rfl, _⟩ := e
      subst hh
      rw [hl]
      exact h
  · intro h
    cases hl : lookupChild ch k with
    | none => rw [hl] at h; cases h
    | some nd => rw [hl] at h; exact ⟨(k, nd), lookup_mem ch k nd hl, h⟩

theorem rulesL_ne_nil (ch : List (Int × Node)) (hw : wfL ch = true) (x : Data) : ([], x) ∉ rulesL ch := by
  intro h
  obtain ⟨kn, hkn, hr⟩ := (mem_rulesL _ _).mp h
  exact rules_nonempty kn.2 (wfL_mem ch kn.1 kn.2 hw hkn).2.1 [] x hr rfl

theorem rules_nil_nil (ch : List (Int × Node)) (data : Option Data) (hw : wfL ch = true) (x : Data) :
    ([], x) ∈ rulesN (.mk [] ch data) ↔ data = some x := by
  rw [rules_nil]
  exact ⟨fun h => h.elim (·.1) fun h => absurd h (rulesL_ne_nil ch hw x), fun h => Or.inl ⟨h, rfl⟩⟩

theorem rules_nil_child (ch : List (Int × Node)) (data : Option Data) (hw : wfL ch = true) (k : Int) (t : List Int)
    (x : Data) : (k :: t, x) ∈ rulesN (.mk [] ch data) ↔ (k :: t, x) ∈ (lookupChild ch k).elim [] rulesN := by
  rw [rules_nil, ← rulesL_lookup ch hw]
  exact ⟨fun h => h.resolve_left (fun h' => by cases h'.2), Or.inr⟩

/-- a rule in flight: remaining key, data, sort orders consumed so far -/
abbrev RS := List Int × Data × Nat

/-- the matcher's step on one rule alone -/
def dstep (y : RS) (c : Int) : List RS :=
  (kstep y.1 c).map fun nq => (nq.2, y.2.1, y.2.2 + nq.1)

/-- all rules in flight below a trie state -/
def flat (n : Counted) : List RS :=
  (rulesN (.mk n.so n.children n.data)).map (fun kd => (kd.1, kd.2, n.length))

theorem mem_flat (n : Counted) (z : RS) :
    z ∈ flat n ↔ z.2.2 = n.length ∧ (z.1, z.2.1) ∈ rulesN (.mk n.so n.children n.data) := by
  obtain ⟨k, d, l⟩ := z
  simp only [flat, List.mem_map, Prod.mk.injEq]
  constructor
  · rintro ⟨kd, hkd, rfl, rfl, rfl⟩
    exact ⟨rfl, hkd⟩
  · rintro ⟨rfl, h⟩
    exact ⟨(k, d), h, rfl, rfl, rfl⟩

theorem flat_len (n : Counted) (L : Nat) (k : List Int) (d : Data) (l : Nat) :
    (k, d, l) ∈ flat { n with length := L } ↔ l = L ∧ (k, d, n.length) ∈ flat n := by
  simp only [mem_flat]
  constructor
  · rintro ⟨h1, h2⟩; exact ⟨h1, trivial, h2⟩
  · rintro ⟨h1, _, h2⟩; exact ⟨h1, h2⟩

theorem mem_flat_so (so : List Int) (ch : List (Int × Node)) (data : Option Data) (len : Nat) (z : RS) :
    z ∈ flat { so := so, children := ch, data := data, length := len } ↔
      ∃ t d, (t, d) ∈ rulesN (.mk [] ch data) ∧ z = (so ++ t, d, len) := by
  obtain ⟨k, d, l⟩ := z
  rw [mem_flat, ← List.append_nil so, rules_prefix so [], List.append_nil]
  constructor
  · rintro ⟨rfl, t, rfl, h⟩
    exact ⟨t, d, h, rfl⟩
  · rintro ⟨t, d', h, e⟩
    cases e
    exact ⟨rfl, t, rfl, h⟩

theorem processMatch_eq (n : Counted) (c : Int) (h : n.so ≠ [anyMatch]) :
    processMatch n c = (kstep n.so c).map fun nq => { n with so := nq.2, length := n.length + nq.1 } := by
  obtain ⟨so, ch, data, len⟩ := n
  induction so using pat_cases with
  | nil => rfl
  | single q =>
    simp only [processMatch, kstep_single, if_true, apply_ite (List.map _), List.map_cons, List.map_nil]
  | anyEnd => exact absurd rfl h
  | anyCons z q =>
    simp only [processMatch, kstep_any_cons, any_ne_single, if_false, if_true, apply_ite (List.map _),
      List.map_append, List.map_cons, List.map_nil, Nat.add_zero]
  | lit x q hs hx =>
    simp only [processMatch, kstep_lit _ _ _ hs hx, if_neg hs, if_neg hx, apply_ite (List.map _), List.map_cons,
      List.map_nil]

theorem processMatch_any (ch : List (Int × Node)) (data : Option Data) (len : Nat) (c : Int) :
    processMatch { so := [anyMatch], children := ch, data := data, length := len } c =
      (match lookupChild ch c with
        | some (.mk cso cch cd) => [{ so := cso.drop 1, children := cch, data := cd, length := len + 2 }]
        | none => [])
      ++ (if c ≠ columnMarker then [{ so := [anyMatch], children := ch, data := data, length := len }] else []) :=
  rfl

theorem mem_dstep_any (t : List Int) (d : Data) (l : Nat) (c : Int) (z : RS) :
    z ∈ dstep (anyMatch :: t, d, l) c ↔
      (c ≠ columnMarker ∧ z = (anyMatch :: t, d, l)) ∨ ∃ t', t = c :: t' ∧ z = (t', d, l + 2) := by
  cases t with
  | nil =>
    by_cases hc : c = columnMarker <;> simp [dstep, kstep_any_nil, hc, eq_comm]
  | cons k t' =>
    by_cases hk : k = c
    · by_cases hc : c = columnMarker <;> simp [dstep, kstep_any_cons, hc, hk, or_comm]
    · have hk' : ¬ c = k := fun e => hk e.symm
      by_cases hc : c = columnMarker
      · subst hc; simp [dstep, kstep_any_cons, hk]
      · simp [dstep, kstep_any_cons, hc, hk, hk', eq_comm]

theorem step_inner (so : List Int) (ch : List (Int × Node)) (data : Option Data) (len : Nat) (c : Int)
    (h0 : so ≠ []) (h1 : so ≠ [anyMatch]) (z : RS) :
    z ∈ (processMatch { so := so, children := ch, data := data, length := len } c).flatMap flat ↔
      ∃ y ∈ flat { so := so, children := ch, data := data, length := len }, z ∈ dstep y c := by
  rw [processMatch_eq _ _ h1]
  constructor
  · intro h
    obtain ⟨n', hn', hz⟩ := List.mem_flatMap.mp h
    obtain ⟨nq, hnq, rfl⟩ := List.mem_map.mp hn'
    obtain ⟨t, d, ht, rfl⟩ := (mem_flat_so _ _ _ _ _).mp hz
    refine ⟨(so ++ t, d, len), (mem_flat_so _ _ _ _ _).mpr ⟨t, d, ht, rfl⟩, ?_⟩
    refine List.mem_map.mpr ⟨(nq.1, nq.2 ++ t), ?_, rfl⟩
    rw [kstep_append so t c h0 h1]
    exact List.mem_map.mpr ⟨nq, hnq, rfl⟩
  · rintro ⟨y, hy, hz⟩
    obtain ⟨t, d, ht, rfl⟩ := (mem_flat_so _ _ _ _ _).mp hy
    obtain ⟨nq', hnq', rfl⟩ := List.mem_map.mp hz
    rw [kstep_append so t c h0 h1] at hnq'
    obtain ⟨nq, hnq, rfl⟩ := List.mem_map.mp hnq'
    exact List.mem_flatMap.mpr ⟨_, List.mem_map.mpr ⟨nq, hnq, rfl⟩, (mem_flat_so _ _ _ _ _).mpr ⟨t, d, ht, rfl⟩⟩

theorem flat_child (ch : List (Int × Node)) (data : Option Data) (c : Int) (L : Nat) (hw : wfL ch = true) (z : RS) :
    z ∈ (match lookupChild ch c with
        | some (.mk cso cch cd) => [({ so := cso.drop 1, children := cch, data := cd, length := L } : Counted)]
        | none => []).flatMap flat ↔
      ∃ t d, (c :: t, d) ∈ rulesN (.mk [] ch data) ∧ z = (t, d, L) := by
  simp only [rules_nil_child ch data hw]
  cases hl : lookupChild ch c with
  | none => simp
  | some child =>
    obtain ⟨cso, cch, cd⟩ := child
    obtain ⟨⟨cso', rfl⟩, _⟩ := lookup_wf ch c cso cch cd hw hl
    simp only [List.flatMap_cons, List.flatMap_nil, List.append_nil, List.drop_succ_cons, List.drop_zero, mem_flat,
      Option.elim_some, rules_cons]
    constructor
    · rintro ⟨rfl, h⟩
      exact ⟨z.1, z.2.1, h, rfl⟩
    · rintro ⟨t, d, h, rfl⟩
      exact ⟨rfl, h⟩

theorem step_any (ch : List (Int × Node)) (data : Option Data) (len : Nat) (c : Int) (hw : wfL ch = true) (z : RS) :
    z ∈ (processMatch { so := [anyMatch], children := ch, data := data, length := len } c).flatMap flat ↔
      ∃ y ∈ flat { so := [anyMatch], children := ch, data := data, length := len }, z ∈ dstep y c := by
  have hstay : z ∈ (if c ≠ columnMarker then
        [({ so := [anyMatch], children := ch, data := data, length := len } : Counted)] else []).flatMap flat ↔
      c ≠ columnMarker ∧ z ∈ flat { so := [anyMatch], children := ch, data := data, length := len } := by
    split <;> simp [*]
  rw [processMatch_any, List.flatMap_append, List.mem_append, flat_child ch data c (len + 2) hw z, hstay]
  constructor
  · rintro (⟨t, d, ht, rfl⟩ | ⟨hc, hz⟩)
    · exact ⟨(anyMatch :: c :: t, d, len), (mem_flat_so _ _ _ _ _).mpr ⟨c :: t, d, ht, rfl⟩,
        (mem_dstep_any _ _ _ _ _).mpr (Or.inr ⟨t, rfl, rfl⟩)⟩
    · obtain ⟨t, d, _, rfl⟩ := (mem_flat_so _ _ _ _ _).mp hz
      exact ⟨_, hz, (mem_dstep_any _ _ _ _ _).mpr (Or.inl ⟨hc, rfl⟩)⟩
  · rintro ⟨y, hy, hz⟩
    obtain ⟨t, d, ht, rfl⟩ := (mem_flat_so _ _ _ _ _).mp hy
    rcases (mem_dstep_any _ _ _ _ _).mp hz with ⟨hc, rfl⟩ | ⟨t', rfl, rfl⟩
    · exact Or.inr ⟨hc, hy⟩
    · exact Or.inl ⟨t', d, ht, rfl⟩

theorem step_node (n : Counted) (hw : wfL n.children = true) (h0 : n.so ≠ []) (c : Int) (z : RS) :
    z ∈ (processMatch n c).flatMap flat ↔ ∃ y ∈ flat n, z ∈ dstep y c := by
  obtain ⟨so, ch, data, len⟩ := n
  by_cases h1 : so = [anyMatch]
  · subst h1; exact step_any ch data len c hw z
  · exact step_inner so ch data len c h0 h1 z

theorem child_step (ch : List (Int × Node)) (data : Option Data) (len : Nat) (k c : Int) (hw : wfL ch = true)
    (z : RS) :
    z ∈ (childStep { so := [], children := ch, data := data, length := len } k c).flatMap flat ↔
      ∃ t d, (k :: t, d) ∈ rulesN (.mk [] ch data) ∧ z ∈ dstep (k :: t, d, len) c := by
  simp only [rules_nil_child ch data hw]
  cases hl : lookupChild ch k with
  | none => simp [childStep, hl]
  | some child =>
    obtain ⟨cso, cch, cd⟩ := child
    obtain ⟨⟨cso', rfl⟩, hwcc⟩ := lookup_wf ch k cso cch cd hw hl
    simp only [childStep, hl, Option.elim_some]
    rw [step_node _ hwcc (List.cons_ne_nil _ _) c z]
    constructor
    · rintro ⟨y, hy, hz⟩
      obtain ⟨t0, d, ht, rfl⟩ := (mem_flat_so _ _ _ _ _).mp hy
      refine ⟨cso' ++ t0, d, ?_, hz⟩
      have := (rules_prefix (k :: cso') [] cch cd _ d).mpr ⟨t0, rfl, ht⟩
      rwa [List.append_nil] at this
    · rintro ⟨t, d, ht, hz⟩
      exact ⟨(k :: t, d, len), (mem_flat _ _).mpr ⟨rfl, ht⟩, hz⟩

theorem step_one (n : Counted) (hw : wfL n.children = true) (c : Int) (z : RS) :
    z ∈ (stepTrie [n] c).flatMap flat ↔ ∃ y ∈ flat n, z ∈ dstep y c := by
  obtain ⟨so, ch, data, len⟩ := n
  simp only at hw
  cases so with
  | cons x q =>
    simp only [stepTrie, List.flatMap_cons, List.flatMap_nil, List.append_nil, List.isEmpty_cons,
      Bool.false_eq_true, if_false]
    exact step_node _ hw (by simp) c z
  | nil =>
    simp only [stepTrie, List.flatMap_cons, List.flatMap_nil, List.append_nil, List.isEmpty_nil, if_true,
      List.flatMap_append, List.mem_append, child_step ch data len _ c hw z]
    constructor
    · rintro ((⟨t, d, ht, hz⟩ | ⟨t, d, ht, hz⟩) | ⟨t, d, ht, hz⟩) <;>
        exact ⟨_, (mem_flat _ _).mpr ⟨rfl, ht⟩, hz⟩
    · rintro ⟨y, hy, hz⟩
      obtain ⟨t, d, ht, rfl⟩ := (mem_flat_so _ _ _ _ _).mp hy
      simp only [List.nil_append] at hz ht
      cases t with
      | nil => cases hz
      | cons k t' =>
        -- which of the three look-ups finds the child this rule lives in
        by_cases h1 : k = singleMatch
        · subst h1; exact Or.inl (Or.inl ⟨t', d, ht, hz⟩)
        · by_cases h2 : k = anyMatch
          · subst h2; exact Or.inl (Or.inr ⟨t', d, ht, hz⟩)
          · by_cases h3 : c = k
            · subst h3; exact Or.inr ⟨t', d, ht, hz⟩
            · simp [dstep, kstep_lit _ _ _ h1 h2, h3] at hz

theorem step_all (sts : List Counted) (hw : ∀ n ∈ sts, wfL n.children = true) (c : Int) (z : RS) :
    z ∈ (stepTrie sts c).flatMap flat ↔ ∃ y ∈ sts.flatMap flat, z ∈ dstep y c := by
  induction sts with
  | nil => simp [stepTrie]
  | cons n rest ih =>
    have hsplit : stepTrie (n :: rest) c = stepTrie [n] c ++ stepTrie rest c := by
      simp [stepTrie]
    rw [hsplit]
    simp only [List.flatMap_append, List.mem_append, List.flatMap_cons]
    rw [step_one n (hw n (by simp)) c z, ih (fun m hm => hw m (by simp [hm]))]
    constructor
    · rintro (⟨y, hy, hz⟩ | ⟨y, hy, hz⟩)
      · exact ⟨y, Or.inl hy, hz⟩
      · exact ⟨y, Or.inr hy, hz⟩
    · rintro ⟨y, (hy | hy), hz⟩
      · exact Or.inl ⟨y, hy, hz⟩
      · exact Or.inr ⟨y, hy, hz⟩

/-- what every state of a `Match` run keeps (`inv_step`): its children are well formed and none is a bare `[%]` -/
def Inv (n : Counted) : Prop := wfL n.children = true ∧ noAnyLeafL n.children = true

theorem inv_child (ch : List (Int × Node)) (k : Int) (cso : List Int) (cch : List (Int × Node)) (cd : Option Data)
    (hw : wfL ch = true) (hn : noAnyLeafL ch = true) (hl : lookupChild ch k = some (.mk cso cch cd)) :
    wfL cch = true ∧ noAnyLeafL cch = true := by
  obtain ⟨_, hnc⟩ := naL_mem ch k _ hn (lookup_mem ch k _ hl)
  rw [naN_mk] at hnc
  exact ⟨(lookup_wf ch k cso cch cd hw hl).2, hnc⟩

theorem inv_process (n : Counted) (hi : Inv n) (c : Int) : ∀ n' ∈ processMatch n c, Inv n' := by
  intro n' hn'
  by_cases h : n.so = [anyMatch]
  · obtain ⟨so, ch, data, len⟩ := n
    simp only at h
    subst h
    rw [processMatch_any] at hn'
    rcases List.mem_append.mp hn' with hn' | hn'
    · cases hl : lookupChild ch c with
      | none => rw [hl] at hn'; cases hn'
      | some child =>
        obtain ⟨cso, cch, cd⟩ := child
        rw [hl] at hn'
        cases List.mem_singleton.mp hn'
        exact inv_child ch c cso cch cd hi.1 hi.2 hl
    · split at hn'
      · cases List.mem_singleton.mp hn'; exact hi
      · cases hn'
  · -- the step stays inside the node: same children
    rw [processMatch_eq n c h] at hn'
    obtain ⟨nq, _, rfl⟩ := List.mem_map.mp hn'
    exact hi

theorem inv_step (sts : List Counted) (hi : ∀ n ∈ sts, Inv n) (c : Int) : ∀ n' ∈ stepTrie sts c, Inv n' := by
  intro n' hn'
  simp only [stepTrie, List.mem_flatMap] at hn'
  obtain ⟨n, hn, h⟩ := hn'
  have hin := hi n hn
  by_cases he : n.so.isEmpty = true
  · simp only [he, if_true, List.mem_append] at h
    have viaChild : ∀ k, n' ∈ childStep n k c → Inv n' := by
      intro k hk
      simp only [childStep] at hk
      cases hl : lookupChild n.children k with
      | none => rw [hl] at hk; simp at hk
      | some child =>
        obtain ⟨cso, cch, cd⟩ := child
        rw [hl] at hk
        exact inv_process ⟨cso, cch, cd, n.length⟩ (inv_child n.children k cso cch cd hin.1 hin.2 hl) c n' hk
    rcases h with (h | h) | h <;> exact viaChild _ h
  · simp only [he, Bool.false_eq_true, if_false] at h
    exact inv_process n hin c n' h

theorem rules_single (nd : Node) (hw : wfN nd = true) (a : Int) (d : Data) (h : ([a], d) ∈ rulesN nd) :
    nd.so = [a] ∧ nd.data = some d := by
  obtain ⟨so, ch, data⟩ := nd
  obtain ⟨hne, hwl⟩ := (wfN_mk _ _ _).mp hw
  rw [mem_rulesN] at h
  rcases h with ⟨hd, e⟩ | ⟨kn, hkn, ck, hck, e⟩
  · exact ⟨e.symm, hd⟩
  · have h1 := rules_nonempty kn.2 (wfL_mem ch kn.1 kn.2 hwl hkn).2.1 ck d hck
    have := congrArg List.length e
    simp only [List.length_append, List.length_cons, List.length_nil] at this
    have : so.length ≠ 0 := fun e => hne (List.eq_nil_of_length_eq_zero e)
    have : ck.length ≠ 0 := fun e => h1 (List.eq_nil_of_length_eq_zero e)
    omega

/-- here the exclusion of a bare `[%]` child is needed: such a rule is finished but sits below the node the final
loop looks at -/
theorem finish_sim (sts : List Counted) (hi : ∀ n ∈ sts, Inv n) (r : Data × Nat) :
    r ∈ finish sts ↔ ∃ z ∈ sts.flatMap flat, isAtEnd z.1 = true ∧ r = (z.2.1, z.2.2 + z.1.length) := by
  simp only [finish, List.mem_filterMap, List.mem_flatMap]
  constructor
  · rintro ⟨⟨so, ch, data, len⟩, hn, hf⟩
    cases data with
    | none => simp at hf
    | some d0 =>
      have own : (so, d0, len) ∈ flat { so := so, children := ch, data := some d0, length := len } :=
        (mem_flat _ _).mpr ⟨rfl, (mem_rulesN _ _ _ _ _).mpr (Or.inl ⟨rfl, rfl⟩)⟩
      simp only at hf
      split at hf
      · rename_i he
        have hso : so = [] := by simpa using he
        subst hso
        exact ⟨_, ⟨_, hn, own⟩, rfl, (Option.some.inj hf).symm⟩
      · split at hf
        · rename_i ha
          have hso : so = [anyMatch] := by simpa using ha
          subst hso
          exact ⟨_, ⟨_, hn, own⟩, rfl, (Option.some.inj hf).symm⟩
        · cases hf
  · rintro ⟨z, ⟨n, hn, hz⟩, he, rfl⟩
    obtain ⟨hw, hna⟩ := hi n hn
    obtain ⟨so, ch, data, len⟩ := n
    obtain ⟨t, d, ht, rfl⟩ := (mem_flat_so _ _ _ _ _).mp hz
    refine ⟨_, hn, ?_⟩
    rw [rules_nil] at ht
    rcases ht with ⟨rfl, rfl⟩ | ht
    · -- the node's own rule
      simp only [List.append_nil] at he ⊢
      have : so = [] ∨ so = [anyMatch] := by simpa [isAtEnd] using he
      rcases this with rfl | rfl <;> rfl
    · -- a finished rule of a child is a bare `[%]` leaf under an exhausted node: excluded
      exfalso
      obtain ⟨kn, hkn, hck⟩ := (mem_rulesL _ _).mp ht
      obtain ⟨_, hwc, _⟩ := wfL_mem ch kn.1 kn.2 hw hkn
      have hne := rules_nonempty kn.2 hwc t d hck
      have hst : so ++ t = [anyMatch] := by
        have : so ++ t = [] ∨ so ++ t = [anyMatch] := by simpa [isAtEnd] using he
        exact this.resolve_left fun e => hne (List.append_eq_nil_iff.mp e).2
      have ht1 : t = [anyMatch] := by
        cases so with
        | nil => exact hst
        | cons a s =>
          simp only [List.cons_append, List.cons.injEq, List.append_eq_nil_iff] at hst
          exact absurd hst.2.2 hne
      subst ht1
      obtain ⟨h1, h2⟩ := rules_single kn.2 hwc _ d hck
      exact (naL_mem ch kn.1 kn.2 hna hkn).1 ⟨h1, by rw [h2]; rfl⟩

theorem run_iff (toks : List Int) : ∀ (sts : List Counted), (∀ n ∈ sts, Inv n) → ∀ r,
    (r ∈ finish (toks.foldl stepTrie sts) ↔
      ∃ y ∈ sts.flatMap flat, dacc y.1 toks = true ∧ r = (y.2.1, y.2.2 + y.1.length)) := by
  induction toks with
  | nil => intro sts hi r; simpa only [List.foldl_nil, dacc_nil] using finish_sim sts hi r
  | cons c t ih =>
    intro sts hi r
    have hstep := step_all sts (fun n hn => (hi n hn).1) c
    simp only [List.foldl_cons, ih (stepTrie sts c) (inv_step sts hi c) r, dacc_cons, List.any_eq_true]
    constructor
    · rintro ⟨y', hy', ha, rfl⟩
      obtain ⟨y, hy, hd⟩ := (hstep y').mp hy'
      obtain ⟨nq, hnq, rfl⟩ := List.mem_map.mp hd
      refine ⟨y, hy, ⟨nq, hnq, ha⟩, ?_⟩
      rw [← kstep_length _ _ _ hnq, Nat.add_assoc]
    · rintro ⟨y, hy, ⟨nq, hnq, ha⟩, rfl⟩
      refine ⟨_, (hstep _).mpr ⟨y, hy, List.mem_map.mpr ⟨nq, hnq, rfl⟩⟩, ha, ?_⟩
      rw [← kstep_length _ _ _ hnq, Nat.add_assoc]

theorem match_iff (root : Node) (hw : wfN root = true) (hn : noAnyLeafN root = true) (toks : List Int)
    (r : Data × Nat) :
    r ∈ root.matchTokens toks ↔ ∃ kd ∈ rulesN root, dacc kd.1 toks = true ∧ r = (kd.2, kd.1.length) := by
  obtain ⟨so, ch, data⟩ := root
  rw [naN_mk] at hn
  have hi : ∀ n ∈ [({ so := so, children := ch, data := data, length := 0 } : Counted)], Inv n := by
    intro n hn'
    cases List.mem_singleton.mp hn'
    exact ⟨((wfN_mk _ _ _).mp hw).2, hn⟩
  simp only [Node.matchTokens, Node.so, Node.children, Node.data, run_iff toks _ hi r, List.flatMap_cons,
    List.flatMap_nil, List.append_nil, flat, List.mem_map]
  constructor
  · rintro ⟨_, ⟨kd, hkd, rfl⟩, ha, rfl⟩
    exact ⟨kd, hkd, ha, by simp⟩
  · rintro ⟨kd, hkd, ha, rfl⟩
    exact ⟨_, ⟨kd, hkd, rfl⟩, ha, by simp⟩

theorem direct_iff (k : List Int) (d : Data) (hk : k ≠ []) (toks : List Int) (r : Data × Nat) :
    r ∈ (Node.mk k [] (some d)).matchTokens toks ↔ (dacc k toks = true ∧ r = (d, k.length)) := by
  rw [match_iff _ (by simp [wfN, wfL, hk]) (by simp [noAnyLeafN, noAnyLeafL])]
  simp [rulesN, rulesL]

end DoltVerif.BranchControl
