import DoltVerif.Lemmas.BranchControlTrie
/-!
C38: `MatchNode.Add` / `Remove` keep the trie well formed and set one key of the stored rule table to an `Option Data`
(`Upd`, `SetKey`).  Both walk down to a node whose sort orders are used up and there set its data or the entry of its
child list (`ChildSet`) under the key's next sort order; splitting a node and merging a single child into it do not
change the stored rules (`rulesN_merge`).
-/
namespace DoltVerif.BranchControl

/-- `ch'` is the child list `ch` with the entry of `k2` set to `oc` -/
def ChildSet (ch : List (Int × Node)) (k2 : Int) (oc : Option Node) (ch' : List (Int × Node)) : Prop :=
  wfL ch' = true ∧ ∀ k, lookupChild ch' k = if k2 = k then oc else lookupChild ch k

theorem childSet_cons (k' : Int) (n' : Node) (t t' : List (Int × Node)) (k2 : Int) (oc : Option Node) (hk : ¬ k' = k2)
    (hw : wfL ((k', n') :: t) = true) (h : wfL t = true → ChildSet t k2 oc t') :
    ChildSet ((k', n') :: t) k2 oc ((k', n') :: t') := by
  simp only [wfL, Bool.and_eq_true, beq_iff_eq] at hw
  obtain ⟨hwt, hlk⟩ := h hw.2
  have hk' : ¬ k2 = k' := fun e => hk e.symm
  refine ⟨?_, fun k => ?_⟩
  · simp only [wfL, Bool.and_eq_true, beq_iff_eq]
    exact ⟨⟨hw.1.1, by rw [hlk k', if_neg hk']; exact hw.1.2⟩, hwt⟩
  · simp only [lookupChild, hlk k]
    by_cases h1 : k' = k
    · subst h1; simp [hk']
    · simp [h1]

theorem childSet_replace (ch : List (Int × Node)) (k2 : Int) (c c' : Node) (hw : wfL ch = true)
    (hl : lookupChild ch k2 = some c) (hh : c'.so.head? = some k2) (hwc : wfN c' = true) :
    ChildSet ch k2 (some c') (replaceChild ch k2 c') := by
  fun_induction replaceChild ch k2 c' with
  | case1 => cases hl
  | case2 n' t =>
    simp only [wfL, Bool.and_eq_true, beq_iff_eq] at hw
    refine ⟨by simp only [wfL, Bool.and_eq_true, beq_iff_eq]; exact ⟨⟨⟨hh, hwc⟩, hw.1.2⟩, hw.2⟩, fun k => ?_⟩
    simp only [lookupChild]
    split <;> rfl
  | case3 k' n' t hk ih =>
    simp only [lookupChild, hk, if_false] at hl
    exact childSet_cons k' n' t _ k2 _ hk hw fun hwt => ih hwt hl

theorem childSet_append (ch : List (Int × Node)) (k2 : Int) (nd : Node) (hw : wfL ch = true)
    (hl : lookupChild ch k2 = none) (hh : nd.so.head? = some k2) (hwn : wfN nd = true) :
    ChildSet ch k2 (some nd) (ch ++ [(k2, nd)]) := by
  fun_induction lookupChild ch k2 with
  | case1 => exact ⟨by simp [wfL, hh, hwn, lookupChild], fun k => by simp [lookupChild]⟩
  | case2 n' t => cases hl
  | case3 k' n' t hk ih => exact childSet_cons k' n' t _ k2 _ hk hw fun hwt => ih hwt hl

/-- child keys are distinct, so erasing the first child filed under `k2` leaves none -/
theorem childSet_erase (ch : List (Int × Node)) (k2 : Int) (hw : wfL ch = true) :
    ChildSet ch k2 none (eraseChild ch k2) := by
  fun_induction eraseChild ch k2 with
  | case1 => exact ⟨rfl, fun k => by simp [lookupChild]⟩
  | case2 n' t =>
    simp only [wfL, Bool.and_eq_true, Option.isNone_iff_eq_none] at hw
    refine ⟨hw.2, fun k => ?_⟩
    simp only [lookupChild]
    split
    · next h => rw [← h]; exact hw.1.2
    · rfl
  | case3 k' n' t hk ih => exact childSet_cons k' n' t _ k2 _ hk hw ih

/-- the rule table `R'` is `R` with `key` set to `o` -/
def Upd (key : List Int) (o : Option Data) (R R' : List (List Int × Data)) : Prop :=
  ∀ K x, (K, x) ∈ R' ↔ ((K = key ∧ o = some x) ∨ (K ≠ key ∧ (K, x) ∈ R))

theorem upd_clear (key : List Int) (R : List (List Int × Data)) (h : ∀ K x, (K, x) ∈ R → K = key) :
    Upd key none R [] := by
  intro K x
  simp only [List.not_mem_nil, reduceCtorEq, and_false, false_or, false_iff, not_and]
  exact fun hne hm => hne (h K x hm)

theorem upd_leaf (key : List Int) (d : Data) : Upd key (some d) [] (rulesN (.mk key [] (some d))) := by
  intro K x
  simp [rulesN, rulesL, eq_comm]

theorem upd_prefix (p key : List Int) (o : Option Data) (R R' : List (List Int × Data)) (h : Upd key o R R') :
    Upd (p ++ key) o (R.map fun kd => (p ++ kd.1, kd.2)) (R'.map fun kd => (p ++ kd.1, kd.2)) := by
  intro K x
  simp only [List.mem_map, Prod.mk.injEq]
  constructor
  · rintro ⟨⟨k0, x'⟩, hk, rfl, rfl⟩
    rcases (h k0 x').mp hk with ⟨rfl, ho⟩ | ⟨hne, hold⟩
    · exact Or.inl ⟨rfl, ho⟩
    · exact Or.inr ⟨fun e => hne (List.append_cancel_left e), (k0, x'), hold, rfl, rfl⟩
  · rintro (⟨rfl, ho⟩ | ⟨hne, ⟨k0, x'⟩, hold, rfl, rfl⟩)
    · exact ⟨(key, x), (h _ _).mpr (Or.inl ⟨rfl, ho⟩), rfl, rfl⟩
    · exact ⟨(k0, x'), (h _ _).mpr (Or.inr ⟨fun e => hne (by rw [e]), hold⟩), rfl, rfl⟩

theorem upd_data (ch : List (Int × Node)) (data o : Option Data) (hw : wfL ch = true) :
    Upd [] o (rulesN (.mk [] ch data)) (rulesN (.mk [] ch o)) := by
  intro K x
  cases K with
  | nil => simp [rules_nil_nil _ _ hw]
  | cons k t => simp [rules_nil_child _ _ hw]

theorem upd_child (ch ch' : List (Int × Node)) (data : Option Data) (k2 : Int) (oc : Option Node) (t : List Int)
    (o : Option Data) (hw : wfL ch = true) (hs : ChildSet ch k2 oc ch')
    (h : Upd (k2 :: t) o ((lookupChild ch k2).elim [] rulesN) (oc.elim [] rulesN)) :
    Upd (k2 :: t) o (rulesN (.mk [] ch data)) (rulesN (.mk [] ch' data)) := by
  intro K x
  cases K with
  | nil => simp [rules_nil_nil _ _ hw, rules_nil_nil _ _ hs.1]
  | cons k t' =>
    rw [rules_nil_child _ _ hs.1, rules_nil_child _ _ hw, hs.2 k]
    by_cases hk : k2 = k
    · subst hk; rw [if_pos rfl]; exact h _ x
    · have : k :: t' ≠ k2 :: t := fun e => hk (List.cons.inj e).1.symm
      simp [hk, this]

/-- `Add` splits a node by this equation read from right to left, `Remove` merges by it read from left to right -/
theorem rulesN_merge (p : List Int) (k : Int) (s : List Int) (c : List (Int × Node)) (d : Option Data) :
    rulesN (.mk p [(k, .mk s c d)] none) = rulesN (.mk (p ++ s) c d) := by
  rw [rulesN_append]
  simp [rulesN, rulesL]

theorem wfL_one (k : Int) (n : Node) (hh : n.so.head? = some k) (hw : wfN n = true) : wfL [(k, n)] = true := by
  simp [wfL, lookupChild, hh, hw]

/-- `new` is a well-formed node, filed under the same sort order as `old`, that stores the rules of `old` with
`key` set to `o` -/
def SetKey (key : List Int) (o : Option Data) (old new : Node) : Prop :=
  wfN new = true ∧ new.so.head? = old.so.head? ∧ Upd key o (rulesN old) (rulesN new)

theorem setKey_below (p : List Int) (hp : p ≠ []) (ch ch' : List (Int × Node)) (data data' : Option Data)
    (key : List Int) (o : Option Data) (hw' : wfL ch' = true)
    (h : Upd key o (rulesN (.mk [] ch data)) (rulesN (.mk [] ch' data'))) :
    SetKey (p ++ key) o (.mk p ch data) (.mk p ch' data') := by
  refine ⟨(wfN_mk _ _ _).mpr ⟨hp, hw'⟩, rfl, ?_⟩
  have := upd_prefix p key o _ _ h
  rwa [← rulesN_append, ← rulesN_append, List.append_nil] at this

theorem setKey_data (p : List Int) (hp : p ≠ []) (ch : List (Int × Node)) (data o : Option Data)
    (hw : wfL ch = true) : SetKey p o (.mk p ch data) (.mk p ch o) := by
  have := setKey_below p hp ch ch data o [] o hw (upd_data ch data o hw)
  rwa [List.append_nil] at this

theorem setKey_child (p : List Int) (hp : p ≠ []) (ch ch' : List (Int × Node)) (data : Option Data) (k2 : Int)
    (oc : Option Node) (t : List Int) (o : Option Data) (hw : wfL ch = true) (hs : ChildSet ch k2 oc ch')
    (h : Upd (k2 :: t) o ((lookupChild ch k2).elim [] rulesN) (oc.elim [] rulesN)) :
    SetKey (p ++ k2 :: t) o (.mk p ch data) (.mk p ch' data) :=
  setKey_below p hp ch ch' data data _ o hs.1 (upd_child ch ch' data k2 oc t o hw hs h)

theorem setKey_split (p : List Int) (hp : p ≠ []) (k : Int) (s : List Int) (c : List (Int × Node)) (d : Option Data)
    (key : List Int) (o : Option Data) (new : Node) (h : SetKey key o (.mk p [(k, .mk (k :: s) c d)] none) new) :
    SetKey key o (.mk (p ++ k :: s) c d) new := by
  obtain ⟨h1, h2, h3⟩ := h
  rw [rulesN_merge] at h3
  exact ⟨h1, by rw [h2]; cases p with | nil => exact absurd rfl hp | cons a t => rfl, h3⟩

theorem setKey_merge (p : List Int) (k : Int) (s : List Int) (c : List (Int × Node)) (d : Option Data)
    (key : List Int) (o : Option Data) (old : Node) (h : SetKey key o old (.mk p [(k, .mk s c d)] none)) :
    SetKey key o old (.mk (p ++ s) c d) := by
  obtain ⟨h1, h2, h3⟩ := h
  obtain ⟨hp, hw⟩ := (wfN_mk _ _ _).mp h1
  obtain ⟨_, hwc, _⟩ := wfL_mem _ k _ hw (List.mem_singleton.mpr rfl)
  rw [rulesN_merge] at h3
  refine ⟨(wfN_mk _ _ _).mpr ⟨fun e => hp (List.append_eq_nil_iff.mp e).1, ((wfN_mk _ _ _).mp hwc).2⟩, ?_, h3⟩
  rw [← h2]; cases p with | nil => exact absurd rfl hp | cons a t => rfl

theorem addGo_spec (key pre rem : List Int) (ch : List (Int × Node)) (data : Option Data) (d : Data)
    (hkey : key ≠ []) (hrem : rem ≠ []) (hw : wfL ch = true) (hH : pre ≠ [] ∨ rem.head? = key.head?) :
    SetKey (pre ++ key) (some d) (.mk (pre ++ rem) ch data) (addGo pre rem ch data key d) := by
  fun_induction addGo pre rem ch data key d with
  | case1 => exact absurd rfl hkey
  | case2 => exact absurd rfl hrem
  | case3 pre ch data r r2 rem'' k2 key'' ih =>
    -- more sort orders on both sides
    rw [List.append_cons pre r (k2 :: key''), List.append_cons pre r (r2 :: rem'')]
    exact ih (by simp) (by simp) hw (Or.inl (by simp))
  | case4 pre ch data r r2 rem'' =>
    -- the key ends inside the node: the node is split there and the upper half gets the data
    rw [List.append_cons pre r (r2 :: rem'')]
    exact setKey_split _ (by simp) r2 rem'' ch data _ _ _
      (setKey_data _ (by simp) _ none (some d) (wfL_one r2 _ rfl ((wfN_mk _ _ _).mpr ⟨by simp, hw⟩)))
  | case5 pre ch data r k2 key'' cso cch cd hl ih =>
    -- the node is used up and has a child for the next sort order: that child is replaced by the result below it
    obtain ⟨⟨cso', rfl⟩, hwcc⟩ := lookup_wf ch k2 cso cch cd hw hl
    obtain ⟨h1, h2, h3⟩ := ih (by simp) (by simp) hwcc (Or.inr rfl)
    rw [List.append_cons pre r (k2 :: key'')]
    exact setKey_child _ (by simp) ch _ data k2 _ key'' _ hw (childSet_replace ch k2 _ _ hw hl h2 h1)
      (by rw [hl]; exact h3)
  | case6 pre ch data r k2 key'' hl =>
    -- … or has none: the rest of the key becomes a new child
    rw [List.append_cons pre r (k2 :: key'')]
    exact setKey_child _ (by simp) ch _ data k2 _ key'' _ hw
      (childSet_append ch k2 _ hw hl rfl ((wfN_mk _ _ _).mpr ⟨by simp, rfl⟩)) (by rw [hl]; exact upd_leaf _ d)
  | case7 pre ch data r => exact setKey_data _ (by simp) ch data (some d) hw  -- exact hit: the data is overwritten
  | case8 pre ch data k key' r rem' hrk =>
    -- mismatch inside the node: it is split in front of `r` and the rest of the key becomes a second child
    have hpre : pre ≠ [] := hH.resolve_right fun h => hrk (Option.some.inj h)
    have hw1 : wfL [(r, Node.mk (r :: rem') ch data)] = true := wfL_one r _ rfl ((wfN_mk _ _ _).mpr ⟨by simp, hw⟩)
    have hl : lookupChild [(r, Node.mk (r :: rem') ch data)] k = none := by simp [lookupChild, hrk]
    exact setKey_split pre hpre r rem' ch data _ _ _ (setKey_child pre hpre _ _ none k _ key' _ hw1
      (childSet_append _ k _ hw1 hl rfl ((wfN_mk _ _ _).mpr ⟨by simp, rfl⟩)) (by rw [hl]; exact upd_leaf _ d))

theorem add_spec (t : Node) (key : List Int) (d : Data) (hw : wfN t = true) (hk : key ≠ [])
    (hh : t.so.head? = key.head?) :
    wfN (t.add key d) = true ∧ (t.add key d).so.head? = t.so.head? ∧
    ∀ K x, (K, x) ∈ rulesN (t.add key d) ↔ ((K = key ∧ x = d) ∨ (K ≠ key ∧ (K, x) ∈ rulesN t)) := by
  obtain ⟨so, ch, data⟩ := t
  obtain ⟨hne, hwl⟩ := (wfN_mk _ _ _).mp hw
  obtain ⟨h1, h2, h3⟩ := addGo_spec key [] so ch data d hk hne hwl (Or.inr hh)
  refine ⟨h1, h2, fun K x => (h3 K x).trans ?_⟩
  simp only [List.nil_append, Option.some.injEq, eq_comm (a := d)]

/-- what `Remove` below the node `old` must achieve for `key` -/
def RemSpec (isTop : Bool) (key : List Int) (old : Node) : RemRes → Prop
  | .noop => ∀ x, (key, x) ∉ rulesN old
  | .replaced t' _ => SetKey key none old t'
  | .deleted _ => isTop = false ∧ ∀ K x, (K, x) ∈ rulesN old → K = key

theorem rules_so_prefix (so : List Int) (ch : List (Int × Node)) (data : Option Data) (K : List Int) (x : Data)
    (h : (K, x) ∈ rulesN (.mk so ch data)) : ∃ t, K = so ++ t := by
  rw [← List.append_nil so, rules_prefix so []] at h
  obtain ⟨t, e, _⟩ := h
  exact ⟨t, e⟩

theorem not_stored_mismatch (pre : List Int) (r : Int) (rem' : List Int) (ch : List (Int × Node)) (data : Option Data)
    (k : Int) (key' : List Int) (hrk : r ≠ k) (x : Data) :
    (pre ++ k :: key', x) ∉ rulesN (.mk (pre ++ r :: rem') ch data) := by
  intro h
  obtain ⟨t, ht⟩ := rules_so_prefix _ _ _ _ _ h
  rw [List.append_assoc] at ht
  exact hrk (List.cons.inj (List.append_cancel_left ht)).1.symm

theorem not_stored_short (pre : List Int) (rem key : List Int) (ch : List (Int × Node)) (data : Option Data)
    (hlt : key.length < rem.length) (x : Data) : (pre ++ key, x) ∉ rulesN (.mk (pre ++ rem) ch data) := by
  intro h
  obtain ⟨t, ht⟩ := rules_so_prefix _ _ _ _ _ h
  have := congrArg List.length ht
  simp only [List.length_append] at this
  omega

theorem rules_below_child (p : List Int) (ch : List (Int × Node)) (data : Option Data) (hw : wfL ch = true) (k : Int)
    (t : List Int) (x : Data) :
    (p ++ k :: t, x) ∈ rulesN (.mk p ch data) ↔ (k :: t, x) ∈ (lookupChild ch k).elim [] rulesN := by
  have := rules_prefix p [] ch data (p ++ k :: t) x
  rw [List.append_nil] at this
  rw [this, ← rules_nil_child ch data hw]
  constructor
  · rintro ⟨k0, e, h⟩
    cases List.append_cancel_left e
    exact h
  · exact fun h => ⟨_, rfl, h⟩

theorem rules_childless (p : List Int) (data : Option Data) (K : List Int) (x : Data)
    (h : (K, x) ∈ rulesN (.mk p [] data)) : K = p := by
  cases data <;> simp_all [rulesN, rulesL]

theorem removeGo_spec (key : List Int) (isTop : Bool) (pre rem : List Int) (ch : List (Int × Node))
    (data : Option Data) (hrem : rem ≠ []) (hw : wfL ch = true)
    (htop : isTop = true → (pre ++ rem).head? = some columnMarker) :
    RemSpec isTop (pre ++ key) (.mk (pre ++ rem) ch data) (removeGo isTop pre rem ch data key) := by
  fun_induction removeGo isTop pre rem ch data key with
  -- the key runs out before the node's sort orders do (cases 1, 4), names a child that is not there (5), or was not
  -- found below the child (6): nothing is stored under it
  | case1 isTop pre rem ch data => exact not_stored_short pre rem [] ch data (List.length_pos_iff.mpr hrem)
  | case2 => exact absurd rfl hrem
  | case3 isTop pre ch data r r2 rem'' k2 key'' ih =>
    rw [List.append_cons pre r (k2 :: key''), List.append_cons pre r (r2 :: rem'')]
    exact ih (by simp) hw (by simpa using htop)
  | case4 isTop pre ch data r r2 rem'' => exact not_stored_short pre (r :: r2 :: rem'') [r] ch data (by simp)
  | case5 isTop pre ch data r k2 key'' hl =>
    intro x
    rw [List.append_cons pre r (k2 :: key''), rules_below_child _ ch data hw, hl]
    exact List.not_mem_nil
  | case6 isTop pre ch data r k2 key'' cso cch cd hl hres ih =>
    obtain ⟨⟨cso', rfl⟩, hwcc⟩ := lookup_wf ch k2 cso cch cd hw hl
    have hc := ih (by simp) hwcc (by simp)
    rw [hres] at hc ⊢
    intro x
    rw [List.append_cons pre r (k2 :: key''), rules_below_child _ ch data hw, hl]
    exact hc x
  | case7 isTop pre ch data r k2 key'' cso cch cd hl c' idx hres ih =>
    -- the child was rebuilt
    obtain ⟨⟨cso', rfl⟩, hwcc⟩ := lookup_wf ch k2 cso cch cd hw hl
    have hc := ih (by simp) hwcc (by simp)
    rw [hres] at hc ⊢
    obtain ⟨h1, h2, h3⟩ := hc
    rw [List.append_cons pre r (k2 :: key'')]
    exact setKey_child _ (by simp) ch _ data k2 _ key'' _ hw (childSet_replace ch k2 _ _ hw hl h2 h1)
      (by rw [hl]; exact h3)
  | case8 isTop pre ch r k2 key'' cso cch cd hl idx kk s2 c2 d2 he hres ih =>
    obtain ⟨⟨cso', rfl⟩, hwcc⟩ := lookup_wf ch k2 cso cch cd hw hl
    have hc := ih (by simp) hwcc (by simp)
    rw [hres] at hc ⊢
    simp only [he]
    -- the child goes; the node is left with a single child and no data of its own, and that child is merged into it
    rw [List.append_cons pre r (k2 :: key'')]
    refine setKey_merge _ kk s2 c2 d2 _ _ _ ?_
    rw [← he]
    exact setKey_child _ (by simp) ch _ none k2 _ key'' _ hw (childSet_erase ch k2 hw)
      (by rw [hl]; exact upd_clear _ _ hc.2)
  | case9 isTop pre ch data r k2 key'' cso cch cd hl idx hres hno ih =>
    obtain ⟨⟨cso', rfl⟩, hwcc⟩ := lookup_wf ch k2 cso cch cd hw hl
    have hc := ih (by simp) hwcc (by simp)
    rw [hres] at hc ⊢
    dsimp only
    split
    · exact (hno _ _ _ _ (by assumption) rfl).elim
    · -- the child goes and the node keeps its other children
      rw [List.append_cons pre r (k2 :: key'')]
      exact setKey_child _ (by simp) ch _ _ k2 _ key'' _ hw (childSet_erase ch k2 hw)
        (by rw [hl]; exact upd_clear _ _ hc.2)
  -- exact hit: the data goes; a single child is merged into the node (10), a node without children is reset at
  -- the top (11) and deleted elsewhere (12)
  | case10 isTop pre data r idx kk s2 c2 d2 =>
    exact setKey_merge _ kk s2 c2 d2 _ _ _ (setKey_data _ (by simp) _ data none hw)
  | case11 pre data r idx =>
    exact ⟨rfl, (htop rfl).symm, upd_clear _ _ (rules_childless _ data)⟩
  | case12 isTop pre data r idx ht =>
    exact ⟨by simpa using ht, rules_childless _ data⟩
  | case13 isTop pre ch data r idx _ _ => exact setKey_data _ (by simp) ch data none hw
  | case14 isTop pre ch data k key' r rem' hrk => exact fun x => not_stored_mismatch pre r rem' ch data k key' hrk x

theorem remove_spec (t : Node) (key : List Int) (hw : wfN t = true) (hh : t.so.head? = some columnMarker) :
    wfN (t.remove key).1 = true ∧ (t.remove key).1.so.head? = some columnMarker ∧
    ∀ K x, (K, x) ∈ rulesN (t.remove key).1 ↔ (K ≠ key ∧ (K, x) ∈ rulesN t) := by
  obtain ⟨so, ch, data⟩ := t
  obtain ⟨hne, hwl⟩ := (wfN_mk _ _ _).mp hw
  have hs := removeGo_spec key true [] so ch data hne hwl (fun _ => by simpa [Node.so] using hh)
  simp only [Node.remove, Node.so, Node.children, Node.data]
  cases hres : removeGo true [] so ch data key with
  | noop =>
    rw [hres] at hs
    exact ⟨hw, hh, fun K x => ⟨fun h => ⟨fun e => hs x (e ▸ h), h⟩, fun h => h.2⟩⟩
  | replaced t' idx =>
    rw [hres] at hs
    obtain ⟨h1, h2, h3⟩ := hs
    exact ⟨h1, h2.trans hh, fun K x => (h3 K x).trans (by simp)⟩
  | deleted idx =>
    rw [hres] at hs
    exact absurd hs.1 (by simp)

end DoltVerif.BranchControl
