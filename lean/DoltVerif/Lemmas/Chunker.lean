/-
The abstract chunker (C12): its state invariant `LevelCfg.Inv`; feeding an appended input, resynchronisation at a
boundary, chunking only cuts (`chunk_flatten`), no chunk is empty.
-/
import DoltVerif.Model.Chunker
namespace DoltVerif.Prolly

variable {σ α : Type}

/-- the state invariant of a chunker: an empty in-progress chunk means a reset splitter -/
def LevelCfg.Inv (L : LevelCfg σ α) (st : St σ α) : Prop := st.cur = [] → st = L.fresh

theorem LevelCfg.inv_fresh (L : LevelCfg σ α) : L.Inv L.fresh := fun _ => rfl

theorem LevelCfg.stepItem_cur_ne_nil_or_fresh (L : LevelCfg σ α) (st : St σ α) (x : α) :
    (L.stepItem st x).2.1 = L.fresh ∨ (L.stepItem st x).2.1.cur ≠ [] := by
  fun_cases L.stepItem st x <;> simp

theorem LevelCfg.inv_stepItem (L : LevelCfg σ α) (st : St σ α) (x : α) : L.Inv (L.stepItem st x).2.1 := by
  intro h
  rcases L.stepItem_cur_ne_nil_or_fresh st x with h' | h'
  · exact h'
  · exact absurd h h'

theorem LevelCfg.inv_feed (L : LevelCfg σ α) : ∀ (xs : List α) (st : St σ α), L.Inv st → L.Inv (L.feed st xs).2
  | [], _, h => h
  | x :: xs, st, _ => by
    simp only [LevelCfg.feed]
    exact L.inv_feed xs _ (L.inv_stepItem st x)

theorem LevelCfg.feed_append (L : LevelCfg σ α) : ∀ (xs ys : List α) (st : St σ α),
    L.feed st (xs ++ ys) = ((L.feed st xs).1 ++ (L.feed (L.feed st xs).2 ys).1, (L.feed (L.feed st xs).2 ys).2)
  | [], ys, st => by simp [LevelCfg.feed]
  | x :: xs, ys, st => by
    simp only [List.cons_append, LevelCfg.feed]
    rw [L.feed_append xs ys]
    simp [List.append_assoc]

theorem St.flush_fresh (L : LevelCfg σ α) : (L.fresh).flush = [] := by
  simp [St.flush, LevelCfg.fresh]

theorem LevelCfg.chunk_append (L : LevelCfg σ α) (xs ys : List α)
    (h : (L.feed L.fresh xs).2 = L.fresh) :
    L.chunk (xs ++ ys) = L.chunk xs ++ L.chunk ys := by
  unfold LevelCfg.chunk
  simp only [L.feed_append xs ys, h, St.flush_fresh, List.append_nil, List.append_assoc]

/-- the chunks after a resynchronisation point do not depend on anything before it -/
theorem LevelCfg.resync (L : LevelCfg σ α) (old new tail : List α)
    (ho : (L.feed L.fresh old).2 = L.fresh) (hn : (L.feed L.fresh new).2 = L.fresh) :
    L.chunk (old ++ tail) = L.chunk old ++ L.chunk tail ∧
    L.chunk (new ++ tail) = L.chunk new ++ L.chunk tail :=
  ⟨L.chunk_append old tail ho, L.chunk_append new tail hn⟩

theorem LevelCfg.stepItem_flatten (L : LevelCfg σ α) (st : St σ α) (x : α) :
    (L.stepItem st x).1.flatten ++ (L.stepItem st x).2.1.cur = st.cur ++ [x] := by
  fun_cases L.stepItem st x <;> simp [LevelCfg.fresh]

theorem LevelCfg.feed_flatten (L : LevelCfg σ α) : ∀ (xs : List α) (st : St σ α),
    (L.feed st xs).1.flatten ++ (L.feed st xs).2.cur = st.cur ++ xs
  | [], st => by simp [LevelCfg.feed]
  | x :: xs, st => by
    simp only [LevelCfg.feed, List.flatten_append, List.append_assoc]
    rw [L.feed_flatten xs, ← List.append_assoc, L.stepItem_flatten]
    simp

theorem St.flush_flatten (st : St σ α) : st.flush.flatten = st.cur := by
  fun_cases St.flush st with
  | case1 h => simp [List.isEmpty_iff.mp h]
  | case2 => simp

theorem LevelCfg.chunk_flatten (L : LevelCfg σ α) (xs : List α) : (L.chunk xs).flatten = xs := by
  unfold LevelCfg.chunk
  simp only [List.flatten_append, St.flush_flatten]
  have := L.feed_flatten xs L.fresh
  simpa [LevelCfg.fresh] using this

/-- `hok`: an overflow with an empty builder is the panic flagged by `stepOk` -/
theorem LevelCfg.stepItem_nonempty (L : LevelCfg σ α) (st : St σ α) (x : α) (hok : L.stepOk st x = true) :
    ∀ c ∈ (L.stepItem st x).1, c ≠ [] := by
  have hne : L.overflow st.cur x = true → st.cur ≠ [] := by
    intro hov h
    rw [h] at hov
    simp [LevelCfg.stepOk, h, hov] at hok
  fun_cases L.stepItem st x with
  | case1 hov => simpa using hne hov  -- overflow, boundary after `x` too: `[st.cur, [x]]`
  | case2 hov => simpa using hne hov  -- overflow: `[st.cur]`
  | case3 => simp  -- boundary after `x`: `[st.cur ++ [x]]`
  | case4 => simp  -- no chunk

theorem LevelCfg.feed_nonempty (L : LevelCfg σ α) : ∀ (xs : List α) (st : St σ α), L.feedOk st xs = true →
    ∀ c ∈ (L.feed st xs).1, c ≠ []
  | [], _, _ => by simp [LevelCfg.feed]
  | x :: xs, st, hok => by
    simp only [LevelCfg.feedOk, Bool.and_eq_true] at hok
    simp only [LevelCfg.feed, List.mem_append]
    intro c hc
    rcases hc with hc | hc
    · exact L.stepItem_nonempty st x hok.1 c hc
    · exact L.feed_nonempty xs _ hok.2 c hc

theorem St.flush_nonempty (st : St σ α) : ∀ c ∈ st.flush, c ≠ [] := by
  fun_cases St.flush st with
  | case1 => simp
  | case2 h => simpa using h

theorem LevelCfg.chunk_eq (L : LevelCfg σ α) (xs : List α) :
    L.chunk xs = (L.feed L.fresh xs).1 ++ (L.feed L.fresh xs).2.flush := rfl

theorem LevelCfg.chunk_nonempty (L : LevelCfg σ α) (xs : List α) (hok : L.chunkOk xs = true) :
    ∀ c ∈ L.chunk xs, c ≠ [] := by
  intro c hc
  rw [L.chunk_eq, List.mem_append] at hc
  exact hc.elim (L.feed_nonempty xs L.fresh hok c) (St.flush_nonempty _ c)

end DoltVerif.Prolly
