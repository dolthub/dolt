import DoltVerif.Model.CorruptArchive
import DoltVerif.Lemmas.CorruptBasic
import DoltVerif.Lemmas.Div64
/-! C10, archives: outcomes of the footer parser and of the section reads; `prollyBinSearch` is
panic-free on any slice; the in-memory index accessors are bounds-checked on a loaded index.
(`Model/NbsFiles.lean` has a second model of `prollyBinSearch`, over arrays with `none` for a panic, used for
what the search returns on a sorted slice; here the claim is the absence of panics on any slice, sorted or not.) -/
namespace DoltVerif.Corrupt.Archive
open DoltVerif.Corrupt

variable {E : ParseError → Prop}

theorem sum64_outcome {buf : Bytes} {a : Nat} (h : a + 64 ≤ buf.length) : Outcome E (fun _ => True) (sum64 buf a) :=
  .bind (goSlice_outcome ⟨Nat.le_add_right _ _, by omega⟩) fun _ hs => .ite (fun h => by omega) fun _ => .ok trivial

/-- `buildArchiveFooter` on the `archiveFooterSize` bytes `loadFooter` reads: every field lies inside the buffer; the
chunk count is a `uint32` field. -/
theorem buildFooter_outcome {buf : Bytes} (hl : buf.length = footerSize) :
    Outcome NoPanic (fun f => f.chunkCount < two32) (buildFooter buf) := by
  have hl : buf.length = 220 := hl
  refine .bind (goIndex_outcome (by rw [hl]; decide)) fun v _ =>
    .bind (goSliceFrom_outcome (by rw [hl]; decide)) fun sig _ => ?_
  -- the join points of the `do` block, innermost first: each gets its outcome once
  extract_lets fields readIndexSize checkVersion
  have hfields (n : Nat) : Outcome NoPanic (fun f => f.chunkCount < two32) (fields n) :=
    .bind₂ (field32_outcome (by rw [hl]; decide)) fun _ _ => .bind₂ (field32_outcome (by rw [hl]; decide)) fun _ hch =>
    .bind₂ (field32_outcome (by rw [hl]; decide)) fun _ _ => .bind (sum64_outcome (by rw [hl]; decide)) fun _ _ =>
    .bind (sum64_outcome (by rw [hl]; decide)) fun _ _ => .bind (sum64_outcome (by rw [hl]; decide)) fun _ _ => .ok hch
  have hsize : Outcome NoPanic (fun f => f.chunkCount < two32) (readIndexSize ()) :=
    .ite (fun _ => .bind₂ (field32_outcome (by rw [hl]; decide)) fun _ _ => hfields _)
      fun _ => .bind₂ (field64_outcome (by rw [hl]; decide)) fun _ _ => hfields _
  exact .ite (fun _ => .error nofun) fun _ => .ite (fun _ => .error nofun) fun _ => hsize

theorem loadFooter_outcome (file : Bytes) : Outcome NoPanic (fun f => f.chunkCount < two32) (loadFooter file) := by
  unfold loadFooter
  exact .ite (fun _ => .error nofun) fun _ => buildFooter_outcome (by rw [List.length_drop]; omega)

theorem readSection_outcome (file : Bytes) (off n : Nat) :
    Outcome NoPanic (fun b => b.length = n) (readSection file off n) :=
  .ite (fun h0 => .ok (eq_of_beq h0).symm) fun _ => .ite (fun _ => .error nofun) fun _ =>
    .ite (fun h => .ok (List.length_take_of_le (by rw [List.length_drop]; omega))) fun _ => .error nofun

theorem natAt_outcome {s : List Nat} {i : Nat} (h : i < s.length) : Outcome E (fun v => v ∈ s) (natAt s i) := by
  unfold natAt; rw [List.getElem?_eq_getElem h]; exact .ok (List.getElem_mem h)

theorem div64_outcome {sh i y : Nat} (hy : 0 < y) (hsh : sh ≤ y) (hi : i < two64) :
    Outcome E (fun q => q ≤ i) (div64 (sh * i / two64) (sh * i % two64) y) := by
  unfold div64
  have hc : ¬ ((y == 0) = true ∨ y ≤ sh * i / two64) := by
    rintro (h | h)
    · exact Nat.ne_of_gt hy (eq_of_beq h)
    · exact Nat.not_le.mpr (interp_high_lt hy hsh hi) h
  rw [if_neg hc, Nat.div_add_mod']
  exact .ok (interp_quot_le hsh)

/-- on ANY slice, sorted or not: the code re-establishes `lo < target ≤ hi` by explicit comparisons at every step, which
bounds the interpolated index -/
theorem pbsLoop_outcome (s : List Nat) (target : Nat) (hs : ∀ v ∈ s, v < two64) (hlen : s.length < 2 ^ 63) :
    ∀ (fuel lft rht lo hi : Nat), rht ≤ s.length → lo < target → target ≤ hi → hi < two64 →
      Outcome E (fun _ => True) (pbsLoop s target fuel lft rht lo hi)
  | 0, lft, rht, lo, hi, _, _, _, _ => .ok trivial
  | fuel + 1, lft, rht, lo, hi, hr, hlo, hhi, hh64 => by
    have h263 : (2 : Nat) ^ 63 < two64 := by decide
    have hlh : lo < hi := Nat.lt_of_lt_of_le hlo hhi
    unfold pbsLoop
    refine .ite (fun hlr => ?_) fun _ => .ok trivial
    rw [sub64_of_le (Nat.le_of_lt hlh) hh64, sub64_of_le (Nat.le_of_lt hlo) (Nat.lt_of_le_of_lt hhi hh64)]
    refine .bind (div64_outcome (Nat.sub_pos_of_lt hlh) (Nat.sub_le_sub_right hhi lo) (by omega)) fun q hq =>
      .ite (fun _ => by omega) fun _ => .bind (natAt_outcome (by omega)).self fun v hv => .ite (fun _ => ?_) fun hvt => ?_
    · exact .ite (fun hl' => .bind (natAt_outcome hl') fun lo' _ => .ite (fun _ => .ok trivial) fun hge =>
          pbsLoop_outcome s target hs hlen fuel _ _ _ _ hr (Nat.lt_of_not_le hge) hhi hh64)
        fun _ => pbsLoop_outcome s target hs hlen fuel _ _ _ _ hr hlo hhi hh64
    · -- the second read of `s[idx]` yields the same `v`
      refine .bind (natAt_outcome (by omega)).self fun hi' hm => ?_
      cases hv.1.symm.trans hm.1
      exact pbsLoop_outcome s target hs hlen fuel _ _ _ _ (by omega) hlo (Nat.le_of_not_lt hvt) (hs _ hm.2)

theorem prollyBinSearch_outcome (s : List Nat) (target : Nat) (hs : ∀ v ∈ s, v < two64) (hlen : s.length < 2 ^ 63) :
    Outcome E (fun _ => True) (prollyBinSearch s target) := by
  unfold prollyBinSearch
  refine .ite (fun _ => .ok trivial) fun h0 => ?_
  have hpos : 0 < s.length := Nat.pos_of_ne_zero fun he => h0 (by rw [he]; rfl)
  exact .bind (natAt_outcome hpos) fun lo _ => .bind (natAt_outcome (Nat.sub_lt hpos Nat.one_pos)) fun hi hhim =>
    .ite (fun _ => .ok trivial) fun ht => .ite (fun _ => .ok trivial) fun hl =>
      pbsLoop_outcome s target hs hlen _ _ _ _ _ (Nat.le_refl _) (Nat.lt_of_not_le hl) (Nat.le_of_not_lt ht) (hs hi hhim)

theorem u64s_mem_lt (b : Bytes) : ∀ v ∈ u64s b, v < two64 := by
  fun_induction u64s b with
  | case1 a b c d e f g h rest ih =>
    intro v hv
    rcases List.mem_cons.mp hv with rfl | hv
    · exact Nat.lt_of_lt_of_eq (beNat_lt [a, b, c, d, e, f, g, h]) (by decide : 256 ^ 8 = two64)
    · exact ih v hv
  | case2 => nofun

theorem u64s_length : ∀ (n : Nat) (b : Bytes), b.length = 8 * n → (u64s b).length = n
  | 0, [], _ => rfl
  | n + 1, a :: b1 :: c :: d :: e :: f :: g :: hh :: rest, h => by
    rw [u64s, List.length_cons, u64s_length n rest (Nat.add_right_cancel (m := 8) h)]

structure IdxWF (x : Index) : Prop where
  plen : x.prefixes.length = x.footer.chunkCount
  slen : x.suffixes.length = 12 * x.footer.chunkCount
  small : x.footer.chunkCount < two32
  pval : ∀ v ∈ x.prefixes, v < two64

theorem getSuffix_outcome {x : Index} (w : IdxWF x) (idx : Nat) : Outcome E (fun _ => True) (x.getSuffix idx) := by
  unfold Index.getSuffix
  rw [w.plen, Nat.mod_eq_of_lt w.small]
  exact .ite (fun _ => .ok trivial) fun _ =>
    (goSlice_outcome ⟨Nat.le_add_right _ _, by have := w.slen; omega⟩).imp fun _ _ => trivial

theorem findLoop_outcome {x : Index} (w : IdxWF x) (pfx : Nat) (sfx : Bytes) :
    ∀ (fuel idx : Nat), Outcome E (fun _ => True) (x.findLoop pfx sfx fuel idx)
  | 0, _ => .ok trivial
  | fuel + 1, idx =>
    .ite (fun _ => .bind (getSuffix_outcome w idx) fun _ _ =>
        .ite (fun _ => .ok trivial) fun _ => findLoop_outcome w pfx sfx fuel (idx + 1))
      fun _ => .ok trivial

/-- also on UNSORTED prefixes: `prollyBinSearch` is safe on any slice and every accessor is bounds-checked -/
theorem findIndex_outcome {x : Index} (w : IdxWF x) (h : Bytes) : Outcome E (fun _ => True) (x.findIndex h) :=
  .bind (prollyBinSearch_outcome x.prefixes _ w.pval (by rw [w.plen]; exact Nat.lt_trans w.small (by decide)))
    fun _ _ => .ite (fun _ => .ok trivial) fun _ => findLoop_outcome w _ _ _ _

theorem has_outcome {x : Index} (w : IdxWF x) (h : Bytes) : Outcome E (fun _ => True) (x.has h) :=
  .bind (findIndex_outcome w h) fun _ _ => .ok trivial

theorem loadIndexWith_outcome (file : Bytes) {f : Footer} (hsmall : f.chunkCount < two32) :
    Outcome NoPanic IdxWF (loadIndexWith file f) :=
  .bind (readSection_outcome _ _ _) fun _ _ => .bind (readSection_outcome _ _ _) fun pre hpre =>
  .bind (readSection_outcome _ _ _) fun _ _ => .bind (readSection_outcome _ _ _) fun suf hsuf =>
    .ok ⟨u64s_length _ _ (by rw [hpre, Nat.mul_comm]), by rw [hsuf, Nat.mul_comm], hsmall, u64s_mem_lt _⟩

theorem loadIndex_outcome (file : Bytes) : Outcome NoPanic IdxWF (loadIndex file) :=
  .bind (loadFooter_outcome file) fun _ hf => loadIndexWith_outcome file hf

end DoltVerif.Corrupt.Archive
