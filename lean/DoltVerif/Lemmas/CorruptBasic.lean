import DoltVerif.Lemmas.ExceptOk
import DoltVerif.Model.CorruptTable
import DoltVerif.Model.CorruptFormats
/-! C10 (family Corrupt): the panic-faithful slice primitives, and how outcomes compose along the stages of a reader.
Every statement about a run `x : R α` is one judgement, `Outcome E Q x`; a proof follows the text of the reader with one
rule per `>>=` (`Outcome.bind`) and per `if` (`Outcome.ite`), the rule of a guarded primitive asks for its guard, and
`Outcome.ne_panic`, `Outcome.exists_ok`, `Outcome.of_ok` read the plain statements off at the end. -/
namespace DoltVerif.Corrupt

theorem ok_bind {α β : Type} (a : α) (k : α → R β) : ((.ok a : R α) >>= k) = k a := rfl

/-- The outcome of the run `x` is an error of class `E` or a value satisfying `Q`.  With `E := NoPanic` this is
safety together with what a successful run establishes; a reader that cannot fail under its hypotheses has its
outcome for every `E`, so it composes into any chain (and `E := fun _ => False` says that it succeeds).
(An inductive predicate and not a function by cases on `x`: `whnf` of a statement must not start running the reader.) -/
inductive Outcome {α : Type} (E : ParseError → Prop) (Q : α → Prop) : R α → Prop
  | ok {a : α} (h : Q a) : Outcome E Q (.ok a)
  | error {e : ParseError} (h : E e) : Outcome E Q (.error e)

def NoPanic (e : ParseError) : Prop := e ≠ .panicWouldOccur

namespace Outcome
variable {α β γ : Type} {E E' : ParseError → Prop} {Q Q' : α → Prop} {x : R α}

theorem bind {P : α → Prop} {Q : β → Prop} {k : α → R β} (hx : Outcome E P x) (hk : ∀ a, P a → Outcome E Q (k a)) :
    Outcome E Q (x >>= k) := by
  cases hx with
  | ok h => exact hk _ h
  | error h => exact .error h

/-- `bind` for `let s ← x; let b ← f s; g b`, which is `x >>= fun s => f s >>= g` and not `(x >>= f) >>= g` -/
theorem bind₂ {P : β → Prop} {Q : γ → Prop} {f : α → R β} {g : β → R γ} (hx : Outcome E P (x >>= f))
    (hg : ∀ b, P b → Outcome E Q (g b)) : Outcome E Q (x >>= fun a => f a >>= g) := by
  cases x with
  | error e => cases hx with | error h => exact .error h
  | ok a => exact bind (x := f a) hx hg

theorem ite {c : Prop} [Decidable c] {y : R α} (ht : c → Outcome E Q x) (hf : ¬ c → Outcome E Q y) :
    Outcome E Q (if c then x else y) := by
  by_cases h : c
  · rw [if_pos h]; exact ht h
  · rw [if_neg h]; exact hf h

theorem mono (h : Outcome E Q x) (hE : ∀ e, E e → E' e) (hQ : ∀ a, Q a → Q' a) : Outcome E' Q' x := by
  cases h with
  | ok h => exact .ok (hQ _ h)
  | error h => exact .error (hE _ h)

theorem imp (h : Outcome E Q x) (hQ : ∀ a, Q a → Q' a) : Outcome E Q' x := h.mono (fun _ he => he) hQ

/-- for a hypothesis about, or a second run of, the same `x` -/
theorem self (h : Outcome E Q x) : Outcome E (fun a => x = .ok a ∧ Q a) x := by
  cases h with
  | ok h => exact .ok ⟨rfl, h⟩
  | error h => exact .error h

theorem ne_panic (h : Outcome NoPanic Q x) : x ≠ .error .panicWouldOccur := by
  cases h with
  | ok h => nofun
  | error h => exact fun he => h (Except.error.inj he)

theorem exists_ok (h : Outcome (fun _ => False) Q x) : ∃ a, x = .ok a ∧ Q a := by
  cases h with
  | ok h => exact ⟨_, rfl, h⟩
  | error h => exact h.elim

theorem of_ok {a : α} (h : Outcome E Q x) (hx : x = .ok a) : Q a := by
  cases h with
  | ok h => cases hx; exact h
  | error h => cases hx

end Outcome

theorem isPanic_eq {α : Type} {r : R α} (h : isPanic r = true) : r = .error .panicWouldOccur := by
  unfold isPanic at h
  split at h
  · rfl
  · cases h

theorem goSlice_ok {buf : Bytes} {start lo hi : Nat} (h : lo ≤ hi ∧ start + hi ≤ buf.length) :
    goSlice buf start lo hi = .ok ((buf.drop (start + lo)).take (hi - lo)) := by
  unfold goSlice; rw [if_pos h]

theorem goSlice_panic_iff {buf : Bytes} {start lo hi : Nat} :
    goSlice buf start lo hi = .error .panicWouldOccur ↔ ¬ (lo ≤ hi ∧ start + hi ≤ buf.length) := by
  unfold goSlice panic
  by_cases h : lo ≤ hi ∧ start + hi ≤ buf.length
  · rw [if_pos h]; simp [h]
  · rw [if_neg h]; simp [h]

theorem goSlice_length {buf : Bytes} {start lo hi : Nat} {s : Bytes}
    (h : goSlice buf start lo hi = .ok s) : s.length = hi - lo := by
  unfold goSlice at h
  split at h
  · cases h
    rw [List.length_take, List.length_drop]; omega
  · cases h

theorem goSliceFrom_ok {buf : Bytes} {start n lo : Nat} (h : lo ≤ n) :
    goSliceFrom buf start n lo = .ok ((buf.drop (start + lo)).take (n - lo)) := by
  unfold goSliceFrom; rw [if_pos h]

theorem goSliceFrom_length {buf : Bytes} {n lo : Nat} {s : Bytes} (hn : n = buf.length)
    (h : goSliceFrom buf 0 n lo = .ok s) : s.length = n - lo := by
  unfold goSliceFrom at h
  split at h
  · cases h
    rw [List.length_take, List.length_drop]; omega
  · cases h

theorem be32_ok {s : Bytes} (h : 4 ≤ s.length) : be32 s = .ok (beNat (s.take 4)) := by
  unfold be32; rw [if_pos h]

theorem be64_ok {s : Bytes} (h : 8 ≤ s.length) : be64 s = .ok (beNat (s.take 8)) := by
  unfold be64; rw [if_pos h]

theorem beNat_lt : ∀ l : Bytes, beNat l < 256 ^ l.length
  | [] => Nat.one_pos
  | b :: rest => by
    have ih := beNat_lt rest
    have hb : b.toNat * 256 ^ rest.length ≤ 255 * 256 ^ rest.length :=
      Nat.mul_le_mul_right _ (Nat.le_of_lt_succ (UInt8.toNat_lt b))
    rw [beNat, List.length_cons, Nat.pow_succ]
    omega

theorem be32_lt {s : Bytes} {v : Nat} (h : be32 s = .ok v) : v < two32 := by
  unfold be32 at h
  split at h
  · cases h
    exact Nat.lt_of_lt_of_le (beNat_lt _) (Nat.pow_le_pow_right (by decide) (List.length_take_le 4 s))
  · cases h

section
variable {E : ParseError → Prop}

/-- an in-range slice, with the only fact later stages need of it: its length -/
theorem goSlice_outcome {buf : Bytes} {start lo hi : Nat} (h : lo ≤ hi ∧ start + hi ≤ buf.length) :
    Outcome E (fun s => s.length = hi - lo) (goSlice buf start lo hi) := by
  rw [goSlice_ok h]; exact .ok (goSlice_length (goSlice_ok h))

theorem goSliceFrom_outcome {buf : Bytes} {lo : Nat} (h : lo ≤ buf.length) :
    Outcome E (fun s => s.length = buf.length - lo) (goSliceFrom buf 0 buf.length lo) := by
  rw [goSliceFrom_ok h]; exact .ok (goSliceFrom_length rfl (goSliceFrom_ok h))

theorem goIndex_outcome {s : Bytes} {i : Nat} (h : i < s.length) : Outcome E (fun _ => True) (goIndex s i) := by
  unfold goIndex; rw [List.getElem?_eq_getElem h]; exact .ok trivial

theorem be32_outcome {s : Bytes} (h : 4 ≤ s.length) : Outcome E (fun v => v < two32) (be32 s) := by
  rw [be32_ok h]; exact .ok (be32_lt (be32_ok h))

theorem be64_outcome {s : Bytes} (h : 8 ≤ s.length) : Outcome E (fun _ => True) (be64 s) := by
  rw [be64_ok h]; exact .ok trivial

theorem field32_outcome {buf : Bytes} {start lo : Nat} (h : start + (lo + 4) ≤ buf.length) :
    Outcome E (fun v => v < two32) (goSlice buf start lo (lo + 4) >>= be32) :=
  .bind (goSlice_outcome ⟨Nat.le_add_right lo 4, h⟩) fun _ hs => be32_outcome (by omega)

theorem field64_outcome {buf : Bytes} {start lo : Nat} (h : start + (lo + 8) ≤ buf.length) :
    Outcome E (fun _ => True) (goSlice buf start lo (lo + 8) >>= be64) :=
  .bind (goSlice_outcome ⟨Nat.le_add_right lo 8, h⟩) fun _ hs => be64_outcome (by omega)

end

theorem wrap_sub {m a b : Nat} (hba : b ≤ a) (ha : a < m) : (a + m - b % m) % m = a - b := by
  rw [Nat.mod_eq_of_lt (Nat.lt_of_le_of_lt hba ha), Nat.sub_add_comm hba, Nat.add_mod_right,
    Nat.mod_eq_of_lt (Nat.lt_of_le_of_lt (Nat.sub_le a b) ha)]

theorem sub64_of_le {a b : Nat} (hba : b ≤ a) (ha : a < two64) : sub64 a b = a - b := wrap_sub hba ha

theorem sub32_of_le {a b : Nat} (hba : b ≤ a) (ha : a < two32) : sub32 a b = a - b := wrap_sub hba ha

end DoltVerif.Corrupt
