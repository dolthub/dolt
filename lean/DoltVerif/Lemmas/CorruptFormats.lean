import DoltVerif.Lemmas.CorruptBasic
/-! C10, the other storage files: the manifest parsers and the journal index decoder are panic-free
on arbitrary bytes; the journal record scan is panic-free under the field-layout guard
`readJournalRecord` lacks. -/
namespace DoltVerif.Corrupt

variable {E : ParseError → Prop}

namespace Manifest

theorem strAt_outcome {xs : List Bytes} {i : Nat} (h : i < xs.length) : Outcome E (fun _ => True) (strAt xs i) := by
  unfold strAt; rw [List.getElem?_eq_getElem h]; exact .ok trivial

theorem strsFrom_outcome {xs : List Bytes} {i : Nat} (h : i ≤ xs.length) :
    Outcome E (fun _ => True) (strsFrom xs i) := by
  unfold strsFrom; rw [if_pos h]; exact .ok trivial

theorem parseSpecs_outcome (xs : List Bytes) : Outcome NoPanic (fun _ => True) (parseSpecs xs) := by
  fun_induction parseSpecs xs
  case case1 ih => exact ih.bind fun _ _ => .ok trivial
  case case4 => exact .ok trivial
  all_goals exact .error nofun

theorem versionLoop_outcome (fuel : Nat) (b acc : Bytes) : Outcome NoPanic (fun _ => True) (versionLoop fuel b acc) := by
  fun_induction versionLoop fuel b acc
  case case3 => exact .ok trivial
  case case4 ih => exact ih
  all_goals exact .error nofun

/-- every `slices[i]` follows the field-count guard, every hash field goes through `hash.MaybeParse` -/
theorem parseV5_outcome (m : Bytes) : Outcome NoPanic (fun _ => True) (parseV5 m) := by
  unfold parseV5
  extract_lets slices fields
  refine .ite (fun _ => .error nofun) fun hg => ?_
  have h4 : 4 ≤ slices.length := Nat.le_of_not_lt fun h => hg (.inl h)
  refine .bind (strsFrom_outcome h4) fun _ _ => .bind (parseSpecs_outcome _) fun _ _ =>
    .bind (strAt_outcome (by omega)) fun _ _ => ?_
  split
  · refine .bind (strAt_outcome (by omega)) fun _ _ => ?_
    split
    · refine .bind (strAt_outcome (by omega)) fun _ _ => ?_
      split
      · exact .bind (strAt_outcome (by omega)) fun _ _ => .ok trivial
      · exact .error nofun
    · exact .error nofun
  · exact .error nofun

theorem parseV4_outcome (m : Bytes) : Outcome NoPanic (fun _ => True) (parseV4 m) := by
  unfold parseV4
  extract_lets slices fields
  refine .ite (fun _ => .error nofun) fun hg => ?_
  have h3 : 3 ≤ slices.length := Nat.le_of_not_lt fun h => hg (.inl h)
  refine .bind (strsFrom_outcome h3) fun _ _ => .bind (parseSpecs_outcome _) fun _ _ =>
    .bind (strAt_outcome (by omega)) fun _ _ => ?_
  split
  · refine .bind (strAt_outcome (by omega)) fun _ _ => ?_
    split
    · exact .bind (strAt_outcome (by omega)) fun _ _ => .ok trivial
    · exact .error nofun
  · exact .error nofun

theorem parseManifest_outcome (b : Bytes) : Outcome NoPanic (fun _ => True) (parseManifest b) :=
  .bind (versionLoop_outcome 8 b []) fun ⟨_, rest⟩ _ =>
    .ite (fun _ => parseV4_outcome rest) fun _ => .ite (fun _ => parseV5_outcome rest) fun _ => .error nofun

end Manifest

namespace JIndex

theorem readLookup_outcome (r1 : Bytes) (h : lookupSz ≤ r1.length) : Outcome E (fun _ => True) (readLookup r1) :=
  have h28 : 28 ≤ r1.length := h
  .bind (goSlice_outcome ⟨by decide, by omega⟩) fun _ _ => .bind₂ (field64_outcome (lo := 16) (by omega)) fun _ _ =>
  .bind₂ (field32_outcome (lo := 24) (by omega)) fun _ _ => .ok trivial

theorem readMeta_outcome (r1 : Bytes) (crc : UInt32) (batch : List Lookup) (h : lookupMetaSz ≤ r1.length) :
    Outcome E (fun _ => True) (readMeta r1 crc batch) :=
  have h40 : 40 ≤ r1.length := h
  .bind₂ (field64_outcome (lo := 0) (by omega)) fun _ _ => .bind₂ (field64_outcome (lo := 8) (by omega)) fun _ _ =>
  .bind₂ (field32_outcome (lo := 16) (by omega)) fun _ _ => .bind (goSlice_outcome ⟨by decide, by omega⟩) fun _ _ =>
  .ok trivial

/-- `processIndexRecords` never fails at all in the model (its only error value would be a panic):
every decode follows an `io.ReadFull` length guard. -/
theorem loop_outcome (fuel : Nat) (rest : Bytes) (sz off batchOff : Nat) (crc : UInt32) (batch : List Lookup)
    (acc : List Batch) : Outcome E (fun _ => True) (loop fuel rest sz off batchOff crc batch acc) := by
  fun_induction loop fuel rest sz off batchOff crc batch acc
  case case4 r1 _ hl e he =>
    obtain ⟨l, hl', _⟩ := (readLookup_outcome r1 (Nat.le_of_not_lt hl)).exists_ok
    rw [hl'] at he; cases he
  case case7 r1 _ _ hl e he =>
    obtain ⟨b, hb, _⟩ := (readMeta_outcome r1 _ _ (Nat.le_of_not_lt hl)).exists_ok
    rw [hb] at he; cases he
  case case5 ih | case8 ih => exact ih
  all_goals exact .ok trivial

end JIndex

namespace Journal

/-- the field-layout check `readJournalRecord` lacks (decidable).  An unknown tag is fine (an error, not a panic). -/
def fieldsOk : Nat → Bytes → Bool
  | 0, _ => false
  | fuel + 1, buf =>
    if buf.length > checksumSz then
      match buf with
      | [] => false
      | tag :: b1 =>
        if tag.toNat == kindTag then
          match b1 with
          | [] => false
          | _ :: b2 => fieldsOk fuel b2
        else if tag.toNat == addrTag then
          if b1.length < addrSz then false else fieldsOk fuel (b1.drop addrSz)
        else if tag.toNat == timestampTag then
          if b1.length < timestampSz then false else fieldsOk fuel (b1.drop timestampSz)
        else if tag.toNat == payloadTag then fieldsOk fuel (b1.drop (b1.length - checksumSz))
        else true
    else buf.length == checksumSz

theorem readLoop_outcome (fuel : Nat) (buf : Bytes) (extra : Nat) (r : Rec)
    (h : fieldsOk fuel buf = true) : Outcome NoPanic (fun _ => True) (readLoop fuel buf extra r) := by
  fun_induction fieldsOk fuel buf generalizing r
  case case1 | case2 | case3 | case5 | case7 => cases h
  case case4 fuel tag h1 k b2 hl ih =>
    unfold readLoop
    rw [if_pos hl]
    dsimp only
    rw [if_pos h1]
    exact ih _ h
  case case6 fuel tag b1 h1 h2 hs hl ih =>
    unfold readLoop
    rw [if_pos hl]
    dsimp only
    rw [if_neg h1, if_pos h2, if_neg hs]
    exact ih _ h
  case case8 fuel tag b1 h1 h2 h3 hs hl ih =>
    unfold readLoop
    rw [if_pos hl]
    dsimp only
    rw [if_neg h1, if_neg h2, if_pos h3, if_neg hs]
    exact ih _ h
  case case9 fuel tag b1 h1 h2 h3 h4 hl ih =>
    unfold readLoop
    rw [if_pos hl]
    dsimp only
    rw [if_neg h1, if_neg h2, if_neg h3, if_pos h4]
    exact ih _ h
  case case10 fuel tag b1 h1 h2 h3 h4 hl =>
    unfold readLoop
    rw [if_pos hl]
    dsimp only
    rw [if_neg h1, if_neg h2, if_neg h3, if_neg h4]
    exact .error nofun
  case case11 fuel buf hl =>
    unfold readLoop
    rw [if_neg hl, if_pos (by have := eq_of_beq h; omega)]
    exact .ok trivial

/-- `validateJournalRecord` returns a verdict (its only way to fail is a panic) when the length field equals
the buffer length — which is how `processJournalRecordsReader` and `possibleDataLossCheck` call it -/
theorem validate_outcome {buf : Bytes} (extra : Nat) (h : 8 ≤ buf.length → beNat (buf.take 4) = buf.length) :
    Outcome E (fun _ => True) (validate buf extra) := by
  unfold validate
  refine .ite (fun _ => .ok trivial) fun h8 => ?_
  have h8' : 8 ≤ buf.length := Nat.le_of_not_lt h8
  have hb : be32 buf = .ok buf.length := by
    rw [be32_ok (by omega)]; exact congrArg _ (h h8')
  have hs : sub32 buf.length checksumSz = buf.length - 4 := sub32_of_le (by omega) (be32_lt hb)
  obtain ⟨tail, ht, hlt⟩ := (goSliceFrom_outcome (buf := buf) (lo := buf.length - 4) (Nat.sub_le _ _)).exists_ok
  rw [hb]
  dsimp only
  rw [if_neg (Nat.lt_irrefl _), hs, if_neg (fun hc => hc (by omega)), ht]
  dsimp only
  rw [be32_ok (by omega)]
  exact .ok trivial

theorem validate_true_len {buf : Bytes} {extra : Nat} (h : validate buf extra = .ok true) : 8 ≤ buf.length := by
  unfold validate at h
  by_cases h8 : buf.length < lenSz + checksumSz
  · rw [if_pos h8] at h; cases h
  · simp [lenSz, checksumSz] at h8; omega

theorem read_outcome {buf : Bytes} (extra : Nat) (h8 : 8 ≤ buf.length)
    (hf : fieldsOk (buf.length + 1) (buf.drop 4) = true) : Outcome NoPanic (fun _ => True) (read buf extra) := by
  unfold read
  rw [be32_ok (by omega), goSliceFrom_ok (by simp [lenSz]; omega)]
  simp only [bind, Except.bind]
  have : (buf.drop (0 + lenSz)).take (buf.length - lenSz) = buf.drop 4 := by
    simp [lenSz, List.take_of_length_le]
  rw [this]
  exact readLoop_outcome _ _ _ _ hf

/-- `fieldsOk` at every scan position: whatever offset the scan reaches, a record there that passes
validation has a well-formed field layout -/
def ScanGuard (data : Bytes) : Prop :=
  ∀ off extra, beNat ((data.drop off).take 4) ≤ (data.drop off).length →
    validate ((data.drop off).take (beNat ((data.drop off).take 4))) extra = .ok true →
    fieldsOk (beNat ((data.drop off).take 4) + 1) (((data.drop off).take (beNat ((data.drop off).take 4))).drop 4) = true

theorem scanLoop_no_panic (data : Bytes) (buffSize : Nat) (hg : ScanGuard data) (fuel off : Nat) (acc : List (Nat × Rec)) :
    (scanLoop data buffSize fuel off acc).2 ≠ some .panicWouldOccur := by
  fun_induction scanLoop data buffSize fuel off acc
  case case6 rem _ l _ _ hlen buf extra e he =>
    -- `validate` gets a buffer cut to its own length field: it returns a verdict
    have hbl : buf.length = l := List.length_take_of_le (Nat.le_of_not_lt hlen)
    obtain ⟨b, hb, _⟩ := (validate_outcome (buf := buf) extra (by
      rw [hbl]; intro h8; rw [List.take_take, Nat.min_eq_left (by omega)])).exists_ok
    rw [hb] at he; cases he
  case case8 off _ rem _ l _ _ hlen buf extra hv e he =>
    have hbl : buf.length = l := List.length_take_of_le (Nat.le_of_not_lt hlen)
    intro hc; cases hc
    exact (read_outcome extra (validate_true_len hv) (by rw [hbl]; exact hg off extra (Nat.le_of_not_lt hlen) hv)).ne_panic he
  case case9 ih => exact ih
  all_goals nofun

end Journal

end DoltVerif.Corrupt
