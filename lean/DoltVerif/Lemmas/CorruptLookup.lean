import DoltVerif.Lemmas.CorruptBasic
/-! C10, table files: the footer and index parsers and what `newOnHeapTableIndex` builds; on an index of that shape whose
ordinals are in range (the guard dolt lacks, as a hypothesis) `has` succeeds, and `get` does not panic if the record
lengths cover the checksum (`Open.has_outcome`, `Open.get_outcome`).  No tactic may reduce through `newCompressedChunk`:
`whnf` on its `uint64` wrap-around arithmetic (`Nat.mod`, by well-founded recursion) does not end in reasonable time. -/
namespace DoltVerif.Corrupt.Table
open DoltVerif.Corrupt

variable {E : ParseError → Prop}

theorem finishGet_eq_some {cd p : Bytes} : finishGet cd = .ok (some p) ↔ cd = p ∧ p ≠ [] := by
  unfold finishGet
  constructor
  · intro h
    split at h
    · cases h
    · rename_i hz
      cases h
      exact ⟨rfl, fun he => hz (by rw [he]; rfl)⟩
  · rintro ⟨rfl, hp⟩
    rw [if_neg fun h => hp (List.eq_nil_of_length_eq_zero (eq_of_beq h))]

theorem afterChunk_eq (r : R Bytes) : afterChunk r = r >>= finishGet := by cases r <;> rfl

theorem getChunk_eq (r : R Bytes) : getChunk r = r >>= fun buff => newCompressedChunk buff >>= finishGet := by
  cases r with
  | error e => rfl
  | ok buff =>
    -- both sides brought to the form of `afterChunk_eq` first: unifying them as they stand runs `newCompressedChunk`
    rw [ok_bind]
    show afterChunk (newCompressedChunk buff) = _
    exact afterChunk_eq _

theorem getEntry_some (k : ReaderKind) (data : Bytes) (off len : Nat) :
    getEntry k data (some (off, len)) = readAt k data off len >>= fun buff => newCompressedChunk buff >>= finishGet :=
  getChunk_eq _

theorem Open.get_eq (o : Open) (h : Bytes) : o.get h = o.idx.lookup h >>= getEntry o.kind o.data := by
  unfold Open.get; cases o.idx.lookup h <;> rfl

theorem get_eq_some {o : Open} {h p : Bytes} :
    o.get h = .ok (some p) ↔
      ∃ off len buff, o.idx.lookup h = .ok (some (off, len)) ∧ readAt o.kind o.data off len = .ok buff ∧
        newCompressedChunk buff = .ok p ∧ p ≠ [] := by
  rw [Open.get_eq]
  constructor
  · intro hg
    obtain ⟨e, hl, he⟩ := bind_eq_ok hg
    match e, he with
    | some (off, len), he =>
      rw [getEntry_some] at he
      obtain ⟨buff, hr, hc⟩ := bind_eq_ok he
      obtain ⟨cd, hn, hf⟩ := bind_eq_ok hc
      obtain ⟨rfl, hp⟩ := finishGet_eq_some.mp hf
      exact ⟨off, len, buff, hl, hr, hn, hp⟩
  · rintro ⟨off, len, buff, hl, hr, hn, hp⟩
    rw [hl, ok_bind, getEntry_some, hr, ok_bind, hn, ok_bind]
    exact finishGet_eq_some.mpr ⟨rfl, hp⟩

theorem readAt_outcome (k : ReaderKind) (file : Bytes) (off len : Nat) :
    Outcome NoPanic (fun buff => buff.length = len) (readAt k file off len) := by
  have window : off + len ≤ file.length → ((file.drop off).take len).length = len := fun h =>
    List.length_take_of_le (by rw [List.length_drop]; omega)
  fun_cases readAt k file off len
  case case2 h0 => exact .ok (eq_of_beq h0).symm
  case case3 h | case6 h => exact .ok (window h)
  all_goals exact .error nofun

/-- `NewCompressedChunk` spelled out (`n = uint64(len(buff)) - checksumSize`, wrapping). -/
theorem newCompressedChunk_eq (buff : Bytes) (n : Nat) (hn : n = sub64 buff.length checksumSize) :
    newCompressedChunk buff =
      if n ≤ buff.length then
        if 4 ≤ buff.length - n then
          if beNat ((buff.drop n).take 4) ≠ crc32c (buff.take n) then .error .checksum else .ok (buff.take n)
        else .error .panicWouldOccur
      else .error .panicWouldOccur := by
  unfold newCompressedChunk
  rw [← hn]
  dsimp only
  by_cases h1 : n ≤ buff.length
  · have hlen : ((buff.drop n).take (buff.length - n)).length = buff.length - n :=
      List.length_take_of_le (by rw [List.length_drop]; exact Nat.le_refl _)
    rw [if_pos h1, goSliceFrom_ok h1, ok_bind, Nat.zero_add]
    by_cases h4 : 4 ≤ buff.length - n
    · rw [if_pos h4, be32_ok (by rw [hlen]; exact h4), ok_bind, goSlice_ok ⟨Nat.zero_le n, by omega⟩, ok_bind,
        List.take_take, Nat.min_eq_left h4, Nat.zero_add, List.drop_zero, Nat.sub_zero]
      by_cases hc : beNat ((buff.drop n).take 4) ≠ crc32c (buff.take n)
      · rw [if_pos hc, if_pos hc]; rfl
      · rw [if_neg hc, if_neg hc]; rfl
    · rw [if_neg h4, be32, if_neg (by rw [hlen]; omega)]; rfl
  · rw [if_neg h1, goSliceFrom, if_neg h1]; rfl

theorem newCompressedChunk_outcome {buff : Bytes} (h4 : 4 ≤ buff.length) (hlt : buff.length < two64) :
    Outcome NoPanic (fun _ => True) (newCompressedChunk buff) := by
  rw [newCompressedChunk_eq buff (buff.length - 4) (sub64_of_le h4 hlt).symm, if_pos (Nat.sub_le _ _),
    if_pos (by omega)]
  exact .ite (fun _ => .error nofun) fun _ => .ok trivial

/-- shape of the index buffers after `newOnHeapTableIndex`, as long as the uint32 product
`chunks1*offsetSize` does not wrap (`count - count/2 < 2^29`, i.e. fewer than about 2^30 chunks; see `openFile_wf`) -/
structure WF (ti : TableIndex) : Prop where
  mlen : ti.mbuff.length = ti.count * 28 + 20
  o1len : ti.offs1.length = 8 * (ti.count - ti.count / 2)

theorem natBE_length (w n : Nat) : (natBE w n).length = w := by
  rw [natBE, List.length_map, List.length_range]

theorem flatMap_natBE_length (xs : List Nat) : (xs.flatMap (natBE 8)).length = 8 * xs.length := by
  induction xs with
  | nil => rfl
  | cons x xs ih => rw [List.flatMap_cons, List.length_append, natBE_length, ih, List.length_cons, Nat.mul_succ, Nat.add_comm]

theorem prefixSums_length (acc : Nat) (xs : List Nat) : (prefixSums acc xs).length = xs.length := by
  induction xs generalizing acc with
  | nil => rfl
  | cons x xs ih => rw [prefixSums, List.length_cons, ih, List.length_cons]

theorem lengthsOf_length : ∀ (n : Nat) (l : Bytes), l.length = 4 * n → (lengthsOf l).length = n
  | 0, [], _ => rfl
  | n + 1, a :: b :: c :: d :: rest, h => by
    rw [lengthsOf, List.length_cons, lengthsOf_length n rest (Nat.add_right_cancel (m := 4) h)]

/-- every slice of `indexBuff` follows the one length guard `len(indexBuff) == indexSize(count)+footerSize`, for
every count (no overflow in `28*count+20`, `12*count`, `16*count`, `8*(count/2)`) -/
theorem newOnHeapTableIndex_outcome (b : Bytes) (count total : Nat) :
    Outcome NoPanic (fun ti => ti.count = count ∧ ((count - count / 2) * offsetSize < two32 → WF ti))
      (newOnHeapTableIndex b count total) := by
  unfold newOnHeapTableIndex
  refine .ite (fun _ => .error nofun) fun hg => ?_
  have hl : b.length = count * 28 + 20 := Decidable.of_not_not hg
  have h8 : count / 2 * 8 ≤ 4 * count := by omega
  have ⟨b1, b2, b3, b5⟩ : 0 + 12 * count ≤ b.length ∧ 0 + (12 * count + 4 * count) ≤ b.length ∧
      (12 * count + 4 * count ≤ count * 28 ∧ 0 + count * 28 ≤ b.length) ∧
      12 * count + count / 2 * 8 ≤ b.length := by omega
  refine .bind (goSlice_outcome ⟨Nat.zero_le _, b1⟩) fun tuples l1 =>
    .bind (goSlice_outcome ⟨Nat.le_add_right _ _, b2⟩) fun lengths l2 => .bind (goSlice_outcome b3) fun _ _ =>
    .bind (goSliceFrom_outcome (Nat.le_of_add_left_le b3.2)) fun _ _ => ?_
  extract_lets chunks2 sums consumed1 offs1 offs2 mbuff finish
  suffices hfin : Outcome NoPanic (fun ti => ti.count = count ∧ ((count - count / 2) * offsetSize < two32 → WF ti))
      (finish ()) from .ite (fun _ => .bind (goSlice_outcome ⟨Nat.zero_le _, b5⟩) fun _ _ => hfin) fun _ => hfin
  refine .ok ⟨rfl, fun hsmall => ?_⟩
  have hl1 : tuples.length = 12 * count := l1
  have hl2 : lengths.length = 4 * count := l2.trans (Nat.add_sub_cancel_left (n := 12 * count) (m := 4 * count))
  have hsum : sums.length = count := by
    rw [prefixSums_length, lengthsOf_length count _ hl2]
  have hc : consumed1 = count - count / 2 := by
    show (count - count / 2) * offsetSize % two32 / offsetSize = _
    rw [Nat.mod_eq_of_lt hsmall]; exact Nat.mul_div_cancel _ (by decide)
  have hh : count / 2 ≤ count := Nat.div_le_self _ _
  constructor
  · show (tuples ++ _ ++ _ ++ _ : Bytes).length = count * 28 + 20
    rw [List.length_append, List.length_append, List.length_append, flatMap_natBE_length,
      List.length_take_of_le (by rw [List.length_drop, hsum, hc, Nat.sub_sub_self hh]; exact Nat.le_refl _),
      List.length_drop, List.length_drop, hl1, hl2, hl]
    show _ + 8 * (count / 2) + (_ - count / 2 * 8) + (_ - (12 + 4) * count) = _
    generalize count / 2 = h at h8 ⊢
    clear l1 l2 hsum hc hsmall hg b1 b2 b3 b5 hl1 hl2 hl
    omega
  · show (List.flatMap _ _).length = 8 * (count - count / 2)
    rw [flatMap_natBE_length, hc, List.length_take_of_le (by rw [hsum]; exact Nat.sub_le _ _)]

theorem readTableFooter_outcome (b : Bytes) : Outcome NoPanic (fun _ => True) (readTableFooter b) := by
  unfold readTableFooter
  refine .ite (fun _ => .error nofun) fun hshort => ?_
  have hl : (b.drop (b.length - footerSize)).length = 20 := by
    rw [List.length_drop]; have : footerSize = 20 := rfl; omega
  generalize b.drop (b.length - footerSize) = footer at hl
  exact .bind (goSliceFrom_outcome (by rw [hl]; decide)) fun _ _ =>
    .ite (fun _ => .bind (goSliceFrom_outcome (Nat.sub_le _ _)) fun _ _ =>
        .ite (fun _ => .error nofun) fun _ => .error nofun)
      fun _ => .bind (be32_outcome (by omega)) fun _ _ => .bind (goSliceFrom_outcome (by rw [hl]; decide)) fun _ hr =>
        .bind (be64_outcome (by rw [hr, hl]; decide)) fun _ _ => .ok trivial

theorem parseTableIndex_outcome (b : Bytes) :
    Outcome NoPanic (fun ti => (ti.count - ti.count / 2) * offsetSize < two32 → WF ti) (parseTableIndex b) :=
  .bind (readTableFooter_outcome b) fun ⟨c, t⟩ _ =>
    (newOnHeapTableIndex_outcome b c t).imp fun ti h => by rw [h.1]; exact h.2

theorem openFile_wf {file : Bytes} {m : Nat} {o : Open} (h : openFile file m = .ok o)
    (hsmall : (m - m / 2) * offsetSize < two32) : WF o.idx := by
  refine Outcome.of_ok (E := fun _ => True) (Q := fun o => WF o.idx) ?_ h
  unfold openFile
  refine .ite (fun _ => .error trivial) fun _ =>
    .bind ((parseTableIndex_outcome _).mono (fun _ _ => trivial) fun _ h => h) fun ti hti =>
    .ite (fun _ => .error trivial) fun hm => ?_
  -- `prefixes` may fail; nothing is claimed then
  cases ti.prefixes with
  | error e => exact .error trivial
  | ok _ => exact .ok (hti (by rw [← Decidable.of_not_not hm]; exact hsmall))

namespace TableIndex

-- The accessors in byte offsets: tuples of 12 bytes (prefix 8, ordinal 4) from 0, the offsets
-- region from `12 * count`, the suffixes from `16 * count`.

theorem prefixAt_eq (ti : TableIndex) (idx : Nat) :
    ti.prefixAt idx = goSlice ti.mbuff 0 (12 * idx) (12 * idx + 8) >>= be64 := rfl

theorem ordinalAt_eq (ti : TableIndex) (idx : Nat) :
    ti.ordinalAt idx = goSlice ti.mbuff 0 (12 * idx + 8) (12 * idx + 8 + 4) >>= be32 := rfl

theorem suffixAt_eq (ti : TableIndex) (ord : Nat) :
    ti.suffixAt ord = goSlice ti.mbuff (16 * ti.count) (ord * 12) (ord * 12 + 12) := rfl

theorem offsetAt_eq (ti : TableIndex) (ord : Nat) :
    ti.offsetAt ord =
      if ord < ti.count - ti.count / 2 then goSlice ti.offs1 0 (8 * ord) (8 * ord + 8) >>= be64
      else goSlice ti.mbuff (12 * ti.count) (8 * (ord - (ti.count - ti.count / 2)))
        (8 * (ord - (ti.count - ti.count / 2)) + 8) >>= be64 := rfl

theorem prefixAt_outcome {ti : TableIndex} (w : WF ti) {idx : Nat} (h : idx < ti.count) :
    Outcome E (fun _ => True) (ti.prefixAt idx) := by
  rw [prefixAt_eq]; exact field64_outcome (by have := w.mlen; omega)

theorem ordinalAt_outcome {ti : TableIndex} (w : WF ti) {idx : Nat} (h : idx < ti.count) :
    Outcome E (fun _ => True) (ti.ordinalAt idx) := by
  rw [ordinalAt_eq]; exact (field32_outcome (by have := w.mlen; omega)).imp fun _ _ => trivial

theorem suffixAt_outcome {ti : TableIndex} (w : WF ti) {ord : Nat} (h : ord ≤ ti.count) :
    Outcome E (fun _ => True) (ti.suffixAt ord) := by
  rw [suffixAt_eq]
  exact (goSlice_outcome ⟨Nat.le_add_right _ _, by have := w.mlen; omega⟩).imp fun _ _ => trivial

theorem offsetAt_outcome {ti : TableIndex} (w : WF ti) {ord : Nat} (h : ord < ti.count) :
    Outcome E (fun _ => True) (ti.offsetAt ord) := by
  rw [offsetAt_eq]
  exact .ite (fun _ => field64_outcome (by have := w.o1len; omega)) fun _ => field64_outcome (by have := w.mlen; omega)

theorem getIndexEntry_outcome {ti : TableIndex} (w : WF ti) {ord : Nat} (h : ord < ti.count) :
    Outcome E (fun e => e.2 < two32) (ti.getIndexEntry ord) := by
  unfold getIndexEntry
  extract_lets entry
  have hentry (prev : Nat) : Outcome E (fun e => e.2 < two32) (entry prev) :=
    .bind (offsetAt_outcome w h) fun _ _ => .ok (Nat.mod_lt _ (by decide))
  exact .ite (fun _ => hentry 0) fun _ => .bind (offsetAt_outcome w (by omega)) fun _ _ => hentry _

theorem findPrefixLoop_outcome {ti : TableIndex} (w : WF ti) (pfx : Nat) :
    ∀ (fuel idx j : Nat), j ≤ ti.count → Outcome E (fun _ => True) (ti.findPrefixLoop pfx fuel idx j)
  | 0, idx, j, _ => .ok trivial
  | fuel + 1, idx, j, hj =>
    .ite (fun _ => .bind (prefixAt_outcome w (by omega)) fun _ _ =>
        .ite (fun _ => findPrefixLoop_outcome w pfx fuel _ _ hj) fun _ => findPrefixLoop_outcome w pfx fuel _ _ (by omega))
      fun _ => .ok trivial

/-- the guard `entrySuffixMatches` lacks, as a hypothesis -/
def OrdinalsInRange (ti : TableIndex) : Prop :=
  ∀ idx ord, idx < ti.count → ti.ordinalAt idx = .ok ord → ord < ti.count

theorem ordinalAt_lt {ti : TableIndex} (w : WF ti) (ho : OrdinalsInRange ti) {idx : Nat} (hi : idx < ti.count) :
    Outcome E (fun ord => ord < ti.count) (ti.ordinalAt idx) :=
  (ordinalAt_outcome w hi).self.imp fun ord h => ho idx ord hi h.1

theorem entrySuffixMatches_outcome {ti : TableIndex} (w : WF ti) (ho : OrdinalsInRange ti) (h : Bytes) {idx : Nat}
    (hi : idx < ti.count) : Outcome E (fun _ => True) (ti.entrySuffixMatches idx h) :=
  .bind (ordinalAt_lt w ho hi) fun _ hord => .bind (suffixAt_outcome w (Nat.le_of_lt hord)) fun _ _ => .ok trivial

theorem lookupLoop_outcome {ti : TableIndex} (w : WF ti) (ho : OrdinalsInRange ti) (h : Bytes) (pfx : Nat) :
    ∀ (fuel idx : Nat), Outcome E (fun r => r ≤ ti.count) (ti.lookupLoop h pfx fuel idx)
  | 0, _ => .ok (Nat.le_refl _)
  | fuel + 1, idx =>
    .ite (fun hi => .bind (prefixAt_outcome w hi) fun _ _ =>
        .ite (fun _ => .bind (entrySuffixMatches_outcome w ho h hi) fun _ _ =>
            .ite (fun _ => (ordinalAt_lt w ho hi).imp fun _ => Nat.le_of_lt)
              fun _ => lookupLoop_outcome w ho h pfx fuel (idx + 1))
          fun _ => .ok (Nat.le_refl _))
      fun _ => .ok (Nat.le_refl _)

theorem lookup_outcome {ti : TableIndex} (w : WF ti) (ho : OrdinalsInRange ti) (h : Bytes) :
    Outcome E (fun e => ∀ x, e = some x → ∃ ord, ord < ti.count ∧ ti.getIndexEntry ord = .ok x ∧ x.2 < two32)
      (ti.lookup h) :=
  .bind (.bind (findPrefixLoop_outcome w _ _ _ _ (Nat.le_refl _)) fun _ _ => lookupLoop_outcome w ho h _ _ _) fun r hle =>
  .ite (fun _ => .ok nofun) fun hc =>
    have hlt : r < ti.count := Nat.lt_of_le_of_ne hle fun he => hc (by rw [he]; exact beq_self_eq_true _)
    .bind (getIndexEntry_outcome w hlt).self fun e he => .ok fun x hx => by cases hx; exact ⟨r, hlt, he⟩

end TableIndex

/-- the guard `entrySuffixMatches` lacks (`OrdinalsInRange`), as a decidable check over a parsed index -/
def ordinalsInRangeB (ti : TableIndex) : Bool :=
  (List.range ti.count).all fun idx => match ti.ordinalAt idx with
    | .ok ord => decide (ord < ti.count)
    | .error _ => true

/-- the guard `NewCompressedChunk` lacks (a record of at least `checksumSize` bytes), likewise -/
def lengthsOkB (ti : TableIndex) : Bool :=
  (List.range ti.count).all fun ord => match ti.getIndexEntry ord with
    | .ok (_, len) => decide (4 ≤ len)
    | .error _ => true

theorem ordinalsInRangeB_sound {ti : TableIndex} (h : ordinalsInRangeB ti = true) : TableIndex.OrdinalsInRange ti := by
  intro idx ord hi ho
  have := List.all_eq_true.mp h idx (List.mem_range.mpr hi)
  rw [ho] at this
  simpa using this

/-- the guard `NewCompressedChunk` lacks, as a hypothesis: a record of at least `checksumSize` bytes -/
def RecordLengthsOk (ti : TableIndex) : Prop :=
  ∀ ord off len, ord < ti.count → ti.getIndexEntry ord = .ok (off, len) → 4 ≤ len

theorem lengthsOkB_sound {ti : TableIndex} (h : lengthsOkB ti = true) : RecordLengthsOk ti := by
  intro ord off len hi ho
  have := List.all_eq_true.mp h ord (List.mem_range.mpr hi)
  rw [ho] at this
  simpa using this

theorem Open.has_outcome {o : Open} (w : WF o.idx) (hord : TableIndex.OrdinalsInRange o.idx) (h : Bytes) :
    Outcome E (fun _ => True) (o.has h) :=
  .bind (TableIndex.lookup_outcome w hord h) fun _ _ => .ok trivial

theorem Open.get_outcome {o : Open} (w : WF o.idx) (hord : TableIndex.OrdinalsInRange o.idx)
    (hlen : RecordLengthsOk o.idx) (h : Bytes) : Outcome NoPanic (fun _ => True) (o.get h) := by
  rw [Open.get_eq]
  refine .bind (TableIndex.lookup_outcome w hord h) fun e he => ?_
  match e, he with
  | none, _ => exact .ok trivial
  | some (off, len), he =>
    -- the record read has the length the index gives: at least the checksum, below 2^32
    obtain ⟨ord, hlt, hent, h32⟩ := he _ rfl
    rw [getEntry_some]
    exact .bind (readAt_outcome o.kind o.data off len) fun buff hbl =>
      .bind (newCompressedChunk_outcome (by rw [hbl]; exact hlen ord off len hlt hent)
        (by rw [hbl]; exact Nat.lt_trans h32 (by decide))) fun _ _ => .ite (fun _ => .error nofun) fun _ => .ok trivial

end DoltVerif.Corrupt.Table
