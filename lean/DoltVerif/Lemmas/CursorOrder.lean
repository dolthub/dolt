/-
Cursor positions: `Pos n nd path k` says that the cursor `path` stands at ordinal `k` of the content
below `nd`.  Such a cursor reads the `k`-th entry, `getOrdinalOfCursor` returns `k`, and
`compareCursors` on two of them compares the ordinals (C11).
-/
import DoltVerif.Lemmas.TreeWF
namespace DoltVerif.Prolly
open DoltVerif.SortedDict

variable {κ ν : Type}

/-- the cursor `path` stands at ordinal `k` of the content below `nd`: at every internal level its
index is in bounds and it stands inside the child it descends into — at that child's end only in the
last child (`newCursorPastEnd`, whose root index is `Count`, is not of this kind) -/
inductive Pos : (n : Nat) → NodeH κ ν n → List Nat → Nat → Prop
  | leaf (nd : NodeH κ ν 0) (i : Nat) : i ≤ nd.length → Pos 0 nd [i] i
  | inner {n : Nat} (pre : NodeH κ ν (n+1)) (it : ItemH κ ν (n+1)) (post : NodeH κ ν (n+1)) {rest : List Nat}
      {k : Nat} : Pos n (childOf it) rest k → (k < (flatten n (childOf it)).length ∨ post = []) →
      Pos (n+1) (pre ++ it :: post) (pre.length :: rest) ((flatten (n+1) pre).length + k)

theorem Pos.le {n : Nat} {nd : NodeH κ ν n} {p : List Nat} {k : Nat} (h : Pos n nd p k) :
    k ≤ (flatten n nd).length := by
  induction h with
  | leaf nd i hi => exact hi
  | inner pre it post _ _ ih => rw [flatten_append, flatten_cons]; simp only [List.length_append]; omega

theorem Pos.item {n : Nat} {nd : NodeH κ ν n} {p : List Nat} {k : Nat} (h : Pos n nd p k) :
    pathItem n nd p = (flatten n nd)[k]? := by
  induction h with
  | leaf nd i _ => rfl
  | @inner n pre it post rest k h hin ih =>
    have hget : (pre ++ it :: post)[pre.length]? = some it := by simp
    simp only [pathItem, hget, ih]
    rw [flatten_append, flatten_cons, List.getElem?_append_right (Nat.le_add_right _ _), Nat.add_sub_cancel_left]
    rcases hin with hlt | rfl
    · rw [List.getElem?_append_left hlt]
    · simp [flatten]

/-- `getOrdinalOfCursor`: the stored subtree counts of the preceding siblings add up to the content before the child -/
theorem Pos.ordinal [Inhabited κ] {n : Nat} {nd : NodeH κ ν n} {p : List Nat} {k : Nat} (h : Pos n nd p k)
    (hwf : WFNode n nd) : pathOrdinal n nd p = some k := by
  induction h with
  | leaf nd i _ => rfl
  | @inner n pre it post rest k h _ ih =>
    have hget : (pre ++ it :: post)[pre.length]? = some it := by simp
    have hlen : min pre.length ((pre ++ it :: post).length - 1) = pre.length := by simp
    have hsum := sum_counts_eq_length n pre (fun x hx => hwf x (by simp [hx]))
    simp only [pathOrdinal, hlen, hget, ih (hwf it (by simp)).2.2.2, Option.map_some, List.take_left', hsum,
      Nat.add_comm]

theorem prefix_of_split_lt {α : Type} {x y : α} {b d : List α} : ∀ {a c : List α},
    a ++ x :: b = c ++ y :: d → a.length < c.length → ∃ m, c = a ++ x :: m
  | [], [], _, hl => by simp at hl
  | [], c0 :: c, h, _ => by
    simp only [List.nil_append, List.cons_append, List.cons.injEq] at h
    exact ⟨c, by rw [h.1]; rfl⟩
  | _ :: _, [], _, hl => by simp at hl
  | a0 :: a, c0 :: c, h, hl => by
    simp only [List.cons_append, List.cons.injEq] at h
    obtain ⟨m, hm⟩ := prefix_of_split_lt h.2 (by simpa using hl)
    exact ⟨m, by rw [h.1, hm]; rfl⟩

theorem Pos.cmp {n : Nat} {nd : NodeH κ ν n} {lo hi : List Nat} {a b : Nat} (hl : Pos n nd lo a) (hh : Pos n nd hi b) :
    cmpPath lo hi = .lt ↔ a < b := by
  induction hl generalizing hi b with
  | leaf nd i _ =>
    cases hh
    by_cases hij : i < b
    · simp [cmpPath, hij]
    · by_cases hji : b < i <;> simp [cmpPath, hij, hji]
  | @inner n pre it post rest k hl hin ih =>
    generalize hnd : pre ++ it :: post = nd at hh
    cases hh with
    | @inner _ pre' it' post' rest' k' hh hin' =>
      have hk' := hh.le
      rcases Nat.lt_trichotomy pre.length pre'.length with hlt | heq | hgt
      · -- `lo` descends into an earlier child, and stays inside it
        obtain ⟨m, hm⟩ := prefix_of_split_lt hnd hlt
        have : k < (flatten n (childOf it)).length := hin.resolve_right (fun h => by
          have := congrArg List.length hnd; simp [h] at this; omega)
        have hlen := congrArg (fun l => (flatten (n+1) l).length) hm
        simp only [flatten_append, flatten_cons, List.length_append] at hlen
        simp only [cmpPath, hlt, if_true, true_iff]
        omega
      · -- the same child: compare below it
        obtain rfl := List.append_inj_left hnd heq
        obtain ⟨rfl, rfl⟩ := List.cons.inj (List.append_cancel_left hnd)
        simp only [cmpPath, Nat.lt_irrefl, if_false, ih hh]
        omega
      · -- `hi` descends into an earlier child, which its ordinal cannot leave
        obtain ⟨m, hm⟩ := prefix_of_split_lt hnd.symm hgt
        have hlen := congrArg (fun l => (flatten (n+1) l).length) hm
        simp only [flatten_append, flatten_cons, List.length_append] at hlen
        simp only [cmpPath, Nat.lt_asymm hgt, hgt, if_false, if_true]
        constructor
        · intro h; cases h
        · omega

theorem startPath_pos [Inhabited κ] : ∀ (n : Nat) (nd : NodeH κ ν n), WFNode n nd → (n = 0 ∨ nd ≠ []) →
    Pos n nd (startPath n) 0
  | 0, nd, _, _ => .leaf nd 0 (Nat.zero_le _)
  | n+1, nd, hwf, hne => by
    match nd, hwf, hne.resolve_left (Nat.succ_ne_zero n) with
    | it :: post, hwf, _ =>
      obtain ⟨hch, _, _, hwfc⟩ := hwf it (by simp)
      exact .inner [] it post (startPath_pos n (childOf it) hwfc (Or.inr hch))
        (Or.inl (List.length_pos_iff.mpr (flatten_ne_nil n _ hwfc hch)))

end DoltVerif.Prolly
