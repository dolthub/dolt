import DoltVerif.Model.Dag
/-!
The commit-graph model (family Dag, C18/C19): the structural invariant `Inv` of graphs built by
`addCommit` and what it says of a stored commit and its stored parents (`parentsOf`, `stored_spec`), the
abstract parent / ancestor relations, and how both behave when the store grows.
-/
namespace DoltVerif.Dag

inductive Built : Graph → Prop
  | nil : Built []
  | add {g : Graph} {a : Addr} {ps : List Addr} {g' : Graph} : Built g → addCommit g a ps = .ok g' → Built g'

/-- structural invariant: every commit was produced by `mkCommit` from the commits after it -/
def Inv : Graph → Prop
  | [] => True
  | c :: g => Inv g ∧ lookup g c.addr = none ∧
      ∃ ps, loadParents g c.parents = .ok ps ∧
        c.height = maxHeight (ps.map (·.height)) + 1 ∧ c.closure = parentClosure ps

theorem mkCommit_ok {g : Graph} {a : Addr} {ps : List Addr} {c : Commit} (h : mkCommit g a ps = .ok c) :
    c.addr = a ∧ c.parents = ps ∧ lookup g a = none ∧
    ∃ pcs, loadParents g ps = .ok pcs ∧ c.height = maxHeight (pcs.map (·.height)) + 1 ∧ c.closure = parentClosure pcs := by
  unfold mkCommit at h
  split at h
  · cases h
  · rename_i pcs hl
    split at h
    · cases h
    · rename_i hn
      cases h
      -- the height equation is `rfl` because the model's `heightStep` is `1`, which `Inv` writes out
      exact ⟨rfl, rfl, by simpa using hn, pcs, hl, rfl, rfl⟩

theorem addCommit_ok {g g' : Graph} {a : Addr} {ps : List Addr} (h : addCommit g a ps = .ok g') :
    ∃ c, g' = c :: g ∧ c.addr = a ∧ c.parents = ps ∧ lookup g c.addr = none ∧
      ∃ pcs, loadParents g c.parents = .ok pcs ∧
        c.height = maxHeight (pcs.map (·.height)) + 1 ∧ c.closure = parentClosure pcs := by
  unfold addCommit at h
  split at h
  · rename_i c hc
    cases h
    obtain ⟨h1, h2, h3, hp⟩ := mkCommit_ok hc
    exact ⟨c, rfl, h1, h2, h1 ▸ h3, h2 ▸ hp⟩
  · cases h

theorem Built.inv {g : Graph} (h : Built g) : Inv g := by
  induction h with
  | nil => trivial
  | add _ ha ih =>
    obtain ⟨c, rfl, _, _, hfresh, hp⟩ := addCommit_ok ha
    exact ⟨ih, hfresh, hp⟩

theorem lookup_cons (c : Commit) (g : Graph) (a : Addr) :
    lookup (c :: g) a = if c.addr = a then some c else lookup g a := by
  simp only [lookup, List.find?_cons]
  split <;> simp_all

theorem lookup_some {g : Graph} {a : Addr} {c : Commit} (h : lookup g a = some c) : c ∈ g ∧ c.addr = a :=
  ⟨List.mem_of_find?_eq_some h, by simpa using List.find?_some h⟩

theorem lookup_self_of_inv : ∀ {g : Graph}, Inv g → ∀ {c : Commit}, c ∈ g → lookup g c.addr = some c
  | [], _, _, hm => by cases hm
  | d :: g, hi, c, hm => by
    rw [lookup_cons]
    cases hm with
    | head => rw [if_pos rfl]
    | tail _ hm' =>
      have hl := lookup_self_of_inv hi.1 hm'
      split
      · rename_i heq; rw [← heq, hi.2.1] at hl; cases hl
      · exact hl

theorem addr_inj {g : Graph} (hi : Inv g) {c c' : Commit} (h : c ∈ g) (h' : c' ∈ g) (e : c.addr = c'.addr) : c = c' :=
  Option.some.inj ((lookup_self_of_inv hi h).symm.trans (e ▸ lookup_self_of_inv hi h'))

/-- Content addressing never rewrites a commit, so growth of the store is stated for a pair of stores
of which the second holds every commit of the first under the same address. -/
def SubGraph (g g' : Graph) : Prop := ∀ {a : Addr} {c : Commit}, lookup g a = some c → lookup g' a = some c

theorem sub_cons {c : Commit} {g : Graph} (hfresh : lookup g c.addr = none) : SubGraph g (c :: g) := by
  intro a x h
  rw [lookup_cons]
  split
  · rename_i heq; rw [heq, h] at hfresh; cases hfresh
  · exact h

theorem sub_addCommit {g g' : Graph} {a : Addr} {ps : List Addr} (h : addCommit g a ps = .ok g') : SubGraph g g' := by
  obtain ⟨c, rfl, _, _, hfresh, _⟩ := addCommit_ok h
  exact sub_cons hfresh

theorem loadParents_cons_ok {g : Graph} {a : Addr} {as : List Addr} {ps : List Commit} :
    loadParents g (a :: as) = .ok ps ↔
      ∃ c cs, lookup g a = some c ∧ loadParents g as = .ok cs ∧ ps = c :: cs := by
  rw [loadParents]
  cases lookup g a with
  | none => simp
  | some c => cases loadParents g as <;> simp [eq_comm]

theorem loadParents_ok : ∀ {g : Graph} {as : List Addr} {ps : List Commit}, loadParents g as = .ok ps →
    (∀ a ∈ as, ∃ p, lookup g a = some p) ∧ ps = as.filterMap (lookup g)
  | _, [], _, h => by cases h; exact ⟨nofun, rfl⟩
  | g, a :: as, ps, h => by
    obtain ⟨c, cs, hc, hcs, rfl⟩ := loadParents_cons_ok.1 h
    obtain ⟨h1, rfl⟩ := loadParents_ok hcs
    exact ⟨List.forall_mem_cons.2 ⟨⟨c, hc⟩, h1⟩, by rw [List.filterMap_cons, hc]⟩

theorem loadParents_sub {g g' : Graph} (hs : SubGraph g g') :
    ∀ {as : List Addr} {ps : List Commit}, loadParents g as = .ok ps → loadParents g' as = .ok ps
  | [], ps, h => h
  | a :: as, ps, h => by
    obtain ⟨c, cs, hc, hcs, rfl⟩ := loadParents_cons_ok.1 h
    exact loadParents_cons_ok.2 ⟨c, cs, hs hc, loadParents_sub hs hcs, rfl⟩

def parentsOf (g : Graph) (c : Commit) : List Commit := c.parents.filterMap (lookup g)

theorem mem_parentsOf {g : Graph} {c p : Commit} :
    p ∈ parentsOf g c ↔ p.addr ∈ c.parents ∧ lookup g p.addr = some p := by
  rw [parentsOf, List.mem_filterMap]
  constructor
  · rintro ⟨a, ha, hl⟩
    obtain rfl := (lookup_some hl).2
    exact ⟨ha, hl⟩
  · exact fun ⟨ha, hl⟩ => ⟨p.addr, ha, hl⟩

theorem mem_of_mem_parentsOf {g : Graph} {c p : Commit} (h : p ∈ parentsOf g c) : p ∈ g :=
  (lookup_some (mem_parentsOf.1 h).2).1

theorem stored_spec {g : Graph} (hi : Inv g) {c : Commit} (hm : c ∈ g) :
    loadParents g c.parents = .ok (parentsOf g c) ∧
      c.height = maxHeight ((parentsOf g c).map (·.height)) + 1 ∧ c.closure = parentClosure (parentsOf g c) := by
  suffices h : ∃ ps, loadParents g c.parents = .ok ps ∧
      c.height = maxHeight (ps.map (·.height)) + 1 ∧ c.closure = parentClosure ps by
    obtain ⟨ps, hl, hh⟩ := h
    obtain rfl := (loadParents_ok hl).2
    exact ⟨hl, hh⟩
  -- `Inv` says so of each commit and the commits after it; those load in the whole store as well
  induction g with
  | nil => cases hm
  | cons d g ih =>
    obtain ⟨hi', hfresh, ps, hl, hh⟩ := hi
    cases hm with
    | head => exact ⟨ps, loadParents_sub (sub_cons hfresh) hl, hh⟩
    | tail _ hm' =>
      obtain ⟨ps', hl', hh'⟩ := ih hi' hm'
      exact ⟨ps', loadParents_sub (sub_cons hfresh) hl', hh'⟩

def IsParent (g : Graph) (a c : Addr) : Prop := ∃ cc, lookup g c = some cc ∧ a ∈ cc.parents

/-- proper ancestors: the transitive closure of `IsParent` -/
inductive Anc (g : Graph) : Addr → Addr → Prop
  | parent {a c : Addr} : IsParent g a c → Anc g a c
  | step {a p c : Addr} : Anc g a p → IsParent g p c → Anc g a c

/-- ancestors-or-self among the stored commits -/
def AncStar (g : Graph) (a c : Addr) : Prop := (a = c ∧ (lookup g c).isSome) ∨ Anc g a c

theorem Anc.trans {g : Graph} {a b c : Addr} (h1 : Anc g a b) (h2 : Anc g b c) : Anc g a c := by
  induction h2 with
  | parent hp => exact .step h1 hp
  | step _ hp ih => exact .step ih hp

theorem parent_stored {g : Graph} (hi : Inv g) {a c : Addr} (h : IsParent g a c) : ∃ ac, lookup g a = some ac := by
  obtain ⟨cc, hcc, ha⟩ := h
  exact (loadParents_ok (stored_spec hi (lookup_some hcc).1).1).1 a ha

theorem isParent_iff {g : Graph} (hi : Inv g) {c : Commit} (hm : c ∈ g) {a : Addr} :
    IsParent g a c.addr ↔ ∃ p ∈ parentsOf g c, p.addr = a := by
  constructor
  · intro hp
    obtain ⟨p, hlp⟩ := parent_stored hi hp
    obtain ⟨cc, hcc, ha⟩ := hp
    rw [lookup_self_of_inv hi hm] at hcc
    cases hcc
    obtain rfl := (lookup_some hlp).2
    exact ⟨p, mem_parentsOf.2 ⟨ha, hlp⟩, rfl⟩
  · rintro ⟨p, hp, rfl⟩
    exact ⟨c, lookup_self_of_inv hi hm, (mem_parentsOf.1 hp).1⟩

theorem anc_stored {g : Graph} (hi : Inv g) {a c : Addr} (h : Anc g a c) : ∃ ac, lookup g a = some ac := by
  induction h with
  | parent hp => exact parent_stored hi hp
  | step _ _ ih => exact ih

theorem anc_last {g : Graph} {a c : Addr} (h : Anc g a c) : ∃ p, IsParent g p c ∧ (a = p ∨ Anc g a p) := by
  cases h with
  | parent hp => exact ⟨a, hp, .inl rfl⟩
  | step h1 hp => exact ⟨_, hp, .inr h1⟩

theorem anc_target_stored {g : Graph} {a c : Addr} (h : Anc g a c) : ∃ cc, lookup g c = some cc := by
  obtain ⟨_, ⟨cc, hcc, _⟩, _⟩ := anc_last h
  exact ⟨cc, hcc⟩

theorem ancStar_refl {g : Graph} {c : Addr} {cc : Commit} (h : lookup g c = some cc) : AncStar g c c :=
  .inl ⟨rfl, by rw [h]; rfl⟩

theorem ancStar_stored {g : Graph} (hi : Inv g) {a c : Addr} (h : AncStar g a c) : ∃ ac, lookup g a = some ac := by
  rcases h with ⟨rfl, hs⟩ | h
  · exact Option.isSome_iff_exists.1 hs
  · exact anc_stored hi h

theorem AncStar.trans {g : Graph} {a b c : Addr} (h1 : AncStar g a b) (h2 : AncStar g b c) : AncStar g a c := by
  rcases h1 with ⟨rfl, _⟩ | h1
  · exact h2
  · rcases h2 with ⟨rfl, _⟩ | h2
    · exact .inr h1
    · exact .inr (h1.trans h2)

def Common (g : Graph) (c1 c2 a : Addr) : Prop := AncStar g a c1 ∧ AncStar g a c2

theorem common_symm {g : Graph} {c1 c2 a : Addr} : Common g c1 c2 a ↔ Common g c2 c1 a :=
  ⟨fun h => ⟨h.2, h.1⟩, fun h => ⟨h.2, h.1⟩⟩

theorem IsParent.mono {g g' : Graph} (hs : SubGraph g g') {a c : Addr} : IsParent g a c → IsParent g' a c
  | ⟨cc, h1, h2⟩ => ⟨cc, hs h1, h2⟩

theorem Anc.mono {g g' : Graph} (hs : SubGraph g g') {a c : Addr} (h : Anc g a c) : Anc g' a c := by
  induction h with
  | parent hp => exact .parent (hp.mono hs)
  | step _ hp ih => exact .step ih (hp.mono hs)

theorem IsParent.of_sub {g g' : Graph} (hs : SubGraph g g') {a c : Addr} {cc : Commit}
    (hc : lookup g c = some cc) : IsParent g' a c → IsParent g a c
  | ⟨cc', hc', ha⟩ => by
    rw [hs hc] at hc'
    cases hc'
    exact ⟨cc, hc, ha⟩

/-- the chain is walked from `c` downwards: `c` is stored in `g`, so `g'` holds the same commit
under `c`, its parents are stored in `g`, and so on -/
theorem anc_of_sub {g g' : Graph} (hi : Inv g) (hs : SubGraph g g') {a c : Addr} {cc : Commit}
    (hc : lookup g c = some cc) (h : Anc g' a c) : Anc g a c := by
  induction h generalizing cc with
  | parent hp => exact .parent (hp.of_sub hs hc)
  | step _ hp ih =>
    have hp' := hp.of_sub hs hc
    obtain ⟨pc, hpc⟩ := parent_stored hi hp'
    exact .step (ih hpc) hp'

theorem ancStar_sub_iff {g g' : Graph} (hi : Inv g) (hs : SubGraph g g') {a c : Addr} {cc : Commit}
    (hc : lookup g c = some cc) : AncStar g' a c ↔ AncStar g a c := by
  constructor
  · rintro (⟨rfl, _⟩ | h)
    · exact ancStar_refl hc
    · exact .inr (anc_of_sub hi hs hc h)
  · rintro (⟨rfl, _⟩ | h)
    · exact ancStar_refl (hs hc)
    · exact .inr (h.mono hs)

theorem isParent_cons_old {d : Commit} {g : Graph} {a c : Addr} (hne : d.addr ≠ c) :
    IsParent (d :: g) a c ↔ IsParent g a c := by
  rw [IsParent, lookup_cons, if_neg hne, IsParent]

theorem isParent_cons_new {d : Commit} {g : Graph} {a : Addr} :
    IsParent (d :: g) a d.addr ↔ a ∈ d.parents := by
  rw [IsParent, lookup_cons, if_pos rfl]
  exact ⟨fun ⟨_, e, h⟩ => Option.some.inj e ▸ h, fun h => ⟨d, rfl, h⟩⟩

theorem anc_cons_new {d : Commit} {g : Graph} (hi : Inv (d :: g)) {a : Addr} :
    Anc (d :: g) a d.addr ↔ a ∈ d.parents ∨ ∃ p ∈ d.parents, Anc g a p := by
  have hs : SubGraph g (d :: g) := sub_cons hi.2.1
  constructor
  · intro h
    obtain ⟨p, hp, hap⟩ := anc_last h
    have hpm := isParent_cons_new.1 hp
    rcases hap with rfl | hap
    · exact .inl hpm
    · obtain ⟨_, hl, _⟩ := hi.2.2
      obtain ⟨pc, hlp⟩ := (loadParents_ok hl).1 p hpm
      exact .inr ⟨p, hpm, anc_of_sub hi.1 hs hlp hap⟩
  · rintro (h | ⟨p, hp, h⟩)
    · exact .parent (isParent_cons_new.2 h)
    · exact .step (h.mono hs) (isParent_cons_new.2 hp)

end DoltVerif.Dag
