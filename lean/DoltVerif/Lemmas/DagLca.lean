import DoltVerif.Lemmas.DagClosure
/-! Merge bases (family Dag, C19): the closure merge-walk `mergeWalk` over the descending key lists `descKeys`. -/
namespace DoltVerif.Dag

abbrev Desc (l : List Key) : Prop := l.Pairwise (fun a b => klt b a)

theorem desc_head_max {k : Key} {r : List Key} (h : Desc (k :: r)) {x : Key} (hx : x ∈ k :: r) :
    x = k ∨ klt x k := by
  cases hx with
  | head => exact .inl rfl
  | tail _ hx' => exact .inr ((List.pairwise_cons.1 h).1 x hx')

/-- the address of the greatest common key of two lists, or nothing when they are disjoint -/
def Greatest (l1 l2 : List Key) : Option Addr → Prop
  | some a => ∃ k, k ∈ l1 ∧ k ∈ l2 ∧ k.2 = a ∧ ∀ k', k' ∈ l1 → k' ∈ l2 → k' = k ∨ klt k' k
  | none => ∀ k, k ∈ l1 → k ∉ l2

theorem Greatest.symm {l1 l2 : List Key} : ∀ {r : Option Addr}, Greatest l1 l2 r → Greatest l2 l1 r
  | none, h => fun k h2 h1 => h k h1 h2
  | some _, ⟨k, h1, h2, ha, hmax⟩ => ⟨k, h2, h1, ha, fun k' h2' h1' => hmax k' h1' h2'⟩

theorem Greatest.unique {l1 l2 : List Key} : ∀ {r r' : Option Addr}, Greatest l1 l2 r → Greatest l1 l2 r' → r = r'
  | none, none, _, _ => rfl
  | none, some _, h, ⟨k, h1, h2, _⟩ => absurd h2 (h k h1)
  | some _, none, ⟨k, h1, h2, _⟩, h => absurd h2 (h k h1)
  | some _, some _, ⟨k, h1, h2, rfl, hmax⟩, ⟨k', h1', h2', rfl, hmax'⟩ => by
    rcases hmax k' h1' h2' with rfl | e
    · rfl
    · rcases hmax' k h1 h2 with rfl | e'
      · rfl
      · exact absurd e (klt_asymm e')

theorem Greatest.skip {l1 r2 : List Key} {k2 : Key} (hnot : k2 ∉ l1) :
    ∀ {r : Option Addr}, Greatest l1 r2 r → Greatest l1 (k2 :: r2) r
  | none, h => fun k h1 h2 => by
    cases h2 with
    | head => exact hnot h1
    | tail _ h2 => exact h k h1 h2
  | some _, ⟨k, h1, h2, ha, hmax⟩ => ⟨k, h1, List.mem_cons_of_mem _ h2, ha, fun k' h1' h2' => by
    cases h2' with
    | head => exact absurd h1' hnot
    | tail _ h2' => exact hmax k' h1' h2'⟩

theorem not_mem_of_head_lt {k k' : Key} {r : List Key} (h : Desc (k :: r)) (hlt : klt k k') : k' ∉ k :: r := by
  intro hm
  rcases desc_head_max h hm with rfl | h'
  · exact klt_irrefl _ hlt
  · exact klt_asymm hlt h'

/-- the larger of two different heads cannot occur in the other list -/
theorem mergeWalk_spec (l1 l2 : List Key) (h1 : Desc l1) (h2 : Desc l2)
    (hk : ∀ k1 ∈ l1, ∀ k2 ∈ l2, k1.2 = k2.2 → k1 = k2) : Greatest l1 l2 (mergeWalk l1 l2) := by
  fun_induction mergeWalk l1 l2 with
  | case1 l2 => exact fun k hk => nomatch hk
  | case2 k1 r1 => exact fun k _ hk => nomatch hk
  | case3 k1 r1 k2 r2 heq =>
    obtain rfl := hk k1 List.mem_cons_self k2 List.mem_cons_self heq
    exact ⟨k1, List.mem_cons_self, List.mem_cons_self, rfl, fun k' h1' _ => desc_head_max h1 h1'⟩
  | case4 k1 r1 k2 r2 hne hlt ih =>
    exact (ih h1 (List.pairwise_cons.1 h2).2 fun a ha b hb => hk a ha b (List.mem_cons_of_mem _ hb)).skip
      (not_mem_of_head_lt h1 hlt)
  | case5 k1 r1 k2 r2 hne hnlt ih =>
    have hgt : klt k2 k1 := by
      rcases klt_trichotomy k1 k2 with h | rfl | h
      · exact absurd h hnlt
      · exact absurd rfl hne
      · exact h
    exact ((ih (List.pairwise_cons.1 h1).2 h2 fun a ha b hb => hk a (List.mem_cons_of_mem _ ha) b hb).symm.skip
      (not_mem_of_head_lt h2 hgt)).symm

theorem mergeWalk_comm (l1 l2 : List Key) (h1 : Desc l1) (h2 : Desc l2)
    (hk : ∀ k1 ∈ l1, ∀ k2 ∈ l2, k1.2 = k2.2 → k1 = k2) : mergeWalk l1 l2 = mergeWalk l2 l1 :=
  (mergeWalk_spec l1 l2 h1 h2 hk).unique
    (mergeWalk_spec l2 l1 h2 h1 fun a ha b hb he => (hk b hb a ha he.symm).symm).symm

theorem descKeys_mem_iff {g : Graph} (hi : Inv g) {c : Commit} (hm : c ∈ g) {k : Key} :
    k ∈ descKeys c ↔ ∃ a ac, AncStar g a c.addr ∧ lookup g a = some ac ∧ k = ac.key := by
  have hself := lookup_self_of_inv hi hm
  rw [descKeys, List.mem_cons, List.mem_reverse, closure_mem_iff hi c hm]
  constructor
  · rintro (h | ⟨a, ac, h1, h2⟩)
    · exact ⟨c.addr, c, ancStar_refl hself, hself, h⟩
    · exact ⟨a, ac, .inr h1, h2⟩
  · rintro ⟨a, ac, ⟨rfl, _⟩ | h1, h2, h3⟩
    · rw [hself] at h2
      cases h2
      exact .inl h3
    · exact .inr ⟨a, ac, h1, h2, h3⟩

theorem descKeys_desc {g : Graph} (hi : Inv g) {c : Commit} (hm : c ∈ g) : Desc (descKeys c) := by
  rw [descKeys, Desc, List.pairwise_cons, List.pairwise_reverse]
  refine ⟨fun k hk => ?_, closure_sorted hi c hm⟩
  obtain ⟨a, ac, h1, h2, rfl⟩ := (closure_mem_iff hi c hm k).1 (List.mem_reverse.1 hk)
  exact .inl (height_anc_lt hi h1 h2 (lookup_self_of_inv hi hm))

theorem descKeys_addr_key {g : Graph} (hi : Inv g) {c1 c2 : Commit} (h1 : c1 ∈ g) (h2 : c2 ∈ g) :
    ∀ k1 ∈ descKeys c1, ∀ k2 ∈ descKeys c2, k1.2 = k2.2 → k1 = k2 := by
  intro k1 hk1 k2 hk2 he
  obtain ⟨a1, ac1, _, hl1, rfl⟩ := (descKeys_mem_iff hi h1).1 hk1
  obtain ⟨a2, ac2, _, hl2, rfl⟩ := (descKeys_mem_iff hi h2).1 hk2
  have e : a1 = a2 := (lookup_some hl1).2.symm.trans (Eq.trans he (lookup_some hl2).2)
  rw [e, hl2] at hl1
  cases hl1
  rfl

end DoltVerif.Dag
