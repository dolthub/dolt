import DoltVerif.Lemmas.DagClosure
/-!
Merge bases (family Dag, C19): the parents-list walk `viaParentsLoop`.  Each queue holds stored
ancestors-or-self of its start commit; one iteration pops the top height level of a queue and pushes
the parents of what it popped, so every ancestor below that level stays covered by the queue.
-/
namespace DoltVerif.Dag

theorem parentsToQueue_spec {g : Graph} (hi : Inv g) : ∀ (cs : List Commit) (seen : List Addr) (q : List Commit),
    (∀ c ∈ cs, c ∈ g) → (∀ c ∈ g, c.addr ∈ seen → ∀ x ∈ parentsOf g c, x ∈ q) →
    ∃ q', parentsToQueue g cs seen q = .ok q' ∧
      ∀ x, x ∈ q' ↔ x ∈ q ∨ ∃ c ∈ cs, x ∈ parentsOf g c
  | [], seen, q, _, _ => ⟨q, rfl, fun x => by simp⟩
  | c :: cs, seen, q, hst, hseen => by
    have hst' : ∀ c' ∈ cs, c' ∈ g := fun c' h => hst c' (List.mem_cons_of_mem _ h)
    have hm := hst c List.mem_cons_self
    have cons : ∀ {x}, (∃ c' ∈ c :: cs, x ∈ parentsOf g c') ↔
        x ∈ parentsOf g c ∨ ∃ c' ∈ cs, x ∈ parentsOf g c' := by simp
    rw [parentsToQueue]
    split
    · rename_i hc
      obtain ⟨q', e, h⟩ := parentsToQueue_spec hi cs seen q hst' hseen
      refine ⟨q', e, fun x => ?_⟩
      rw [h, cons, ← or_assoc, or_iff_left_of_imp (hseen c hm (by simpa using hc) x)]
    · rw [(stored_spec hi hm).1]
      obtain ⟨q', e, h⟩ := parentsToQueue_spec hi cs (c.addr :: seen) (parentsOf g c ++ q) hst' (by
        intro c' hm' hs x hx
        rcases List.mem_cons.1 hs with e | hs'
        · exact List.mem_append_left _ (addr_inj hi hm' hm e ▸ hx)
        · exact List.mem_append_right _ (hseen c' hm' hs' x hx))
      refine ⟨q', e, fun x => ?_⟩
      rw [h, List.mem_append, cons, or_comm (a := x ∈ parentsOf g c), or_assoc]

/-- a queue of the walk started at `c`: stored ancestors-or-self of `c` -/
def AncQueue (g : Graph) (Q : List Commit) (c : Addr) : Prop := ∀ q ∈ Q, q ∈ g ∧ AncStar g q.addr c
/-- `a` is still reachable from the queue -/
def Covers (g : Graph) (Q : List Commit) (a : Addr) : Prop := ∃ q ∈ Q, AncStar g a q.addr

/-- what `PopCommitsOfHeight` takes off a queue at its maximal height, and what it leaves -/
abbrev topLevel (Q : List Commit) : List Commit := Q.filter (fun c => c.height == maxH Q)
abbrev belowTop (Q : List Commit) : List Commit := Q.filter (fun c => c.height != maxH Q)

theorem mem_topLevel {Q : List Commit} {p : Commit} : p ∈ topLevel Q ↔ p ∈ Q ∧ p.height = maxH Q := by
  simp [topLevel]

theorem mem_belowTop {Q : List Commit} {p : Commit} : p ∈ belowTop Q ↔ p ∈ Q ∧ p.height ≠ maxH Q := by
  simp [belowTop]

theorem maxH_ge {Q : List Commit} {q : Commit} (h : q ∈ Q) : q.height ≤ maxH Q :=
  le_maxHeight (List.mem_map.2 ⟨q, h, rfl⟩)

theorem maxH_le {Q : List Commit} {b : Nat} (h : ∀ q ∈ Q, q.height ≤ b) : maxH Q ≤ b :=
  maxHeight_le (List.forall_mem_map.2 h)

theorem maxH_lt {Q : List Commit} {b : Nat} (hb : 0 < b) (h : ∀ q ∈ Q, q.height < b) : maxH Q < b :=
  maxHeight_lt hb (List.forall_mem_map.2 h)

theorem covers_height {g : Graph} (hi : Inv g) {Q : List Commit} {c : Addr} (hq : AncQueue g Q c)
    {b : Addr} {bc : Commit} (hb : Covers g Q b) (hl : lookup g b = some bc) :
    bc.height ≤ maxH Q ∧ (bc.height = maxH Q → bc ∈ topLevel Q) := by
  obtain ⟨q, hqm, haq⟩ := hb
  have hlq := lookup_self_of_inv hi (hq q hqm).1
  have h1 := ancStar_height_le hi haq hl hlq
  have h2 := maxH_ge hqm
  refine ⟨Nat.le_trans h1.1 h2, fun he => ?_⟩
  rw [h1.2 (Nat.le_antisymm h1.1 (he ▸ h2)), hlq] at hl
  cases hl
  exact mem_topLevel.2 ⟨hqm, he⟩

theorem pop_push {g : Graph} (hi : Inv g) {Q : List Commit} {c : Addr} (hq : AncQueue g Q c) (hne : Q ≠ []) :
    ∃ Q', parentsToQueue g (topLevel Q) [] (belowTop Q) = .ok Q' ∧
      AncQueue g Q' c ∧ maxH Q' < maxH Q ∧
      ∀ a ac, Covers g Q a → lookup g a = some ac → ac.height ≠ maxH Q → Covers g Q' a := by
  obtain ⟨Q', e, h⟩ := parentsToQueue_spec hi (topLevel Q) [] (belowTop Q)
    (fun x hx => (hq x (mem_topLevel.1 hx).1).1) (fun _ _ h => nomatch h)
  have top : ∀ {p}, p ∈ topLevel Q → p ∈ g := fun hp => (hq _ (mem_topLevel.1 hp).1).1
  refine ⟨Q', e, ?_, ?_, ?_⟩
  · intro x hx
    rcases (h x).1 hx with hx | ⟨p, hp, hxp⟩
    · exact hq x (mem_belowTop.1 hx).1
    · exact ⟨mem_of_mem_parentsOf hxp,
        AncStar.trans (.inr (.parent ((isParent_iff hi (top hp)).2 ⟨x, hxp, rfl⟩))) (hq p (mem_topLevel.1 hp).1).2⟩
  · obtain ⟨q0, hq0⟩ := List.exists_mem_of_ne_nil Q hne
    apply maxH_lt (Nat.lt_of_lt_of_le (height_pos hi (hq q0 hq0).1) (maxH_ge hq0))
    intro x hx
    rcases (h x).1 hx with hx | ⟨p, hp, hxp⟩
    · exact Nat.lt_of_le_of_ne (maxH_ge (mem_belowTop.1 hx).1) (mem_belowTop.1 hx).2
    · exact (mem_topLevel.1 hp).2 ▸ parentsOf_height_lt hi (top hp) hxp
  · intro a ac ⟨q, hqm, haq⟩ hla hne'
    by_cases hh : q.height = maxH Q
    · -- `q` is popped; it is not `a` itself, so `a` is below one of the parents pushed for it
      rcases haq with ⟨rfl, _⟩ | hanc
      · rw [lookup_self_of_inv hi (hq q hqm).1] at hla
        cases hla
        exact absurd hh hne'
      · obtain ⟨p, hp, hap⟩ := anc_last hanc
        obtain ⟨pc, hpc, rfl⟩ := (isParent_iff hi (hq q hqm).1).1 hp
        refine ⟨pc, (h pc).2 (.inr ⟨q, mem_topLevel.2 ⟨hqm, hh⟩, hpc⟩), ?_⟩
        rcases hap with rfl | hap
        · exact ancStar_refl (mem_parentsOf.1 hpc).2
        · exact .inr hap
    · exact ⟨q, (h q).2 (.inl (mem_belowTop.2 ⟨hqm, hh⟩)), haq⟩

theorem minAddr_eq_min? : ∀ l : List Addr, minAddr l = l.min?
  | [] => rfl
  | a :: as => by
    rw [minAddr, minAddr_eq_min? as, List.min?_cons]
    cases as.min? with
    | none => rfl
    | some m =>
      refine congrArg some ?_
      show (if a < m then a else m) = min a m
      split
      · exact (Nat.min_eq_left (Nat.le_of_lt ‹_›)).symm
      · exact (Nat.min_eq_right (Nat.le_of_not_gt ‹_›)).symm

theorem findCommonCommit_spec (P1 P2 : List Commit) :
    (findCommonCommit P1 P2 = none → ∀ p1 ∈ P1, ∀ p2 ∈ P2, p1.addr ≠ p2.addr) ∧
    (∀ m, findCommonCommit P1 P2 = some m → (∃ p1 ∈ P1, p1.addr = m) ∧ (∃ p2 ∈ P2, p2.addr = m) ∧
      ∀ p1 ∈ P1, ∀ p2 ∈ P2, p1.addr = p2.addr → m ≤ p1.addr) := by
  have mem : ∀ {a}, a ∈ (P1.map (·.addr)).filter (fun x => (P2.map (·.addr)).contains x) ↔
      (∃ p1 ∈ P1, p1.addr = a) ∧ (∃ p2 ∈ P2, p2.addr = a) := by
    simp only [List.mem_filter, List.mem_map, List.contains_eq_mem, decide_eq_true_eq, implies_true]
  rw [findCommonCommit, minAddr_eq_min?]
  constructor
  · intro hn p1 hp1 p2 hp2 he
    have := mem.2 ⟨⟨p1, hp1, rfl⟩, ⟨p2, hp2, he.symm⟩⟩
    rw [List.min?_eq_none_iff.1 hn] at this
    cases this
  · intro m hm
    obtain ⟨hmem, hle⟩ := List.min?_eq_some_iff.1 hm
    exact ⟨(mem.1 hmem).1, (mem.1 hmem).2, fun q1 hq1 q2 hq2 he =>
      hle _ (mem.2 ⟨⟨q1, hq1, rfl⟩, ⟨q2, hq2, he.symm⟩⟩)⟩

/-- what the parents-list walk returns: a common ancestor of maximal height, the one with the
smallest address among those; nothing only if there is no common ancestor -/
def ParentsSpec (g : Graph) (c1 c2 : Addr) : Option Addr → Prop
  | some a => ∃ ac, lookup g a = some ac ∧ Common g c1 c2 a ∧
      ∀ b bc, Common g c1 c2 b → lookup g b = some bc → bc.height < ac.height ∨ (bc.height = ac.height ∧ a ≤ b)
  | none => ∀ a, ¬ Common g c1 c2 a

/-- A common ancestor on the top level of both queues is found by `findCommonCommit`; otherwise it
lies below the level that is popped. -/
theorem loop_spec {g : Graph} (hi : Inv g) {c1 c2 : Addr} : ∀ (n : Nat) (Q1 Q2 : List Commit),
    AncQueue g Q1 c1 → AncQueue g Q2 c2 →
    (∀ a, Common g c1 c2 a → Covers g Q1 a ∧ Covers g Q2 a) →
    maxH Q1 < n → maxH Q2 < n →
    ∃ r, viaParentsLoop g n Q1 Q2 = .ok r ∧ ParentsSpec g c1 c2 r
  | 0, _, _, _, _, _, hf, _ => absurd hf (Nat.not_lt_zero _)
  | n + 1, Q1, Q2, hq1, hq2, hcov, hf1, hf2 => by
    have below : ∀ {x y}, x < y → y < n + 1 → x < n := fun h h' => Nat.lt_of_lt_of_le h (Nat.le_of_lt_succ h')
    unfold viaParentsLoop
    by_cases hemp : (Q1.isEmpty || Q2.isEmpty) = true
    · rw [if_pos hemp]
      refine ⟨none, rfl, fun a hca => ?_⟩
      obtain ⟨⟨q1, hm1, _⟩, ⟨q2, hm2, _⟩⟩ := hcov a hca
      rcases Bool.or_eq_true_iff.1 hemp with h | h
      · rw [List.isEmpty_iff.1 h] at hm1
        cases hm1
      · rw [List.isEmpty_iff.1 h] at hm2
        cases hm2
    · rw [if_neg hemp]
      have hne1 : Q1 ≠ [] := by rintro rfl; simp at hemp
      have hne2 : Q2 ≠ [] := by rintro rfl; simp at hemp
      dsimp only
      obtain ⟨Q1', e1, hq1', hlt1, hcov1⟩ := pop_push hi hq1 hne1
      obtain ⟨Q2', e2, hq2', hlt2, hcov2⟩ := pop_push hi hq2 hne2
      have pos : ∀ {a}, Common g c1 c2 a → ∃ ac, lookup g a = some ac ∧
          (ac.height ≤ maxH Q1 ∧ (ac.height = maxH Q1 → ac ∈ topLevel Q1)) ∧
          (ac.height ≤ maxH Q2 ∧ (ac.height = maxH Q2 → ac ∈ topLevel Q2)) := by
        intro a hca
        obtain ⟨ac, hla⟩ := ancStar_stored hi hca.1
        exact ⟨ac, hla, covers_height hi hq1 (hcov a hca).1 hla, covers_height hi hq2 (hcov a hca).2 hla⟩
      by_cases heq : maxH Q1 = maxH Q2
      · rw [if_pos heq]
        have hs := findCommonCommit_spec (topLevel Q1) (topLevel Q2)
        cases ef : findCommonCommit (topLevel Q1) (topLevel Q2) with
        | some a =>
          refine ⟨some a, rfl, ?_⟩
          obtain ⟨⟨p1, hp1, rfl⟩, ⟨p2, hp2, ea2⟩, hmin⟩ := hs.2 a ef
          have hm1 := mem_topLevel.1 hp1
          have hm2 := mem_topLevel.1 hp2
          refine ⟨p1, lookup_self_of_inv hi (hq1 p1 hm1.1).1, ⟨(hq1 p1 hm1.1).2, ea2 ▸ (hq2 p2 hm2.1).2⟩, ?_⟩
          intro b bc hcb hlb
          obtain ⟨bc', hlb', i1, i2⟩ := pos hcb
          rw [hlb] at hlb'
          cases hlb'
          by_cases hbh : bc.height = maxH Q1
          · exact .inr ⟨hbh.trans hm1.2.symm, (lookup_some hlb).2 ▸ hmin bc (i1.2 hbh) bc (i2.2 (hbh.trans heq)) rfl⟩
          · exact .inl (hm1.2 ▸ Nat.lt_of_le_of_ne i1.1 hbh)
        | none =>
          dsimp only
          rw [e1, e2]
          refine loop_spec hi n Q1' Q2' hq1' hq2' (fun a hca => ?_) (below hlt1 hf1) (below hlt2 hf2)
          obtain ⟨ac, hla, i1, i2⟩ := pos hca
          have hnot : ac.height ≠ maxH Q1 := fun hh => hs.1 ef ac (i1.2 hh) ac (i2.2 (hh.trans heq)) rfl
          exact ⟨hcov1 a ac (hcov a hca).1 hla hnot, hcov2 a ac (hcov a hca).2 hla (heq ▸ hnot)⟩
      · rw [if_neg heq]
        by_cases hgt : maxH Q1 > maxH Q2
        · rw [if_pos hgt, e1]
          refine loop_spec hi n Q1' Q2 hq1' hq2 (fun a hca => ?_) (below hlt1 hf1) (below hgt hf1)
          obtain ⟨ac, hla, _, i2⟩ := pos hca
          exact ⟨hcov1 a ac (hcov a hca).1 hla (Nat.ne_of_lt (Nat.lt_of_le_of_lt i2.1 hgt)), (hcov a hca).2⟩
        · rw [if_neg hgt, e2]
          have hlt : maxH Q1 < maxH Q2 := Nat.lt_of_le_of_ne (Nat.le_of_not_gt hgt) heq
          refine loop_spec hi n Q1 Q2' hq1 hq2' (fun a hca => ?_) (below hlt hf2) (below hlt2 hf2)
          obtain ⟨ac, hla, i1, _⟩ := pos hca
          exact ⟨(hcov a hca).1, hcov2 a ac (hcov a hca).2 hla (Nat.ne_of_lt (Nat.lt_of_le_of_lt i1.1 hlt))⟩

theorem ancQueue_singleton {g : Graph} (hi : Inv g) {c : Commit} (hm : c ∈ g) :
    AncQueue g [c] c.addr ∧ maxH [c] ≤ c.height := by
  refine ⟨fun q hq => ?_, maxH_le fun q hq => ?_⟩ <;> rw [List.mem_singleton.1 hq]
  · exact ⟨hm, ancStar_refl (lookup_self_of_inv hi hm)⟩
  · exact Nat.le_refl _

theorem viaParents_spec {g : Graph} (hi : Inv g) {c1 c2 : Commit} (h1 : c1 ∈ g) (h2 : c2 ∈ g) :
    ∃ r, viaParents g c1 c2 = .ok r ∧ ParentsSpec g c1.addr c2.addr r := by
  have s1 := ancQueue_singleton hi h1
  have s2 := ancQueue_singleton hi h2
  exact loop_spec hi _ [c1] [c2] s1.1 s2.1
    (fun a hca => ⟨⟨c1, List.mem_cons_self, hca.1⟩, ⟨c2, List.mem_cons_self, hca.2⟩⟩)
    (Nat.lt_succ_of_le (Nat.le_trans s1.2 (Nat.le_max_left _ _)))
    (Nat.lt_succ_of_le (Nat.le_trans s2.2 (Nat.le_max_right _ _)))

end DoltVerif.Dag
