/-! The interpolation step of `prollyBinSearch`, `bits.Div64(bits.Mul64(sh, n), y)` with `sh = target - lo ≤ y = hi - lo`:
the arithmetic that both models of the search rest on (`Model/NbsFiles`: what it returns on a sorted slice;
`Model/CorruptArchive`: no panic on any slice). -/
namespace DoltVerif

/-- `Div64` does not overflow: the high word of the product (`m` = 2^64) stays below the divisor -/
theorem interp_high_lt {sh y n m : Nat} (hy : 0 < y) (hsh : sh ≤ y) (hn : n < m) : sh * n / m < y :=
  Nat.div_lt_of_lt_mul <|
    calc sh * n ≤ y * n := Nat.mul_le_mul_right n hsh
      _ < y * m := Nat.mul_lt_mul_of_pos_left hn hy
      _ = m * y := Nat.mul_comm ..

theorem interp_quot_le {sh y n : Nat} (hsh : sh ≤ y) : sh * n / y ≤ n :=
  Nat.div_le_of_le_mul (Nat.mul_le_mul_right n hsh)

end DoltVerif
