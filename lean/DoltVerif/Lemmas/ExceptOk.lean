/-! A successful run of an `Except` program read backwards: through a `>>=` and through a guard
`if c then .error e else x`.  The parsers and codecs of several families (C10, C14, C15, C35, C39) start their
inversions from these two. -/
namespace DoltVerif

theorem bind_eq_ok {ε α β : Type} {x : Except ε α} {f : α → Except ε β} {b : β} (h : x >>= f = .ok b) :
    ∃ a, x = .ok a ∧ f a = .ok b := by
  cases x with
  | error e => cases h
  | ok a => exact ⟨a, rfl, h⟩

theorem ok_of_ite {ε α : Type} {c : Prop} [Decidable c] {e : ε} {x : Except ε α} {r : α}
    (h : (if c then Except.error e else x) = .ok r) : ¬ c ∧ x = .ok r := by
  split at h
  · cases h
  · exact ⟨‹_›, h⟩

end DoltVerif
