import DoltVerif.Model.Gc
/-! C08: the invariant `Inv` of the mark-and-sweep protocol of `Model/Gc.lean` and its preservation:
by anything a session may do (`Inv.session`), by anything the collector may do inside a cycle
(`Inv.collect`), hence by every step of the model (`inv_step`) and every schedule (`inv_run`). -/
namespace DoltVerif.Gc

theorem subset_iff {xs ys : List Addr} : subset xs ys = true ↔ ∀ a ∈ xs, a ∈ ys := by
  simp [subset, List.all_eq_true]

theorem closedIn_iff {refs : Addr → List Addr} {xs : List Addr} :
    closedIn refs xs = true ↔ ∀ a ∈ xs, ∀ b ∈ refs a, b ∈ xs := by
  simp [closedIn, List.all_eq_true, subset_iff]

theorem okMark_iff {refs : Addr → List Addr} {chunks S M : List Addr} :
    okMark refs chunks S M = true ↔
      (∀ a ∈ S, a ∈ M) ∧ (∀ a ∈ M, a ∈ chunks) ∧ (∀ a ∈ M, ∀ b ∈ refs a, b ∈ M) := by
  simp [okMark, subset_iff, closedIn_iff, and_assoc]

/-- The protocol invariant: the store is closed under the walker and holds the root and every chunk
written since the cycle began; while a cycle runs, `marked` is a closed part of the store and the
root and every written chunk are live (marked, or queued in `pendingNew` / `newAddrs`); both queues
are empty once the last mark phase is over. -/
def Inv (refs : Addr → List Addr) (s : St) : Prop :=
  (∀ a ∈ s.chunks, ∀ b ∈ refs a, b ∈ s.chunks) ∧
  s.root ∈ s.chunks ∧
  (∀ c ∈ s.written, c ∈ s.chunks) ∧
  (s.phase ≠ .noGC →
    (∀ a ∈ s.marked, a ∈ s.chunks) ∧
    (∀ a ∈ s.marked, ∀ b ∈ refs a, b ∈ s.marked) ∧
    (∀ a ∈ s.newAddrs, a ∈ s.chunks) ∧
    (∀ a ∈ s.pendingNew, a ∈ s.chunks) ∧
    (s.root ∈ s.marked ∨ s.root ∈ s.pendingNew ∨ s.root ∈ s.newAddrs) ∧
    (∀ c ∈ s.written, c ∈ s.marked ∨ c ∈ s.pendingNew ∨ c ∈ s.newAddrs)) ∧
  ((s.phase = .newGen true ∨ s.phase = .finalizing) → s.pendingNew = []) ∧
  (s.phase = .finalizing → s.newAddrs = [])

section
variable {refs : Addr → List Addr} {s : St} (h : Inv refs s)
include h

theorem Inv.closed : ∀ a ∈ s.chunks, ∀ b ∈ refs a, b ∈ s.chunks := h.1

theorem Inv.root_mem : s.root ∈ s.chunks := h.2.1

theorem Inv.written_mem : ∀ c ∈ s.written, c ∈ s.chunks := h.2.2.1

theorem Inv.marked_mem (hp : s.phase ≠ .noGC) : ∀ a ∈ s.marked, a ∈ s.chunks := (h.2.2.2.1 hp).1

theorem Inv.pendingNew_nil (hp : s.phase = .newGen true ∨ s.phase = .finalizing) : s.pendingNew = [] :=
  h.2.2.2.2.1 hp

end

/-- marked, or queued to be marked: the disjunction `Inv` states of the root and of every written chunk -/
def Live (s : St) (a : Addr) : Prop := a ∈ s.marked ∨ a ∈ s.pendingNew ∨ a ∈ s.newAddrs

theorem keep_eq (s : St) (as : List Addr) :
    keep s as = { s with newAddrs := if s.phase = .noGC then s.newAddrs else as ++ s.newAddrs } := by
  unfold keep
  split
  · rw [if_pos ‹_›]
  · rw [if_neg ‹_›]

/-- A session step: the addresses `as` are handed to the keeper (which is not installed outside a cycle and blocks
in `finalizing`); whatever becomes the root or is recorded as written is among them, hence queued in `newAddrs`. -/
theorem Inv.session {refs : Addr → List Addr} {s : St} (hi : Inv refs s) (hp : s.phase ≠ .finalizing)
    {cs as w : List Addr} {r : Addr}
    (hcs : ∀ c ∈ cs, ∀ b ∈ refs c, b ∈ s.chunks) (has : ∀ a ∈ as, a ∈ cs ++ s.chunks)
    (hr : r = s.root ∨ r ∈ as) (hw : ∀ c ∈ w, c ∈ s.written ∨ c ∈ as) :
    Inv refs { s with chunks := cs ++ s.chunks, root := r, written := w,
                      newAddrs := if s.phase = .noGC then s.newAddrs else as ++ s.newAddrs } := by
  obtain ⟨hC, hR, hW, hY, hP, -⟩ := hi
  have up {a} (h : a ∈ s.chunks) : a ∈ cs ++ s.chunks := List.mem_append_right cs h
  refine ⟨fun a ha b hb => up ((List.mem_append.mp ha).elim (hcs a · b hb) (hC a · b hb)),
    hr.elim (· ▸ up hR) (has r), fun c hc => (hw c hc).elim (fun h => up (hW c h)) (has c),
    fun h0 => ?_, hP, (absurd · hp)⟩
  obtain ⟨hm, hmc, hn, hq, hrl, hwl⟩ := hY h0
  rw [if_neg h0]
  have old {a} : Live s a → a ∈ s.marked ∨ a ∈ s.pendingNew ∨ a ∈ as ++ s.newAddrs :=
    Or.imp_right (Or.imp_right (List.mem_append_right as))
  have kept {a} (h : a ∈ as) : a ∈ s.marked ∨ a ∈ s.pendingNew ∨ a ∈ as ++ s.newAddrs :=
    .inr (.inr (List.mem_append_left _ h))
  exact ⟨fun a h => up (hm a h), hmc,
    fun a h => (List.mem_append.mp h).elim (has a) (fun h => up (hn a h)), fun a h => up (hq a h),
    hr.elim (· ▸ old hrl) kept, fun c hc => (hw c hc).elim (fun h => old (hwl c h)) kept⟩

theorem closed_append {refs : Addr → List Addr} {xs ys : List Addr}
    (hx : ∀ a ∈ xs, ∀ b ∈ refs a, b ∈ xs) (hy : ∀ a ∈ ys, ∀ b ∈ refs a, b ∈ ys) :
    ∀ a ∈ xs ++ ys, ∀ b ∈ refs a, b ∈ xs ++ ys :=
  fun a ha b hb => (List.mem_append.mp ha).elim (fun h => List.mem_append_left _ (hx a h b hb))
    (fun h => List.mem_append_right _ (hy a h b hb))

/-- A collector step inside a cycle: the live set grows by exactly the closed part `M` of the store that joins
`marked`, so everything live stays live and inside the store. -/
theorem Inv.collect {refs : Addr → List Addr} {s : St} (hi : Inv refs s) (hp : s.phase ≠ .noGC)
    {p : Phase} {M po pn na : List Addr}
    (hM : ∀ a ∈ M, a ∈ s.chunks) (hMc : ∀ a ∈ M, ∀ b ∈ refs a, b ∈ M)
    (hlive : ∀ a, (a ∈ M ++ s.marked ∨ a ∈ pn ∨ a ∈ na) ↔ (Live s a ∨ a ∈ M))
    (hpn : p = .newGen true ∨ p = .finalizing → pn = []) (hna : p = .finalizing → na = []) :
    Inv refs { s with phase := p, marked := M ++ s.marked, pendingOld := po, pendingNew := pn,
                      newAddrs := na } := by
  obtain ⟨hC, hR, hW, hY, -, -⟩ := hi
  obtain ⟨hm, hmc, hn, hq, hr, hw⟩ := hY hp
  have hin a (h : a ∈ M ++ s.marked ∨ a ∈ pn ∨ a ∈ na) : a ∈ s.chunks :=
    ((hlive a).mp h).elim (·.elim (hm a) (·.elim (hq a) (hn a))) (hM a)
  exact ⟨hC, hR, hW, fun _ => ⟨fun a h => hin a (.inl h), closed_append hMc hmc,
    fun a h => hin a (.inr (.inr h)), fun a h => hin a (.inr (.inl h)),
    (hlive _).mpr (.inl hr), fun c hc => (hlive c).mpr (.inl (hw c hc))⟩, hpn, hna⟩

theorem inv_step {refs : Addr → List Addr} {s s' : St} (t : Step) (hi : Inv refs s)
    (h : step refs s t = some s') : Inv refs s' := by
  -- read `h` backwards: the guard of the step, and `s'` as an update of `s`
  cases t <;>
    simp only [step, keep_eq, okMark_iff, subset_iff, closedIn_iff, List.contains_iff_mem,
      Bool.and_eq_true, decide_eq_true_eq, Bool.not_eq_eq_eq_not, Bool.not_true, Bool.not_eq_false,
      Option.ite_none_left_eq_some, Option.ite_none_right_eq_some, Option.some.injEq] at h
  case put c =>
    obtain ⟨hp, hg, rfl⟩ := h
    exact hi.session hp (cs := [c]) (as := c :: refs c)
      (fun _ h b hb => hg b (List.mem_singleton.mp h ▸ hb))
      (List.forall_mem_cons.mpr ⟨List.mem_cons_self, fun b hb => List.mem_cons_of_mem c (hg b hb)⟩)
      (.inl rfl) (by split <;> simp +contextual [or_comm])
  case read a =>
    obtain ⟨hp, hg, rfl⟩ := h
    exact hi.session hp (cs := []) (as := [a]) nofun (by simpa using hg) (.inl rfl) (fun _ => .inl)
  case commit r =>
    obtain ⟨hp, hg, rfl⟩ := h
    exact hi.session hp (cs := []) (as := [r]) nofun (by simpa using hg) (.inr List.mem_cons_self)
      (fun _ => .inl)
  case begin old new =>
    -- nothing is marked or written yet; the root is queued
    obtain ⟨⟨-, hn⟩, rfl⟩ := h
    obtain ⟨hC, hR, -⟩ := hi
    exact ⟨hC, hR, nofun, fun _ => ⟨nofun, nofun, nofun,
      List.forall_mem_cons.mpr ⟨hR, hn⟩, .inr (.inl List.mem_cons_self), nofun⟩, nofun, nofun⟩
  -- a mark step empties a queue that `M` covers (`okMark`), `toNewGen` moves one queue into the other
  case markOld M =>
    obtain ⟨⟨hp, -, hM, hMc⟩, rfl⟩ := h
    exact hi.collect (by simp [hp]) hM hMc (fun a => by grind [Live]) nofun nofun
  case toNewGen =>
    obtain ⟨hp, rfl⟩ := h
    exact hi.collect (M := []) (by simp [hp]) nofun nofun (fun a => by grind [Live]) nofun nofun
  case markNew M =>
    obtain ⟨⟨hp, hS, hM, hMc⟩, rfl⟩ := h
    exact hi.collect (by simp [hp]) hM hMc (fun a => by grind [Live]) (fun _ => rfl) nofun
  case drain M =>
    obtain ⟨⟨hp, hS, hM, hMc⟩, rfl⟩ := h
    exact hi.collect (by simp [hp]) hM hMc (fun a => by grind [Live]) hi.pendingNew_nil (fun _ => rfl)
  case finalize M =>
    obtain ⟨⟨hp, hS, hM, hMc⟩, rfl⟩ := h
    exact hi.collect (by simp [hp]) hM hMc (fun a => by grind [Live])
      (fun _ => hi.pendingNew_nil (.inl hp)) (fun _ => rfl)
  case swap E =>
    -- both queues are empty, so what is live is marked
    obtain ⟨⟨⟨hp, -⟩, hEc⟩, rfl⟩ := h
    obtain ⟨-, -, -, hY, hP, hN⟩ := hi
    obtain ⟨-, hmc, -, -, hr, hw⟩ := hY (by simp [hp])
    have live {a} (h : Live s a) : a ∈ s.marked ++ E := by
      rw [Live, hP (.inr hp), hN hp] at h
      exact List.mem_append_left E (h.elim id (·.elim nofun nofun))
    exact ⟨closed_append hmc hEc, live hr, fun c hc => live (hw c hc), (absurd rfl ·), nofun, nofun⟩

theorem inv_run {refs : Addr → List Addr} : ∀ (ts : List Step) {s s' : St}, Inv refs s →
    run refs s ts = some s' → Inv refs s'
  | [], _, _, hi, h => Option.some.inj h ▸ hi
  | t :: ts, _, _, hi, h => by
    rw [run] at h
    split at h
    · exact inv_run ts (inv_step t hi ‹_›) h
    · cases h

theorem reach_in {refs : Addr → List Addr} {chunks : List Addr}
    (hc : ∀ a ∈ chunks, ∀ b ∈ refs a, b ∈ chunks) {a b : Addr} (hr : Reach refs a b) :
    a ∈ chunks → b ∈ chunks := by
  induction hr with
  | refl a => exact id
  | step hab _ ih => exact fun ha => ih (hc _ ha _ hab)

end DoltVerif.Gc
