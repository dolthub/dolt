/-
How the outputs of level `n` of `ApplyMutations` become the regions of level `n+1` (`regionsUp`,
`regionsAt`): which old nodes they stand for, that clean regions are unchanged, and that their edited
items are the summaries of the nodes level `n` left (C12; C11 through `MutContent`).
-/
import DoltVerif.Lemmas.LeafRegions
import DoltVerif.Lemmas.Roots
namespace DoltVerif.Prolly

section
variable {σ κ ν : Type}

theorem children_eq (n : Nat) (nds : List (NodeH κ ν (n+1))) :
    children n nds = (nds.flatten).map childOf := by
  unfold children
  induction nds with
  | nil => rfl
  | cons nd rest ih => simp [List.flatMap_cons, ih]

theorem children_lvl [Inhabited κ] (C : Cfg σ κ ν) (n : Nat) (X : List (κ × ν)) :
    children n (lvl C (n+1) X) = lvl C n X := by
  rw [children_eq]
  show List.map childOf ((C (n+1)).chunk ((lvl C n X).map (summary n))).flatten = _
  rw [LevelCfg.chunk_flatten, List.map_map]
  have : (childOf ∘ summary n : NodeH κ ν n → NodeH κ ν n) = id := by funext c; rfl
  rw [this, List.map_id]

end

variable {σ α κ ν : Type}

theorem sound_of_canon (L : LevelCfg σ α) : ∀ (rs : List (Region α)),
    L.Canon (rs.map (·.old)) → CleanUnchanged rs → L.Sound rs
  | [], _, _ => trivial
  | [r], hc, hu => fun hd => ⟨hu r (by simp) hd, hc⟩
  | r :: r' :: rs, hc, hu => by
    have hc' : L.Closed r.old ∧ L.Canon ((r' :: rs).map (·.old)) := hc
    exact ⟨fun hd => ⟨hu r (by simp) hd, hc'.1⟩,
      sound_of_canon L (r' :: rs) hc'.2 (fun x hx => hu x (by simp [hx]))⟩

variable [Inhabited κ]

/-- per child slot, the parent level sees the summaries of what the child level left there -/
theorem LevelCfg.Run.zip_summary {n : Nat} {L : LevelCfg σ (ItemH κ ν n)} {st : St σ (ItemH κ ν n)}
    {rs : List (Region (ItemH κ ν n))} {outs : List (Out (ItemH κ ν n))} (h : L.Run st rs outs) :
    ((rs.map (fun r => summary n r.old)).zip outs).flatMap (slotItems n) = (outs.flatMap Out.chunks).map (summary n) := by
  induction h with
  | nil => rfl
  | reused _ _ _ ih =>
    rw [List.map_cons, List.zip_cons_cons, List.flatMap_cons, ih, List.flatMap_cons, List.map_append]; rfl
  | last => simp [slotItems, Out.chunks]
  | fresh _ _ _ ih =>
    rw [List.map_cons, List.zip_cons_cons, List.flatMap_cons, ih, List.flatMap_cons, List.map_append]; rfl

theorem regionsUp_old (n : Nat) : ∀ (nds : List (NodeH κ ν (n+1))) (outs : List (Out (ItemH κ ν n))) (pk : Bool),
    (regionsUp n nds outs pk).map (·.old) = nds
  | [], _, _ => rfl
  | nd :: rest, outs, pk => by
    simp only [regionsUp, List.map_cons, regionsUp_old n rest]

theorem zip_slot_clean (n : Nat) : ∀ (nd : List (ItemH κ ν (n+1))) (mine : List (Out (ItemH κ ν n))),
    mine.length = nd.length → mine.any Out.isFresh = false →
    (nd.zip mine).flatMap (slotItems n) = nd
  | [], _, _, _ => by simp
  | it :: nd, [], h, _ => by simp at h
  | it :: nd, o :: mine, h, hf => by
    simp only [List.any_cons, Bool.or_eq_false_iff] at hf
    simp only [List.zip_cons_cons, List.flatMap_cons]
    rw [zip_slot_clean n nd mine (by simpa using h) hf.2]
    cases o with
    | reused c => simp [slotItems]
    | fresh cs => simp [Out.isFresh] at hf

theorem regionsUp_clean (n : Nat) : ∀ (nds : List (NodeH κ ν (n+1))) (outs : List (Out (ItemH κ ν n))) (pk : Bool),
    nds.flatten.length ≤ outs.length → CleanUnchanged (regionsUp n nds outs pk)
  | [], _, _, _ => by intro r hr; simp [regionsUp] at hr
  | nd :: rest, outs, pk, hlen => by
    have hl : nd.length ≤ outs.length := by
      rw [List.flatten_cons, List.length_append] at hlen; omega
    intro r hr hd
    simp only [regionsUp, List.mem_cons] at hr
    rcases hr with rfl | hr
    · simp only [Bool.or_eq_false_iff] at hd
      exact zip_slot_clean n nd (outs.take nd.length) (by simp [List.length_take]; omega) hd.1
    · exact regionsUp_clean n rest (outs.drop nd.length) _
        (by rw [List.flatten_cons, List.length_append] at hlen; rw [List.length_drop]; omega) r hr hd

theorem regionsUp_new (n : Nat) : ∀ (nds : List (NodeH κ ν (n+1))) (outs : List (Out (ItemH κ ν n))) (pk : Bool),
    nds.flatten.length ≤ outs.length →
    (regionsUp n nds outs pk).flatMap (·.new) = (nds.flatten.zip outs).flatMap (slotItems n)
  | [], _, _, _ => rfl
  | nd :: rest, outs, pk, hlen => by
    have hl : nd.length ≤ outs.length := by
      rw [List.flatten_cons, List.length_append] at hlen; omega
    have hsplit : outs = outs.take nd.length ++ outs.drop nd.length := (List.take_append_drop _ _).symm
    simp only [regionsUp, List.flatMap_cons, List.flatten_cons]
    rw [regionsUp_new n rest (outs.drop nd.length) _
      (by rw [List.flatten_cons, List.length_append] at hlen; rw [List.length_drop]; omega)]
    conv => rhs; rw [hsplit]
    rw [List.zip_append (by simp [List.length_take]; omega), List.flatMap_append]


section
variable [BEq κ] [BEq ν]

theorem regionsAt_old (C : Cfg σ κ ν) (cmp : κ → κ → Ordering) : ∀ (n : Nat) (nds : List (NodeH κ ν n))
    (es : SortedDict.Edits κ ν), (regionsAt C cmp n nds es).map (·.old) = nds
  | 0, nds, es => leafRegions_old cmp nds es false true
  | n+1, nds, _ => regionsUp_old n nds _ true

theorem mem_regionsAt_old (C : Cfg σ κ ν) (cmp : κ → κ → Ordering) (n : Nat) (nds : List (NodeH κ ν n))
    (es : SortedDict.Edits κ ν) {r : Region (ItemH κ ν n)} (hr : r ∈ regionsAt C cmp n nds es) : r.old ∈ nds := by
  rw [← regionsAt_old C cmp n nds es]; exact List.mem_map.mpr ⟨r, hr, rfl⟩

theorem incr_regionsAt_length (C : Cfg σ κ ν) (cmp : κ → κ → Ordering) (n : Nat) (nds : List (NodeH κ ν (n+1)))
    (es : SortedDict.Edits κ ν) (st : St σ (ItemH κ ν n)) :
    ((C n).incr st (regionsAt C cmp n (children n nds) es)).length = nds.flatten.length := by
  have := congrArg List.length (regionsAt_old C cmp n (children n nds) es)
  rw [List.length_map] at this
  rw [((C n).incr_run _ st).length, this, children_eq, List.length_map]

theorem regionsAt_succ_clean (C : Cfg σ κ ν) (cmp : κ → κ → Ordering) (n : Nat) (nds : List (NodeH κ ν (n+1)))
    (es : SortedDict.Edits κ ν) : CleanUnchanged (regionsAt C cmp (n+1) nds es) :=
  regionsUp_clean n nds _ true (Nat.le_of_eq (incr_regionsAt_length C cmp n nds es _).symm)

/-- `hsum` holds in every well-formed tree (`WFNode.eq_summary`) -/
theorem regionsAt_succ_new (C : Cfg σ κ ν) (cmp : κ → κ → Ordering) (n : Nat) (nds : List (NodeH κ ν (n+1)))
    (es : SortedDict.Edits κ ν) (hsum : ∀ it ∈ nds.flatten, it = summary n (childOf it)) :
    (regionsAt C cmp (n+1) nds es).flatMap (·.new)
      = (((C n).incr (C n).fresh (regionsAt C cmp n (children n nds) es)).flatMap Out.chunks).map (summary n) := by
  have hslots : (regionsAt C cmp n (children n nds) es).map (fun r => summary n r.old) = nds.flatten := by
    have h : ((regionsAt C cmp n (children n nds) es).map (·.old)).map (summary n)
        = (nds.flatten.map childOf).map (summary n) := by rw [regionsAt_old, children_eq]
    rw [List.map_map, List.map_map] at h
    exact h.trans ((List.map_congr_left (fun it hit => (hsum it hit).symm)).trans (List.map_id' _))
  have hnew : (regionsAt C cmp (n+1) nds es).flatMap (·.new) = _ :=
    regionsUp_new n nds _ true (Nat.le_of_eq (incr_regionsAt_length C cmp n nds es _).symm)
  rw [hnew, ← hslots]
  exact ((C n).incr_run _ (C n).fresh).zip_summary

end

end DoltVerif.Prolly
