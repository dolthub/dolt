import DoltVerif.Model.Ignore
/-! For C46 (dolt_ignore): the declarative meaning `Den` of a pattern, its agreement with the direct matcher and
with `normalizePattern`, how denotations compose and count newlines; root lookups after put / remove / moveTables /
filter; the skeleton `stageWith` that staging has on plain roots and on roots with identities alike. -/
namespace DoltVerif.Ignore

/-- Declarative meaning of a pattern (`q` = the class a `?` stands for): a `*`/`%` stands for any
run of non-newline characters, a `?` for one character of class `q`, anything else for itself. -/
inductive Den (q : Char → Bool) : Str → Str → Prop
  | nil : Den q [] []
  | star {p : Char} {ps w s : Str} : isStar p = true → (∀ c ∈ w, dotOk c = true) → Den q ps s →
      Den q (p :: ps) (w ++ s)
  | one {p c : Char} {ps s : Str} : isStar p = false → charOk q p c = true → Den q ps s →
      Den q (p :: ps) (c :: s)

theorem dotOk_iff {c : Char} : dotOk c = true ↔ c ≠ '\n' := by simp [dotOk]

theorem isStar_iff {c : Char} : isStar c = true ↔ c = '*' ∨ c = '%' := by simp [isStar]

theorem isStar_star : isStar '*' = true := rfl
theorem isStar_pct : isStar '%' = true := rfl

theorem qOk_not_star {c : Char} (h : qOk c = true) : isStar c = false := by
  simp only [qOk, Bool.and_eq_true, bne_iff_ne] at h
  simp [isStar, h.1, h.2]

theorem charOk_cases {q : Char → Bool} {p c : Char} (h : charOk q p c = true) :
    (p = '?' ∧ q c = true) ∨ (p ≠ '?' ∧ c = p) := by
  unfold charOk at h
  split at h
  · rename_i hp; exact .inl ⟨by simpa using hp, h⟩
  · rename_i hp; exact .inr ⟨by simpa using hp, by simpa using h⟩

theorem charOk_self {q : Char → Bool} {p : Char} (hp : p ≠ '?') : charOk q p p = true := by
  simp [charOk, hp]

theorem starLoop_elim {k : Str → Bool} : ∀ {s : Str}, starLoop k s = true →
    ∃ w s', s = w ++ s' ∧ (∀ c ∈ w, dotOk c = true) ∧ k s' = true
  | [], h => ⟨[], [], rfl, List.forall_mem_nil _, h⟩
  | c :: cs, h => by
    simp only [starLoop, Bool.or_eq_true, Bool.and_eq_true] at h
    rcases h with h | ⟨hc, h⟩
    · exact ⟨[], c :: cs, rfl, List.forall_mem_nil _, h⟩
    · obtain ⟨w, s', rfl, hw, hk⟩ := starLoop_elim h
      exact ⟨c :: w, s', rfl, List.forall_mem_cons.mpr ⟨hc, hw⟩, hk⟩

theorem starLoop_intro {k : Str → Bool} : ∀ (w : Str) {s : Str}, (∀ c ∈ w, dotOk c = true) →
    k s = true → starLoop k (w ++ s) = true
  | [], [], _, hk => hk
  | [], c :: cs, _, hk => by rw [List.nil_append, starLoop, hk, Bool.true_or]
  | c :: w, s, hw, hk => by
    obtain ⟨hc, hw⟩ := List.forall_mem_cons.mp hw
    rw [List.cons_append, starLoop, hc, starLoop_intro w hw hk, Bool.and_self, Bool.or_true]

theorem den_of_match {q : Char → Bool} : ∀ {p s : Str}, matchWith q p s = true → Den q p s
  | [], [], _ => .nil
  | [], _ :: _, h => by cases h
  | p :: ps, s, h => by
    unfold matchWith at h
    split at h
    · rename_i hp
      obtain ⟨w, s', rfl, hw, hk⟩ := starLoop_elim h
      exact .star hp hw (den_of_match hk)
    · rename_i hp
      cases s with
      | nil => cases h
      | cons c cs =>
        rw [Bool.and_eq_true] at h
        exact .one (by simpa using hp) h.1 (den_of_match h.2)

theorem match_of_den {q : Char → Bool} {p s : Str} (h : Den q p s) : matchWith q p s = true := by
  induction h with
  | nil => rfl
  | star hp hw _ ih => unfold matchWith; rw [if_pos hp]; exact starLoop_intro _ hw ih
  | one hp hc _ ih => simp [matchWith, hp, hc, ih]

theorem match_iff_den {q : Char → Bool} {p s : Str} : matchWith q p s = true ↔ Den q p s :=
  ⟨den_of_match, match_of_den⟩

theorem den_nil_inv {q : Char → Bool} {s : Str} (h : Den q [] s) : s = [] := by
  cases h; rfl

theorem den_cons_inv {q : Char → Bool} {p : Char} {ps s : Str} (h : Den q (p :: ps) s) :
    (isStar p = true ∧ ∃ w s', s = w ++ s' ∧ (∀ c ∈ w, dotOk c = true) ∧ Den q ps s') ∨
    (isStar p = false ∧ ∃ c s', s = c :: s' ∧ charOk q p c = true ∧ Den q ps s') := by
  cases h with
  | star hp hw h => exact .inl ⟨hp, _, _, rfl, hw, h⟩
  | one hp hc h => exact .inr ⟨hp, _, _, rfl, hc, h⟩

theorem den_append_split {q : Char → Bool} : ∀ {a b s : Str}, Den q (a ++ b) s →
    ∃ s1 s2, s = s1 ++ s2 ∧ Den q a s1 ∧ Den q b s2
  | [], b, s, h => ⟨[], s, rfl, .nil, h⟩
  | p :: a, b, s, h => by
    rcases den_cons_inv (ps := a ++ b) h with ⟨hp, w, s', rfl, hw, h'⟩ | ⟨hp, c, s', rfl, hc, h'⟩
    · obtain ⟨s1, s2, rfl, h1, h2⟩ := den_append_split h'
      exact ⟨w ++ s1, s2, (List.append_assoc ..).symm, .star hp hw h1, h2⟩
    · obtain ⟨s1, s2, rfl, h1, h2⟩ := den_append_split h'
      exact ⟨c :: s1, s2, rfl, .one hp hc h1, h2⟩

def nl (s : Str) : Nat := s.count '\n'

theorem nl_cons (c : Char) (s : Str) : nl (c :: s) = nl s + if c == '\n' then 1 else 0 :=
  List.count_cons

theorem nl_cons_of_dotOk {c : Char} (h : dotOk c = true) (s : Str) : nl (c :: s) = nl s :=
  List.count_cons_of_ne (dotOk_iff.mp h)

theorem nl_eq_zero {w : Str} : nl w = 0 ↔ ∀ c ∈ w, dotOk c = true :=
  List.count_eq_zero.trans
    ⟨fun h _ hc => dotOk_iff.mpr fun e => h (e ▸ hc), fun h hm => dotOk_iff.mp (h _ hm) rfl⟩

theorem nl_append_of_dotOk {w : Str} (h : ∀ c ∈ w, dotOk c = true) (s : Str) : nl (w ++ s) = nl s :=
  calc nl (w ++ s) = nl w + nl s := List.count_append
    _ = nl s := by rw [nl_eq_zero.mpr h, Nat.zero_add]

theorem dotOk_of_isStar {p : Char} (h : isStar p = true) : dotOk p = true := by
  rcases isStar_iff.mp h with rfl | rfl <;> rfl

theorem nl_q (ps : Str) : nl ('?' :: ps) = nl ps := nl_cons_of_dotOk rfl ps

theorem nl_le_of_den {q : Char → Bool} {p s : Str} (h : Den q p s) : nl p ≤ nl s := by
  induction h with
  | nil => exact Nat.le_refl _
  | star hp hw _ ih => rw [nl_cons_of_dotOk (dotOk_of_isStar hp), nl_append_of_dotOk hw]; exact ih
  | @one p c ps s _ hc _ ih =>
    rcases charOk_cases hc with ⟨rfl, _⟩ | ⟨_, rfl⟩
    · rw [nl_q, nl_cons]; omega
    · rw [nl_cons, nl_cons]; omega

theorem nl_of_den {p s : Str} (h : Den dotOk p s) : nl s = nl p := by
  induction h with
  | nil => rfl
  | star hp hw _ ih => rw [nl_cons_of_dotOk (dotOk_of_isStar hp), nl_append_of_dotOk hw]; exact ih
  | @one p c ps s _ hc _ ih =>
    rcases charOk_cases hc with ⟨rfl, h⟩ | ⟨_, rfl⟩
    · rw [nl_q, nl_cons_of_dotOk h]; exact ih
    · rw [nl_cons, nl_cons, ih]

theorem den_dotOk {p s : Str} (h : Den dotOk p s) (hp : ∀ c ∈ p, dotOk c = true) :
    ∀ c ∈ s, dotOk c = true :=
  nl_eq_zero.mp ((nl_of_den h).trans (nl_eq_zero.mpr hp))

/-- **Refinement composes.**  `Den q p cand` reads `p` as a pattern over pattern TEXT: a `*` of `p` that covers
the stretch `w` of `cand` covers whatever `w` matches, a `?` of `p` sits on a `?` or on a literal that is not a
newline, a literal sits on itself. -/
theorem den_trans {q : Char → Bool} (hq : ∀ c, q c = true → isStar c = false ∧ dotOk c = true)
    {p cand : Str} (h : Den q p cand) : ∀ {s : Str}, Den dotOk cand s → Den dotOk p s := by
  induction h with
  | nil => intro s hs; rw [den_nil_inv hs]; exact .nil
  | star hp hw _ ih =>
    intro s hs
    obtain ⟨s1, s2, rfl, h1, h2⟩ := den_append_split hs
    exact .star hp (den_dotOk h1 hw) (ih h2)
  | @one p c _ _ hp hc _ ih =>
    intro s hs
    have hcs : isStar c = false := by
      rcases charOk_cases hc with ⟨_, h⟩ | ⟨_, rfl⟩
      · exact (hq c h).1
      · exact hp
    rcases den_cons_inv hs with ⟨hstar, _⟩ | ⟨_, d, s', rfl, hd, h'⟩
    · rw [hcs] at hstar; cases hstar
    · refine .one hp ?_ (ih h')
      rcases charOk_cases hc with ⟨rfl, h⟩ | ⟨_, rfl⟩
      · rcases charOk_cases hd with ⟨_, h'⟩ | ⟨_, rfl⟩
        · exact h'
        · exact (hq d h).2
      · exact hd

theorem den_strict {q : Char → Bool} {p s : Str} (h : Den q p s) (hn : nl s ≤ nl p) :
    Den (fun c => q c && dotOk c) p s := by
  induction h with
  | nil => exact .nil
  | star hp hw _ ih =>
    rw [nl_cons_of_dotOk (dotOk_of_isStar hp), nl_append_of_dotOk hw] at hn
    exact .star hp hw (ih hn)
  | @one p c ps s hp hc hden ih =>
    have hle := nl_le_of_den hden
    rcases charOk_cases hc with ⟨rfl, h⟩ | ⟨_, rfl⟩
    · rw [nl_q] at hn
      cases hc' : dotOk c with
      | false =>
        -- a `?` on a newline: the string would have one newline more than the pattern
        obtain rfl : c = '\n' := by simpa [dotOk] using hc'
        simp [nl_cons] at hn; omega
      | true =>
        rw [nl_cons_of_dotOk hc'] at hn
        exact .one hp (by simp [charOk, h, hc']) (ih hn)
    · rw [nl_cons, nl_cons] at hn
      exact .one hp (charOk_self ‹_›) (ih (by omega))

private theorem den_cons_congr_mp {q : Char → Bool} {p p' : Char} {ps ps' s : Str}
    (hs : isStar p = isStar p') (hc : isStar p = false → p = p')
    (ht : ∀ s, Den q ps s → Den q ps' s) (h : Den q (p :: ps) s) : Den q (p' :: ps') s := by
  rcases den_cons_inv h with ⟨hp, w, s', rfl, hw, h'⟩ | ⟨hp, c, s', rfl, hc', h'⟩
  · exact .star (hs ▸ hp) hw (ht _ h')
  · exact .one (hs ▸ hp) (hc hp ▸ hc') (ht _ h')

theorem den_cons_congr {q : Char → Bool} {p p' : Char} {ps ps' : Str}
    (hs : isStar p = isStar p') (hc : isStar p = false → p = p')
    (ht : ∀ s, Den q ps s ↔ Den q ps' s) (s : Str) : Den q (p :: ps) s ↔ Den q (p' :: ps') s :=
  ⟨den_cons_congr_mp hs hc fun s => (ht s).mp,
   den_cons_congr_mp hs.symm (fun h => (hc (hs ▸ h)).symm) fun s => (ht s).mpr⟩

theorem den_starToPct {q : Char → Bool} : ∀ (p s : Str), Den q (starToPct p) s ↔ Den q p s
  | [], _ => Iff.rfl
  | c :: p, s => by
    refine den_cons_congr (p := if c == '*' then '%' else c) ?_ ?_ (den_starToPct p) s
    · split
      · rename_i hc; rw [show c = '*' by simpa using hc]; rfl
      · rfl
    · split
      · intro h; cases h
      · intro _; rfl

theorem den_pct_pct {q : Char → Bool} {r s : Str} : Den q ('%' :: '%' :: r) s ↔ Den q ('%' :: r) s := by
  constructor
  · intro h
    rcases den_cons_inv h with ⟨_, w, s', rfl, hw, h'⟩ | ⟨hp, _⟩
    · rcases den_cons_inv h' with ⟨_, w2, s2, rfl, hw2, h2⟩ | ⟨hp, _⟩
      · rw [← List.append_assoc]
        refine .star isStar_pct (fun c hc => ?_) h2
        exact (List.mem_append.mp hc).elim (hw c) (hw2 c)
      · cases hp
    · cases hp
  · exact .star (w := []) isStar_pct (List.forall_mem_nil _)

theorem den_collapse {q : Char → Bool} (p s : Str) : Den q (collapse p) s ↔ Den q p s := by
  fun_induction collapse p generalizing s with
  | case1 => exact Iff.rfl
  | case2 c rest hc ih =>
    -- `%` before `%`: dropped
    rw [ih]
    simp only [Bool.and_eq_true, beq_iff_eq] at hc
    obtain ⟨rfl, hr⟩ := hc
    cases rest with
    | nil => cases hr
    | cons d r =>
      cases Option.some.inj hr
      exact den_pct_pct.symm
  | case3 c rest hc ih => exact den_cons_congr rfl (fun _ => rfl) ih s

theorem den_normalize {q : Char → Bool} {p s : Str} : Den q (normalize p) s ↔ Den q p s :=
  (den_collapse _ s).trans (den_starToPct p s)

theorem dedup_length_le : ∀ l : List Str, (dedup l).length ≤ l.length
  | [] => Nat.le_refl _
  | x :: xs => by
    have := dedup_length_le xs
    unfold dedup
    split <;> simp only [List.length_cons] <;> omega

theorem dedup_nodup : ∀ {l : List Str}, l.Nodup → dedup l = l
  | [], _ => rfl
  | x :: xs, h => by
    obtain ⟨hx, hxs⟩ := List.nodup_cons.mp h
    simp [dedup, hx, dedup_nodup hxs]

/-- the map-size test of `resolveConflictingPatterns`: for a duplicate-free slice, "the map of removed patterns
is as large as the slice" means every pattern was removed -/
theorem dedup_filter_full {l : List Str} (h : l.Nodup) (P : Str → Bool) :
    ((dedup (l.filter P)).length == l.length) = true ↔ ∀ x ∈ l, P x = true := by
  rw [dedup_nodup (h.sublist List.filter_sublist), beq_iff_eq, List.length_filter_eq_length_iff]

theorem get?_cons (e : Entry) (r : Root) (m : Str) :
    Root.get? (e :: r) m = if e.name = m then some e.content else r.get? m := by
  simp [Root.get?]

theorem get?_eq_find? (n : Str) : ∀ r : Root, r.get? n = (r.find? (·.name == n)).map (·.content)
  | [] => rfl
  | e :: r => by
    rw [Root.get?, List.find?_cons, get?_eq_find? n r]
    cases e.name == n <;> rfl

theorem find?_filter_key {α : Type} (key : α → Str) (P : Str → Bool) (m : Str) (l : List α) :
    (l.filter fun e => P (key e)).find? (fun e => key e == m) =
      if P m = true then l.find? (fun e => key e == m) else none := by
  rw [List.find?_filter]
  split
  · rename_i h
    refine congrArg (List.find? · l) (funext fun e => ?_)
    cases he : key e == m
    · exact decide_eq_false fun h' => Bool.false_ne_true h'.2
    · exact decide_eq_true ⟨eq_of_beq he ▸ h, rfl⟩
  · rename_i h
    refine List.find?_eq_none.mpr fun e _ he => ?_
    obtain ⟨hp, hk⟩ := of_decide_eq_true he
    exact h (eq_of_beq hk ▸ hp)

theorem get?_filter (P : Str → Bool) (m : Str) (r : Root) :
    Root.get? (r.filter (fun e => P e.name)) m = if P m = true then r.get? m else none := by
  rw [get?_eq_find?, find?_filter_key Entry.name, get?_eq_find?]; split <;> rfl

theorem get?_filter_names (w : Root) (u : List Str) (m : Str) :
    Root.get? (w.filter (fun e => !u.contains e.name)) m = if m ∈ u then none else w.get? m := by
  rw [get?_filter (fun n => !u.contains n)]
  by_cases hm : m ∈ u <;> simp [hm]

theorem get?_remove (r : Root) (n m : Str) :
    (r.remove n).get? m = if n = m then none else r.get? m := by
  rw [Root.remove, get?_filter (fun x => !(x == n))]
  by_cases h : n = m
  · simp [h]
  · simp [h, Ne.symm h]

theorem get?_put (r : Root) (n m : Str) (c : Nat) :
    (r.put n c).get? m = if n = m then some c else r.get? m := by
  rw [Root.put, get?_cons, get?_remove]
  split <;> rfl

theorem get?_moveTables (w : Root) : ∀ (tbls : List Str) (st : Root) (m : Str),
    (moveTables tbls w st).get? m = if m ∈ tbls then w.get? m else st.get? m
  | [], st, m => by simp [moveTables]
  | t :: ts, st, m => by
    have ih := get?_moveTables w ts
    unfold moveTables at ih ⊢
    rw [List.foldl_cons, ih]
    by_cases hm : m ∈ ts
    · simp [hm]
    · rw [if_neg hm]
      cases hw : w.get? t with
      | none => rw [get?_remove]; by_cases htm : t = m <;> simp [hm, htm, ← hw, Ne.symm]
      | some c => rw [get?_put]; by_cases htm : t = m <;> simp [hm, htm, ← hw, Ne.symm]

theorem has_iff_get? (r : Root) (n : Str) : r.has n = true ↔ r.get? n ≠ none :=
  Option.isSome_iff_ne_none

theorem get?_none_of_not_has {r : Root} {n : Str} (h : ¬ r.has n = true) : r.get? n = none :=
  Option.not_isSome_iff_eq_none.mp h

theorem mem_names_iff_has (r : Root) (n : Str) : n ∈ r.names ↔ r.has n = true := by
  simp [Root.names, Root.has, get?_eq_find?, List.find?_isSome]

theorem mem_unionNames (a b : Root) (n : Str) :
    n ∈ unionNames a b ↔ (a.has n = true ∨ b.has n = true) := by
  unfold unionNames
  simp only [List.mem_append, List.mem_filter, ← mem_names_iff_has]
  by_cases ha : n ∈ a.names <;> simp [ha]

/-- the search for a table with conflicting patterns that `StageTables` and `CleanUntracked` both start with -/
theorem find?_conflict_cases (ps : List Pat) (l : List Str) :
    (∃ n ∈ l, decideName ps n = .conflict ∧
      l.find? (fun n => decideName ps n == .conflict) = some n) ∨
    ((∀ n ∈ l, decideName ps n ≠ .conflict) ∧
      l.find? (fun n => decideName ps n == .conflict) = none) := by
  cases h : l.find? (fun n => decideName ps n == .conflict) with
  | some n => exact .inl ⟨n, List.mem_of_find?_eq_some h, by simpa using List.find?_some h, rfl⟩
  | none => exact .inr ⟨fun n hn => by simpa using List.find?_eq_none.mp h n hn, rfl⟩

theorem filterForStaging_cases (ps : List Pat) (tbls : List Str) :
    (∃ n ∈ tbls, decideName ps n = .conflict ∧ filterForStaging ps tbls = .error (.conflict n)) ∨
    ((∀ n ∈ tbls, decideName ps n ≠ .conflict) ∧
      filterForStaging ps tbls = .ok (tbls.filter fun n => decideName ps n == .dontIgnore)) := by
  unfold filterForStaging
  rcases find?_conflict_cases ps tbls with ⟨n, hn, hc, he⟩ | ⟨hno, he⟩
  · exact .inl ⟨n, hn, hc, by rw [he]⟩
  · exact .inr ⟨hno, by rw [he]⟩

theorem ok_of_spec {ε α β : Type} {A : Prop} {x : Except ε α} {f : β → ε} {Q : β → Prop}
    {P : α → Prop} (h : (A → ∃ n, x = .error (f n) ∧ Q n) ∧ (¬ A → ∃ a, x = .ok a ∧ P a))
    {a : α} (hx : x = .ok a) : P a := by
  by_cases hA : A
  · obtain ⟨n, he, _⟩ := h.1 hA; rw [he] at hx; cases hx
  · obtain ⟨a', he, hp⟩ := h.2 hA; rw [he] at hx; cases hx; exact hp

theorem clean_ok {respect : Bool} {ps : List Pat} {nonlocal names : List Str} {st w w' : Root}
    (h : clean respect ps nonlocal names st w = .ok w') :
    ∃ cands : List Str, w' = w.filter fun e => !(cands.filter fun n => !st.has n).contains e.name := by
  unfold clean at h
  simp only [bind, Except.bind, pure, Except.pure] at h
  -- all tables (with or without the ignore rules) / named tables: every successful path ends alike
  split at h
  · split at h
    · split at h
      · cases h
      · cases h; exact ⟨_, rfl⟩
    · cases h; exact ⟨_, rfl⟩
  · split at h
    · cases h
    · cases h; exact ⟨_, rfl⟩

theorem validateTables_ok {tbls : List Str} {st w : Root}
    (h : ∀ n ∈ tbls, st.has n = true ∨ w.has n = true) : validateTables tbls st w = .ok () := by
  rw [validateTables, List.find?_eq_none.mpr fun n hn => by rcases h n hn with h | h <;> simp [h]]

/-- the skeleton `stageTables` and `stageTablesR` (roots with identities) share: filter the names
through dolt_ignore unless forced, validate them (`v`), move them (`mv`).  By definition
`stageTables force ps tbls st w = stageWith (validateTables · st w) (moveTables · w st) force ps tbls`,
and `stageTablesR` likewise with `validateTablesT`, `moveTablesR`. -/
def stageWith {ρ : Type} (v : List Str → Except Err Unit) (mv : List Str → ρ) (force : Bool)
    (ps : List Pat) (tbls : List Str) : Except Err ρ := do
  let t ← if force then pure tbls else filterForStaging ps tbls
  v t
  pure (mv t)

theorem stageWith_spec {ρ : Type} (ps : List Pat) (tbls : List Str) {v : List Str → Except Err Unit}
    (mv : List Str → ρ) (hv : v (tbls.filter fun n => decideName ps n == .dontIgnore) = .ok ()) :
    ((∃ n ∈ tbls, decideName ps n = .conflict) →
      ∃ n ∈ tbls, decideName ps n = .conflict ∧ stageWith v mv false ps tbls = .error (.conflict n)) ∧
    ((∀ n ∈ tbls, decideName ps n ≠ .conflict) →
      stageWith v mv false ps tbls = .ok (mv (tbls.filter fun n => decideName ps n == .dontIgnore))) := by
  rcases filterForStaging_cases ps tbls with ⟨n, hn, hc, he⟩ | ⟨hno, he⟩
  · exact ⟨fun _ => ⟨n, hn, hc, by simp [stageWith, he, bind, Except.bind]⟩, fun h => absurd hc (h n hn)⟩
  · exact ⟨fun ⟨n, hn, hc⟩ => absurd hc (hno n hn),
      fun _ => by simp [stageWith, he, hv, bind, Except.bind, pure, Except.pure]⟩

theorem stageWith_ok {ρ : Type} {ps : List Pat} {tbls : List Str} {v : List Str → Except Err Unit}
    {mv : List Str → ρ} {r : ρ} (h : stageWith v mv false ps tbls = .ok r) :
    r = mv (tbls.filter fun n => decideName ps n == .dontIgnore) := by
  rcases filterForStaging_cases ps tbls with ⟨n, _, _, he⟩ | ⟨_, he⟩
  · simp [stageWith, he, bind, Except.bind] at h
  · simp only [stageWith, he, Bool.false_eq_true, if_false, bind, Except.bind, pure, Except.pure] at h
    split at h
    · cases h
    · cases h; rfl

theorem stageTables_ok {ps : List Pat} {tbls : List Str} {st w st' : Root}
    (h : stageTables false ps tbls st w = .ok st') :
    st' = moveTables (tbls.filter fun n => decideName ps n == .dontIgnore) w st :=
  stageWith_ok h

end DoltVerif.Ignore
