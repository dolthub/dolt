import DoltVerif.Model.IgnoreRename
import DoltVerif.Lemmas.Ignore
/-! Helper lemmas for the rename-aware staging / clean machine of C46.  What only concerns names is
read off the plain root (`TRoot.plain`) and the lemmas of `Lemmas/Ignore.lean`. -/
namespace DoltVerif.Ignore

theorem getT?_cons (e : TEntry) (r : TRoot) (m : Str) :
    TRoot.get? (e :: r) m = if e.name = m then some (e.tid, e.content) else r.get? m := by
  simp [TRoot.get?]

theorem getT?_eq_find? (n : Str) : ∀ r : TRoot,
    r.get? n = (r.find? (·.name == n)).map fun e => (e.tid, e.content)
  | [] => rfl
  | e :: r => by
    rw [TRoot.get?, List.find?_cons, getT?_eq_find? n r]
    cases e.name == n <;> rfl

theorem plain_get? (r : TRoot) (n : Str) : r.plain.get? n = (r.get? n).map (·.2) := by
  rw [get?_eq_find?, getT?_eq_find?, TRoot.plain, List.find?_map, Option.map_map, Option.map_map]; rfl

theorem plain_has (r : TRoot) (n : Str) : r.plain.has n = r.has n := by
  unfold Root.has TRoot.has; rw [plain_get?]; cases r.get? n <;> rfl

theorem plain_names (r : TRoot) : r.plain.names = r.names := by
  simp [TRoot.plain, Root.names, TRoot.names]

theorem hasT_iff_get? (r : TRoot) (n : Str) : r.has n = true ↔ r.get? n ≠ none :=
  Option.isSome_iff_ne_none

theorem get?_none_of_not_hasT {r : TRoot} {n : Str} (h : r.has n = false) : r.get? n = none :=
  Option.not_isSome_iff_eq_none.mp (Bool.eq_false_iff.mp h)

theorem mem_namesT_iff_has (r : TRoot) (n : Str) : n ∈ r.names ↔ r.has n = true := by
  rw [← plain_names, ← plain_has]; exact mem_names_iff_has _ _

theorem hasT_of_mem {r : TRoot} {e : TEntry} (h : e ∈ r) : r.has e.name = true :=
  (mem_namesT_iff_has ..).mp (List.mem_map.mpr ⟨e, h, rfl⟩)

theorem mem_unionNamesT (a b : TRoot) (n : Str) :
    n ∈ unionNamesT a b ↔ (a.has n = true ∨ b.has n = true) := by
  rw [← plain_has, ← plain_has, ← mem_unionNames, unionNames, unionNamesT, plain_names, plain_names]

theorem get?_filterT (P : Str → Bool) (m : Str) (w : TRoot) :
    TRoot.get? (w.filter (fun e => P e.name)) m = if P m = true then w.get? m else none := by
  rw [getT?_eq_find?, find?_filter_key TEntry.name, getT?_eq_find?]; split <;> rfl

theorem get?_filterMap_names (g : Str → Option (Nat × Nat)) (m : Str) : ∀ ns : List Str,
    TRoot.get? (ns.filterMap (fun n => (g n).map (fun p => (⟨n, p.1, p.2⟩ : TEntry)))) m =
      if m ∈ ns then g m else none
  | [] => by simp [TRoot.get?]
  | n :: ns => by
    have ih := get?_filterMap_names g m ns
    rw [List.filterMap_cons]
    by_cases hm : n = m
    · subst hm
      cases hg : g n with
      | none => simp [ih, hg]
      | some p => simp [getT?_cons]
    · cases hg : g n with
      | none => simp [ih, Ne.symm hm]
      | some p => simp [getT?_cons, ih, hm, Ne.symm hm]

theorem stagedAfter_outside {tbls : List Str} {st w : TRoot} {m : Str}
    (hs : st.has m = false) (hw : w.has m = false) : stagedAfter tbls st w m = none := by
  simp [stagedAfter, hs, hw, get?_none_of_not_hasT hs]

theorem get?_moveTablesR (tbls : List Str) (w st : TRoot) (m : Str) :
    (moveTablesR tbls w st).get? m = stagedAfter tbls st w m := by
  rw [moveTablesR, get?_filterMap_names (stagedAfter tbls st w)]
  split
  · rfl
  · rename_i hm
    rw [mem_unionNamesT, not_or, Bool.not_eq_true, Bool.not_eq_true] at hm
    exact (stagedAfter_outside hm.1 hm.2).symm

theorem validateTablesT_ok {tbls : List Str} {st w : TRoot}
    (h : ∀ n ∈ tbls, st.has n = true ∨ w.has n = true) : validateTablesT tbls st w = .ok () := by
  rw [validateTablesT, List.find?_eq_none.mpr fun n hn => by rcases h n hn with h | h <;> simp [h]]

theorem stageTablesR_ok {ps : List Pat} {tbls : List Str} {st w st' : TRoot}
    (h : stageTablesR false ps tbls st w = .ok st') :
    st' = moveTablesR (tbls.filter fun n => decideName ps n == .dontIgnore) w st :=
  stageWith_ok h

theorem renamedTo_some {st w : TRoot} {old new : Str} (h : renamedTo st w old = some new) :
    st.has old = true ∧ w.has old = false ∧ w.has new = true ∧ st.has new = false := by
  revert h
  fun_cases renamedTo st w old <;> intro h <;> try cases h
  next tid c hg hw =>
    obtain ⟨e, he, rfl⟩ := Option.map_eq_some_iff.mp h
    have := List.mem_filter.mp (List.mem_of_find?_eq_some he)
    exact ⟨by simp [hasT_iff_get?, hg], by simpa using hw, hasT_of_mem this.1, by simpa using this.2⟩

theorem renamedTo_none_of_not_staged {st w : TRoot} {n : Str} (h : st.has n = false) :
    renamedTo st w n = none := by
  simp [renamedTo, get?_none_of_not_hasT h]

theorem renamedTo_none_of_working {st w : TRoot} {n : Str} (h : w.has n = true) :
    renamedTo st w n = none := by
  unfold renamedTo; cases st.get? n <;> simp [h]

end DoltVerif.Ignore
