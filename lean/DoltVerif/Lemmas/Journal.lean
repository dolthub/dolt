import DoltVerif.Model.JournalRec
/-! The journal record codec, for C03 and C04: big-endian fields, the frame `length ++ body ++ crc`, the
two record shapes as frames, and `readJournalRecord` on what the writers emit (`readRecord_encode`).
The checksum is never unfolded, so everything here holds for any checksum function. -/
namespace DoltVerif.Journal

attribute [local irreducible] crc32c

theorem length_be32 (n : Nat) : (be32 n).length = 4 := rfl

theorem length_be64 (n : Nat) : (be64 n).length = 8 := rfl

theorem readU32?_be32 (n : Nat) (h : n < 4294967296) (xs : Bytes) : readU32? (be32 n ++ xs) = some n := by
  simp only [be32, List.cons_append, List.nil_append, readU32?, UInt8.toNat_ofNat', Option.some.injEq, Nat.mod_mod]
  -- base-256 digits: with the divisions nested, `omega` only ever sees the divisor 256
  rw [show n / 65536 = n / 256 / 256 by rw [Nat.div_div_eq_div_mul],
    show n / 16777216 = n / 256 / 256 / 256 by rw [Nat.div_div_eq_div_mul, Nat.div_div_eq_div_mul]]
  have e0 := Nat.div_add_mod n 256
  have e1 := Nat.div_add_mod (n / 256) 256
  have e2 := Nat.div_add_mod (n / 256 / 256) 256
  omega

theorem readU64?_be64 (t : Nat) (ht : t < 18446744073709551616) (rest : Bytes) :
    readU64? (be64 t ++ rest) = some t := by
  have hd : (be32 (t / 4294967296 % 4294967296) ++ (be32 (t % 4294967296) ++ rest)).drop 4 =
      be32 (t % 4294967296) ++ rest := List.drop_left (l₁ := be32 _)
  simp only [readU64?, be64, List.append_assoc, hd, readU32?_be32 _ (Nat.mod_lt _ (by decide))]
  -- the high word needs no reduction: `t < 2^64`
  rw [Nat.mod_eq_of_lt (Nat.div_lt_of_lt_mul (ht : t < 4294967296 * 4294967296)), Nat.div_add_mod']

theorem four_le_length {bs : Bytes} (h : 4 ≤ bs.length) : ∃ a b c d t, bs = a :: b :: c :: d :: t := by
  match bs with
  | a :: b :: c :: d :: t => exact ⟨a, b, c, d, t, rfl⟩
  | [] | [_] | [_, _] | [_, _, _] => simp at h

theorem readU32?_eq_none_iff (bs : Bytes) : readU32? bs = none ↔ bs.length < 4 := by
  match bs with
  | [] | [_] | [_, _] | [_, _, _] => simp [readU32?]
  | _ :: _ :: _ :: _ :: _ => simp [readU32?]

theorem readU32?_lt {bs : Bytes} {n : Nat} (h : readU32? bs = some n) : n < 4294967296 := by
  match bs, h with
  | a :: b :: c :: d :: _, h =>
    cases h
    have := a.toNat_lt; have := b.toNat_lt; have := c.toNat_lt; have := d.toNat_lt
    omega

theorem readU32?_append_of_long (w rest : Bytes) (h : 4 ≤ w.length) : readU32? (w ++ rest) = readU32? w := by
  obtain ⟨a, b, c, d, t, rfl⟩ := four_le_length h
  rfl

theorem validate_append_crc (b : Bytes) (hr : readU32? b = some (b.length + 4)) :
    validate (b ++ be32 (crc32c b).toNat) = .ok () := by
  have h4 : 4 ≤ b.length := by
    refine Nat.le_of_not_lt fun h => ?_
    rw [(readU32?_eq_none_iff b).mpr h] at hr; cases hr
  have hd : (b ++ be32 (crc32c b).toNat).drop b.length = be32 (crc32c b).toNat ++ [] := by
    rw [List.drop_left, List.append_nil]
  have h1 : ¬ b.length + 4 < 4 + 4 := by omega
  have h2 : ¬ b.length + 4 < 4 := by omega
  simp only [validate, lenSz, checksumSz, List.length_append, length_be32, h1, if_false,
    readU32?_append_of_long b _ h4, hr, Nat.lt_irrefl, h2, Nat.add_sub_cancel, hd, List.take_left,
    readU32?_be32 _ (UInt32.toNat_lt _), if_true]

/-- the shape of every journal record -/
def frame (body : Bytes) : Bytes :=
  let b := be32 (body.length + 8) ++ body
  b ++ be32 (crc32c b).toNat

theorem length_frame (body : Bytes) : (frame body).length = body.length + 8 := by
  simp only [frame, List.length_append, length_be32]; omega

theorem readU32?_frame (body rest : Bytes) (h : body.length + 8 < 4294967296) :
    readU32? (frame body ++ rest) = some (body.length + 8) := by
  simp only [frame, List.append_assoc]
  exact readU32?_be32 _ h _

theorem drop_frame (body : Bytes) : ∃ c : Bytes, c.length = 4 ∧ (frame body).drop lenSz = body ++ c :=
  ⟨_, length_be32 _, by
    simp only [frame, List.append_assoc]
    exact List.drop_left (l₁ := be32 _)⟩

theorem validate_frame (body : Bytes) (h : body.length + 8 < 4294967296) : validate (frame body) = .ok () := by
  refine validate_append_crc _ ?_
  rw [readU32?_be32 _ h, List.length_append, length_be32]; congr 1; omega

theorem take_frame_append (body rest : Bytes) : (frame body ++ rest).take (body.length + 8) = frame body := by
  rw [← length_frame body]; exact List.take_left

theorem drop_frame_append (body rest : Bytes) : (frame body ++ rest).drop (body.length + 8) = rest := by
  rw [← length_frame body]; exact List.drop_left

/-- what the writer can produce: 20-byte addresses, lengths that fit the uint32 length field,
a uint64 timestamp -/
def Rec.Fits : Rec → Prop
  | .chunk a p => a.length = 20 ∧ chunkRecSz p.length < 4294967296
  | .root a ts => a.length = 20 ∧ ts < 18446744073709551616

/-- the fields `writeChunkRecord` / `writeRootHashRecord` put between the length and the checksum -/
def Rec.body : Rec → Bytes
  | .chunk a p => [tagKind, UInt8.ofNat kindChunk, tagAddr] ++ a ++ [tagPayload] ++ p
  | .root a ts => [tagKind, UInt8.ofNat kindRoot, tagTimestamp] ++ be64 ts ++ [tagAddr] ++ a

theorem Rec.length_body (r : Rec) (h : r.Fits) : r.body.length + 8 = r.parsed.length := by
  cases r with
  | chunk a p =>
    simp only [Rec.body, Rec.parsed, chunkRecSz, chunkPayloadOff, lenSz, addrSz, checksumSz,
      List.length_append, List.length_cons, List.length_nil, h.1]
    omega
  | root a ts =>
    simp only [Rec.body, Rec.parsed, rootRecSz, lenSz, addrSz, checksumSz, timestampSz,
      List.length_append, List.length_cons, List.length_nil, h.1, length_be64]

theorem Rec.parsed_length_lt (r : Rec) (h : r.Fits) : r.parsed.length < 4294967296 := by
  cases r with
  | chunk a p => exact h.2
  | root a ts => exact (by decide : rootRecSz < 4294967296)

theorem Rec.encode_eq_frame (r : Rec) (h : r.Fits) : r.encode = frame r.body := by
  have hl := (r.length_body h).symm
  cases r with
  | chunk a p =>
    simp only [Rec.encode, encodeChunk, show chunkRecSz p.length = (Rec.chunk a p).body.length + 8 from hl]
    simp only [Rec.body, frame, List.append_assoc, List.cons_append, List.nil_append]
  | root a ts =>
    simp only [Rec.encode, encodeRoot, show rootRecSz = (Rec.root a ts).body.length + 8 from hl]
    simp only [Rec.body, frame, List.append_assoc, List.cons_append, List.nil_append]

theorem Rec.length_encode (r : Rec) (h : r.Fits) : r.encode.length = r.parsed.length := by
  rw [r.encode_eq_frame h, length_frame, r.length_body h]

theorem Rec.length_encode_chunk (a p : Bytes) (h : (Rec.chunk a p).Fits) : (Rec.chunk a p).encode.length = chunkRecSz p.length :=
  Rec.length_encode _ h

theorem Rec.length_encode_root (a : Bytes) (ts : Nat) (h : (Rec.root a ts).Fits) : (Rec.root a ts).encode.length = 40 :=
  Rec.length_encode _ h

theorem Rec.validate_encode (r : Rec) (h : r.Fits) : validate r.encode = .ok () := by
  rw [r.encode_eq_frame h]
  exact validate_frame _ (r.length_body h ▸ r.parsed_length_lt h)

theorem Rec.readU32?_encode (r : Rec) (h : r.Fits) (rest : Bytes) :
    readU32? (r.encode ++ rest) = some r.encode.length := by
  rw [r.length_encode h, r.encode_eq_frame h, ← r.length_body h]
  exact readU32?_frame _ _ (r.length_body h ▸ r.parsed_length_lt h)

theorem isValid_encode (r : Rec) (h : r.Fits) : isValid r.encode = true := by
  rw [isValid, r.validate_encode h]

theorem readFields_done (c : Bytes) (r : Parsed) (hc : c.length ≤ 4) : readFields c r = .ok r := by
  rw [readFields, dif_neg (show ¬ c.length > checksumSz from Nat.not_lt.mpr hc)]

theorem readFields_kind (k : UInt8) (rest : Bytes) (r : Parsed) (h : 3 ≤ rest.length) :
    readFields (tagKind :: k :: rest) r = readFields rest { r with kind := k.toNat } := by
  rw [readFields, dif_pos (show (tagKind :: k :: rest).length > checksumSz from Nat.add_le_add_right h 2)]
  simp only [if_true]

theorem readFields_addr (a rest : Bytes) (r : Parsed) (ha : a.length = 20) :
    readFields (tagAddr :: (a ++ rest)) r = readFields rest { r with addr := a } := by
  have hl : addrSz ≤ (a ++ rest).length := by rw [List.length_append, ha]; exact Nat.le_add_right _ _
  rw [readFields, dif_pos (show (tagAddr :: (a ++ rest)).length > checksumSz from
    Nat.lt_succ_of_le (Nat.le_trans (by decide) hl))]
  simp only [show ¬ tagAddr = tagKind by decide, if_false, if_true, Nat.not_lt.mpr hl,
    List.drop_left' (show a.length = addrSz from ha), List.take_left' (show a.length = addrSz from ha)]

theorem readFields_ts (t : Nat) (rest : Bytes) (r : Parsed) (ht : t < 18446744073709551616) :
    readFields (tagTimestamp :: (be64 t ++ rest)) r = readFields rest { r with ts := some t } := by
  rw [readFields, dif_pos (show (tagTimestamp :: (be64 t ++ rest)).length > checksumSz from
    (by rw [List.length_cons, List.length_append, length_be64]; omega : _ > 4))]
  simp only [show ¬ tagTimestamp = tagKind by decide, show ¬ tagTimestamp = tagAddr by decide, if_false, if_true,
    readU64?_be64 t ht rest, List.drop_left' (show (be64 t).length = timestampSz from rfl)]

theorem readFields_payload (p c : Bytes) (r : Parsed) (hc : c.length = 4) :
    readFields (tagPayload :: (p ++ c)) r = .ok { r with payload := p } := by
  have hsz : (p ++ c).length - checksumSz = p.length := by rw [List.length_append, hc]; rfl
  rw [readFields, dif_pos (show (tagPayload :: (p ++ c)).length > checksumSz from
    (by rw [List.length_cons, List.length_append, hc]; omega : _ > 4))]
  simp only [show ¬ tagPayload = tagKind by decide, show ¬ tagPayload = tagAddr by decide,
    show ¬ tagPayload = tagTimestamp by decide, if_false, if_true, hsz, List.drop_left, List.take_left]
  exact readFields_done c _ (Nat.le_of_eq hc)

theorem readRecord_encode (r : Rec) (h : r.Fits) : readRecord r.encode = .ok r.parsed := by
  have hr := r.readU32?_encode h []
  rw [List.append_nil, r.length_encode h] at hr
  obtain ⟨c, hc, hd⟩ := drop_frame r.body
  rw [readRecord, hr, r.encode_eq_frame h]
  simp only [hd]
  cases r with
  | chunk a p =>
    simp only [Rec.body, List.cons_append, List.nil_append, List.append_assoc]
    rw [readFields_kind _ _ _ (by simp only [List.length_cons, List.length_append]; omega),
      readFields_addr _ _ _ h.1, readFields_payload _ _ _ hc]
    rfl
  | root a ts =>
    simp only [Rec.body, List.cons_append, List.nil_append, List.append_assoc]
    rw [readFields_kind _ _ _ (by simp only [List.length_cons, List.length_append]; omega),
      readFields_ts _ _ _ h.2, readFields_addr _ _ _ h.1, readFields_done _ _ (Nat.le_of_eq hc)]
    rfl

end DoltVerif.Journal
