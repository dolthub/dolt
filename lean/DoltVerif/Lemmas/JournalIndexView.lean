import DoltVerif.Lemmas.JournalScan
/-! For `C04_partial`: the last-wins lookups of bootstrap over appended lists, and the addr16-keyed map loaded
from a faithful index answering like the journal's own ranges for every address nothing aliases.  For the witness
against `C04_full`: `readIndex` on what the index writer encodes (`readLookup_encode` … `readIndex_single`). -/
namespace DoltVerif.Journal

theorem lookupRange_append (xs ys : List RangeEnt) (a : Bytes) :
    lookupRange (xs ++ ys) a = (lookupRange ys a).or (lookupRange xs a) := by
  rw [lookupRange, List.foldl_append]
  -- a last-wins fold started from `acc` is the fold started from `none`, falling back on `acc`
  exact List.foldl_hom (fun o : Option RangeEnt => o.or (lookupRange xs a)) (init := none) fun o e => by split <;> rfl

theorem lastRoot_append (xs ys : List (Nat × Parsed)) :
    lastRoot (xs ++ ys) = (lastRoot ys).or (lastRoot xs) := by
  induction xs with
  | nil => exact Option.or_none.symm
  | cons x xs ih =>
    rw [List.cons_append, lastRoot, ih, lastRoot]
    cases lastRoot ys <;> rfl

/-- no stored address shares its 16-byte prefix with `a` unless it is `a` (DESIGN.md §11(a), on C01, is the
failure of this assumption) -/
def NoAlias (rs : List RangeEnt) (a : Bytes) : Prop := ∀ e ∈ rs, e.addr.take 16 = a.take 16 → e.addr = a

/-- the addr16-keyed map `Boot.get` folds out of the lookups loaded from the index, when these are the
journal's own ranges -/
theorem cached_faithful (rs : List RangeEnt) (a : Bytes) (h : NoAlias rs a) :
    (rs.map toLookup).foldl (fun acc l => if l.a16 = a.take 16 then some (l.off, l.len) else acc) none =
      (lookupRange rs a).map (fun e => (e.off, e.len)) := by
  rw [lookupRange, List.foldl_map]
  refine List.foldl_rel (r := fun c (c' : Option RangeEnt) => c = c'.map fun e => (e.off, e.len)) rfl fun e he c c' hc => ?_
  -- under `NoAlias` the addr16 key matches exactly where the full address does
  by_cases hea : e.addr = a
  · simp only [toLookup, hea, if_true, Option.map_some]
  · have : ¬ e.addr.take 16 = a.take 16 := fun hp => hea (h e he hp)
    simp only [toLookup, this, hea, if_false, hc]

end DoltVerif.Journal

namespace DoltVerif.C04
open DoltVerif.Journal

attribute [local irreducible] crc32c

/-- what the index writer can produce: a 16-byte address prefix, a uint64 offset, a uint32 length -/
def LookupFits (l : Lookup) : Prop := l.a16.length = 16 ∧ l.off < 18446744073709551616 ∧ l.len < 4294967296

/-- a 20-byte root hash, uint64 journal offsets, a uint32 checksum -/
def MetaFits (m : Meta) : Prop :=
  m.root.length = 20 ∧ m.start < 18446744073709551616 ∧ m.stop < 18446744073709551616 ∧ m.crc < 4294967296

/-- `readIndexLookup` inverts `encodeLookup` (after the tag byte) -/
theorem readLookup_encode (l : Lookup) (rest : Bytes) (h : LookupFits l) :
    readLookup (l.a16 ++ (be64 l.off ++ (be32 l.len ++ rest))) = some (l, rest) := by
  obtain ⟨ha, ho, hl⟩ := h
  have e16 : (l.a16 ++ (be64 l.off ++ (be32 l.len ++ rest))).drop 16 = be64 l.off ++ (be32 l.len ++ rest) :=
    List.drop_left' ha
  have e24 : (l.a16 ++ (be64 l.off ++ (be32 l.len ++ rest))).drop 24 = be32 l.len ++ rest := by
    rw [show 24 = 16 + 8 from rfl, ← List.drop_drop, e16, List.drop_left' (length_be64 _)]
  have e28 : (l.a16 ++ (be64 l.off ++ (be32 l.len ++ rest))).drop lookupSz = rest := by
    rw [show lookupSz = 24 + 4 from rfl, ← List.drop_drop, e24, List.drop_left' (length_be32 _)]
  have hlen : ¬ (l.a16 ++ (be64 l.off ++ (be32 l.len ++ rest))).length < lookupSz := by
    simp only [List.length_append, ha, length_be64, length_be32, lookupSz]; omega
  simp only [readLookup, hlen, if_false, e16, e24, e28, List.take_left' ha, readU64?_be64 _ ho, readU32?_be32 _ hl]

/-- `readIndexMeta` inverts `encodeMeta` (after the tag byte) -/
theorem readMeta_encode (m : Meta) (rest : Bytes) (h : MetaFits m) :
    readMeta (be64 m.start ++ (be64 m.stop ++ (be32 m.crc ++ (m.root ++ rest)))) = some (m, rest) := by
  obtain ⟨hr, hs, he, hc⟩ := h
  have e8 : (be64 m.start ++ (be64 m.stop ++ (be32 m.crc ++ (m.root ++ rest)))).drop 8 =
      be64 m.stop ++ (be32 m.crc ++ (m.root ++ rest)) := List.drop_left' (length_be64 _)
  have e16 : (be64 m.start ++ (be64 m.stop ++ (be32 m.crc ++ (m.root ++ rest)))).drop 16 =
      be32 m.crc ++ (m.root ++ rest) := by
    rw [show 16 = 8 + 8 from rfl, ← List.drop_drop, e8, List.drop_left' (length_be64 _)]
  have e20 : (be64 m.start ++ (be64 m.stop ++ (be32 m.crc ++ (m.root ++ rest)))).drop 20 = m.root ++ rest := by
    rw [show 20 = 16 + 4 from rfl, ← List.drop_drop, e16, List.drop_left' (length_be32 _)]
  have e40 : (be64 m.start ++ (be64 m.stop ++ (be32 m.crc ++ (m.root ++ rest)))).drop metaSz = rest := by
    rw [show metaSz = 20 + 20 from rfl, ← List.drop_drop, e20, List.drop_left' hr]
  have hlen : ¬ (be64 m.start ++ (be64 m.stop ++ (be32 m.crc ++ (m.root ++ rest)))).length < metaSz := by
    simp only [List.length_append, hr, length_be64, length_be32, metaSz]; omega
  simp only [readMeta, hlen, if_false, e8, e16, e20, e40, List.take_left' hr, readU64?_be64 _ hs,
    readU64?_be64 _ he, readU32?_be32 _ hc]

theorem peekRoot_root (a : Bytes) (ts : Nat) (h : (Rec.root a ts).Fits) : peekRoot (Rec.root a ts).encode 0 = some a := by
  have hl := Rec.length_encode_root a ts h
  have hr := (Rec.root a ts).readU32?_encode h []
  rw [List.append_nil, hl] at hr
  have ht : (Rec.root a ts).encode.take 40 = (Rec.root a ts).encode := hl ▸ List.take_length
  simp only [peekRoot, List.drop_zero, show rootRecSz = 40 from rfl, ht, hl, Nat.sub_self, zeros,
    List.replicate_zero, List.append_nil, hr, gt_iff_lt, Nat.lt_irrefl, if_false, isValid_encode _ h, if_true,
    Journal.readRecord_encode _ h, Rec.parsed]

theorem parseIdx_nil (j : Bytes) (fuel prev : Nat) (batch : List Lookup) (consumed : Nat) (acc : IdxOk) :
    parseIdx j fuel [] prev batch consumed acc = .ok acc := by
  cases fuel <;> rfl

theorem parseIdx_lookup (j : Bytes) (fuel : Nat) (l : Lookup) (rest : Bytes) (prev : Nat) (batch : List Lookup)
    (consumed : Nat) (acc : IdxOk) (hl : LookupFits l) :
    parseIdx j (fuel + 1) (encodeLookup l ++ rest) prev batch consumed acc =
      parseIdx j fuel rest prev (l :: batch) (consumed + 1 + lookupSz) acc := by
  simp only [encodeLookup, List.append_assoc, List.cons_append, List.nil_append]
  rw [parseIdx]
  simp only [if_true, readLookup_encode l rest hl]

theorem parseIdx_meta (j : Bytes) (fuel : Nat) (m : Meta) (rest : Bytes) (prev : Nat) (batch : List Lookup)
    (consumed : Nat) (acc : IdxOk) (hm : MetaFits m) (hacc : acceptBatch j prev m batch.reverse = .ok ()) :
    parseIdx j (fuel + 1) (encodeMeta m ++ rest) prev batch consumed acc =
      parseIdx j fuel rest m.stop [] 0
        { lookups := acc.lookups ++ batch.reverse, indexed := m.stop, safeOff := acc.safeOff + consumed + 1 + metaSz } := by
  simp only [encodeMeta, List.append_assoc, List.cons_append, List.nil_append]
  rw [parseIdx]
  simp only [show ¬ (idxTagMeta = idxTagLookup) by decide, if_false, if_true, readMeta_encode m rest hm, hacc]

theorem readIndex_single (j : Bytes) (l : Lookup) (m : Meta) (hl : LookupFits l) (hm : MetaFits m)
    (hacc : acceptBatch j 0 m [l] = .ok ()) :
    readIndex j (encodeLookup l ++ (encodeMeta m ++ [])) = .ok ⟨[l], m.stop, 1 + lookupSz + 1 + metaSz⟩ := by
  -- two records need two units of fuel; the index is longer than that
  obtain ⟨n, hn⟩ : ∃ n, (encodeLookup l ++ (encodeMeta m ++ [])).length = n + 1 := ⟨_, rfl⟩
  rw [readIndex, hn, parseIdx_lookup _ _ l _ _ _ _ _ hl, parseIdx_meta _ _ m _ 0 [l] _ _ hm hacc, parseIdx_nil]
  rfl

theorem acceptBatch_of (j : Bytes) (prev : Nat) (m : Meta) (ls : List Lookup) (hc : m.crc = (batchCrc ls).toNat)
    (hs : m.start = prev) (hp : peekRoot j m.stop = some m.root) : acceptBatch j prev m ls = .ok () := by
  simp only [acceptBatch, hc, hs, hp, ne_eq, not_true_eq_false, if_false, if_true]

end DoltVerif.C04
