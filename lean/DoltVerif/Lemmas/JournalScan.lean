import DoltVerif.Model.JournalIndex
import DoltVerif.Lemmas.Journal
/-! The recovery scan and the data-loss check, one step at a time (a valid record at the head, `ValidAt`,
or none), then over a sequence of encoded records and the ranges a replay of them computes.  For C03, C04. -/
namespace DoltVerif.Journal

attribute [local irreducible] crc32c

/-- a record the data-loss check (and the scan) would accept starts at the head of `bs` -/
def ValidAt (B : Nat) (bs : Bytes) : Prop :=
  ∃ sz, readU32? bs = some sz ∧ 0 < sz ∧ sz ≤ B ∧ sz ≤ bs.length ∧ isValid (bs.take sz) = true

/-- no position of `t` starts a CRC-valid record (the hypothesis DESIGN.md calls `NoEmbeddedRecords`) -/
def NoValidRecord (B : Nat) (t : Bytes) : Prop := ∀ i, ¬ ValidAt B (t.drop i)

theorem validAt_iff {B : Nat} {bs : Bytes} {sz : Nat} (hr : readU32? bs = some sz) :
    ValidAt B bs ↔ 0 < sz ∧ sz ≤ B ∧ sz ≤ bs.length ∧ isValid (bs.take sz) = true := by
  simp only [ValidAt, hr, Option.some.injEq, exists_eq_left']

theorem valid_encode_append {B : Nat} (r : Rec) (rest : Bytes) (h : r.Fits) (hB : r.encode.length ≤ B) :
    0 < r.encode.length ∧ r.encode.length ≤ B ∧ r.encode.length ≤ (r.encode ++ rest).length ∧
      isValid ((r.encode ++ rest).take r.encode.length) = true := by
  refine ⟨?_, hB, ?_, ?_⟩
  · rw [r.length_encode h, ← r.length_body h]; omega
  · rw [List.length_append]; omega
  · rw [List.take_left]; exact isValid_encode r h

theorem scan_nil (B : Nat) (kinds : Bool) (off : Nat) : scan B kinds [] off = ⟨[], off, .eof⟩ := by
  rw [scan]; rfl

theorem scan_step {B : Nat} {kinds : Bool} {bs : Bytes} {off l : Nat} (hr : readU32? bs = some l) :
    scan B kinds bs off =
      if 0 < l ∧ l ≤ B ∧ l ≤ bs.length ∧ isValid (bs.take l) = true then
        match readRecord (bs.take l) with
        | .error e => ⟨[], off, .fatal e⟩
        | .ok r =>
          if kinds && !kindKnown r.kind then ⟨[], off, .fatal (.unknownKind r.kind)⟩
          else { scan B kinds (bs.drop l) (off + l) with recs := (off, r) :: (scan B kinds (bs.drop l) (off + l)).recs }
      else ⟨[], off, .recovered⟩ := by
  rw [scan, hr]
  simp only [dite_eq_ite, gt_iff_lt]
  -- the four early exits of the loop are the four ways the head test fails
  by_cases h0 : l = 0
  · rw [if_pos h0, if_neg fun h => Nat.ne_of_gt h.1 h0]
  · by_cases h1 : B < l
    · rw [if_neg h0, if_pos h1, if_neg fun h => Nat.not_le.mpr h1 h.2.1]
    · by_cases h2 : bs.length < l
      · rw [if_neg h0, if_neg h1, if_pos h2, if_neg fun h => Nat.not_le.mpr h2 h.2.2.1]
      · rw [if_neg h0, if_neg h1, if_neg h2]
        by_cases hv : isValid (bs.take l) = true
        · rw [if_pos hv, if_pos ⟨Nat.pos_of_ne_zero h0, Nat.not_lt.mp h1, Nat.not_lt.mp h2, hv⟩]; rfl
        · rw [if_neg hv, if_neg fun h => hv h.2.2.2]

theorem scan_of_not_validAt (B : Nat) (kinds : Bool) (t : Bytes) (off : Nat) (h : ¬ ValidAt B t) :
    scan B kinds t off = ⟨[], off, if t.length < 4 then .eof else .recovered⟩ := by
  cases hr : readU32? t with
  | none => rw [scan, hr, if_pos ((readU32?_eq_none_iff t).mp hr)]
  | some l =>
    have hlen : ¬ t.length < 4 := fun hlt => by rw [(readU32?_eq_none_iff t).mpr hlt] at hr; cases hr
    rw [scan_step hr, if_neg (mt (validAt_iff hr).mpr h), if_neg hlen]

theorem kindKnown_parsed (r : Rec) : kindKnown r.parsed.kind = true := by
  cases r <;> rfl

theorem scan_encode_append (B : Nat) (kinds : Bool) (r : Rec) (rest : Bytes) (off : Nat)
    (h : r.Fits) (hB : r.encode.length ≤ B) :
    scan B kinds (r.encode ++ rest) off =
      { scan B kinds rest (off + r.encode.length) with
        recs := (off, r.parsed) :: (scan B kinds rest (off + r.encode.length)).recs } := by
  rw [scan_step (r.readU32?_encode h rest), if_pos (valid_encode_append r rest h hB)]
  simp only [List.take_left, List.drop_left, readRecord_encode r h, kindKnown_parsed, Bool.not_true,
    Bool.and_false, Bool.false_eq_true, if_false]

theorem scan_off_ge (B : Nat) (kinds : Bool) (g : Bytes) (off : Nat) : off ≤ (scan B kinds g off).off := by
  -- every exit reports the offset it was called with; only an accepted record moves on
  fun_induction scan B kinds g off <;> try exact Nat.le_refl _
  next ih => exact Nat.le_trans (Nat.le_add_right _ _) ih

/-- `B`: the size of the writer's buffer -/
def AllFit (B : Nat) (rs : List Rec) : Prop := ∀ r ∈ rs, r.Fits ∧ r.encode.length ≤ B

/-- offsets at which the records of `rs` start when the first starts at `off` -/
def placed : List Rec → Nat → List (Nat × Parsed)
  | [], _ => []
  | r :: rs, off => (off, r.parsed) :: placed rs (off + r.encode.length)

theorem encAll_cons (r : Rec) (rs : List Rec) : encAll (r :: rs) = r.encode ++ encAll rs := by
  simp [encAll]

theorem encAll_append (xs ys : List Rec) : encAll (xs ++ ys) = encAll xs ++ encAll ys := by
  simp [encAll]

theorem scan_encAll_append (B : Nat) (kinds : Bool) (rs : List Rec) (g : Bytes) (off : Nat) (h : AllFit B rs) :
    scan B kinds (encAll rs ++ g) off =
      { scan B kinds g (off + (encAll rs).length) with
        recs := placed rs off ++ (scan B kinds g (off + (encAll rs).length)).recs } := by
  induction rs generalizing off with
  | nil => simp [encAll, placed]
  | cons r rs ih =>
    obtain ⟨hr, hrs⟩ := List.forall_mem_cons.mp h
    rw [encAll_cons, List.append_assoc, scan_encode_append B kinds r _ off hr.1 hr.2, ih _ hrs]
    simp [placed, Nat.add_assoc]

theorem placed_append (xs ys : List Rec) (off : Nat) :
    placed (xs ++ ys) off = placed xs off ++ placed ys (off + (encAll xs).length) := by
  induction xs generalizing off with
  | nil => simp [placed, encAll]
  | cons r xs ih => simp [placed, ih, encAll_cons, Nat.add_assoc]

theorem rangesOf_append (xs ys : List (Nat × Parsed)) : rangesOf (xs ++ ys) = rangesOf xs ++ rangesOf ys := by
  induction xs with
  | nil => rfl
  | cons x xs ih =>
    obtain ⟨o, r⟩ := x
    simp only [List.cons_append, rangesOf, ih]
    split <;> simp

def toLookup (e : RangeEnt) : Lookup := ⟨e.addr.take 16, e.off, e.len⟩

theorem dlc_short {B : Nat} {bs : Bytes} {fr : Bool} (h : bs.length < rootRecSz) : dlc B bs fr = .ok false := by
  rw [dlc, dif_pos h]

theorem dlc_step {B : Nat} {bs : Bytes} {fr : Bool} {sz : Nat} (h40 : rootRecSz ≤ bs.length)
    (hr : readU32? bs = some sz) :
    dlc B bs fr =
      if 0 < sz ∧ sz ≤ B ∧ sz ≤ bs.length ∧ isValid (bs.take sz) = true then
        match readRecord (bs.take sz) with
        | .error e => .error e
        | .ok r => if fr then .ok true else dlc B (bs.drop sz) (r.kind == kindRoot)
      else dlc B bs.tail fr := by
  rw [dlc, dif_neg (Nat.not_lt.mpr h40), hr]
  simp only [dite_eq_ite]
  rfl

/-- `h40` is the loop bound `idx <= len(buf)-rootHashRecordSize()` -/
theorem dlc_of_not_validAt {B : Nat} {bs : Bytes} {fr : Bool} (h40 : rootRecSz ≤ bs.length) (h : ¬ ValidAt B bs) :
    dlc B bs fr = dlc B bs.tail fr := by
  obtain ⟨a, b, c, d, t, rfl⟩ := four_le_length (bs := bs) (Nat.le_trans (by decide) h40)
  rw [dlc_step h40 rfl, if_neg (mt (validAt_iff rfl).mpr h)]

theorem dlc_of_noValidRecord (B : Nat) (fr : Bool) (t : Bytes) (h : NoValidRecord B t) : dlc B t fr = .ok false := by
  induction t with
  | nil => exact dlc_short (by decide)
  | cons x t ih =>
    by_cases hlen : (x :: t).length < rootRecSz
    · exact dlc_short hlen
    · rw [dlc_of_not_validAt (Nat.not_lt.mp hlen) (h 0)]
      exact ih fun i => h (i + 1)

theorem noValidRecord_nil (B : Nat) : NoValidRecord B [] := by
  intro i ⟨sz, hr, _⟩
  simp [readU32?] at hr

theorem readU32?_zeros (z : Nat) : readU32? (zeros z) = none ∨ readU32? (zeros z) = some 0 := by
  match z with
  | 0 | 1 | 2 | 3 => left; rfl
  | n + 4 => right; simp [zeros, List.replicate_succ, readU32?]

theorem noValidRecord_zeros (B z : Nat) : NoValidRecord B (zeros z) := by
  intro i ⟨sz, hr, hpos, _⟩
  have hz : (zeros z).drop i = zeros (z - i) := by simp [zeros]
  rw [hz] at hr
  rcases readU32?_zeros (z - i) with h | h <;> rw [h] at hr <;> cases hr
  omega

theorem dlc_skip (B : Nat) (fr : Bool) (s : Bytes) (hs : rootRecSz ≤ s.length) (pre : Bytes)
    (h : ∀ i, i < pre.length → ¬ ValidAt B ((pre ++ s).drop i)) : dlc B (pre ++ s) fr = dlc B s fr := by
  induction pre with
  | nil => rfl
  | cons x pre ih =>
    have h0 : ¬ ValidAt B (x :: (pre ++ s)) := h 0 (Nat.zero_lt_succ _)
    rw [List.cons_append, dlc_of_not_validAt (by rw [List.length_cons, List.length_append]; omega) h0]
    exact ih fun i hi => h (i + 1) (Nat.succ_lt_succ hi)

theorem dlc_encode_append (B : Nat) (fr : Bool) (r : Rec) (rest : Bytes) (h : r.Fits) (hB : r.encode.length ≤ B)
    (h40 : rootRecSz ≤ (r.encode ++ rest).length) :
    dlc B (r.encode ++ rest) fr = if fr then .ok true else dlc B rest (r.parsed.kind == kindRoot) := by
  rw [dlc_step h40 (r.readU32?_encode h rest), if_pos (valid_encode_append r rest h hB)]
  simp only [List.take_left, List.drop_left, readRecord_encode r h]

theorem recoverFrom_boundary (B : Nat) (rs : List Rec) (g : Bytes) (h : AllFit B rs) :
    recoverFrom B (encAll rs ++ g) 0 =
      match recoverFrom B (encAll rs ++ g) (encAll rs).length with
      | .ok recs off => .ok (placed rs 0 ++ recs) off
      | o => o := by
  have hs := scan_encAll_append B true rs g 0 h
  rw [Nat.zero_add] at hs
  simp only [recoverFrom, List.drop_zero, List.drop_left, hs]
  cases (scan B true g (encAll rs).length).stop with
  | eof => rfl
  | fatal e => rfl
  | recovered =>
    simp only []
    cases dlc B ((encAll rs ++ g).drop (scan B true g (encAll rs).length).off) false with
    | error e => rfl
    | ok b => cases b <;> rfl

theorem recover_of_not_validAt (B : Nat) (rs : List Rec) (t : Bytes) (h : AllFit B rs) (ht : ¬ ValidAt B t) :
    recover B (encAll rs ++ t) =
      match dlc B t false with
      | .ok true => .dataLoss (encAll rs).length
      | _ => .ok (placed rs 0) (encAll rs).length := by
  rw [recover, recoverFrom_boundary B rs t h]
  simp only [recoverFrom, List.drop_left, scan_of_not_validAt B true t _ ht]
  by_cases hl : t.length < 4
  · rw [dlc_short (Nat.lt_trans hl (by decide))]
    simp only [hl, if_true, List.append_nil]
  · simp only [hl, if_false]
    cases dlc B t false with
    | error e => simp only [List.append_nil]
    | ok b => cases b <;> simp only [List.append_nil]

end DoltVerif.Journal
