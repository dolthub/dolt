import DoltVerif.Model.JournalWindow
import DoltVerif.Lemmas.JournalScan
/-! The windowed loop of `possibleDataLossCheck` equals the whole-suffix scan `dlc`: one step of `dlc` read through a
window (`dlc_append_step`), the loop invariant `Window` with its two moves (bytes consumed, refill), and the paths of `wdlc`. -/
namespace DoltVerif.Journal

attribute [local irreducible] crc32c

theorem dlc_append_step {B : Nat} {w rest : Bytes} {fr : Bool} {sz : Nat} (h40 : rootRecSz ≤ w.length)
    (hr : readU32? w = some sz) (h : 0 < sz ∧ sz ≤ B → sz ≤ w.length ∨ rest = []) :
    dlc B (w ++ rest) fr =
      if 0 < sz ∧ sz ≤ B ∧ sz ≤ w.length ∧ isValid (w.take sz) = true then
        match readRecord (w.take sz) with
        | .error e => .error e
        | .ok r => if fr then .ok true else dlc B (w.drop sz ++ rest) (r.kind == kindRoot)
      else dlc B (w.tail ++ rest) fr := by
  have h4 : 4 ≤ w.length := Nat.le_trans (by decide) h40
  have hle : w.length ≤ (w ++ rest).length := by rw [List.length_append]; exact Nat.le_add_right _ _
  rw [dlc_step (Nat.le_trans h40 hle) ((readU32?_append_of_long w rest h4).trans hr)]
  by_cases hc : 0 < sz ∧ sz ≤ B ∧ sz ≤ w.length ∧ isValid (w.take sz) = true
  · have ht := List.take_append_of_le_length (l₂ := rest) hc.2.2.1
    rw [if_pos hc, if_pos ⟨hc.1, hc.2.1, Nat.le_trans hc.2.2.1 hle, ht ▸ hc.2.2.2⟩, ht,
      List.drop_append_of_le_length hc.2.2.1]
    rfl
  · rw [if_neg hc, List.tail_append_of_ne_nil (by intro hn; rw [hn] at h4; exact absurd h4 (by decide)), if_neg]
    intro hc'
    rcases h ⟨hc'.1, hc'.2.1⟩ with hf | hn
    · exact hc ⟨hc'.1, hc'.2.1, hf, List.take_append_of_le_length (l₂ := rest) hf ▸ hc'.2.2.2⟩
    · rw [hn, List.append_nil] at hc'; exact hc hc'

/-- progress measure: bytes not yet consumed, plus one pending useful refill -/
def wmeasure (W : Nat) (w rest : Bytes) (atEOF : Bool) : Nat :=
  2 * (w.length + rest.length) + (if atEOF = false ∧ w.length < W then 1 else 0)

theorem wmeasure_bounds (W : Nat) (w rest : Bytes) (atEOF : Bool) :
    2 * (w.length + rest.length) ≤ wmeasure W w rest atEOF ∧
      wmeasure W w rest atEOF ≤ 2 * (w.length + rest.length) + 1 := by
  unfold wmeasure; split <;> omega

/-- the loop invariant of `wdlc` with `fuel` iterations left: the window is within its capacity, `atEOF` means the
reader is exhausted, and the fuel exceeds the progress measure -/
structure Window (W fuel : Nat) (w rest : Bytes) (atEOF : Bool) : Prop where
  le : w.length ≤ W
  eof : atEOF = true → rest = []
  fuel : wmeasure W w rest atEOF < fuel

section
variable {W fuel : Nat} {w rest w' rest' : Bytes} {e e' : Bool}

theorem Window.consume (h : Window W (fuel + 1) w rest e) (hlt : w'.length < w.length) : Window W fuel w' rest e where
  le := Nat.le_trans (Nat.le_of_lt hlt) h.le
  eof := h.eof
  fuel := by
    have := h.fuel
    have := (wmeasure_bounds W w' rest e).2
    have := (wmeasure_bounds W w rest e).1
    omega

theorem Window.refill (h : Window W (fuel + 1) w rest false) (hx : refill W w rest = (w', rest', e')) (hlt : w.length < W) :
    Window W fuel w' rest' e' ∧ w' ++ rest' = w ++ rest := by
  cases hx
  have happ : (w ++ rest.take (W - w.length)) ++ rest.drop (W - w.length) = w ++ rest := by
    rw [List.append_assoc, List.take_append_drop]
  -- the read came up short (`atEOF`) or filled the window: no second refill can follow before bytes are consumed
  have hfull : ¬ (decide (rest.length < W - w.length) = false ∧ (w ++ rest.take (W - w.length)).length < W) := by
    rw [decide_eq_false_iff_not, List.length_append, List.length_take]; omega
  refine ⟨⟨?_, fun he => List.drop_eq_nil_of_le (Nat.le_of_lt (of_decide_eq_true he)), ?_⟩, happ⟩
  · rw [List.length_append, List.length_take]; have := h.le; omega
  · have hf := h.fuel
    rw [wmeasure, if_pos ⟨rfl, hlt⟩] at hf
    rw [wmeasure, if_neg hfull, ← List.length_append, happ, List.length_append]
    exact Nat.lt_of_succ_lt_succ hf
end

theorem length_tail_lt {w : Bytes} (h : rootRecSz ≤ w.length) : w.tail.length < w.length := by
  rw [List.length_tail]; exact Nat.sub_lt (Nat.lt_of_lt_of_le (by decide) h) Nat.one_pos

theorem wdlc_eq_dlc (B W : Nat) (h40 : rootRecSz ≤ W) (hB : B ≤ W) (fuel : Nat) (w rest : Bytes) (atEOF fr : Bool)
    (hw : Window W fuel w rest atEOF) : wdlc B W fuel w rest atEOF fr = dlc B (w ++ rest) fr := by
  fun_induction wdlc B W fuel w rest atEOF fr
  next => exact absurd hw.fuel (Nat.not_lt_zero _)
  next hshort => rw [hw.eof rfl, List.append_nil, dlc_short hshort]
  next hshort hE _ _ _ hx ih =>
    -- fewer than a root record left in the window, reader not exhausted
    rw [Bool.not_eq_true] at hE; subst hE
    obtain ⟨hw', happ⟩ := hw.refill hx (Nat.lt_of_lt_of_le hshort h40)
    exact happ ▸ ih hw'
  next hlong hr =>
    exact absurd ((readU32?_eq_none_iff _).mp hr) (Nat.not_lt.mpr (Nat.le_trans (by decide) (Nat.not_lt.mp hlong)))
  -- from here on the window holds a length field `sz`; `dlc_append_step` reads the whole suffix through the window
  next hlong sz hr hrange hfit hv e hrec =>
    rw [dlc_append_step (Nat.not_lt.mp hlong) hr fun _ => .inl hfit, if_pos ⟨hrange.1, hrange.2, hfit, hv⟩, hrec]
  next hlong sz hr hrange hfit hv r hrec =>
    rw [dlc_append_step (Nat.not_lt.mp hlong) hr fun _ => .inl hfit, if_pos ⟨hrange.1, hrange.2, hfit, hv⟩, hrec]; rfl
  next hlong sz hr hrange hfit hv r hrec hfr ih =>
    rw [dlc_append_step (Nat.not_lt.mp hlong) hr fun _ => .inl hfit, if_pos ⟨hrange.1, hrange.2, hfit, hv⟩, hrec]
    rw [Bool.not_eq_true] at hfr; subst hfr
    exact ih (hw.consume (by rw [List.length_drop]; exact Nat.sub_lt (Nat.lt_of_lt_of_le hrange.1 hfit) hrange.1))
  next hlong sz hr hrange hfit hv ih =>
    rw [dlc_append_step (Nat.not_lt.mp hlong) hr fun _ => .inl hfit, if_neg fun hc => hv hc.2.2.2]
    exact ih (hw.consume (length_tail_lt (Nat.not_lt.mp hlong)))
  next hlong sz hr hrange hfit ih =>
    -- at EOF nothing follows the window, so the candidate does not fit the file either
    rw [dlc_append_step (Nat.not_lt.mp hlong) hr fun _ => .inr (hw.eof rfl), if_neg fun hc => hfit hc.2.2.1]
    exact ih (hw.consume (length_tail_lt (Nat.not_lt.mp hlong)))
  next hlong sz hr hrange hfit hE _ _ _ hx ih =>
    -- the candidate does not fit the window but may fit the file: `sz ≤ B ≤ W`, so the window is not full
    rw [Bool.not_eq_true] at hE; subst hE
    obtain ⟨hw', happ⟩ := hw.refill hx (Nat.lt_of_lt_of_le (Nat.not_le.mp hfit) (Nat.le_trans hrange.2 hB))
    exact happ ▸ ih hw'
  next hlong sz hr hrange ih =>
    rw [dlc_append_step (Nat.not_lt.mp hlong) hr fun h => absurd h hrange, if_neg fun hc => hrange ⟨hc.1, hc.2.1⟩]
    exact ih (hw.consume (length_tail_lt (Nat.not_lt.mp hlong)))

theorem windowedDlc_eq_dlc (B : Nat) (hB : 20 ≤ B) (s : Bytes) : windowedDlc B s = dlc B s false := by
  fun_cases windowedDlc B s
  next W w rest e hx =>
    have h0 : Window W (2 * s.length + 3 + 1) [] s false :=
      ⟨Nat.zero_le _, nofun, Nat.lt_of_le_of_lt (wmeasure_bounds W [] s false).2 (by rw [List.length_nil]; omega)⟩
    obtain ⟨hw, happ⟩ := h0.refill hx (show 0 < B * 2 by omega)
    have := wdlc_eq_dlc B W (show 40 ≤ B * 2 by omega) (Nat.le_mul_of_pos_right B (by decide)) _ _ _ _ false hw
    rwa [happ] at this

end DoltVerif.Journal
