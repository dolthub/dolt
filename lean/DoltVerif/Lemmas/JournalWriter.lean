import DoltVerif.Model.JournalWriter
import DoltVerif.Lemmas.JournalScan
/-! The journal writer state machine, for C03 and C04.  One relation, `Adv`, says what a piece of the
writer's work does (stream invariant `Inv`, durable acknowledgements, index lookups = replayed ranges);
it is proved for `flush`, `getBytes` and pushing a record, and composed with `Adv.trans`. -/
namespace DoltVerif.Journal

/-- what must hold on disk at the moment `commitRootHash(r)` returns -/
def AckOk (base : Bytes) (d : Disk) (r : Bytes) : Prop :=
  d.durable = d.file.length ∧ ∃ recs ts, d.file = base ++ encAll (recs ++ [Rec.root r ts])

def acksDurable (base : Bytes) : Disk → List Ev → Prop
  | _, [] => True
  | d, e :: rest =>
    (match e with | .ack r => AckOk base d r | _ => True) ∧ acksDurable base (d.apply e) rest

theorem diskAfter_append (d : Disk) (xs ys : List Ev) : diskAfter d (xs ++ ys) = diskAfter (diskAfter d xs) ys := by
  simp [diskAfter, List.foldl_append]

theorem acksDurable_append (base : Bytes) (xs ys : List Ev) : ∀ d,
    acksDurable base d (xs ++ ys) ↔ acksDurable base d xs ∧ acksDurable base (diskAfter d xs) ys := by
  induction xs with
  | nil => intro d; simp [acksDurable, diskAfter]
  | cons e xs ih =>
    intro d
    simp only [List.cons_append, acksDurable, ih, diskAfter, List.foldl_cons, and_assoc]

/-- no acknowledgement among the events (a Boolean test, so that it holds of a given list by `rfl`) -/
def NoAck (evs : List Ev) : Prop := evs.all (fun e => match e with | .ack _ => false | _ => true) = true

theorem acksDurable_of_noAck (base : Bytes) (evs : List Ev) (h : NoAck evs) : ∀ d, acksDurable base d evs := by
  induction evs with
  | nil => intro d; trivial
  | cons e evs ih =>
    intro d
    rw [NoAck, List.all_cons, Bool.and_eq_true] at h
    refine ⟨?_, ih h.2 _⟩
    cases e with
    | ack r => exact Bool.noConfusion h.1
    | _ => trivial

structure Inv (base : Bytes) (s : WState) (d : Disk) : Prop where
  len : d.file.length = s.off
  stream : d.file ++ s.buf = base ++ encAll s.log

def lookupsOf : List Ev → List Lookup
  | [] => []
  | .idxLookup a o l :: rest => ⟨a, o, l⟩ :: lookupsOf rest
  | _ :: rest => lookupsOf rest

theorem lookupsOf_append (xs ys : List Ev) : lookupsOf (xs ++ ys) = lookupsOf xs ++ lookupsOf ys := by
  induction xs with
  | nil => rfl
  | cons e xs ih => cases e <;> simp [lookupsOf, ih]

theorem payloadOffset_chunk (a p : Bytes) (h : chunkRecSz p.length < 4294967296) :
    (Rec.chunk a p).parsed.payloadOffset = chunkPayloadOff := by
  have hr : chunkRecSz p.length = chunkPayloadOff + (p.length + checksumSz) := Nat.add_assoc _ _ _
  have hlt : p.length + checksumSz < 4294967296 := Nat.lt_of_le_of_lt (hr ▸ Nat.le_add_left _ _) h
  -- the uint32 subtraction does not wrap
  simp only [Rec.parsed, Parsed.payloadOffset, Nat.mod_eq_of_lt hlt, hr]
  rw [Nat.add_right_comm, Nat.add_sub_cancel, Nat.add_mod_right]
  rfl

def OpFits : Op → Prop
  | .chunk _ p => chunkRecSz p.length < 4294967296
  | _ => True

/-- from state `s` over disk `d` to state `s'`, emitting `evs` and appending the records `nl`.
`F` (`OpFits` of the operations) is needed by the lookups only: `payloadOffset` is uint32 arithmetic. -/
structure Adv (F : Prop) (base : Bytes) (s : WState) (d : Disk) (s' : WState) (evs : List Ev) (nl : List Rec) : Prop where
  inv : Inv base s' (diskAfter d evs)
  log : s'.log = s.log ++ nl
  offset : s'.offset = s.offset + (encAll nl).length
  acks : acksDurable base d evs
  lookups : F → lookupsOf evs = (rangesOf (placed nl s.offset)).map toLookup

section
variable {F : Prop} {base : Bytes} {s s' : WState} {d : Disk}

theorem Adv.trans {s1 s2 : WState} {e1 e2 : List Ev} {n1 n2 : List Rec} (a : Adv F base s d s1 e1 n1)
    (b : Adv F base s1 (diskAfter d e1) s2 e2 n2) : Adv F base s d s2 (e1 ++ e2) (n1 ++ n2) where
  inv := by rw [diskAfter_append]; exact b.inv
  log := by rw [b.log, a.log, List.append_assoc]
  offset := by rw [b.offset, a.offset, encAll_append, List.length_append, Nat.add_assoc]
  acks := (acksDurable_append base e1 e2 d).mpr ⟨a.acks, b.acks⟩
  lookups := fun hF => by
    rw [lookupsOf_append, a.lookups hF, b.lookups hF, placed_append, rangesOf_append, List.map_append, a.offset]

theorem Adv.mono {F' : Prop} {evs : List Ev} {nl : List Rec} (hF : F' → F) (a : Adv F base s d s' evs nl) :
    Adv F' base s d s' evs nl :=
  { a with lookups := fun h => a.lookups (hF h) }

theorem Adv.silent (h : Inv base s d) (hoff : s'.off = s.off) (hbuf : s'.buf = s.buf) (hlog : s'.log = s.log)
    {evs : List Ev} (hna : NoAck evs) (hl : lookupsOf evs = []) (hf : (diskAfter d evs).file = d.file) :
    Adv F base s d s' evs [] where
  inv := ⟨by rw [hf, hoff]; exact h.len, by rw [hf, hbuf, hlog]; exact h.stream⟩
  log := by rw [hlog, List.append_nil]
  offset := by rw [WState.offset, WState.offset, hoff, hbuf]; rfl
  acks := acksDurable_of_noAck base evs hna d
  lookups := fun _ => hl

theorem Adv.push (h : Inv base s d) (r : Rec) (hoff : s'.off = s.off) (hbuf : s'.buf = s.buf ++ r.encode)
    (hlog : s'.log = s.log ++ [r]) {evs : List Ev} (hna : NoAck evs) (hf : (diskAfter d evs).file = d.file)
    (hl : F → lookupsOf evs = (rangesOf [(s.offset, r.parsed)]).map toLookup) : Adv F base s d s' evs [r] where
  inv := ⟨by rw [hf, hoff]; exact h.len, by
    rw [hf, hbuf, hlog, ← List.append_assoc, h.stream, encAll_append, List.append_assoc]
    simp [encAll]⟩
  log := hlog
  offset := by
    rw [WState.offset, WState.offset, hoff, hbuf, List.length_append, Nat.add_assoc]; simp [encAll]
  acks := acksDurable_of_noAck base evs hna d
  lookups := hl

theorem disk_write_at_end (d : Disk) (bs : Bytes) : (d.apply (.write d.file.length bs)).file = d.file ++ bs := by
  simp [Disk.apply]

theorem pushRoot_adv (h : Inv base s d) (root : Bytes) :
    Adv F base s d (pushRoot s root) [] [Rec.root root s.clock] :=
  Adv.push (s' := pushRoot s root) h (Rec.root root s.clock) rfl rfl rfl rfl rfl fun _ => rfl

theorem pushChunk_adv (h : Inv base s d) (addr payload : Bytes) :
    Adv (chunkRecSz payload.length < 4294967296) base s d (pushChunk s addr payload)
      [.idxLookup (addr.take 16) (s.offset + chunkPayloadOff) payload.length] [Rec.chunk addr payload] :=
  Adv.push (s' := pushChunk s addr payload) h (Rec.chunk addr payload) rfl rfl rfl
    rfl rfl fun hF => by
      have hp := payloadOffset_chunk addr payload hF
      simp only [Rec.parsed] at hp
      simp only [lookupsOf, rangesOf, toLookup, hp, Rec.parsed, if_true, List.map_cons, List.map_nil]

theorem flush_adv {s1 : WState} {e1 : List Ev} (h : Inv base s d) (hf : flush s = (s1, e1)) :
    Adv F base s d s1 e1 [] ∧ s1.buf = [] := by
  revert hf
  fun_cases flush s <;> intro hf <;> cases hf
  next hb => exact ⟨Adv.silent h rfl rfl rfl rfl rfl rfl, hb⟩
  · -- one `WriteAt`, at the end of the file
    have hf : (diskAfter d [Ev.write s.off s.buf]).file = d.file ++ s.buf := h.len ▸ disk_write_at_end d s.buf
    refine ⟨⟨⟨by rw [hf, List.length_append, h.len], by rw [hf, List.append_nil]; exact h.stream⟩,
      (List.append_nil _).symm, by simp [WState.offset, encAll], ?_, fun _ => rfl⟩, rfl⟩
    exact acksDurable_of_noAck _ [Ev.write s.off s.buf] rfl d

theorem getBytes_adv {n : Nat} {s1 : WState} {e1 : List Ev} (h : Inv base s d)
    (hg : getBytes s n = some (s1, e1)) : Adv F base s d s1 e1 [] := by
  revert hg
  fun_cases getBytes s n <;> intro hg
  · cases hg
  · exact (flush_adv h (Option.some.inj hg)).1
  · cases hg; exact Adv.silent h rfl rfl rfl rfl rfl rfl

theorem Adv.thenSync {s3 : WState} {evs tail : List Ev} {nl : List Rec} (a : Adv F base s d s3 evs nl)
    (hoff : s'.off = s3.off) (hbuf : s'.buf = s3.buf) (hlog : s'.log = s3.log) (hna : NoAck tail)
    (hl : lookupsOf tail = []) (hf : ∀ d', (diskAfter d' tail).file = d'.file)
    (hd : ∀ d', (diskAfter d' tail).durable = d'.file.length) :
    Adv F base s d s' (evs ++ tail) nl ∧
      (diskAfter d (evs ++ tail)).durable = (diskAfter d (evs ++ tail)).file.length := by
  refine ⟨by simpa using a.trans (Adv.silent a.inv hoff hbuf hlog hna hl (hf _)), ?_⟩
  rw [diskAfter_append, hd, hf]

theorem commitUnlocked_adv {evs : List Ev} {ok : Bool} (h : Inv base s d) {root : Bytes}
    (hc : commitUnlocked s root = (s', evs, ok)) :
    ∃ nl, Adv F base s d s' evs nl ∧
      (ok = true → s'.buf = [] ∧ (diskAfter d evs).durable = (diskAfter d evs).file.length ∧
        ∃ ts, nl = [Rec.root root ts]) := by
  revert s' evs ok
  fun_cases commitUnlocked s root <;> intro s' evs ok hc <;> cases hc
  next => exact ⟨[], Adv.silent h rfl rfl rfl rfl rfl rfl, fun hf => nomatch hf⟩
  all_goals
    -- the bytes, the root record, the flush: common to the two paths that differ in what follows the `sync`
    have a1 : Adv F base s d _ _ [] := getBytes_adv h ‹_›
    have a2 := pushRoot_adv (F := F) a1.inv root
    obtain ⟨a3, hb3⟩ := flush_adv (F := F) a2.inv ‹_›
    have a123 := a1.trans (a2.trans a3)
    simp only [List.append_nil, List.nil_append] at a123
  next s3 _ _ _ _ _ =>
    have := a123.thenSync (s' := { s3 with unsyncd := 0, batchCrc := 0, novel := [], indexed := s3.offset - rootRecSz }) rfl rfl rfl
      (tail := [.sync, .idxMeta s3.indexed (s3.offset - rootRecSz) s3.batchCrc.toNat root]) rfl rfl (fun _ => rfl) (fun _ => rfl)
    exact ⟨_, this.1, fun _ => ⟨hb3, this.2, _, rfl⟩⟩
  next s3 _ _ _ _ =>
    have := a123.thenSync (s' := { s3 with unsyncd := 0 }) rfl rfl rfl
      (tail := [.sync]) rfl rfl (fun _ => rfl) (fun _ => rfl)
    exact ⟨_, this.1, fun _ => ⟨hb3, this.2, _, rfl⟩⟩

theorem step_adv (h : Inv base s d) (op : Op) : ∃ nl, Adv (OpFits op) base s d (step s op).1 (step s op).2 nl := by
  -- `chunk`: the bytes and the record, common to the three paths that differ in whether a commit follows
  have chunk {addr payload s1 e1} (hg : getBytes s (chunkRecSz payload.length) = some (s1, e1)) :
      Adv (OpFits (.chunk addr payload)) base s d (pushChunk s1 addr payload)
        (e1 ++ [.idxLookup (addr.take 16) (s.offset + chunkPayloadOff) payload.length]) [Rec.chunk addr payload] := by
    have a1 : Adv (OpFits (.chunk addr payload)) base s d s1 e1 [] := getBytes_adv h hg
    have a2 := pushChunk_adv a1.inv addr payload
    rw [show s1.offset = s.offset from a1.offset] at a2
    exact List.nil_append _ ▸ a1.trans a2
  fun_cases step s op
  next n => exact ⟨[], Adv.silent (s' := { s with unsyncd := s.unsyncd + n }) h rfl rfl rfl rfl rfl rfl⟩  -- `bump`
  next root s' evs ok hx =>
    -- `commit`
    obtain ⟨nl, a, hok⟩ := commitUnlocked_adv (F := OpFits (.commit root)) h hx
    cases ok with
    | false => exact ⟨nl, a⟩
    | true =>
      obtain ⟨hb, hdur, ts, rfl⟩ := hok rfl
      -- the acknowledgement: the buffer is empty, so the file is the whole stream
      have hack : AckOk base (diskAfter d evs) root :=
        ⟨hdur, s.log, ts, by have := a.inv.stream; rwa [hb, List.append_nil, a.log] at this⟩
      have b : Adv (OpFits (.commit root)) base s' (diskAfter d evs) s' [.ack root] [] :=
        ⟨a.inv, (List.append_nil _).symm, rfl, ⟨hack, trivial⟩, fun _ => rfl⟩
      exact ⟨_, a.trans b⟩
  next => exact ⟨[], Adv.silent h rfl rfl rfl rfl rfl rfl⟩  -- `chunk`, no room for the record
  next hx =>
    -- `chunk`, and too much is unsynced: a commit of the current root follows
    obtain ⟨nl, a3, _⟩ := commitUnlocked_adv (chunk ‹_›).inv hx
    exact ⟨_, (chunk ‹_›).trans a3⟩
  next => exact ⟨_, chunk ‹_›⟩
  next => exact ⟨_, chunk ‹_›⟩

theorem run_adv (ops : List Op) : ∀ (s : WState) (d : Disk), Inv base s d →
    ∃ nl, Adv (∀ op ∈ ops, OpFits op) base s d (run s ops).1 (run s ops).2 nl := by
  induction ops with
  | nil => intro s d h; exact ⟨[], Adv.silent h rfl rfl rfl rfl rfl rfl⟩
  | cons op ops ih =>
    intro s d h
    obtain ⟨n1, a1⟩ := step_adv h op
    obtain ⟨n2, a2⟩ := ih _ _ a1.inv
    exact ⟨n1 ++ n2, (a1.mono fun hF => hF op List.mem_cons_self).trans
      (a2.mono fun hF o ho => hF o (List.mem_cons_of_mem _ ho))⟩

end

end DoltVerif.Journal
