import DoltVerif.Model.JsonDocMerge
import DoltVerif.Lemmas.JsonDocScan
/-! C17, the reference side and the merge: byte order (`bytesCmp`), the Go-map operations
`objGet` / `objSet` / `objDel` on sorted member lists, `parseIndex` and `refLookup` on a plain index,
`legsToLoc` on one key, the differ on equal inputs, the three-way loop without right edits. -/
namespace DoltVerif.C17
open DoltVerif.JsonDoc

theorem bytesCmp_eq_iff (a b : Bytes) : bytesCmp a b = .eq ↔ a = b := by
  refine ⟨?_, fun e => e ▸ bytesCmp_self a⟩
  fun_induction bytesCmp a b with
  | case1 => exact fun _ => rfl
  | case2 | case3 | case4 | case5 => nofun  -- one side ends first, or the heads differ
  | case6 x s y t h1 h2 ih =>  -- equal heads
    intro h
    rw [UInt8.le_antisymm (UInt8.not_lt.mp h2) (UInt8.not_lt.mp h1), ih h]

theorem ne_of_bytesCmp_lt {a b : Bytes} (h : bytesCmp a b = .lt) : a ≠ b :=
  fun e => by rw [e, bytesCmp_self] at h; cases h

/-- Go map write then read: `doc[name] = v; doc[name]` (for a key whose Go escaping round-trips) -/
theorem objGet_objSet (kvs : List (Bytes × JsonVal)) (K : Bytes) (v : JsonVal) (hk : rawKey (escapeGo K) = K) :
    objGet (objSet kvs K v) K = some v := by
  fun_induction objSet kvs K v with
  | case1 | case3 => simp [objGet, hk]  -- a new member, at the end or before a greater key
  | case2 k w t K v h => simp [objGet, (bytesCmp_eq_iff _ _).mp h]  -- the member is replaced
  | case4 k w t K v h ih => simp [objGet, ne_of_bytesCmp_lt h, ih hk]  -- a smaller key is passed

theorem objGet_eq_none (K : Bytes) : ∀ (t : List (Bytes × JsonVal)), (∀ kv ∈ t, rawKey kv.1 ≠ K) → objGet t K = none
  | [], _ => rfl
  | (k, w) :: t, h => by
    simp [objGet, h (k, w) (by simp), objGet_eq_none K t (fun kv hkv => h kv (by simp [hkv]))]

/-- keys of a member list are pairwise different Go strings (true of the stored form: sorted, from a Go map) -/
def distinctKeys : List (Bytes × JsonVal) → Prop
  | [] => True
  | (k, _) :: t => (∀ kv ∈ t, rawKey kv.1 ≠ rawKey k) ∧ distinctKeys t

theorem objGet_objDel (kvs : List (Bytes × JsonVal)) (K : Bytes) (h : distinctKeys kvs) :
    objGet (objDel kvs K) K = none := by
  fun_induction objDel kvs K with
  | case1 => rfl
  | case2 k w t => exact objGet_eq_none _ t h.1  -- the member is dropped
  | case3 k w t K hk ih => simp [objGet, hk, ih h.2]  -- another key is passed

/-! The Go-map operations on a sorted member list reach member `K` past the members with smaller keys
and leave those, and the members after it, alone. -/

theorem objSet_members (K : Bytes) (old nv : JsonVal) (post : List (Bytes × JsonVal)) (hK : rawKey K = K) :
    ∀ (l : List (Bytes × JsonVal)), (∀ kv ∈ l, bytesCmp (rawKey kv.1) K = .lt) →
      objSet (l ++ (K, old) :: post) K nv = l ++ (K, nv) :: post
  | [], _ => by simp [objSet, hK, bytesCmp_self]
  | (k, w) :: l, h => by
    simp [objSet, h (k, w) (by simp), objSet_members K old nv post hK l (fun x hx => h x (by simp [hx]))]

theorem objGet_members (K : Bytes) (old : JsonVal) (post : List (Bytes × JsonVal)) (hK : rawKey K = K) :
    ∀ (l : List (Bytes × JsonVal)), (∀ kv ∈ l, bytesCmp (rawKey kv.1) K = .lt) →
      objGet (l ++ (K, old) :: post) K = some old
  | [], _ => by simp [objGet, hK]
  | (k, w) :: l, h => by
    simp [objGet, ne_of_bytesCmp_lt (h (k, w) (by simp)),
      objGet_members K old post hK l (fun x hx => h x (by simp [hx]))]

theorem objDel_members (K : Bytes) (old : JsonVal) (post : List (Bytes × JsonVal)) (hK : rawKey K = K) :
    ∀ (l : List (Bytes × JsonVal)), (∀ kv ∈ l, bytesCmp (rawKey kv.1) K = .lt) →
      objDel (l ++ (K, old) :: post) K = l ++ post
  | [], _ => by simp [objDel, hK]
  | (k, w) :: l, h => by
    simp [objDel, ne_of_bytesCmp_lt (h (k, w) (by simp)),
      objDel_members K old post hK l (fun x hx => h x (by simp [hx]))]

theorem parseIndex_nat_inrange (n len : Nat) (h : n < len) :
    parseIndex (.nat n) ((len : Int) - 1) = { index := n } := by
  simp only [parseIndex]
  have : ¬ ((n : Int) > (len : Int) - 1) := by omega
  simp [this]

theorem parseIndex_nat_overflow (n len : Nat) (h : ¬ n < len) :
    (parseIndex (.nat n) ((len : Int) - 1)).overflow = true := by
  simp only [parseIndex]
  have : ((n : Int) > (len : Int) - 1) := by omega
  simp [this]

theorem refLookup_idx (xs : List JsonVal) (n : Nat) (rest : List Leg) :
    refLookup (.idx (.nat n) :: rest) (.arr xs) = if h : n < xs.length then refLookup rest xs[n] else none := by
  by_cases hn : n < xs.length
  · have hle : ¬ ((xs.length : Int) ≤ (n : Int)) := by omega
    simp [refLookup, parseIndex_nat_inrange n xs.length hn, hle, hn]
  · simp [refLookup, parseIndex_nat_overflow n xs.length hn, hn]

/-- a value has no differences with itself (the in-memory differ, any fuel, any key prefix) -/
theorem diff_self : ∀ (f : Nat),
    (∀ key a, diffVal f key a a = []) ∧
    (∀ key xs, diffObj f key xs xs = []) ∧
    (∀ key i xs, diffArr f key i xs xs = []) := by
  intro f
  induction f with
  | zero => exact ⟨fun _ _ => rfl, fun _ xs => by cases xs <;> rfl, fun _ _ xs => by cases xs <;> rfl⟩
  | succ f ih =>
    obtain ⟨ihV, ihO, ihA⟩ := ih
    refine ⟨fun key a => ?_, fun key xs => ?_, fun key i xs => ?_⟩
    · cases a with
      | lit s => simp [diffVal, jsonEq]
      | arr xs => simp [diffVal, ihA]
      | obj kvs => simp [diffVal, ihO]
    · cases xs with
      | nil => rfl
      | cons kv t => simp [diffObj, bytesCmp_self, ihV, ihO]
    · cases xs with
      | nil => rfl
      | cons v t => simp [diffArr, ihV, ihA]

theorem threeWay_nil_right (mergeVal : JsonVal → JsonVal → JsonVal → Option JsonVal) (f : Nat) (ld : List Diff) :
    threeWay mergeVal f ld [] = some [] := by
  cases f <;> cases ld <;> rfl

theorem legsToLoc_key (K : Bytes) (hne : K ≠ [] ∧ K ≠ [0x2a] ∧ K ≠ [0x2a, 0x2a]) :
    legsToLoc [.key K] rootLoc = .loc (keyLoc .startOfValue K) := by
  simp [legsToLoc, hne.1, hne.2.1, hne.2.2, keyLoc, rootLoc, Loc.push]

theorem serialize_members (pre : List (Bytes × Bytes)) (K : Bytes) (x : JsonVal) (post : List (Bytes × JsonVal)) :
    serialize (.obj (pre.map mem ++ (K, x) :: post)) =
      0x7b :: (preText pre ++ (0x22 :: K ++ [0x22, 0x3a])) ++ serialize x ++ afterVal post [] := by
  simpa [lead, lead_flat] using serialize_split (pre.map mem) K x post []

end DoltVerif.C17
