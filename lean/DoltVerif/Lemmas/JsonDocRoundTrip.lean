import DoltVerif.Lemmas.JsonDocText
/-! C17: `parseVal (serialize d ++ rest) = (d, rest)` for stored-form documents.  Defines what the statements
of C17 need for it: the stored form `wfV` / `wfL` / `wfO` (scalars are `litOk`, keys `bodyOk`), the size `sz`
that bounds the parser's fuel, and `restOk` (what may follow a value). -/
namespace DoltVerif.JsonDoc

/-- a string body the parser reads back exactly: followed by a quote it ends there -/
def bodyOk (b : Bytes) : Prop := ∀ r, strBody (b ++ 0x22 :: r) = some (b, r)

/-- a non-string scalar token: does not start like a string/array/object and contains no delimiter -/
def tokenOk (s : Bytes) : Prop :=
  ∃ c t, s = c :: t ∧ c ≠ 0x22 ∧ c ≠ 0x5b ∧ c ≠ 0x7b ∧ isDelim c = false ∧ ∀ x ∈ t, isDelim x = false

def litOk (s : Bytes) : Prop := (∃ b, s = 0x22 :: b ++ [0x22] ∧ bodyOk b) ∨ tokenOk s

mutual
/-- stored form: scalars are well-formed literals, keys are well-formed string bodies -/
def wfV : JsonVal → Prop
  | .lit s => litOk s
  | .arr xs => wfL xs
  | .obj kvs => wfO kvs
def wfL : List JsonVal → Prop
  | [] => True
  | x :: t => wfV x ∧ wfL t
def wfO : List (Bytes × JsonVal) → Prop
  | [] => True
  | (k, v) :: t => bodyOk k ∧ wfV v ∧ wfO t
end

mutual
def sz : JsonVal → Nat
  | .lit _ => 1
  | .arr xs => 1 + szL xs
  | .obj kvs => 1 + szO kvs
def szL : List JsonVal → Nat
  | [] => 0
  | x :: t => 1 + sz x + szL t
def szO : List (Bytes × JsonVal) → Nat
  | [] => 0
  | (_, v) :: t => 1 + sz v + szO t
end

/-- what may follow a value: nothing, or a delimiter that is not white space -/
def restOk (r : Bytes) : Prop := r = [] ∨ ∃ c t, r = c :: t ∧ isDelim c = true ∧ isWs c = false

theorem skipWs_cons (c : UInt8) (t : Bytes) (h : isWs c = false) : skipWs (c :: t) = c :: t := by
  simp [skipWs, h]

theorem ws_of_not_delim (c : UInt8) (h : isDelim c = false) : isWs c = false := by
  simp only [isDelim, Bool.or_eq_false_iff] at h
  exact h.2

theorem head_serialize (d : JsonVal) (h : wfV d) : ∃ c t, serialize d = c :: t ∧ isDelim c = false := by
  cases d with
  | arr xs => exact ⟨0x5b, serArr xs ++ [0x5d], rfl, by decide⟩
  | obj kvs => exact ⟨0x7b, serObj kvs ++ [0x7d], rfl, by decide⟩
  | lit s =>
    rcases (h : litOk s) with ⟨b, rfl, _⟩ | ⟨c, t, rfl, _, _, _, hd, _⟩
    · exact ⟨0x22, b ++ [0x22], rfl, by decide⟩
    · exact ⟨c, t, rfl, hd⟩

theorem span_run (p : UInt8 → Bool) (t r : Bytes) (ht : ∀ x ∈ t, p x = true)
    (hr : r = [] ∨ ∃ c t', r = c :: t' ∧ p c = false) :
    (t ++ r).takeWhile p = t ∧ (t ++ r).dropWhile p = r := by
  rw [List.takeWhile_append_of_pos ht, List.dropWhile_append_of_pos ht]
  rcases hr with rfl | ⟨c, t', rfl, hc⟩
  · simp
  · simp [hc]

theorem parse_lit (s : Bytes) (h : litOk s) (f : Nat) (r : Bytes) (hr : restOk r) :
    parseVal (f+1) (s ++ r) = some (.lit s, r) := by
  rcases h with ⟨b, rfl, hb⟩ | ⟨c, t, rfl, h1, h2, h3, hd, ht⟩
  · have e : (0x22 :: b ++ [0x22]) ++ r = 0x22 :: (b ++ 0x22 :: r) := by simp
    rw [e, parseVal, skipWs_cons _ _ (by decide)]
    simp only [hb r]
  · have hw := ws_of_not_delim c hd
    have e : (c :: t) ++ r = c :: (t ++ r) := rfl
    rw [e, parseVal, skipWs_cons _ _ hw]
    have tw := span_run (fun x => !isDelim x) t r (fun x hx => by simp [ht x hx])
      (hr.imp_right fun ⟨c, t', e, hc, _⟩ => ⟨c, t', e, by simp [hc]⟩)
    split
    · next heq => simp at heq
    · next heq => simp only [List.cons.injEq] at heq; exact absurd heq.1 h1
    · next heq => simp only [List.cons.injEq] at heq; exact absurd heq.1 h2
    · next heq => simp only [List.cons.injEq] at heq; exact absurd heq.1 h3
    · next c' t' _ _ _ heq =>
      simp only [List.cons.injEq] at heq
      obtain ⟨rfl, rfl⟩ := heq
      simp [hd, tw.1, tw.2]

theorem restOk_afterElem (t : List JsonVal) (r : Bytes) : restOk (afterElem t r) := by
  cases t <;> exact Or.inr ⟨_, _, rfl, by decide, by decide⟩

theorem restOk_afterVal (t : List (Bytes × JsonVal)) (r : Bytes) : restOk (afterVal t r) := by
  cases t <;> exact Or.inr ⟨_, _, rfl, by decide, by decide⟩

mutual
theorem rtV : ∀ (d : JsonVal), wfV d → ∀ (f : Nat) (r : Bytes), sz d ≤ f → restOk r →
    parseVal f (serialize d ++ r) = some (d, r)
  | .lit s, h, f, r, hf, hr => by
    cases f with
    | zero => simp [sz] at hf
    | succ f => simpa [serialize] using parse_lit s (by simpa [wfV] using h) f r hr
  | .arr xs, h, f, r, hf, hr => by
    cases f with
    | zero => simp [sz] at hf
    | succ f =>
      have e : serialize (.arr xs) ++ r = 0x5b :: (serArr xs ++ 0x5d :: r) := by simp [serialize]
      rw [e, parseVal, skipWs_cons _ _ (by decide)]
      cases xs with
      | nil =>
        simp only [serArr, List.nil_append]
        rw [skipWs_cons 0x5d r (by decide)]
        rfl
      | cons x t =>
        have hw : wfL (x :: t) := by simpa [wfV] using h
        have hrt := rtL (x :: t) hw (by simp) f r (by simp only [sz] at hf; omega)
        obtain ⟨c, t0, hc, hd⟩ := head_serialize x hw.1
        rw [serArr_cons, hc, List.cons_append] at hrt ⊢
        have h2 : c ≠ 0x5d := fun e => by rw [e] at hd; cases hd
        simp only [skipWs_cons c _ (ws_of_not_delim c hd)]
        split
        · next heq => simp only [List.cons.injEq] at heq; exact absurd heq.1 h2
        · simp only [hrt]
  | .obj kvs, h, f, r, hf, hr => by
    cases f with
    | zero => simp [sz] at hf
    | succ f =>
      have e : serialize (.obj kvs) ++ r = 0x7b :: (serObj kvs ++ 0x7d :: r) := by simp [serialize]
      rw [e, parseVal, skipWs_cons _ _ (by decide)]
      cases kvs with
      | nil =>
        simp only [serObj, List.nil_append]
        rw [skipWs_cons 0x7d r (by decide)]
        rfl
      | cons kv t =>
        obtain ⟨k, v⟩ := kv
        have hw : wfO ((k, v) :: t) := by simpa [wfV] using h
        have hrt := rtO ((k, v) :: t) hw (by simp) f r (by simp only [sz] at hf; omega)
        rw [serObj_cons, List.cons_append] at hrt ⊢
        simp only [skipWs_cons 0x22 _ (by decide)]
        split
        · next heq => simp at heq
        · simp only [hrt]
theorem rtL : ∀ (xs : List JsonVal), wfL xs → xs ≠ [] → ∀ (f : Nat) (r : Bytes), szL xs ≤ f →
    parseElems f (serArr xs ++ 0x5d :: r) = some (xs, r)
  | [], _, hne, _, _, _ => absurd rfl hne
  | x :: t, h, _, f, r, hf => by
    cases f with
    | zero => simp [szL] at hf
    | succ f =>
      have hv := rtV x h.1 f (afterElem t r) (by simp only [szL] at hf; omega) (restOk_afterElem t r)
      rw [serArr_cons, parseElems]
      simp only [hv]
      cases t with
      | nil => simp only [afterElem, skipWs_cons 0x5d r (by decide)]
      | cons y t' =>
        have hl := rtL (y :: t') h.2 (by simp) f r (by simp only [szL] at hf ⊢; omega)
        simp only [afterElem, skipWs_cons 0x2c _ (by decide), hl]
theorem rtO : ∀ (kvs : List (Bytes × JsonVal)), wfO kvs → kvs ≠ [] → ∀ (f : Nat) (r : Bytes), szO kvs ≤ f →
    parseMembers f (serObj kvs ++ 0x7d :: r) = some (kvs, r)
  | [], _, hne, _, _, _ => absurd rfl hne
  | (k, v) :: t, h, _, f, r, hf => by
    cases f with
    | zero => simp [szO] at hf
    | succ f =>
      have hv := rtV v h.2.1 f (afterVal t r) (by simp only [szO] at hf; omega) (restOk_afterVal t r)
      rw [serObj_cons, List.cons_append, parseMembers]
      simp only [skipWs_cons 0x22 _ (by decide), h.1 _, skipWs_cons 0x3a _ (by decide), hv]
      cases t with
      | nil => simp only [afterVal, skipWs_cons 0x7d r (by decide)]
      | cons kv2 t' =>
        have hl := rtO (kv2 :: t') h.2.2 (by simp) f r (by simp only [szO] at hf ⊢; omega)
        simp only [afterVal, skipWs_cons 0x2c _ (by decide), hl]
end

theorem strBody_cons_plain (c : UInt8) (t : Bytes) (h1 : c ≠ 0x22) (h2 : c ≠ 0x5c) :
    strBody (c :: t) = (strBody t).map (fun br => (c :: br.1, br.2)) := by
  simp [strBody, h2]

theorem bodyOk_plain : ∀ (b : Bytes), (∀ c ∈ b, c ≠ 0x22 ∧ c ≠ 0x5c) → bodyOk b
  | [], _ => fun r => by simp [strBody]
  | c :: t, h => fun r => by
    have hc := h c (by simp)
    rw [List.cons_append, strBody_cons_plain c _ hc.1 hc.2, bodyOk_plain t (fun x hx => h x (by simp [hx])) r]
    rfl

theorem lit_ne_nil (s : Bytes) (h : litOk s) : 1 ≤ s.length := by
  rcases h with ⟨b, rfl, _⟩ | ⟨c, t, rfl, _⟩ <;> simp

mutual
/-- so `parse` hands `parseVal` enough fuel -/
theorem sz_le : ∀ (d : JsonVal), wfV d → sz d ≤ (serialize d).length
  | .lit s, h => by simpa [sz, serialize] using lit_ne_nil s (by simpa [wfV] using h)
  | .arr xs, h => by
    have := szL_le xs (by simpa [wfV] using h)
    simp only [sz, serialize, List.length_cons, List.length_append, List.length_nil]; omega
  | .obj kvs, h => by
    have := szO_le kvs (by simpa [wfV] using h)
    simp only [sz, serialize, List.length_cons, List.length_append, List.length_nil]; omega
theorem szL_le : ∀ (xs : List JsonVal), wfL xs → szL xs ≤ (serArr xs).length + 1
  | [], _ => by simp [szL]
  | [x], h => by
    have := sz_le x h.1
    simp only [szL, serArr]; omega
  | x :: y :: t, h => by
    have h1 := sz_le x h.1
    have h2 := szL_le (y :: t) h.2
    simp only [szL, serArr, List.length_append, List.length_cons] at h2 ⊢; omega
theorem szO_le : ∀ (kvs : List (Bytes × JsonVal)), wfO kvs → szO kvs ≤ (serObj kvs).length + 1
  | [], _ => by simp [szO]
  | [(k, v)], h => by
    have := sz_le v h.2.1
    simp only [szO, serObj, List.length_append, List.length_cons]; omega
  | (k, v) :: kv2 :: t, h => by
    have h1 := sz_le v h.2.1
    have h2 := szO_le (kv2 :: t) h.2.2
    simp only [szO, serObj, List.length_append, List.length_cons] at h2 ⊢; omega
end

end DoltVerif.JsonDoc
