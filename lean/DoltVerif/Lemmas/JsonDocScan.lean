import DoltVerif.Model.JsonDocIndexed
import DoltVerif.Lemmas.JsonDocText
/-! C17: the byte-level scanner on stored text, single chunk.  Defines the hypotheses of the C17 scanner theorems
(`valScans`, `keyScans`, `FlatPre`) and the document they speak of (`membersFrom`, `preText`, `keyLoc`, `atValue`).
The loop of `AdvanceToLocation` is characterised once, over `Run`; inside an object the scanner stands `between` two
members or at a member's value (`valueAt`), so the scan to a member (`scan_member`) and the splices at it are equations. -/
namespace DoltVerif.JsonDoc

/-- what may follow a value in the stored text: nothing, or a byte the scalar scan stops at -/
def stopHead (r : Bytes) : Prop := r = [] ∨ ∃ c t, r = c :: t ∧ isStop c = true

/-- the scanner passes the literal `s` as one value -/
def valScans (s : Bytes) : Prop :=
  ∀ (done r : Bytes) (p : Loc), stopHead r → p.st = .startOfValue →
    Scanner.advance { done := done, rest := s ++ r, path := p } =
      .ok { done := s.reverse ++ done, rest := r, path := p.withState .endOfValue }

/-- the scanner reads the key text `k` back exactly, and its location key is the key itself -/
def keyScans (k : Bytes) : Prop := (∀ r, skipKey (k ++ 0x22 :: r) = some (k, r)) ∧ unescapeKey k = k

def FlatMember (kv : Bytes × JsonVal) : Prop := keyScans kv.1 ∧ ∃ s, kv.2 = .lit s ∧ valScans s

def mem (ks : Bytes × Bytes) : Bytes × JsonVal := (ks.1, .lit ks.2)

def membersFrom (pre : List (Bytes × Bytes)) (K sK : Bytes) (post : List (Bytes × JsonVal)) : List (Bytes × JsonVal) :=
  pre.map mem ++ (K, .lit sK) :: post

def FlatPre (K : Bytes) (pre : List (Bytes × Bytes)) : Prop :=
  ∀ ks ∈ pre, keyScans ks.1 ∧ valScans ks.2 ∧ bytesCmp ks.1 K = .lt

def preText : List (Bytes × Bytes) → Bytes
  | [] => []
  | (k, s) :: t => 0x22 :: k ++ 0x22 :: 0x3a :: (s ++ 0x2c :: preText t)

def keyLoc (st : PState) (k : Bytes) : Loc := { st := st, elems := [objElem k] }

theorem skipKey_eq_strBody (b : Bytes) : skipKey b = strBody b := by
  fun_induction strBody b <;> simp_all [skipKey]

theorem unescapeKey_plain : ∀ (k : Bytes), (∀ c ∈ k, c ≠ 0x5c) → unescapeKey k = k
  | [], _ => rfl
  | c :: t, h => by
    have hc := h c (by simp)
    simp [unescapeKey, hc, unescapeKey_plain t (fun x hx => h x (by simp [hx]))]

theorem stopHead_afterVal (t : List (Bytes × JsonVal)) (tail : Bytes) : stopHead (afterVal t tail) := by
  cases t with
  | nil => exact Or.inr ⟨0x7d, tail, rfl, by decide⟩
  | cons kv t' => exact Or.inr ⟨0x2c, _, rfl, by decide⟩

theorem doneTail_afterVal (post : List (Bytes × JsonVal)) (tail : Bytes) :
    doneTail .endOfValue (afterVal post tail) = afterVal post tail := by
  cases post <;> simp [afterVal, doneTail]

theorem lead_flat (R : Bytes) : ∀ (pre : List (Bytes × Bytes)),
    serObj (pre.map mem) ++ (sep (pre.map mem) ++ R) = preText pre ++ R
  | [] => rfl
  | [(k, s)] => by simp [serObj, sep, preText, mem, serialize]
  | (k, s) :: y :: r => by
    have e : preText ((k, s) :: y :: r) ++ R = 0x22 :: k ++ 0x22 :: 0x3a :: (s ++ 0x2c :: (preText (y :: r) ++ R)) := by
      simp [preText]
    rw [e, ← lead_flat R (y :: r)]
    simp [serObj, sep, mem, serialize]

/-- `n` steps of `AdvanceToNextLocation` from `s` to `s'`, each taken at a location before `target`.  (The step
equation comes first so that the scanner is known when the comparison is elaborated.) -/
inductive Run (target : Loc) : Nat → Scanner → Scanner → Prop
  | refl (s : Scanner) : Run target 0 s s
  | step {n : Nat} {s s' s'' : Scanner} : s.advance = .ok s' → compareLoc s.path target < 0 →
      Run target n s' s'' → Run target (n + 1) s s''

theorem Run.loop {target : Loc} {n : Nat} {s s' : Scanner} (h : Run target n s s') (prev : Scanner) (f : Nat) :
    ∃ prev', advanceToGo target (f + n) prev s = advanceToGo target f prev' s' := by
  induction h generalizing prev with
  | refl s => exact ⟨prev, rfl⟩
  | @step n s s₁ _ ha hc _ ih =>
    obtain ⟨prev', h'⟩ := ih s
    exact ⟨prev', by rw [← Nat.add_assoc, advanceToGo]; simp only [hc, if_true, ha]; exact h'⟩

/-- the scanner before the last step is the cursor `forRemoval` asks for -/
theorem advanceTo_run_step {target : Loc} {n : Nat} {s s₁ s₂ : Scanner} (h : Run target n s s₁)
    (ha : s₁.advance = .ok s₂) (hc : compareLoc s₁.path target < 0) (hstop : compareLoc s₂.path target = 0)
    (hn : n ≤ 2 * s.size + 14) (forRemoval : Bool) :
    advanceTo s target forRemoval = .ok (true, bif forRemoval then s₁ else s₂) := by
  obtain ⟨f, hf⟩ : ∃ f, 2 * s.size + 16 = f + 2 + n := ⟨2 * s.size + 14 - n, by omega⟩
  obtain ⟨prev', h'⟩ := h.loop s (f + 2)
  rw [advanceTo, hf, h', advanceToGo]
  simp only [hc, if_true, ha]
  rw [advanceToGo]
  cases forRemoval <;> simp [hstop]

theorem nextValueGo_stop {target : Loc} {s : Scanner} (hstop : compareLoc s.path target ≥ 0) (f : Nat) :
    nextValueGo target (f + 1) s = .ok s := by
  rw [nextValueGo]; simp only [hstop, if_true]

theorem bytesCmp_self : ∀ (a : Bytes), bytesCmp a a = .eq
  | [] => rfl
  | x :: t => by simp [bytesCmp, bytesCmp_self t]

/-- the scanner at the value `s` of member `k`; `t` are the members after it -/
def atValue (done : Bytes) (k : Bytes) (s : Bytes) (t : List (Bytes × JsonVal)) (tail : Bytes) : Scanner :=
  { done := done, rest := s ++ afterVal t tail, path := { st := .startOfValue, elems := [objElem k] } }

theorem atValue_text (done k s : Bytes) (t : List (Bytes × JsonVal)) (tail : Bytes) :
    (atValue done k s t tail).done.reverse ++ (atValue done k s t tail).rest = done.reverse ++ (s ++ afterVal t tail) := rfl

/-- the scanner in the object `{ l…, ms… }` between the members `l` (passed) and `ms` (ahead): just after `{`, or at
the end of the last value of `l` -/
def between (l ms : List (Bytes × JsonVal)) : Scanner :=
  match l.getLast? with
  | none => { done := (0x7b :: serObj l).reverse, rest := serObj ms ++ [0x7d], path := ⟨.objectInitial, []⟩ }
  | some kv => { done := (0x7b :: serObj l).reverse, rest := afterVal ms [], path := keyLoc .endOfValue kv.1 }

/-- the scanner at the value of the member `k` that follows the members `l`; `atValue` is the case of a scalar -/
def valueAt (l : List (Bytes × JsonVal)) (k : Bytes) (x : JsonVal) (t : List (Bytes × JsonVal)) : Scanner :=
  { done := (lead l k).reverse, rest := serialize x ++ afterVal t [], path := keyLoc .startOfValue k }

theorem between_snoc (l : List (Bytes × JsonVal)) (kv : Bytes × JsonVal) (ms : List (Bytes × JsonVal)) :
    between (l ++ [kv]) ms =
      { done := (0x7b :: serObj (l ++ [kv])).reverse, rest := afterVal ms [], path := keyLoc .endOfValue kv.1 } := by
  simp only [between, List.getLast?_concat]

theorem between_after (l : List (Bytes × JsonVal)) (k : Bytes) (x : JsonVal) (t : List (Bytes × JsonVal)) :
    between (l ++ [(k, x)]) t =
      ⟨(serialize x).reverse ++ (lead l k).reverse, afterVal t [], ⟨.endOfValue, [objElem k]⟩⟩ := by
  rw [between_snoc]; simp [serObj_snoc, lead, keyLoc]

theorem acceptObjectKey_scans (k : Bytes) (hk : keyScans k) (done r : Bytes) (p : Loc) :
    Scanner.acceptObjectKey { done := done, rest := 0x22 :: k ++ 0x22 :: 0x3a :: r, path := p } =
      .ok { done := (0x22 :: k ++ [0x22, 0x3a]).reverse ++ done, rest := r,
            path := (p.push (objElem k)).withState .startOfValue } := by
  simp [Scanner.acceptObjectKey, hk.1 (0x3a :: r), hk.2, Scanner.pass]

theorem adv_between (l : List (Bytes × JsonVal)) (k : Bytes) (x : JsonVal) (t : List (Bytes × JsonVal))
    (hk : keyScans k) : (between l ((k, x) :: t)).advance = .ok (valueAt l k x t) := by
  rcases List.eq_nil_or_concat l with rfl | ⟨l', kv, rfl⟩
  · simp only [between, List.getLast?_nil, serObj_cons, Scanner.advance]
    rw [acceptObjectKey_scans k hk]
    simp [valueAt, lead, sep, Loc.push, Loc.withState, serObj, keyLoc]
  · rw [List.concat_eq_append, between_snoc]
    simp only [afterVal_cons, serObj_cons, Scanner.advance, keyLoc, Loc.last, Loc.pop, List.getLast?_singleton,
      Option.getD_some, objElem, Bool.false_eq_true, if_false, if_true, Scanner.pass, Scanner.cur, ne_eq,
      List.dropLast_singleton]
    rw [acceptObjectKey_scans k hk]
    cases l' <;> simp [valueAt, lead, sep, Loc.push, Loc.withState, objElem, keyLoc]

theorem cmp_member_lt (st st' : PState) {k K : Bytes} (h : bytesCmp k K = .lt) :
    compareLoc (keyLoc st k) (keyLoc st' K) < 0 := by
  simp [compareLoc, keyLoc, compareElems, objElem, h]

theorem cmp_member_same (st st' : PState) (K : Bytes) :
    compareLoc (keyLoc st K) (keyLoc st' K) = compareTypes st st' := by
  simp [compareLoc, keyLoc, compareElems, objElem, bytesCmp_self, Loc.size]

theorem cmp_valueAt_end (l : List (Bytes × JsonVal)) (K : Bytes) (x : JsonVal) (t : List (Bytes × JsonVal)) :
    compareLoc (valueAt l K x t).path (keyLoc .endOfValue K) < 0 := by
  rw [show (valueAt l K x t).path = keyLoc .startOfValue K from rfl, cmp_member_same]; decide

theorem cmp_between (l ms : List (Bytes × JsonVal)) (st' : PState) (K : Bytes)
    (h : st' ≠ .objectInitial ∧ st' ≠ .arrayInitial) (hl : ∀ kv ∈ l, bytesCmp kv.1 K = .lt) :
    compareLoc (between l ms).path (keyLoc st' K) < 0 := by
  rcases List.eq_nil_or_concat l with rfl | ⟨l', kv, rfl⟩
  · cases st' <;> simp [between, compareLoc, keyLoc, compareElems, Loc.size, Loc.last, objElem] at h ⊢
  · rw [List.concat_eq_append] at hl ⊢
    rw [between_snoc]; exact cmp_member_lt _ st' (hl kv (by simp))

theorem adv_valueAt (l : List (Bytes × JsonVal)) (k : Bytes) (x : JsonVal) (t : List (Bytes × JsonVal))
    (hx : valScans (serialize x)) : (valueAt l k x t).advance = .ok (between (l ++ [(k, x)]) t) := by
  rw [between_after]; exact hx _ _ _ (stopHead_afterVal t []) rfl

/-- the members before `K`: keys the scanner reads back, below `K`; values it passes in one step -/
def Earlier (K : Bytes) (l : List (Bytes × JsonVal)) : Prop :=
  ∀ kv ∈ l, keyScans kv.1 ∧ valScans (serialize kv.2) ∧ bytesCmp kv.1 K = .lt

theorem FlatPre.earlier {K : Bytes} {pre : List (Bytes × Bytes)} (h : FlatPre K pre) : Earlier K (pre.map mem) := by
  intro kv hkv
  obtain ⟨ks, hks, rfl⟩ := List.mem_map.mp hkv
  exact h ks hks

/-- two steps per member before `K`: to the value and over it -/
theorem run_to_member (K : Bytes) (st' : PState) (ms : List (Bytes × JsonVal))
    (h : st' ≠ .objectInitial ∧ st' ≠ .arrayInitial) :
    ∀ (pre l : List (Bytes × JsonVal)), Earlier K pre → (∀ kv ∈ l, bytesCmp kv.1 K = .lt) →
      Run (keyLoc st' K) (2 * pre.length) (between l (pre ++ ms)) (between (l ++ pre) ms)
  | [], l, _, _ => by simpa using Run.refl _
  | (k, v) :: t, l, hpre, hl => by
    obtain ⟨hk, hv, hlt⟩ := hpre (k, v) (by simp)
    have hrest := run_to_member K st' ms h t (l ++ [(k, v)]) (fun kv h => hpre kv (by simp [h]))
      (fun kv h => by rcases List.mem_append.mp h with h | h; exact hl kv h; simp at h; exact h ▸ hlt)
    rw [List.append_assoc] at hrest
    exact .step (adv_between l k v (t ++ ms) hk) (cmp_between l _ st' K h hl)
      (.step (adv_valueAt l k v (t ++ ms) hv) (cmp_member_lt .startOfValue st' hlt) hrest)

theorem scan_member (l : List (Bytes × JsonVal)) (K : Bytes) (x : JsonVal) (post : List (Bytes × JsonVal))
    (hl : Earlier K l) (hK : keyScans K) (forRemoval : Bool) :
    advanceTo (mkScanner (serialize (.obj (l ++ (K, x) :: post)))) (keyLoc .startOfValue K) forRemoval =
      .ok (true, bif forRemoval then between l ((K, x) :: post) else valueAt l K x post) := by
  have hrun := run_to_member K .startOfValue ((K, x) :: post) (by simp) l [] hl nofun
  have h0 : (mkScanner (serialize (.obj (l ++ (K, x) :: post)))).advance = .ok (between [] (l ++ (K, x) :: post)) := by
    simp [mkScanner, serialize, Scanner.advance, rootLoc, Scanner.pass, Loc.withState, between, serObj]
  have hroot : compareLoc rootLoc (keyLoc .startOfValue K) < 0 := by
    simp [compareLoc, keyLoc, rootLoc, compareElems, Loc.size, Loc.last, objElem]
  refine advanceTo_run_step (.step h0 hroot hrun) (adv_between l K x post hK)
    (cmp_between l _ _ K (by simp) fun kv hkv => (hl kv hkv).2.2) (cmp_member_same .startOfValue .startOfValue K) ?_
    forRemoval
  -- two steps per member, and a member takes at least one byte of the text
  have := congrArg List.length (serialize_split l K x post [])
  have := length_le_serObj l
  simp only [mkScanner, Scanner.size, lead, List.length_nil, List.length_cons, List.length_append] at *
  omega

theorem nextValue_valueAt (l : List (Bytes × JsonVal)) (K : Bytes) (x : JsonVal) (post : List (Bytes × JsonVal))
    (hx : valScans (serialize x)) :
    nextValue (valueAt l K x post) = .ok (serialize x, between (l ++ [(K, x)]) post) := by
  have hstop : compareLoc (between (l ++ [(K, x)]) post).path (keyLoc .endOfValue K) ≥ 0 := by
    rw [between_snoc, cmp_member_same]; decide
  rw [nextValue, adv_valueAt l K x post hx]
  simp only [show (valueAt l K x post).path.withState .endOfValue = keyLoc .endOfValue K from rfl, nextValueGo_stop hstop]
  simp [valueAt, between_after, keyLoc]

theorem advanceTo_value_end (l : List (Bytes × JsonVal)) (K : Bytes) (x : JsonVal) (post : List (Bytes × JsonVal))
    (hx : valScans (serialize x)) :
    advanceTo (valueAt l K x post) (keyLoc .endOfValue K) false = .ok (true, between (l ++ [(K, x)]) post) :=
  advanceTo_run_step (.refl _) (adv_valueAt l K x post hx) (cmp_valueAt_end l K x post)
    (by rw [between_snoc, cmp_member_same]; rfl) (by omega) false

theorem advanceTo_member_end (l : List (Bytes × JsonVal)) (K : Bytes) (x : JsonVal) (post : List (Bytes × JsonVal))
    (hl : Earlier K l) (hK : keyScans K) (hx : valScans (serialize x)) :
    advanceTo (between l ((K, x) :: post)) (keyLoc .endOfValue K) false = .ok (true, between (l ++ [(K, x)]) post) :=
  advanceTo_run_step
    (.step (adv_between l K x post hK) (cmp_between l _ _ K (by simp) fun kv hkv => (hl kv hkv).2.2) (.refl _))
    (adv_valueAt l K x post hx) (cmp_valueAt_end l K x post) (by rw [between_snoc, cmp_member_same]; rfl) (by omega) false

theorem iLookup_member (l : List (Bytes × JsonVal)) (K : Bytes) (x : JsonVal) (post : List (Bytes × JsonVal))
    (hl : Earlier K l) (hK : keyScans K) (hx : valScans (serialize x)) :
    iLookup (serialize (.obj (l ++ (K, x) :: post))) (keyLoc .startOfValue K) = .ok (some (serialize x)) := by
  simp only [iLookup, scan_member l K x post hl hK false, cond_false, nextValue_valueAt l K x post hx]

theorem iReplace_member (l : List (Bytes × JsonVal)) (K : Bytes) (x : JsonVal) (post : List (Bytes × JsonVal))
    (v : Bytes) (hl : Earlier K l) (hK : keyScans K) (hx : valScans (serialize x)) :
    iReplace (serialize (.obj (l ++ (K, x) :: post))) (keyLoc .startOfValue K) v =
      .ok (lead l K ++ (v ++ afterVal post []), true) ∧
    iSet (serialize (.obj (l ++ (K, x) :: post))) (keyLoc .startOfValue K) v =
      .ok (lead l K ++ (v ++ afterVal post []), true) := by
  have hrep : replaceInto (keyLoc .startOfValue K) (valueAt l K x post) v =
      .ok (lead l K ++ (v ++ afterVal post []), true) := by
    rw [replaceInto, show (keyLoc .startOfValue K).withState .endOfValue = keyLoc .endOfValue K from rfl,
      advanceTo_value_end l K x post hx]
    simp [prefixOf, restOf, valueAt, between_snoc, doneTail_afterVal]
  constructor
  · unfold iReplace; rw [scan_member l K x post hl hK false]; exact hrep
  · unfold iSet; rw [scan_member l K x post hl hK false]; exact hrep

theorem iRemove_member (l : List (Bytes × JsonVal)) (K : Bytes) (x : JsonVal) (post : List (Bytes × JsonVal))
    (hl : Earlier K l) (hK : keyScans K) (hx : valScans (serialize x)) :
    iRemove (serialize (.obj (l ++ (K, x) :: post))) (keyLoc .startOfValue K) =
      .ok (serialize (.obj (l ++ post)), true) := by
  rw [iRemove, scan_member l K x post hl hK true]
  simp only [cond_true, show (keyLoc .startOfValue K).withState .endOfValue = keyLoc .endOfValue K from rfl,
    advanceTo_member_end l K x post hl hK hx, between_snoc]
  rcases List.eq_nil_or_concat l with rfl | ⟨l', kv, rfl⟩
  · -- first member: the cursor stands just after `{`, and a comma after the member goes with it
    cases post with
    | nil => simp [between, afterVal, Scanner.cur, prefixOf, restOf, doneTail, serialize, serObj]
    | cons kv t =>
      simp [between, afterVal, Scanner.cur, Scanner.pass, prefixOf, restOf, serialize, serObj]
      cases hh : serObj (kv :: t) ++ [0x7d] <;> simp [doneTail]
  · -- a later member: the cursor stands at the end of the previous member's value
    have := serObj_append post [] (l' ++ [kv]) (by simp)
    simp only [List.append_assoc, List.singleton_append] at this
    rw [List.concat_eq_append, between_snoc]
    simp [prefixOf, restOf, doneTail_afterVal, serialize, this, keyLoc]

end DoltVerif.JsonDoc
