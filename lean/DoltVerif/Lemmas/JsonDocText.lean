import DoltVerif.Model.JsonDoc
/-! C17: the stored text of a non-empty array or object as its readers consume it — the first element
or member, then `afterElem` / `afterVal` (the closing bracket, or a comma and the rest).  Both the parser
(`JsonDocRoundTrip`) and the scanner (`JsonDocScan`) are run on this form. -/
namespace DoltVerif.JsonDoc

/-- the stored text after a member's value: `}` or `,` and the remaining members -/
def afterVal (t : List (Bytes × JsonVal)) (tail : Bytes) : Bytes :=
  match t with
  | [] => 0x7d :: tail
  | _ :: _ => 0x2c :: (serObj t ++ 0x7d :: tail)

/-- the stored text after an array element: `]` or `,` and the remaining elements -/
def afterElem (t : List JsonVal) (tail : Bytes) : Bytes :=
  match t with
  | [] => 0x5d :: tail
  | _ :: _ => 0x2c :: (serArr t ++ 0x5d :: tail)

theorem serObj_cons (k : Bytes) (v : JsonVal) (t : List (Bytes × JsonVal)) (tail : Bytes) :
    serObj ((k, v) :: t) ++ 0x7d :: tail = 0x22 :: k ++ 0x22 :: 0x3a :: (serialize v ++ afterVal t tail) := by
  cases t <;> simp [serObj, afterVal]

theorem serArr_cons (x : JsonVal) (t : List JsonVal) (tail : Bytes) :
    serArr (x :: t) ++ 0x5d :: tail = serialize x ++ afterElem t tail := by
  cases t <;> simp [serArr, afterElem]

theorem afterVal_cons (kv : Bytes × JsonVal) (t : List (Bytes × JsonVal)) (tail : Bytes) :
    afterVal (kv :: t) tail = 0x2c :: (serObj (kv :: t) ++ 0x7d :: tail) := rfl

theorem serObj_append (t : List (Bytes × JsonVal)) (tail : Bytes) : ∀ (l : List (Bytes × JsonVal)), l ≠ [] →
    serObj (l ++ t) ++ 0x7d :: tail = serObj l ++ afterVal t tail
  | [], h => absurd rfl h
  | [(k, v)], _ => by simp [serObj_cons, serObj]
  | (k, v) :: x :: r, _ => by
    have ih := serObj_append t tail (x :: r) (by simp)
    simp only [List.cons_append] at ih
    simp [afterVal, ih, serObj]

theorem length_le_serObj : ∀ (ms : List (Bytes × JsonVal)), ms.length ≤ (serObj ms).length
  | [] => Nat.zero_le _
  | [(k, v)] => by simp [serObj]
  | (k, v) :: x :: r => by
    have := length_le_serObj (x :: r)
    simp only [serObj, List.length_cons, List.length_append] at this ⊢; omega

/-- the separator in front of a member that follows the members `l` -/
def sep : List (Bytes × JsonVal) → Bytes
  | [] => []
  | _ :: _ => [0x2c]

theorem serObj_snoc (k : Bytes) (x : JsonVal) : ∀ (l : List (Bytes × JsonVal)),
    serObj (l ++ [(k, x)]) = serObj l ++ (sep l ++ (0x22 :: k ++ 0x22 :: 0x3a :: serialize x))
  | [] => by simp [serObj, sep]
  | [(k', v)] => by simp [serObj, sep]
  | (k', v) :: y :: r => by
    have ih := serObj_snoc k x (y :: r)
    simp only [List.cons_append] at ih
    simp [serObj, ih, sep]

/-- the text of an object from `{` up to the value of the member `k` that follows the members `l` -/
def lead (l : List (Bytes × JsonVal)) (k : Bytes) : Bytes :=
  0x7b :: (serObj l ++ (sep l ++ (0x22 :: k ++ [0x22, 0x3a])))

theorem serialize_split (l : List (Bytes × JsonVal)) (k : Bytes) (x : JsonVal) (t : List (Bytes × JsonVal))
    (tail : Bytes) :
    serialize (.obj (l ++ (k, x) :: t)) ++ tail = lead l k ++ (serialize x ++ afterVal t tail) := by
  cases l with
  | nil => simpa [serialize, lead, sep, serObj] using serObj_cons k x t tail
  | cons a l' =>
    have h := serObj_append ((k, x) :: t) tail (a :: l') (by simp)
    rw [afterVal_cons, serObj_cons] at h
    simp only [List.cons_append] at h
    simp [serialize, lead, sep, h]

end DoltVerif.JsonDoc
