/-
The leaf level of `ApplyMutations`: handing each leaf the edits up to its last key and applying
them leaf by leaf is applying the whole batch to the whole dictionary (C11, C12).
-/
import DoltVerif.Lemmas.Mutate
import DoltVerif.Lemmas.Overlay
import DoltVerif.Lemmas.TreeWF
namespace DoltVerif.Prolly
open DoltVerif.SortedDict

variable {κ ν : Type}

theorem leafRegions_content [BEq κ] [BEq ν] [Inhabited κ] {cmp : κ → κ → Ordering} (hc : TotalPreorder cmp) :
    ∀ (leaves : List (NodeH κ ν 0)) (es : Edits κ ν) (seen pk : Bool), leaves ≠ [] →
      (∀ l ∈ leaves, l ≠ []) → Sorted cmp (leaves.flatten : List (κ × ν)) →
      ((leafRegions cmp leaves es seen pk).flatMap (·.new) : List (κ × ν)) = applyEdits cmp leaves.flatten es
  | [], _, _, _, h, _, _ => absurd rfl h
  | [l], es, seen, pk, _, _, _ => by
    simp [leafRegions]
  | l :: l' :: ls, es, seen, pk, _, hne, hs => by
    have hs' : List.Pairwise (fun a b : κ × ν => cmp a.1 b.1 = .lt) (l ++ (l' :: ls).flatten) := hs
    obtain ⟨hsl, hsr, hcross⟩ := List.pairwise_append.mp hs'
    -- the last key of `l` bounds `l` from above and lies below everything after `l`
    obtain ⟨⟨kv, hkv, hlk⟩, hle⟩ := le_lastKey hc 0 l trivial (hne l (by simp)) hsl
    have hrest : ∀ x ∈ ((l' :: ls).flatten : List (κ × ν)), cmp (lastKey 0 l) x.1 = .lt := by
      intro x hx; rw [← hlk]; exact hcross kv hkv x hx
    have key := applyEdits_append hc (lastKey 0 l) ((l' :: ls).flatten : List (κ × ν)) hrest es l hle
    have ih := leafRegions_content hc (l' :: ls) (es.dropWhile (fun e => cmp e.1 (lastKey 0 l) != .gt))
      (seen || !(es.takeWhile (fun e => cmp e.1 (lastKey 0 l) != .gt)).isEmpty)
      (lastKeptLeaf l (applyEdits cmp l (es.takeWhile (fun e => cmp e.1 (lastKey 0 l) != .gt)))) (by simp)
      (fun x hx => hne x (by simp [hx])) hsr
    rw [leafRegions, List.flatMap_cons]
    simp only
    rw [ih]
    exact key.symm

theorem leafRegions_old [BEq κ] [BEq ν] [Inhabited κ] (cmp : κ → κ → Ordering) :
    ∀ (leaves : List (NodeH κ ν 0)) (es : Edits κ ν) (seen pk : Bool),
      (leafRegions cmp leaves es seen pk).map (·.old) = leaves
  | [], _, _, _ => rfl
  | [_], _, _, _ => rfl
  | l :: l' :: ls, es, seen, pk => by
    rw [leafRegions]
    simp only [List.map_cons]
    rw [leafRegions_old cmp (l' :: ls)]
    rfl

theorem lookup_of_isNoop [BEq κ] [BEq ν] [LawfulBEq κ] [LawfulBEq ν] (cmp : κ → κ → Ordering) (l : List (κ × ν))
    (e : κ × Option ν) (h : isNoop cmp l e = true) : lookup cmp l e.1 = (emit e.1 e.2).head? := by
  unfold isNoop at h
  unfold lookup
  split at h
  · rename_i h1 h2; rw [h1, h2]; rfl
  · rename_i kv v h1 h2
    simp only [Bool.and_eq_true, beq_iff_eq] at h
    rw [h1, h2, ← h.1, ← h.2]; rfl
  · cases h

theorem leafRegions_clean [BEq κ] [BEq ν] [LawfulBEq κ] [LawfulBEq ν] [Inhabited κ] {cmp : κ → κ → Ordering}
    (hc : TotalPreorder cmp) :
    ∀ (leaves : List (NodeH κ ν 0)) (es : Edits κ ν) (seen pk : Bool),
      (∀ l ∈ leaves, Sorted cmp (l : List (κ × ν))) → Sorted cmp es →
      CleanUnchanged (leafRegions cmp leaves es seen pk)
  | [], _, _, _, _, _ => by intro r hr; simp [leafRegions] at hr
  | [l], es, seen, pk, hs, hes => by
    intro r hr hd
    simp only [leafRegions, List.mem_singleton] at hr
    subst hr
    simp only [Bool.or_eq_false_iff, List.any_eq_false, Bool.not_eq_true', Bool.not_eq_false'] at hd
    exact noop_all hc es l (hs l (by simp)) hes (fun e he => lookup_of_isNoop cmp l e (by simpa using hd.1.2 e he))
  | l :: l' :: ls, es, seen, pk, hs, hes => by
    intro r hr hd
    rw [leafRegions] at hr
    simp only [List.mem_cons] at hr
    rcases hr with rfl | hr
    · simp only [Bool.or_eq_false_iff, List.any_eq_false, Bool.not_eq_true', Bool.not_eq_false'] at hd
      have hsub : (es.takeWhile (fun e => cmp e.1 (lastKey 0 l) != .gt)).Sublist es := List.takeWhile_sublist _
      exact noop_all hc _ l (hs l (by simp)) (List.Pairwise.sublist hsub hes)
        (fun e he => lookup_of_isNoop cmp l e (by simpa using hd.1.2 e he))
    · have hsub : (es.dropWhile (fun e => cmp e.1 (lastKey 0 l) != .gt)).Sublist es := List.dropWhile_sublist _
      exact leafRegions_clean hc (l' :: ls) _ _ _ (fun x hx => hs x (by simp [hx]))
        (List.Pairwise.sublist hsub hes) r hr hd

end DoltVerif.Prolly
