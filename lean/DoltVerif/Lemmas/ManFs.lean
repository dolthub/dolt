import DoltVerif.Model.ManFs
/-! The invariant `Inv` of the ManFs protocol model (C05) and its parts: `FsInv` (every crash prefix of the pending
directory operations is a good directory, with the old or the new manifest) and what each kind of directory operation,
a directory fsync and a crash do to it; what a writer (`WInv`) and a pruner (`PKeep`) know inside the LOCK; when an
unlocked step is safe (`StepSafe`).  That the actors' steps preserve `Inv` is `ManFsStep`. -/
namespace DoltVerif.ManFs

/-- the C05 predicate on one directory state -/
def GoodDir (d : Dir) : Prop :=
  (d.manifest = none ∨ ∃ m, d.manifest = some (.complete m true)) ∧ ∀ t ∈ d.specs, t ∈ d.tables

/-- the directory as it would be if exactly the first `k` pending operations had reached the disk -/
def Fs.pre (fs : Fs) (k : Nat) : Dir := fs.dur.replay (fs.pend.take k)

structure FsInv (fs : Fs) : Prop where
  coh : fs.vis = fs.dur.replay fs.pend
  good : ∀ k, GoodDir (fs.pre k)
  oldnew : ∀ k, (fs.pre k).manifest = fs.dur.manifest ∨ (fs.pre k).manifest = fs.vis.manifest

/-- no manifest rename is pending -/
def NoRen (fs : Fs) : Prop := ∀ k, (fs.pre k).manifest = fs.dur.manifest

theorem replay_append (d : Dir) (a b : List DirOp) : d.replay (a ++ b) = (d.replay a).replay b := by
  simp [Dir.replay, List.foldl_append]

theorem replay_snoc (d : Dir) (a : List DirOp) (o : DirOp) : d.replay (a ++ [o]) = (d.replay a).apply o := by
  simp [Dir.replay, List.foldl_append]

theorem maskOps_sublist (ops : List DirOp) (mask : List Bool) : (maskOps ops mask).Sublist ops := by
  fun_induction maskOps ops mask
  next ih => exact ih.cons_cons _ -- kept
  next ih => exact ih.cons _ -- dropped
  next => exact List.nil_sublist _

theorem pre_all {fs : Fs} (hc : fs.vis = fs.dur.replay fs.pend) : fs.pre fs.pend.length = fs.vis := by
  rw [Fs.pre, List.take_length, hc]

theorem FsInv.vis_good {fs : Fs} (h : FsInv fs) : GoodDir fs.vis := by
  rw [← pre_all h.coh]; exact h.good _

theorem NoRen.vis {fs : Fs} (hc : fs.vis = fs.dur.replay fs.pend) (h : NoRen fs) : fs.vis.manifest = fs.dur.manifest := by
  rw [← pre_all hc]; exact h _

theorem pre_op_le (fs : Fs) (o : DirOp) (k : Nat) (hk : k ≤ fs.pend.length) : (fs.op o).pre k = fs.pre k := by
  simp only [Fs.pre, Fs.op]
  rw [List.take_append_of_le_length hk]

theorem pre_op_gt (fs : Fs) (o : DirOp) (k : Nat) (hk : fs.pend.length < k) (hc : fs.vis = fs.dur.replay fs.pend) :
    (fs.op o).pre k = fs.vis.apply o := by
  simp only [Fs.pre, Fs.op]
  rw [List.take_of_length_le (by simp; omega), replay_snoc, ← hc]

theorem GoodDir.tear {d : Dir} (h : GoodDir d) : d.tear = d := by
  unfold Dir.tear
  rcases h.1 with e | ⟨m, e⟩ <;> simp [e]

theorem apply_manifest_of_not_rename (d : Dir) (o : DirOp) (h : ∀ f, o ≠ .renameMan f) : (d.apply o).manifest = d.manifest := by
  cases o with
  | renameMan f => exact absurd rfl (h f)
  | addTable n => rfl
  | unlinkTable n => rfl

theorem FsInv.op {fs : Fs} (h : FsInv fs) (o : DirOp) (hg : GoodDir (fs.vis.apply o))
    (hold : ∀ k, (fs.pre k).manifest = fs.dur.manifest ∨ (fs.pre k).manifest = (fs.vis.apply o).manifest) :
    FsInv (fs.op o) := by
  refine ⟨?_, fun k => ?_, fun k => ?_⟩
  · simp only [Fs.op]; rw [replay_snoc, ← h.coh]
  · by_cases hk : k ≤ fs.pend.length
    · rw [pre_op_le fs o k hk]; exact h.good k
    · rw [pre_op_gt fs o k (by omega) h.coh]; exact hg
  · by_cases hk : k ≤ fs.pend.length
    · rw [pre_op_le fs o k hk]; exact hold k
    · rw [pre_op_gt fs o k (by omega) h.coh]; exact Or.inr rfl

theorem FsInv.op_other {fs : Fs} (h : FsInv fs) (o : DirOp) (hn : ∀ f, o ≠ .renameMan f) (hg : GoodDir (fs.vis.apply o)) :
    FsInv (fs.op o) :=
  h.op o hg fun k => by rw [apply_manifest_of_not_rename _ _ hn]; exact h.oldnew k

theorem NoRen.op_other {fs : Fs} (hc : fs.vis = fs.dur.replay fs.pend) (h : NoRen fs) (o : DirOp) (hn : ∀ f, o ≠ .renameMan f) :
    NoRen (fs.op o) := by
  intro k
  by_cases hk : k ≤ fs.pend.length
  · rw [pre_op_le fs o k hk]; exact h k
  · rw [pre_op_gt fs o k (by omega) hc, apply_manifest_of_not_rename _ _ hn]; exact h.vis hc

theorem FsInv.op_rename {fs : Fs} (h : FsInv fs) (hr : NoRen fs) (m : Man) (hp : ∀ t ∈ m.specs, t ∈ fs.vis.tables) :
    FsInv (fs.op (.renameMan (.complete m true))) :=
  h.op _ ⟨Or.inr ⟨m, rfl⟩, hp⟩ fun k => Or.inl (hr k)

theorem fsInv_settled {d : Dir} (hg : GoodDir d) :
    FsInv { vis := d, dur := d, pend := [] } ∧ NoRen { vis := d, dur := d, pend := [] } := by
  have hp : ∀ k, ({ vis := d, dur := d, pend := [] } : Fs).pre k = d := fun k => by simp [Fs.pre, Dir.replay]
  exact ⟨⟨rfl, fun k => by rw [hp]; exact hg, fun k => by rw [hp]; exact Or.inl rfl⟩, fun k => by rw [hp]⟩

theorem FsInv.syncDir {fs : Fs} (h : FsInv fs) : FsInv fs.syncDir ∧ NoRen fs.syncDir := fsInv_settled h.vis_good

theorem FsInv.crashPrefix_eq {fs : Fs} (h : FsInv fs) (k : Nat) : fs.crashPrefix k = fs.pre k :=
  GoodDir.tear (h.good k)

theorem FsInv.crash_good {fs : Fs} (h : FsInv fs) (k : Nat) : GoodDir (fs.crashPrefix k) := by
  rw [h.crashPrefix_eq]; exact h.good k

theorem FsInv.crash {fs : Fs} (h : FsInv fs) (k : Nat) :
    FsInv { vis := fs.crashPrefix k, dur := fs.crashPrefix k, pend := [] } ∧
    NoRen { vis := fs.crashPrefix k, dur := fs.crashPrefix k, pend := [] } :=
  fsInv_settled (h.crash_good k)

/-- does the actor stand inside the region the LOCK file protects? -/
def Actor.holds : Actor → Bool
  | .writer w => w.pc != .idle
  | .pruner p => p.pc == .locked || p.pc == .keeping
  | _ => false

/-- what the writer parsed under the LOCK is the manifest of `d` -/
def SeenOK (d : Dir) (seen : Option Man) : Prop :=
  match seen with
  | none => d.manifest = none
  | some m => d.manifest = some (.complete m true)

theorem SeenOK.specs_sub {d : Dir} {seen : Option Man} (h : SeenOK d seen) : ∀ t ∈ seenSpecs seen, t ∈ d.specs := by
  intro t ht
  cases seen with
  | none => cases ht
  | some m => unfold Dir.specs; rw [show d.manifest = _ from h]; exact ht

theorem specsPresent_iff (d : Dir) (seen : Option Man) (new : Man) :
    specsPresent d seen new = true ↔ ∀ t ∈ new.specs, t ∈ seenSpecs seen ∨ t ∈ d.tables := by
  simp only [specsPresent, List.all_eq_true, Bool.or_eq_true, List.contains_iff_mem]

/-- what a writer between `temp.Sync` and `Rename` knows about its temp file, the manifest it parsed, the files it names -/
structure WInv (d : Dir) (w : Writer) : Prop where
  tmp : (w.pc = .synced ∨ w.pc = .read ∨ w.pc = .compared ∨ w.pc = .validated) → w.tmp = some (.complete w.new true)
  seen : (w.pc = .read ∨ w.pc = .compared ∨ w.pc = .validated) → SeenOK d w.seen
  present : w.pc = .validated → ∀ t ∈ w.new.specs, t ∈ d.tables

/-- a pruner that has built its keep set -/
def PKeep (d : Dir) (p : Pruner) : Prop := (∀ t ∈ d.specs, t ∈ p.keep) ∧ ∀ t ∈ p.upstream, t ∈ p.keep

/-- the invariant of C05; `ren`: a manifest rename is pending only while its writer stands right after `Rename` -/
structure Inv (s : Sys) : Prop where
  fs : FsInv s.fs
  excl : ∀ a, (s.actors a).holds = true → s.lock = some a
  wr : ∀ a w, s.actors a = .writer w → WInv s.fs.vis w
  pr : ∀ a p, s.actors a = .pruner p → p.pc = .keeping → PKeep s.fs.vis p
  ren : NoRen s.fs ∨ ∃ a w, s.actors a = .writer w ∧ w.pc = .renamed

theorem inv_init : Inv Sys.init :=
  have h := fsInv_settled (d := Dir.empty) ⟨Or.inl rfl, fun _ ht => (nomatch ht)⟩
  ⟨h.1, fun _ hh => (nomatch hh), fun _ _ hw => (nomatch hw), fun _ _ hp => (nomatch hp), Or.inl h.2⟩

/-- an unlink that does not take the LOCK is safe at this state: the name is not in the visible manifest and
no writer that has already passed `checkNewSpecsPresent` is about to publish it -/
def CSafe (s : Sys) (n : Name) : Prop :=
  n ∉ s.fs.vis.specs ∧ ∀ b w, s.actors b = .writer w → w.pc = .validated → n ∉ w.new.specs

/-- what a schedule must satisfy for the invariant: unlocked unlinks are safe when they happen -/
def StepSafe (s : Sys) : Step → Prop
  | .cUnlink a n => ∀ names, s.actors a = .cleaner names → names.contains n = true → CSafe s n
  -- the journal manifest's checker has no checkNewSpecsPresent: when a journal update validates, the table files it
  -- names must be there (the owning process only names files it has landed or opened itself)
  | .jw a => ∀ w, s.actors a = .writer w → w.journal = true → w.pc = .compared → ∀ t ∈ w.new.specs, t ∈ s.fs.vis.tables
  | _ => True

theorem holders_eq {s : Sys} (hi : Inv s) {a b : Nat} (ha : (s.actors a).holds = true) (hb : (s.actors b).holds = true) : a = b := by
  have := hi.excl a ha
  rw [hi.excl b hb] at this
  simpa using this.symm

theorem WInv.mono {d d' : Dir} {w : Writer} (h : WInv d w) (hm : d'.manifest = d.manifest) (ht : ∀ t ∈ d.tables, t ∈ d'.tables) :
    WInv d' w :=
  ⟨h.tmp, fun hp => by have := h.seen hp; unfold SeenOK at this ⊢; rw [hm]; exact this, fun hp t ht' => ht t (h.present hp t ht')⟩

theorem mem_apply_add (d : Dir) (n t : Name) (h : t ∈ d.tables) : t ∈ (d.apply (.addTable n)).tables := by
  simp only [Dir.apply]; split
  · exact h
  · exact List.mem_append_left _ h

theorem mem_apply_unlink (d : Dir) (n t : Name) (h : t ∈ d.tables) (hne : t ≠ n) : t ∈ (d.apply (.unlinkTable n)).tables := by
  simp only [Dir.apply, List.mem_filter]; exact ⟨h, by simpa using hne⟩

theorem specs_apply_other (d : Dir) (o : DirOp) (hn : ∀ f, o ≠ .renameMan f) : (d.apply o).specs = d.specs := by
  simp [Dir.specs, apply_manifest_of_not_rename d o hn]

theorem good_add {d : Dir} (h : GoodDir d) (n : Name) : GoodDir (d.apply (.addTable n)) :=
  ⟨by simpa [Dir.apply] using h.1, by
    intro t ht; rw [specs_apply_other _ _ (by intro f e; cases e)] at ht; exact mem_apply_add d n t (h.2 t ht)⟩

theorem good_unlink {d : Dir} (h : GoodDir d) (n : Name) (hn : n ∉ d.specs) : GoodDir (d.apply (.unlinkTable n)) :=
  ⟨by simpa [Dir.apply] using h.1, by
    intro t ht; rw [specs_apply_other _ _ (by intro f e; cases e)] at ht
    exact mem_apply_unlink d n t (h.2 t ht) (by intro e; subst e; exact hn ht)⟩

end DoltVerif.ManFs
