import DoltVerif.Lemmas.ManFs
/-! `Inv` is preserved by every step of every actor of the ManFs model (unlocked unlinks under `StepSafe`). -/
namespace DoltVerif.ManFs

theorem WInv.vac {d : Dir} {w : Writer} (p : WPc) (hp : w.pc = p)
    (h : p ≠ .synced ∧ p ≠ .read ∧ p ≠ .compared ∧ p ≠ .validated) : WInv d w := by
  subst hp
  exact ⟨fun h' => by rcases h' with e | e | e | e <;> simp [e] at h,
    fun h' => by rcases h' with e | e | e <;> simp [e] at h, fun e => absurd e h.2.2.2⟩

theorem WInv.unlink {d : Dir} {w : Writer} (h : WInv d w) (n : Name) (hn : w.pc = .validated → n ∉ w.new.specs) :
    WInv (d.apply (.unlinkTable n)) w :=
  ⟨h.tmp, h.seen, fun hp t ht => mem_apply_unlink d n t (h.present hp t ht) (by intro e; subst e; exact hn hp ht)⟩

theorem WInv.at_synced {d : Dir} {w : Writer} (hpc : w.pc = .synced) (ht : w.tmp = some (.complete w.new true)) : WInv d w :=
  ⟨fun _ => ht, (fun h => by rw [hpc] at h; rcases h with h | h | h <;> cases h), (fun h => by rw [hpc] at h; cases h)⟩

theorem WInv.at_read {d : Dir} {w : Writer} (hpc : w.pc = .read ∨ w.pc = .compared) (ht : w.tmp = some (.complete w.new true))
    (hs : SeenOK d w.seen) : WInv d w :=
  ⟨fun _ => ht, fun _ => hs, (fun h => by rcases hpc with e | e <;> (rw [e] at h; cases h))⟩

theorem writer_holds {w : Writer} (h : w.pc ≠ .idle) : (Actor.writer w).holds = true := by
  simp [Actor.holds, h]

/-- right after its rename is the one point where a writer's rename may be pending -/
def NotRenamed (s : Sys) (a : Nat) : Prop := ∀ w, s.actors a = .writer w → w.pc ≠ .renamed

theorem noRen_of_holder {s : Sys} (hi : Inv s) (a : Nat) (hh : (s.actors a).holds = true)
    (hnr : NotRenamed s a) : NoRen s.fs := by
  rcases hi.ren with h | ⟨c, w, hc, hpc⟩
  · exact h
  · have hch : (s.actors c).holds = true := by rw [hc]; exact writer_holds (by rw [hpc]; decide)
    have := holders_eq hi hh hch
    subst this
    exact absurd hpc (hnr w hc)

theorem inv_setActor {s : Sys} (hi : Inv s) (a : Nat) (x : Actor) (L : Option Nat) (fs' : Fs) (hfs : FsInv fs')
    (hvis : fs'.vis = s.fs.vis)
    (hex : ∀ b, (if b = a then x else s.actors b).holds = true → L = some b)
    (hw : ∀ w, x = .writer w → WInv s.fs.vis w)
    (hp : ∀ p, x = .pruner p → p.pc = .keeping → PKeep s.fs.vis p)
    (hr : NoRen fs' ∨ ∃ b w, (if b = a then x else s.actors b) = .writer w ∧ w.pc = .renamed) :
    Inv ({ s with fs := fs', lock := L }.setActor a x) := by
  refine ⟨hfs, hex, fun b w hb => ?_, fun b p hb => ?_, hr⟩ <;> simp only [Sys.setActor] at hb ⊢ <;> rw [hvis] <;>
    split at hb
  · exact hw w hb
  · exact hi.wr b w hb
  · exact hp p hb
  · exact hi.pr b p hb

theorem ren_keep {s : Sys} (hi : Inv s) (a : Nat) (x : Actor) (hnr : NotRenamed s a) :
    NoRen s.fs ∨ ∃ b w, (if b = a then x else s.actors b) = .writer w ∧ w.pc = .renamed := by
  rcases hi.ren with h | ⟨c, w, hc, hpc⟩
  · exact Or.inl h
  · by_cases e : c = a
    · subst e; exact absurd hpc (hnr w hc)
    · exact Or.inr ⟨c, w, by simp [e, hc], hpc⟩

theorem inv_set_idle {s : Sys} (hi : Inv s) (a : Nat) (x : Actor) (hx : x.holds = false) (L : Option Nat)
    (hL : L = s.lock ∨ L = if s.lock = some a then none else s.lock)
    (hnr : NotRenamed s a) (hw : ∀ w, x = .writer w → WInv s.fs.vis w) :
    Inv ({ s with lock := L }.setActor a x) := by
  refine inv_setActor hi a x L s.fs hi.fs rfl (fun b hb => ?_) hw (fun p e hk => ?_) (ren_keep hi a x hnr)
  · by_cases e : b = a
    · rw [if_pos e, hx] at hb; cases hb
    · rw [if_neg e] at hb
      have hl := hi.excl b hb
      rcases hL with rfl | rfl
      · exact hl
      · rw [if_neg (by rw [hl]; exact fun h => e (Option.some.inj h))]; exact hl
  · subst e; simp [Actor.holds, hk] at hx

theorem inv_set_owner {s : Sys} (hi : Inv s) (a : Nat) (x : Actor) (L : Option Nat) (hL : L = some a)
    (hfree : s.lock = none ∨ s.lock = some a) (hnr : NotRenamed s a)
    (hw : ∀ w, x = .writer w → WInv s.fs.vis w) (hp : ∀ p, x = .pruner p → p.pc = .keeping → PKeep s.fs.vis p) :
    Inv ({ s with lock := L }.setActor a x) := by
  refine inv_setActor hi a x L s.fs hi.fs rfl (fun b hb => ?_) hw hp (ren_keep hi a x hnr)
  by_cases e : b = a
  · rw [hL, e]
  · rw [if_neg e] at hb
    have hl := hi.excl b hb
    rcases hfree with h | h <;> rw [h] at hl
    · cases hl
    · rw [hL]; exact hl

theorem inv_writer {s : Sys} (hi : Inv s) {a : Nat} {w : Writer} (hw : s.actors a = .writer w) {p : WPc} (hpc : w.pc = p)
    (w' : Writer) (hwi : WInv s.fs.vis w') (hp : p ≠ .idle ∧ p ≠ .renamed := by decide) :
    Inv (s.setActor a (.writer w')) := by
  subst hpc
  have hl := hi.excl a (by rw [hw]; exact writer_holds hp.1)
  exact inv_set_owner hi a _ s.lock hl (Or.inr hl) (fun w'' h => by rw [hw] at h; cases h; exact hp.2)
    (fun w'' h => by cases h; exact hwi) (fun q h => by cases h)

theorem inv_leave {s : Sys} (hi : Inv s) (a : Nat) (hnr : NotRenamed s a) : Inv (s.leave a) :=
  inv_set_idle hi a .none rfl _ (Or.inr rfl) hnr (fun w h => by cases h)

theorem inv_leaveW {s : Sys} (hi : Inv s) {a : Nat} {w : Writer} (hw : s.actors a = .writer w) {p : WPc} (hpc : w.pc = p)
    (hp : p ≠ .renamed := by decide) : Inv (s.leaveW a w) := by
  subst hpc
  have hnr' : NotRenamed s a := fun w' h => by rw [hw] at h; cases h; exact hp
  unfold Sys.leaveW
  split
  · exact inv_set_idle hi a .none rfl s.lock (Or.inl rfl) hnr' (fun w h => by cases h)
  · exact inv_leave hi a hnr'

theorem inv_op_other {s : Sys} (hi : Inv s) (o : DirOp) (hn : ∀ f, o ≠ .renameMan f) (hg : GoodDir (s.fs.vis.apply o))
    (hw : ∀ a w, s.actors a = .writer w → WInv (s.fs.vis.apply o) w) :
    Inv { s with fs := s.fs.op o } := by
  refine ⟨hi.fs.op_other o hn hg, hi.excl, hw, ?_, ?_⟩
  · intro a p ha hk
    refine ⟨?_, (hi.pr a p ha hk).2⟩
    intro t ht
    simp only [Fs.op] at ht
    rw [specs_apply_other _ _ hn] at ht
    exact (hi.pr a p ha hk).1 t ht
  · rcases hi.ren with h | h
    · exact Or.inl (NoRen.op_other hi.fs.coh h o hn)
    · exact Or.inr h

theorem present_of_check {s : Sys} (hi : Inv s) {seen : Option Man} {new : Man} (hseen : SeenOK s.fs.vis seen)
    (h : specsPresent s.fs.vis seen new = true) : ∀ t ∈ new.specs, t ∈ s.fs.vis.tables := fun t ht =>
  ((specsPresent_iff _ _ _).1 h t ht).elim (fun h1 => hi.fs.vis_good.2 t (hseen.specs_sub t h1)) id

/-- the writer holds the LOCK: no other rename is pending, every other writer is idle, no pruner is keeping -/
theorem inv_rename {s : Sys} (hi : Inv s) {a : Nat} {w : Writer} (hw : s.actors a = .writer w) (hpc : w.pc = .validated) :
    Inv ({ s with fs := s.fs.op (.renameMan (.complete w.new true)) }.setActor a
      (.writer { w with pc := .renamed, tmp := none })) := by
  have hah : (s.actors a).holds = true := by rw [hw]; exact writer_holds (by rw [hpc]; decide)
  have hnr : NoRen s.fs := noRen_of_holder hi a hah (by intro w' h; rw [hw] at h; cases h; rw [hpc]; decide)
  refine ⟨hi.fs.op_rename hnr w.new ((hi.wr a w hw).present hpc), fun b hb => ?_, fun b w' hb => ?_, fun b q hb hk => ?_,
    Or.inr ⟨a, { w with pc := .renamed, tmp := none }, by simp [Sys.setActor], rfl⟩⟩ <;>
    simp only [Sys.setActor] at hb ⊢ <;> by_cases e : b = a
  · rw [e]; exact hi.excl a hah
  · rw [if_neg e] at hb; exact hi.excl b hb
  · rw [if_pos e] at hb; cases hb; exact WInv.vac .renamed rfl (by decide)
  · rw [if_neg e] at hb
    have hidle : w'.pc = .idle := Classical.byContradiction fun h =>
      e (holders_eq hi (by rw [hb]; exact writer_holds h) hah)
    exact WInv.vac .idle hidle (by decide)
  · rw [if_pos e] at hb; cases hb
  · rw [if_neg e] at hb
    exact absurd (holders_eq hi (by rw [hb]; simp [Actor.holds, hk]) hah) e

theorem inv_wStep {s : Sys} (hi : Inv s) (a : Nat) (w : Writer) (hw : s.actors a = .writer w)
    (hs : w.journal = true → w.pc = .compared → ∀ t ∈ w.new.specs, t ∈ s.fs.vis.tables) : Inv (s.wStep a w) := by
  have hwi := hi.wr a w hw
  -- one goal per path through `wStep`, in the order of its text, with the tests on the way as hypotheses;
  -- a `tryFileLock` that finds the LOCK taken leaves `s`, every failure path is `leaveW`
  fun_cases Sys.wStep s a w
  all_goals try exact hi
  any_goals (show Inv (s.leaveW a w); exact inv_leaveW hi hw ‹w.pc = _›)
  next hidle hfree =>
    -- `tryFileLock`; the process of a journal writer owns the LOCK already
    refine inv_set_owner hi a _ (some a) rfl ?_ (fun w' h => by rw [hw] at h; cases h; rw [hidle]; decide)
      (fun w' h => by cases h; exact WInv.vac .locked rfl (by decide)) (fun q h => by cases h)
    split at hfree
    · exact Or.inr hfree
    · exact Or.inl hfree
  next hlocked => exact inv_writer hi hw hlocked _ (.vac .tempCreated rfl (by decide))
  next htempCreated _ => exact inv_writer hi hw htempCreated _ (.vac .written rfl (by decide))
  next hwritten => exact inv_writer hi hw hwritten _ (.at_synced rfl rfl)
  next hsynced hm => exact inv_writer hi hw hsynced _ (.at_read (Or.inl rfl) (hwi.tmp (Or.inl hsynced)) hm)
  next hsynced m sy hm =>
    -- what is parsed under the LOCK is the visible manifest, which is complete and synced
    have hsy : s.fs.vis.manifest = some (.complete m true) := by
      rcases hi.fs.vis_good.1 with e | ⟨m', e⟩ <;> rw [e] at hm <;> cases hm
      exact e
    exact inv_writer hi hw hsynced _ (.at_read (Or.inl rfl) (hwi.tmp (Or.inl hsynced)) hsy)
  next hread _ =>
    exact inv_writer hi hw hread _ (.at_read (Or.inr rfl) (hwi.tmp (Or.inr (Or.inl hread))) (hwi.seen (Or.inl hread)))
  next hcompared hv =>
    have hseen := hwi.seen (Or.inr (Or.inl hcompared))
    have hpres : ∀ t ∈ w.new.specs, t ∈ s.fs.vis.tables := by
      by_cases hj : w.journal = true
      · exact hs hj hcompared
      simp only [Bool.and_eq_true, Bool.or_eq_true] at hv
      exact present_of_check hi hseen (hv.2.resolve_left hj)
    exact inv_writer hi hw hcompared _
      ⟨fun _ => hwi.tmp (Or.inr (Or.inr (Or.inl hcompared))), fun _ => hseen, fun _ => hpres⟩
  next hvalidated f hf =>
    rw [hwi.tmp (Or.inr (Or.inr (Or.inr hvalidated)))] at hf
    cases hf
    exact inv_rename hi hw hvalidated
  next hrenamed =>
    -- `SyncDirectoryHandle`: the rename is durable, nothing is pending any more
    obtain ⟨hfs, hnr⟩ := hi.fs.syncDir
    have hl := hi.excl a (by rw [hw]; exact writer_holds (by rw [hrenamed]; decide))
    refine inv_setActor hi a _ s.lock _ hfs rfl (fun b hb => ?_) (fun w' h => by cases h; exact WInv.vac .dirSynced rfl (by decide))
      (fun q h => by cases h) (Or.inl hnr)
    by_cases e : b = a
    · rw [e]; exact hl
    · rw [if_neg e] at hb; exact hi.excl b hb

/-- the keep set covers the visible manifest, and a writer past `validate` would hold the LOCK the pruner holds -/
theorem inv_pUnlink {s : Sys} (hi : Inv s) {a : Nat} {p : Pruner} (hp : s.actors a = .pruner p) (hk : p.pc = .keeping)
    (n : Name) (hnk : n ∉ p.keep) : Inv { s with fs := s.fs.op (.unlinkTable n) } := by
  have hnot : n ∉ s.fs.vis.specs := fun hin => hnk ((hi.pr a p hp hk).1 n hin)
  have hah : (s.actors a).holds = true := by rw [hp]; simp [Actor.holds, hk]
  refine inv_op_other hi _ (by intro f e; cases e) (good_unlink hi.fs.vis_good n hnot) fun b w hb =>
    (hi.wr b w hb).unlink n fun hv => ?_
  have := holders_eq hi hah (by rw [hb]; exact writer_holds (by rw [hv]; decide))
  subst this
  rw [hp] at hb; cases hb

theorem inv_pStep {s : Sys} (hi : Inv s) (a : Nat) (p : Pruner) (hp : s.actors a = .pruner p) : Inv (s.pStep a p) := by
  have hnr : NotRenamed s a := fun w h => by rw [hp] at h; cases h
  have hl : p.pc = .locked → s.lock = some a := fun h => hi.excl a (by rw [hp]; simp [Actor.holds, h])
  fun_cases Sys.pStep s a p
  all_goals try exact hi
  next hidle => exact inv_set_idle hi a _ rfl s.lock (Or.inl rfl) hnr (fun w h => by cases h)
  next hsnapped hfree =>
    exact inv_set_owner hi a _ (some a) rfl (Or.inl hfree) hnr (fun w h => by cases h) (fun q h hk => by cases h; cases hk)
  -- the keep set is built from the manifest read under the LOCK
  next hlocked hm =>
    exact inv_set_owner hi a _ s.lock (hl hlocked) (Or.inr (hl hlocked)) hnr (fun w h => by cases h)
      (fun q h _ => by cases h; exact ⟨by intro t ht; simp [Dir.specs, hm] at ht, fun t ht => ht⟩)
  next hlocked m sy hm =>
    exact inv_set_owner hi a _ s.lock (hl hlocked) (Or.inr (hl hlocked)) hnr (fun w h => by cases h)
      (fun q h _ => by cases h; exact ⟨by intro t ht; simp [Dir.specs, hm] at ht; simp [ht], fun t ht => List.mem_append_left _ ht⟩)
  all_goals exact inv_leave hi a hnr

theorem inv_step (s : Sys) (hi : Inv s) (st : Step) (hs : StepSafe s st) : Inv (s.step st) := by
  have spawn : ∀ a x, s.actors a = .none → x.holds = false → (∀ w, x = .writer w → WInv s.fs.vis w) →
      Inv (s.setActor a x) := fun a x hn hx hw =>
    inv_set_idle hi a x hx s.lock (Or.inl rfl) (fun w h => by rw [hn] at h; cases h) hw
  -- every kind of step has one path that does something, the others end in `s`; what is left is one goal per kind of
  -- step, in the order of the text of `Sys.step` (the constructor of `Step` is named at each)
  fun_cases Sys.step s st
  all_goals try exact hi
  next n =>   -- `.land`
    exact inv_op_other hi _ (by intro f e; cases e) (good_add hi.fs.vis_good n)
      (fun a w ha => (hi.wr a w ha).mono rfl (fun t ht => mem_apply_add _ n t ht))
  next a lastLock new gc hn =>   -- `.spawnWriter`
    exact spawn a _ hn rfl (fun w h => by cases h; exact WInv.vac .idle rfl (by decide))
  next a upstream hn =>   -- `.spawnPruner`
    exact spawn a _ hn rfl (fun w h => by cases h)
  next a names hn =>   -- `.spawnCleaner`
    exact spawn a _ hn rfl (fun w h => by cases h)
  next a w hw hj =>   -- `.w`
    exact inv_wStep hi a w hw (by intro h; exact absurd h hj)
  next a w hw hj =>   -- `.jw`
    exact inv_wStep hi a w hw (fun _ => hs w hw hj)
  next a w hw hpc =>   -- `.wFail`
    exact inv_leaveW hi hw rfl fun e => hpc (Or.inl e)
  next a p hp =>   -- `.p`
    exact inv_pStep hi a p hp
  next a n p hp hc =>   -- `.pUnlink`
    exact inv_pUnlink hi hp hc.1 n (by simpa using hc.2.2)
  next a p hp =>   -- `.pAbort`
    exact inv_leave hi a (by intro w h; rw [hp] at h; cases h)
  next a n names hn hc =>   -- `.cUnlink`
    have hsafe : CSafe s n := hs names hn hc
    exact inv_op_other hi _ (by intro f e; cases e) (good_unlink hi.fs.vis_good n hsafe.1)
      (fun b w hb => (hi.wr b w hb).unlink n (hsafe.2 b w hb))
  next a names hn =>   -- `.retire`
    exact inv_set_idle hi a .none rfl s.lock (Or.inl rfl) (fun w h => by rw [hn] at h; cases h) (fun w h => by cases h)
  next a lastLock new gc hn =>   -- `.spawnJournalWriter`
    exact spawn a _ hn rfl (fun w h => by cases h; exact WInv.vac .idle rfl (by decide))
  next a hfree =>
    -- `jAcquire`: nobody held the LOCK
    refine ⟨hi.fs, fun b hb => ?_, hi.wr, hi.pr, hi.ren⟩
    have := hi.excl b hb
    rw [hfree] at this; cases this
  next a hn =>
    -- `jRelease`: `a` is no actor, so whoever holds the LOCK is another
    refine ⟨hi.fs, fun b hb => ?_, hi.wr, hi.pr, hi.ren⟩
    have hb' : (s.actors b).holds = true := hb
    have hl := hi.excl b hb'
    have hne : b ≠ a := by intro e; subst e; rw [hn] at hb'; cases hb'
    simp only [Sys.release]
    rw [if_neg (by rw [hl]; exact fun h => hne (Option.some.inj h))]; exact hl
  next k =>   -- `.crash`
    obtain ⟨h1, h2⟩ := hi.fs.crash k
    exact ⟨h1, (by intro a h; cases h), (by intro a w h; cases h), (by intro a p h; cases h), Or.inl h2⟩

end DoltVerif.ManFs
