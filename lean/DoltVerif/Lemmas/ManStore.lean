import DoltVerif.Model.ManStore
/-! What each operation of the ManStore model can do, case by case (`*_cases`, `Prepared`), and from these the shapes a
step of the system can have, with what the tests on the way established (`Moves`, `step_moves`).  The invariants of C02
(`ManStoreCas`, `ManStoreStep`) and of C07 (`ManStoreRefs`, `ManStoreHInv`, `ManStoreClosure`) are each proved once
per shape. -/
namespace DoltVerif.ManStore

theorem lock_of_manifest {d : Disk} {m : Contents} (hm : d.manifest = some m) : d.lock = m.lock := by
  unfold Disk.lock; rw [hm]

theorem update_cases (d : Disk) (l : Lock) (n : Contents) :
    (∃ e, d.update l n = (d, .fail e)) ∨
    (∃ up, d.manifest = some up ∧ d.update l n = (d, .stale up)) ∨
    (d.lock = l ∧ d.update l n = ({ d with manifest := some n }, .wrote n)) := by
  fun_cases Disk.update d l n
  case case3 hm hl _ => -- no manifest yet, written under the empty lock
    cases l with
    | some _ => exact absurd rfl hl
    | none => exact Or.inr (Or.inr ⟨by rw [Disk.lock, hm], rfl⟩)
  case case5 up hm _ => exact Or.inr (Or.inl ⟨up, hm, rfl⟩) -- another lock on disk
  case case6 up hm hl _ => -- written under the lock on disk
    obtain rfl : l = up.lock := by simpa using hl
    exact Or.inr (Or.inr ⟨lock_of_manifest hm, rfl⟩)
  all_goals exact Or.inl ⟨_, rfl⟩ -- refused

theorem specs_of_manifest {d : Disk} {m : Contents} (hm : d.manifest = some m) : d.specs = m.specs := by
  unfold Disk.specs; rw [hm]

theorem getD_initial_root (d : Disk) : (d.manifest.getD Contents.initial).root = d.root := by
  unfold Disk.root; cases d.manifest <;> rfl

theorem getD_initial_specs (d : Disk) : (d.manifest.getD Contents.initial).specs = d.specs := by
  unfold Disk.specs; cases d.manifest <;> rfl

theorem getD_initial_of {motive : Contents → Prop} {d : Disk} (h0 : motive Contents.initial)
    (hd : ∀ m, d.manifest = some m → motive m) : motive (d.manifest.getD Contents.initial) := by
  cases hm : d.manifest with
  | none => exact h0
  | some m => exact hd m hm

theorem update_files (d : Disk) (l : Lock) (n : Contents) : (d.update l n).1.files = d.files := by
  rcases update_cases d l n with ⟨_, h⟩ | ⟨_, _, h⟩ | ⟨_, h⟩ <;> rw [h]

/-- the lock of a manifest is the lock hash of its own root (and specs); the zero lock goes with the
zero root (a store that has never seen a manifest) -/
def Contents.WF (c : Contents) : Prop :=
  match c.lock with
  | none => c.root = 0
  | some (r, _) => r = c.root

theorem Contents.WF.root_eq {a b : Contents} (ha : a.WF) (hb : b.WF) (h : a.lock = b.lock) : a.root = b.root := by
  unfold Contents.WF at ha hb
  rw [h] at ha
  cases hl : b.lock with
  | none => rw [hl] at ha hb; exact ha.trans hb.symm
  | some p => rw [hl] at ha hb; exact ha.symm.trans hb

theorem initial_wf : Contents.initial.WF := rfl

theorem mk_wf (r : Addr) (s : List Table) : ({ root := r, lock := mkLock r s, specs := s } : Contents).WF := rfl

theorem mkLock_ne_none (r : Addr) (s : List Table) : mkLock r s ≠ none := nofun

theorem rebaseTo_upstream (h : Handle) (c : Contents) : (h.rebaseTo c).upstream = c := rfl
theorem rebaseTo_pc (h : Handle) (c : Contents) : (h.rebaseTo c).pc = h.pc := rfl
theorem rebaseTo_opened (h : Handle) (c : Contents) : (h.rebaseTo c).opened = h.opened := rfl

theorem mem_dedup (l : List Table) : ∀ x : Table, x ∈ dedup l ↔ x ∈ l := by
  fun_induction dedup l
  next => simp
  next t ts hc ih => -- `t` comes again in `ts`: dropped
    intro x
    have ht : t ∈ ts := by rw [← ih t]; simpa using hc
    rw [ih x]; simp only [List.mem_cons]
    constructor
    · exact Or.inr
    · rintro (rfl | h)
      · exact ht
      · exact h
  next ih => simp [ih] -- kept

theorem rebase_cases (d : Disk) (h : Handle) :
    ((d.manifest = none ∨ ∃ m, d.manifest = some m ∧ m.lock = h.upstream.lock) ∧ h.rebase d = (h, none)) ∨
    (∃ m, d.manifest = some m ∧ h.rebase d = (h.rebaseTo m, none)) ∨
    h.rebase d = (h, some .tableNotFound) := by
  fun_cases Handle.rebase d h
  next hm => exact Or.inl ⟨Or.inl hm, rfl⟩ -- no manifest
  next m hm h1 => exact Or.inl ⟨Or.inr ⟨m, hm, by simpa using h1⟩, rfl⟩ -- the lock it has seen
  next m hm _ _ => exact Or.inr (Or.inl ⟨m, hm, rfl⟩) -- a new manifest whose tables open
  next => exact Or.inr (Or.inr rfl)

theorem rebase_pc (d : Disk) (h : Handle) : (h.rebase d).1.pc = h.pc := by
  rcases rebase_cases d h with ⟨_, e⟩ | ⟨m, _, e⟩ | e <;> rw [e] <;> rfl

theorem flushed_upstream (env : Env) (h : Handle) (m : Mem) (x : Option Mem) : (flushed env h m x).upstream = h.upstream := rfl
theorem flushed_pc (env : Env) (h : Handle) (m : Mem) (x : Option Mem) : (flushed env h m x).pc = h.pc := rfl
theorem flushed_upTables (env : Env) (h : Handle) (m : Mem) (x : Option Mem) : (flushed env h m x).upTables = h.upTables := rfl

theorem flushOk_iff (env : Env) (h : Handle) (m : Mem) : flushOk env h m = true ↔
    ∀ c ∈ m.chunks, ∀ r ∈ env.refs c, r ∈ h.hasCache ∨ r ∈ m.chunks ∨ h.inTables r = true := by
  simp only [flushOk, List.all_eq_true, Bool.or_eq_true, List.contains_iff_mem, or_assoc]

theorem put_cases (env : Env) (h : Handle) (a : Addr) :
    (∃ x, (h.put env a).1 = { h with mem := x }) ∨
    (∃ m x, flushOk env h m = true ∧ (h.put env a).1 = { flushed env h m (some Mem.empty) with mem := x }) := by
  fun_cases Handle.put env h a
  case case5 m _ _ _ hf _ _ | case6 m _ _ _ hf _ _ => -- the memtable `m` was flushed
    exact Or.inr ⟨m, _, by simpa using hf, rfl⟩
  all_goals exact Or.inl ⟨_, rfl⟩ -- held already, added, nothing to flush, flush refused: only `mem` changes

theorem put_upstream (env : Env) (h : Handle) (a : Addr) : (h.put env a).1.upstream = h.upstream := by
  rcases put_cases env h a with ⟨_, e⟩ | ⟨_, _, _, e⟩ <;> rw [e] <;> rfl

theorem put_pc (env : Env) (h : Handle) (a : Addr) : (h.put env a).1.pc = h.pc := by
  rcases put_cases env h a with ⟨_, e⟩ | ⟨_, _, _, e⟩ <;> rw [e] <;> rfl

def MemEmpty (h : Handle) : Prop := h.mem = none ∨ ∃ m, h.mem = some m ∧ m.chunks = []

theorem flushForCommit_cases {env : Env} {h h1 : Handle} (hf : h.flushForCommit env = some h1) :
    (h1 = h ∧ MemEmpty h) ∨ ∃ m, flushOk env h m = true ∧ h1 = flushed env h m none := by
  revert hf
  fun_cases Handle.flushForCommit env h
  next hm => exact fun hf => Or.inl ⟨(Option.some.inj hf).symm, Or.inl hm⟩ -- no memtable
  next m hm he => -- an empty memtable
    exact fun hf => Or.inl ⟨(Option.some.inj hf).symm, Or.inr ⟨m, hm, List.isEmpty_iff.1 he⟩⟩
  next m _ _ hok => exact fun hf => Or.inr ⟨m, hok, (Option.some.inj hf).symm⟩ -- flushed
  next => nofun

theorem flushForCommit_fields (env : Env) (h h1 : Handle) (hf : h.flushForCommit env = some h1) :
    h1.upstream = h.upstream ∧ h1.pc = h.pc := by
  rcases flushForCommit_cases hf with ⟨rfl, _⟩ | ⟨m, _, rfl⟩ <;> exact ⟨rfl, rfl⟩

theorem noteRoot_eq (h : Handle) (cur : Addr) :
    ∃ c, h.noteRoot cur = { h with hasCache := c } ∧ ∀ a ∈ c, a ∈ h.hasCache ∨ (a = cur ∧ cur ≠ 0) := by
  fun_cases Handle.noteRoot h cur
  next hc => -- a new root is noted
    refine ⟨_, rfl, fun a ha => ?_⟩
    rcases List.mem_append.1 ha with ha | ha
    · exact Or.inl ha
    · exact Or.inr ⟨List.mem_singleton.1 ha, by simp only [Bool.and_eq_true, bne_iff_ne] at hc; exact hc.1⟩
  next => exact ⟨_, rfl, fun a ha => Or.inl ha⟩

theorem rootDangling_false {h : Handle} {cur : Addr} :
    h.rootDangling cur = false ↔ cur = 0 ∨ h.hasCache.contains cur = true ∨ h.has cur = true := by
  unfold Handle.rootDangling
  by_cases c0 : cur = 0 <;> cases h.hasCache.contains cur <;> cases h.has cur <;> simp [c0]

/-- the four ways `prepare` can end: `last` is not the root the handle knows; the memtable does not pass the reference
check; the new root is found nowhere; the commit is parked in front of `manifest.Update` -/
inductive Prepared (env : Env) (h : Handle) (cur last : Addr) : Handle × CRes → Prop
  | mismatch : h.upstream.root ≠ last → Prepared env h cur last (h, .ok false)
  | dangling : h.upstream.root = last → h.flushForCommit env = none →
      Prepared env h cur last ({ h with mem := none }, .err .dangling)
  | rootDangling (h1 : Handle) : h.upstream.root = last → h.flushForCommit env = some h1 → h1.rootDangling cur = true →
      Prepared env h cur last ({ h1 with mem := none }, .err .dangling)
  | parked (h1 : Handle) : h.upstream.root = last → h.flushForCommit env = some h1 → h1.rootDangling cur = false →
      Prepared env h cur last ((h1.noteRoot cur).park cur last, .parked)

theorem prepare_prepared (env : Env) (h : Handle) (cur last : Addr) : Prepared env h cur last (h.prepare env cur last) := by
  fun_cases Handle.prepare env h cur last
  next h0 => exact .mismatch (by simpa using h0)
  next h0 hf => exact .dangling (by simpa using h0) hf
  next h0 h1 hf hd => exact .rootDangling h1 (by simpa using h0) hf hd
  next h0 h1 hf hd => exact .parked h1 (by simpa using h0) hf (by simpa using hd)

/-- what `prepare` can do to the fields the CAS argument looks at -/
theorem prepare_cases (env : Env) (h : Handle) (cur last : Addr) :
    (h.prepare env cur last).1.upstream = h.upstream ∧
    (((h.prepare env cur last).2 ≠ .ok true ∧ (h.prepare env cur last).1.pc = h.pc) ∨
     ((h.prepare env cur last).2 = .parked ∧ h.upstream.root = last ∧
        ∃ specs, (h.prepare env cur last).1.pc =
          some { cur := cur, last := last, new := { root := cur, lock := mkLock cur specs, specs := specs } })) := by
  have hp := prepare_prepared env h cur last
  generalize h.prepare env cur last = x at hp ⊢
  cases hp with
  | mismatch => exact ⟨rfl, Or.inl ⟨nofun, rfl⟩⟩
  | dangling => exact ⟨rfl, Or.inl ⟨nofun, rfl⟩⟩
  | rootDangling h1 _ hf => exact ⟨(flushForCommit_fields env h h1 hf).1, Or.inl ⟨nofun, (flushForCommit_fields env h h1 hf).2⟩⟩
  | parked h1 hl hf =>
    obtain ⟨c, e, _⟩ := noteRoot_eq h1 cur
    rw [e]
    exact ⟨(flushForCommit_fields env h h1 hf).1, Or.inr ⟨rfl, hl, _, rfl⟩⟩

/-- `commit` before `manifest.Update`: the nothing-novel shortcut (a rebase), or `prepare` -/
theorem commitStart_cases (env : Env) (d : Disk) (h : Handle) (cur last : Addr) :
    (∃ r, commitStart env d h cur last = ((h.rebase d).1, r)) ∨ commitStart env d h cur last = h.prepare env cur last := by
  fun_cases commitStart env d h cur last
  next hr => exact Or.inl ⟨_, by rw [hr]⟩ -- nothing novel: the rebase went through
  next hr => exact Or.inl ⟨_, by rw [hr]⟩ -- nothing novel: the rebase failed
  next => exact Or.inr rfl

/-- the handle after its parked commit was acknowledged -/
def ackedHandle (h : Handle) (p : Pending) : Handle := { ({ h with pc := none } : Handle).flatten with upstream := p.new }

theorem commitResume_cases (env : Env) (d : Disk) (h : Handle) (p : Pending) :
    (d.lock = h.upstream.lock ∧
      commitResume env d h p = ({ d with manifest := some p.new }, ackedHandle h p, .ok true)) ∨
    (∃ up, d.manifest = some up ∧ up.lock = p.new.lock ∧ commitResume env d h p = (d, ackedHandle h p, .ok true)) ∨
    (∃ e, commitResume env d h p = (d, { h with pc := none }, .err e)) ∨
    (∃ up, d.manifest = some up ∧
      (commitResume env d h p = (d, ({ h with pc := none } : Handle).rebaseTo up, .ok false) ∨
       commitResume env d h p = (d, (({ h with pc := none } : Handle).rebaseTo up).prepare env p.cur p.last))) := by
  unfold commitResume
  rcases update_cases d h.upstream.lock p.new with ⟨e, hu⟩ | ⟨up, hm, hu⟩ | ⟨hl, hu⟩ <;> rw [hu] <;> dsimp only
  · exact Or.inr (Or.inr (Or.inl ⟨e, rfl⟩))
  · by_cases h1 : (up.lock == p.new.lock) = true
    · rw [if_pos h1]; exact Or.inr (Or.inl ⟨up, hm, by simpa using h1, rfl⟩)
    rw [if_neg h1]
    by_cases h2 : (!canOpen d { h with pc := none } up.specs) = true
    · rw [if_pos h2]; exact Or.inr (Or.inr (Or.inl ⟨_, rfl⟩))
    rw [if_neg h2]
    refine Or.inr (Or.inr (Or.inr ⟨up, hm, ?_⟩))
    by_cases h3 : (p.last != up.root) = true
    · rw [if_pos h3]; exact Or.inl rfl
    · rw [if_neg h3]; exact Or.inr rfl
  · exact Or.inl ⟨hl, rfl⟩

/-- the manifest `updateManifestAddFiles` writes -/
def addedContents (c : Contents) (add : List Table) : Contents :=
  { root := c.root, lock := mkLock c.root (c.specs ++ add), specs := c.specs ++ add }

theorem addTables_cases (env : Env) (d : Disk) (h : Handle) (ts : List Table) :
    (∃ e, addTables env d h ts = (d, h, e)) ∨
    addTables env d h ts = (d, h.rebaseTo (d.manifest.getD Contents.initial), none) ∨
    ∃ add, addTables env d h ts = ({ d with manifest := some (addedContents (d.manifest.getD Contents.initial) add) },
        h.rebaseTo (addedContents (d.manifest.getD Contents.initial) add), none) ∧
      (h.upstream.root ≠ 0 → ∀ t ∈ add, ∀ a ∈ t, ∀ r ∈ env.refs a,
        h.has r = true ∨ ∃ u ∈ (d.manifest.getD Contents.initial).specs ++ add, r ∈ u) := by
  unfold addTables
  generalize ts.filter (fun t => !t.isEmpty) = ts'
  generalize d.manifest.getD Contents.initial = c
  dsimp only
  generalize hro : (ts'.all fun t => t.all fun c => (env.refs c).all fun r => h.has r || ts'.any (·.contains r)) = refsOk
  generalize (ts'.all fun t => h.novel.contains t || h.upTables.contains t || d.files.contains t) = present
  by_cases h1 : ts'.isEmpty = true
  · rw [if_pos h1]; exact Or.inl ⟨_, rfl⟩
  rw [if_neg h1]
  cases present
  · exact Or.inl ⟨_, rfl⟩
  simp only [Bool.not_true, Bool.false_eq_true, if_false]
  by_cases h3 : (h.upstream.root != 0 && !refsOk) = true
  · rw [if_pos h3]; exact Or.inl ⟨_, rfl⟩
  rw [if_neg h3]
  by_cases h4 : (ts'.filter fun t => !c.specs.contains t).isEmpty = true
  · rw [if_pos h4]
    by_cases h5 : (c.lock != h.upstream.lock) = true
    · rw [if_pos h5]
      by_cases h6 : canOpen d h c.specs = true
      · rw [if_pos h6]; exact Or.inr (Or.inl rfl)
      · rw [if_neg h6]; exact Or.inl ⟨_, rfl⟩
    · rw [if_neg h5]; exact Or.inl ⟨_, rfl⟩
  rw [if_neg h4]
  rcases update_cases d c.lock (addedContents c (dedup (ts'.filter fun t => !c.specs.contains t)))
    with ⟨e, hu⟩ | ⟨up, hm, hu⟩ | ⟨hl, hu⟩ <;> unfold addedContents at hu <;> rw [hu]
  · exact Or.inl ⟨_, rfl⟩
  · exact Or.inl ⟨_, rfl⟩
  · refine Or.inr (Or.inr ⟨_, rfl, fun hroot t ht a ha r hr => ?_⟩)
    have hts : t ∈ ts' := (List.mem_filter.1 ((mem_dedup _ t).1 ht)).1
    have hok : refsOk = true := by
      cases refsOk
      · exact absurd (by simpa using hroot) h3
      · rfl
    subst hro
    simp only [List.all_eq_true, Bool.or_eq_true, List.any_eq_true, List.contains_iff_mem] at hok
    refine (hok t hts a ha r hr).imp id fun ⟨u, hu, hru⟩ => ⟨u, ?_, hru⟩
    by_cases hin : u ∈ c.specs
    · exact List.mem_append_left _ hin
    · exact List.mem_append_right _ ((mem_dedup _ u).2 (List.mem_filter.2 ⟨hu, by simpa using hin⟩))

/-- the acknowledgement a step carries: `cresume i` answering `true` acknowledges the parked commit -/
def ackOf (s : Sys) (op : Op) (r : Resp) : Option (Addr × Addr) :=
  match op, r with
  | .cresume i, .commit (.ok true) => (s.hs i).pc.map fun p => (p.last, p.cur)
  | _, _ => none

theorem ackOf_eq_none {s : Sys} {op : Op} {r : Resp} (h : ∀ i, op = .cresume i → r ≠ .commit (.ok true)) : ackOf s op r = none := by
  unfold ackOf
  split
  · rename_i i; exact absurd rfl (h i rfl)
  · rfl

/-- what a step that leaves the directory alone can do to the handle it is about -/
inductive LocalStep (env : Env) (d : Disk) (h : Handle) : Handle → Prop
  | opened (mm : Nat) : LocalStep env d h (openHandle d mm).1
  | closed : LocalStep env d h Handle.closed
  | put (a : Addr) : h.pc = none → LocalStep env d h (h.put env a).1
  | rebase : h.pc = none → LocalStep env d h (h.rebase d).1
  | prepare (cur last : Addr) : h.pc = none → LocalStep env d h (h.prepare env cur last).1
  /-- the parked commit is given up: `ctimeout`, or a `cresume` whose `Update` returned an error -/
  | unpark : LocalStep env d h { h with pc := none }
  /-- a lost race, or an `AddTableFiles` that finds nothing to add: the handle adopts the manifest that is on disk … -/
  | adopt : LocalStep env d h (({ h with pc := none } : Handle).rebaseTo (d.manifest.getD Contents.initial))
  /-- … and `commit` goes round its loop -/
  | retry (cur last : Addr) :
      LocalStep env d h ((({ h with pc := none } : Handle).rebaseTo (d.manifest.getD Contents.initial)).prepare env cur last).1

/-- the shapes `Sys.step` can have, with what the tests on the way established; only `wrote`, `added` and `conjoin`
touch the manifest on disk -/
inductive Moves (env : Env) (s : Sys) : Op → Sys × Resp → Prop
  | stay (op r) : ackOf s op r = none → Moves env s op (s, r)
  | locally (op i h' r) : ackOf s op r = none → LocalStep env s.disk (s.hs i) h' → Moves env s op (s.set i h', r)
  | files (t fs) : Moves env s (.writeTable t) ({ s with disk := { s.disk with files := fs } }, .unit)
  /-- `manifest.Update` wrote the parked commit's manifest: the lock on disk was the one the handle knew -/
  | wrote (i p) : (s.hs i).pc = some p → s.disk.lock = (s.hs i).upstream.lock → Moves env s (.cresume i)
      ({ disk := { s.disk with manifest := some p.new }, hs := fun j => if j = i then ackedHandle (s.hs i) p else s.hs j },
       .commit (.ok true))
  /-- nothing is written and the commit is acknowledged: the manifest on disk already carries the lock it asked for -/
  | coincide (i p up) : (s.hs i).pc = some p → s.disk.manifest = some up → up.lock = p.new.lock →
      Moves env s (.cresume i) (s.set i (ackedHandle (s.hs i) p), .commit (.ok true))
  /-- `AddTableFiles` wrote `add` on top of the manifest on disk -/
  | added (i ts add) : (s.hs i).pc = none →
      ((s.hs i).upstream.root ≠ 0 → ∀ t ∈ add, ∀ a ∈ t, ∀ r ∈ env.refs a,
        (s.hs i).has r = true ∨ ∃ u ∈ (s.disk.manifest.getD Contents.initial).specs ++ add, r ∈ u) →
      Moves env s (.addTables i ts)
        ({ disk := { s.disk with manifest := some (addedContents (s.disk.manifest.getD Contents.initial) add) },
           hs := fun j => if j = i then (s.hs i).rebaseTo (addedContents (s.disk.manifest.getD Contents.initial) add)
                          else s.hs j }, .unit)
  | conjoin (i r) : (s.hs i).pc = none → Moves env s (.conjoin i)
      ({ disk := (conjoinAll s.disk (s.hs i)).1,
         hs := fun j => if j = i then (conjoinAll s.disk (s.hs i)).2.1 else s.hs j }, r)

theorem moves_idle {env : Env} {s : Sys} {op : Op} {h : Handle} {x : Sys × Resp} (hr : ackOf s op .rejected = none)
    (hx : h.pc = none → Moves env s op x) :
    Moves env s op (if (!h.opened || h.pc.isSome) = true then (s, .rejected) else x) := by
  by_cases hg : (!h.opened || h.pc.isSome) = true
  · rw [if_pos hg]; exact .stay _ _ hr
  · rw [if_neg hg]
    cases hp : h.pc with
    | none => exact hx hp
    | some p => rw [hp] at hg; simp at hg

theorem set_self (s : Sys) (i : Nat) : ({ disk := s.disk, hs := fun j => if j = i then s.hs i else s.hs j } : Sys) = s := by
  have : (fun j => if j = i then s.hs i else s.hs j) = s.hs := funext fun j => by split <;> simp [*]
  rw [this]

theorem clearPc_of_idle {h : Handle} (hpc : h.pc = none) : ({ h with pc := none } : Handle) = h := by rw [← hpc]

theorem step_moves (env : Env) (s : Sys) (op : Op) : Moves env s op (s.step env op) := by
  cases op with
  | openH i mm =>
    simp only [Sys.step]
    by_cases hg : (s.hs i).opened = true
    · rw [if_pos hg]; exact .stay _ _ rfl
    · rw [if_neg hg]
      have := LocalStep.opened (env := env) (d := s.disk) (h := s.hs i) mm
      generalize openHandle s.disk mm = x at this ⊢
      rcases x with ⟨h', _ | e⟩
      · exact .locally _ i h' _ rfl this
      · exact .stay _ _ rfl
  | closeH i =>
    simp only [Sys.step]
    exact moves_idle rfl fun _ => .locally _ i _ _ rfl .closed
  | put i a =>
    simp only [Sys.step]
    exact moves_idle rfl fun hpc => .locally _ i _ _ rfl (.put a hpc)
  | cstart i cur last =>
    simp only [Sys.step]
    refine moves_idle rfl fun hpc => .locally _ i _ _ rfl ?_
    rcases commitStart_cases env s.disk (s.hs i) cur last with ⟨r, e⟩ | e <;> rw [e]
    · exact .rebase hpc
    · exact .prepare cur last hpc
  | cresume i =>
    simp only [Sys.step]
    cases hp : (s.hs i).pc with
    | none => exact .stay _ _ rfl
    | some p =>
      dsimp only
      have onDisk : ∀ up, s.disk.manifest = some up → s.disk.manifest.getD Contents.initial = up := fun up hm => by rw [hm]; rfl
      rcases commitResume_cases env s.disk (s.hs i) p with ⟨hl, e⟩ | ⟨up, hm, hl, e⟩ | ⟨e', e⟩ | ⟨up, hm, e | e⟩ <;> rw [e]
      · exact .wrote i p hp hl
      · exact .coincide i p up hp hm hl
      · exact .locally _ i _ _ (ackOf_eq_none fun _ _ h => nomatch h) .unpark
      · rw [← onDisk up hm]; exact .locally _ i _ _ (ackOf_eq_none fun _ _ h => nomatch h) .adopt
      · rw [← onDisk up hm]
        refine .locally _ i _ _ (ackOf_eq_none fun _ _ h => ?_) (.retry p.cur p.last)
        -- `prepare` never answers `true`
        rcases (prepare_cases env (({ s.hs i with pc := none } : Handle).rebaseTo (s.disk.manifest.getD Contents.initial))
          p.cur p.last).2 with ⟨hne, _⟩ | ⟨e, _⟩
        · exact hne (Resp.commit.inj h)
        · rw [e] at h; cases h
  | ctimeout i =>
    simp only [Sys.step]
    cases hp : (s.hs i).pc with
    | none => exact .stay _ _ rfl
    | some p => exact .locally _ i _ _ rfl .unpark
  | rebase i =>
    simp only [Sys.step]
    refine moves_idle rfl fun hpc => ?_
    have := LocalStep.rebase (env := env) (d := s.disk) hpc
    generalize (s.hs i).rebase s.disk = x at this ⊢
    rcases x with ⟨h', _ | e⟩ <;> exact .locally _ i _ _ rfl this
  | writeTable t =>
    simp only [Sys.step]
    by_cases hg : t.isEmpty = true
    · rw [if_pos hg]; exact .stay _ _ rfl
    · rw [if_neg hg]; exact .files t _
  | addTables i ts =>
    simp only [Sys.step]
    refine moves_idle rfl fun hpc => ?_
    rcases addTables_cases env s.disk (s.hs i) ts with ⟨e', e⟩ | e | ⟨add, e, hrefs⟩ <;> rw [e] <;> dsimp only
    · rw [set_self]; exact .stay _ _ rfl
    · rw [← clearPc_of_idle hpc]; exact .locally _ i _ _ rfl .adopt
    · exact .added i ts add hpc hrefs
  | conjoin i =>
    simp only [Sys.step]
    exact moves_idle rfl fun hpc => .conjoin i _ hpc

theorem land_manifest (s : Sys) (i : Nat) (b : List Table) : (s.land i b).disk.manifest = s.disk.manifest := rfl
theorem land_hs (s : Sys) (i : Nat) (b : List Table) : (s.land i b).hs = s.hs := rfl

theorem next_cases (env : Env) (s : Sys) (op : Op) : (s.next env op).2 = (s.step env op).2 ∧
    ((s.next env op).1 = (s.step env op).1 ∨ ∃ i b, (s.next env op).1 = (s.step env op).1.land i b) := by
  unfold Sys.next
  cases op
  case writeTable => exact ⟨rfl, Or.inl rfl⟩
  all_goals exact ⟨rfl, Or.inr ⟨_, _, rfl⟩⟩

theorem next_resp (env : Env) (s : Sys) (op : Op) : (s.next env op).2 = (s.step env op).2 := (next_cases env s op).1

theorem next_manifest (env : Env) (s : Sys) (op : Op) : (s.next env op).1.disk.manifest = (s.step env op).1.disk.manifest := by
  rcases (next_cases env s op).2 with e | ⟨i, b, e⟩ <;> rw [e]; rfl

theorem next_hs (env : Env) (s : Sys) (op : Op) : (s.next env op).1.hs = (s.step env op).1.hs := by
  rcases (next_cases env s op).2 with e | ⟨i, b, e⟩ <;> rw [e]; rfl

theorem run_append (env : Env) (s : Sys) (a b : List Op) : s.run env (a ++ b) = (s.run env a).run env b := by
  induction a generalizing s with
  | nil => rfl
  | cons x xs ih => exact ih _

end DoltVerif.ManStore
