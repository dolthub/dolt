import DoltVerif.Lemmas.ManStore
/-! The invariant behind C02 (every lock in the system determines its root) and the per-step facts. -/
namespace DoltVerif.ManStore

/-- Every manifest contents anywhere in the system (on disk, cached by a handle, prepared by a parked
commit) carries the lock hash of its own root; a parked commit still sees the `last` it checked. -/
structure Inv (s : Sys) : Prop where
  disk : ∀ m, s.disk.manifest = some m → m.WF ∧ m.lock ≠ none
  up : ∀ i, (s.hs i).upstream.WF
  pc : ∀ i p, (s.hs i).pc = some p →
    p.new.WF ∧ p.new.lock ≠ none ∧ p.new.root = p.cur ∧ (s.hs i).upstream.root = p.last

/-- what `Inv` asks of the directory -/
def DiskOK (d : Disk) : Prop := ∀ m, d.manifest = some m → m.WF ∧ m.lock ≠ none

theorem inv_init : Inv Sys.init := ⟨nofun, fun _ => initial_wf, nofun⟩

/-- what `Inv` asks of one handle -/
def HandleOK (h : Handle) : Prop :=
  h.upstream.WF ∧ ∀ p, h.pc = some p → p.new.WF ∧ p.new.lock ≠ none ∧ p.new.root = p.cur ∧ h.upstream.root = p.last

theorem handleOK_of_idle {h : Handle} (hu : h.upstream.WF) (hp : h.pc = none) : HandleOK h :=
  ⟨hu, fun _ h' => absurd (hp ▸ h') nofun⟩

theorem Inv.replace {s : Sys} (hi : Inv s) (d' : Disk) (hd : DiskOK d')
    (i : Nat) (h' : Handle) (ok : HandleOK h') : Inv { disk := d', hs := fun j => if j = i then h' else s.hs j } := by
  refine ⟨hd, fun j => ?_, fun j p => ?_⟩ <;> dsimp only <;> split
  · exact ok.1
  · exact hi.up j
  · exact ok.2 p
  · exact hi.pc j p

theorem disk_root_of_lock {d : Disk} (hd : DiskOK d) {cur : Contents} (hc : cur.WF)
    (h : d.lock = cur.lock) : d.root = cur.root := by
  unfold Disk.lock at h
  unfold Disk.root
  cases hm : d.manifest with
  | none => rw [hm] at h; unfold Contents.WF at hc; rw [← h] at hc; exact hc.symm
  | some m => rw [hm] at h; exact Contents.WF.root_eq (hd m hm).1 hc h

/-- steps that rewrite the table-spec list of the manifest without being a commit -/
def Op.isAddTables : Op → Bool
  | .addTables _ _ => true
  | .conjoin _ => true
  | _ => false

/-- What one step does to the persisted root: an acknowledged commit `(l, c)` leaves it at `c` and found it at `l` — or,
only if the lock on disk was already the one asked for (`strict`), at `c` with nothing written; other steps keep it. -/
structure StepFacts (s s' : Sys) (op : Op) (r : Resp) : Prop where
  inv : Inv s'
  ack : ∀ l c, ackOf s op r = some (l, c) →
    s'.disk.root = c ∧ (s.disk.root = l ∨ (s.disk.root = c ∧ s'.disk.manifest = s.disk.manifest))
  strict : ∀ l c i p, ackOf s op r = some (l, c) → op = .cresume i → (s.hs i).pc = some p →
    s.disk.lock ≠ p.new.lock → s.disk.root = l
  noack : ackOf s op r = none → s'.disk.root = s.disk.root
  manifest : ackOf s op r = none → op.isAddTables = false → s'.disk.manifest = s.disk.manifest

theorem facts_noack {s s' : Sys} {op : Op} {r : Resp} (ha : ackOf s op r = none) (hinv : Inv s')
    (hroot : s'.disk.root = s.disk.root) (hman : op.isAddTables = false → s'.disk.manifest = s.disk.manifest) :
    StepFacts s s' op r :=
  ⟨hinv, fun l c h => (by rw [ha] at h; cases h), fun l c i p h => (by rw [ha] at h; cases h), fun _ => hroot, fun _ => hman⟩

theorem ackOf_resume {s : Sys} {i : Nat} {p : Pending} (hp : (s.hs i).pc = some p) :
    ackOf s (.cresume i) (.commit (.ok true)) = some (p.last, p.cur) := by
  show Option.map _ (s.hs i).pc = _
  rw [hp]; rfl

theorem facts_acked {s s' : Sys} {i : Nat} {p : Pending} (hp : (s.hs i).pc = some p) (hinv : Inv s')
    (hroot : s'.disk.root = p.cur)
    (hcas : s.disk.root = p.last ∨ (s.disk.root = p.cur ∧ s'.disk.manifest = s.disk.manifest))
    (hstrict : s.disk.lock ≠ p.new.lock → s.disk.root = p.last) :
    StepFacts s s' (.cresume i) (.commit (.ok true)) := by
  have ha := ackOf_resume hp
  refine ⟨hinv, fun l c h => ?_, fun l c i' p' h hop hp' hne => ?_, fun h => ?_, fun h => ?_⟩ <;> rw [ha] at h <;> cases h
  · exact ⟨hroot, hcas⟩
  · cases hop; rw [hp] at hp'; cases hp'; exact hstrict hne

theorem rebase_wf {s : Sys} (hi : Inv s) (h : Handle) (hu : h.upstream.WF) : (h.rebase s.disk).1.upstream.WF := by
  rcases rebase_cases s.disk h with ⟨_, e⟩ | ⟨m, hm, e⟩ | e <;> rw [e]
  · exact hu
  · exact (hi.disk m hm).1
  · exact hu

theorem prepare_wf (env : Env) (h : Handle) (cur last : Addr) (hu : h.upstream.WF) (hpc : h.pc = none) :
    HandleOK (h.prepare env cur last).1 := by
  obtain ⟨h1, h2⟩ := prepare_cases env h cur last
  refine ⟨by rw [h1]; exact hu, fun p hp => ?_⟩
  rcases h2 with ⟨_, e⟩ | ⟨_, hl, specs, e⟩ <;> rw [e] at hp
  · rw [hpc] at hp; cases hp
  · cases hp; exact ⟨mk_wf _ _, mkLock_ne_none _ _, rfl, by rw [h1]; exact hl⟩

theorem prepare_parked_pc (env : Env) (h : Handle) (cur last : Addr) (hpc : h.pc = none)
    (hr : (h.prepare env cur last).2 ≠ .parked) : (h.prepare env cur last).1.pc = none := by
  rcases (prepare_cases env h cur last).2 with ⟨_, e⟩ | ⟨e, _⟩
  · rw [e, hpc]
  · exact absurd e hr

theorem LocalStep.ok {env : Env} {s : Sys} (hi : Inv s) {i : Nat} {h' : Handle} (hl : LocalStep env s.disk (s.hs i) h') :
    HandleOK h' := by
  have hc : (s.disk.manifest.getD Contents.initial).WF := getD_initial_of initial_wf fun m hm => (hi.disk m hm).1
  cases hl with
  | opened mm => exact handleOK_of_idle (rebase_wf hi _ initial_wf) (rebase_pc _ _)
  | closed => exact handleOK_of_idle initial_wf rfl
  | put a hpc => exact handleOK_of_idle (by rw [put_upstream]; exact hi.up i) (by rw [put_pc]; exact hpc)
  | rebase hpc => exact handleOK_of_idle (rebase_wf hi _ (hi.up i)) (by rw [rebase_pc]; exact hpc)
  | prepare cur last hpc => exact prepare_wf env _ cur last (hi.up i) hpc
  | unpark => exact handleOK_of_idle (hi.up i) rfl
  | adopt => exact handleOK_of_idle hc rfl
  | retry cur last => exact prepare_wf env _ cur last hc rfl

end DoltVerif.ManStore
