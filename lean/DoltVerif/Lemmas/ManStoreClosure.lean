import DoltVerif.Lemmas.ManStoreHInv
/-! Closure invariant of the ManStore model (C07): what a commit does to the handle invariant (`HInv.prepare`,
`HInv.acked`), the system invariant `RInv`, and the two ways the manifest on disk gets replaced (`RInv.write`: by a commit,
`RInv.wrote`, and by `AddTableFiles`, `RInv.added`).  Every step of the system preserves `RInv`: `rinv_step`, by cases on
the shapes a step can have (`Moves`). -/
namespace DoltVerif.ManStore

theorem HInv.clearPc {env : Env} {d : Disk} {h : Handle} (hi : HInv env d h) : HInv env d { h with pc := none } :=
  ⟨hi.upsub, hi.upiff, hi.upwf, hi.novelRefs, hi.cache, by intro p hp; simp at hp⟩

theorem flushForCommit_hinv {env : Env} {d : Disk} {h h1 : Handle} (hi : HInv env d h) (hpc : h.pc = none)
    (hf : h.flushForCommit env = some h1) : HInv env d h1 ∧ h1.pc = none ∧ MemEmpty h1 := by
  rcases flushForCommit_cases hf with ⟨rfl, hm⟩ | ⟨m, hok, rfl⟩
  · exact ⟨hi, hpc, hm⟩
  · exact ⟨hi.afterFlush hpc m none hok, hpc, Or.inl rfl⟩

theorem toSpecs_noteRoot (h : Handle) (cur : Addr) : (h.noteRoot cur).toSpecs = h.toSpecs := by
  obtain ⟨c, e, _⟩ := noteRoot_eq h cur
  rw [e]; rfl

theorem N_noteRoot (h : Handle) (cur : Addr) (a : Addr) : N (h.noteRoot cur) a ↔ N h a := by
  obtain ⟨c, e, _⟩ := noteRoot_eq h cur
  rw [e]; exact Iff.rfl

theorem has_of_memEmpty {h : Handle} (hm : MemEmpty h) {a : Addr} (ha : h.has a = true) : h.inTables a = true := by
  unfold Handle.has Handle.inMem at ha
  rcases hm with e | ⟨m, e, hc⟩
  · simpa [e] using ha
  · simpa [e, hc] using ha

theorem HInv.prepare {env : Env} {d : Disk} {h : Handle} (hi : HInv env d h) (hpc : h.pc = none) (cur last : Addr) :
    HInv env d (h.prepare env cur last).1 := by
  have hp := prepare_prepared env h cur last
  generalize h.prepare env cur last = x at hp ⊢
  cases hp with
  | mismatch => exact hi
  | dangling => exact hi.setMem hpc none
  | rootDangling h1 _ hf =>
    obtain ⟨h1i, h1pc, _⟩ := flushForCommit_hinv hi hpc hf
    exact h1i.setMem h1pc none
  | parked h1 _ hf hd =>
    obtain ⟨h1i, _, h1m⟩ := flushForCommit_hinv hi hpc hf
    -- the root passed `errorIfDangling` on a handle whose memtable is empty: it is in a table (or cached, or empty)
    have hcur : cur = 0 ∨ N h1 cur ∨ P d cur := (rootDangling_false.1 hd).imp id fun h =>
      h.elim (fun hc => h1i.cache cur (List.contains_iff_mem.1 hc)) fun hh => inTables_NP h1i.upsub (has_of_memEmpty h1m hh)
    obtain ⟨c, e, hc⟩ := noteRoot_eq h1 cur
    rw [e]
    refine ⟨h1i.upsub, h1i.upiff, h1i.upwf, h1i.novelRefs, fun a ha => ?_, fun p hp => ?_⟩
    · rcases hc a ha with h | ⟨rfl, hne⟩
      · exact h1i.cache a h
      · exact hcur.resolve_left hne
    · cases hp; exact ⟨rfl, hcur, h1m⟩

theorem HInv.adopt {env : Env} {d : Disk} {h : Handle} (hi : HInv env d h) (hd : ∀ m, d.manifest = some m → m.WF2) :
    HInv env d (({ h with pc := none } : Handle).rebaseTo (d.manifest.getD Contents.initial)) :=
  hi.clearPc.rebaseTo rfl _ (getD_initial_of initial_wf2 hd) (by rw [getD_initial_specs]; exact fun _ ht => ht)

theorem HInv.local {env : Env} {d : Disk} {h h' : Handle} (hi : HInv env d h) (hd : ∀ m, d.manifest = some m → m.WF2)
    (hl : LocalStep env d h h') : HInv env d h' := by
  cases hl with
  | opened mm => exact (hinv_blank env d true mm).rebase rfl hd
  | closed => exact hinv_blank env d false 0
  | put a hpc => exact hi.put hpc a
  | rebase hpc => exact hi.rebase hpc hd
  | prepare cur last hpc => exact hi.prepare hpc cur last
  | unpark => exact hi.clearPc
  | adopt => exact hi.adopt hd
  | retry cur last => exact (hi.adopt hd).prepare rfl cur last

structure RInv (env : Env) (s : Sys) : Prop where
  dwf : ∀ m, s.disk.manifest = some m → m.WF2
  closed : ∀ a, P s.disk a → ∀ b ∈ env.refs a, P s.disk b
  root : s.disk.root = 0 ∨ P s.disk s.disk.root
  hs : ∀ i, HInv env s.disk (s.hs i)

theorem rinv_init (env : Env) : RInv env Sys.init :=
  ⟨by intro m h; simp [Sys.init, Disk.empty] at h,
   by intro a h; simp [P, Disk.persisted, Disk.specs, Sys.init, Disk.empty] at h,
   Or.inl rfl, fun _ => hinv_blank env _ false 0⟩

theorem RInv.setHandle {env : Env} {s : Sys} (hr : RInv env s) (i : Nat) (h' : Handle) (hh : HInv env s.disk h') :
    RInv env (s.set i h') :=
  ⟨hr.dwf, hr.closed, hr.root, by
    intro j; simp only [Sys.set]; split
    · exact hh
    · exact hr.hs j⟩

theorem mem_acked_upTables (h : Handle) (p : Pending) (t : Table) : t ∈ (ackedHandle h p).upTables ↔ t ∈ h.toSpecs := by
  simp only [ackedHandle, Handle.flatten, Handle.toSpecs, List.mem_append]
  exact Or.comm

/-- after the acknowledgement the novel tables are upstream tables, so all the handle vouches for is persisted -/
theorem HInv.acked {env : Env} {d d' : Disk} {h : Handle} {p : Pending} (hi : HInv env d h) (hp : h.pc = some p)
    (hmono : ∀ t ∈ d.specs, t ∈ d'.specs) (hsp : ∀ t ∈ h.toSpecs, t ∈ d'.specs) : HInv env d' (ackedHandle h p) := by
  obtain ⟨hnew, _, _⟩ := hi.pcOK p hp
  refine ⟨fun t ht => hsp t ((mem_acked_upTables h p t).1 ht), fun t => ?_, ?_, fun a ha => (by cases ha), fun a ha => ?_, fun q hq => (by cases hq)⟩
  · rw [mem_acked_upTables]; show _ ↔ t ∈ p.new.specs; rw [hnew]
  · show p.new.WF2; rw [hnew]; exact mk_wf2 _ _
  · refine Or.inr ?_
    rcases hi.cache a ha with hn | hp'
    · obtain ⟨t, ht, hat⟩ := (toSpecs_covers h a).2 (Or.inl hn)
      exact (P_iff _ a).2 ⟨t, hsp t ht, hat⟩
    · exact P_mono hmono hp'

theorem disk_specs_sub_toSpecs {env : Env} {s : Sys} (hr : RInv env s) (i : Nat)
    (hlock : s.disk.lock = (s.hs i).upstream.lock) : ∀ t ∈ s.disk.specs, t ∈ (s.hs i).toSpecs := by
  intro t ht
  cases hm : s.disk.manifest with
  | none => simp [Disk.specs, hm] at ht
  | some m =>
    rw [specs_of_manifest hm] at ht
    rw [lock_of_manifest hm] at hlock
    have := (WF2.specs_eq (hr.dwf m hm) (hr.hs i).upwf hlock t).1 ht
    exact (mem_toSpecs _ t).2 (Or.inr (((hr.hs i).upiff t).2 this))

/-- a manifest that names every table named before: closure has to be checked for the added tables only -/
theorem RInv.write {env : Env} {s : Sys} (hr : RInv env s) (n : Contents) (hn : n.WF2)
    (hmono : ∀ t ∈ s.disk.specs, t ∈ n.specs)
    (hnew : ∀ t ∈ n.specs, t ∉ s.disk.specs → ∀ a ∈ t, ∀ b ∈ env.refs a, P { s.disk with manifest := some n } b)
    (hroot : n.root = 0 ∨ P { s.disk with manifest := some n } n.root)
    (i : Nat) (h' : Handle) (hh : HInv env { s.disk with manifest := some n } h') :
    RInv env { disk := { s.disk with manifest := some n }, hs := fun j => if j = i then h' else s.hs j } := by
  refine ⟨fun m hm => by cases hm; exact hn, P_closed_write hr.closed hmono hnew, hroot, fun j => ?_⟩
  dsimp only; split
  · exact hh
  · exact (hr.hs j).mono hmono

theorem RInv.wrote {env : Env} {s : Sys} (hr : RInv env s) (i : Nat) (p : Pending) (hp : (s.hs i).pc = some p)
    (hlock : s.disk.lock = (s.hs i).upstream.lock) :
    RInv env { disk := { s.disk with manifest := some p.new },
               hs := fun j => if j = i then ackedHandle (s.hs i) p else s.hs j } := by
  have hi := hr.hs i
  obtain ⟨hnew, hcur, _⟩ := hi.pcOK p hp
  have hspecs : p.new.specs = (s.hs i).toSpecs := by rw [hnew]
  -- the lock matched, so the manifest written names every table named before
  have hmono : ∀ t ∈ s.disk.specs, t ∈ p.new.specs := by rw [hspecs]; exact disk_specs_sub_toSpecs hr i hlock
  have hNP : ∀ a, N (s.hs i) a ∨ P s.disk a → P ({ s.disk with manifest := some p.new } : Disk) a := by
    rintro a (hn | hp')
    · obtain ⟨t, ht, hat⟩ := (toSpecs_covers _ a).2 (Or.inl hn)
      exact (P_iff _ a).2 ⟨t, (by rw [hspecs]; exact ht : t ∈ p.new.specs), hat⟩
    · exact P_mono hmono hp'
  refine hr.write p.new (by rw [hnew]; exact mk_wf2 _ _) hmono (fun t ht hnot a hat b hb => ?_) ?_ i _
    (hi.acked hp hmono fun t ht => (by rw [hspecs]; exact ht : t ∈ p.new.specs))
  · -- a table named now and not before is a novel table of the handle
    rcases (mem_toSpecs _ t).1 (hspecs ▸ ht : t ∈ (s.hs i).toSpecs) with ⟨h1, _, _⟩ | h1
    · exact hNP b (hi.novelRefs a ((N_iff _ a).2 ⟨t, h1, hat⟩) b hb)
    · exact absurd (hi.upsub t h1) hnot
  · have : p.new.root = p.cur := by rw [hnew]
    rw [this]; exact hcur.imp id (hNP _)

/-- the handle holds nothing of its own that is not persisted: what it has is then persisted, so the checked references of
the added tables stay inside the new manifest -/
theorem RInv.added {env : Env} {s : Sys} (hr : RInv env s) (i : Nat) (add : List Table) (hpc : (s.hs i).pc = none)
    (hmem : MemEmpty (s.hs i)) (hnov : ∀ a, ¬ N (s.hs i) a)
    (hrefs : ∀ t ∈ add, ∀ a ∈ t, ∀ r ∈ env.refs a,
      (s.hs i).has r = true ∨ ∃ u ∈ (s.disk.manifest.getD Contents.initial).specs ++ add, r ∈ u) :
    RInv env { disk := { s.disk with manifest := some (addedContents (s.disk.manifest.getD Contents.initial) add) },
               hs := fun j => if j = i then (s.hs i).rebaseTo (addedContents (s.disk.manifest.getD Contents.initial) add)
                              else s.hs j } := by
  have hi := hr.hs i
  have hcspecs := getD_initial_specs s.disk
  have hcroot := getD_initial_root s.disk
  generalize s.disk.manifest.getD Contents.initial = c at hcspecs hcroot hrefs ⊢
  have hmono : ∀ t ∈ s.disk.specs, t ∈ (addedContents c add).specs := by
    rw [← hcspecs]; exact fun t ht => List.mem_append_left _ ht
  refine hr.write _ (mk_wf2 _ _) hmono (fun t ht hnot a hat b hb => ?_) ?_ i _
    ((hi.mono (d' := { s.disk with manifest := some (addedContents c add) }) hmono).rebaseTo hpc _ (mk_wf2 _ _) fun _ ht => ht)
  · -- `t` is one of the added tables, whose references were checked
    have htadd : t ∈ add := (List.mem_append.1 ht).resolve_left (by rw [hcspecs]; exact hnot)
    rcases hrefs t htadd a hat b hb with hh | ⟨u, hu, hbu⟩
    · exact P_mono hmono ((inTables_NP hi.upsub (has_of_memEmpty hmem hh)).resolve_left (hnov b))
    · exact (P_iff _ b).2 ⟨u, hu, hbu⟩
  · show c.root = 0 ∨ _
    rw [hcroot]; exact hr.root.imp id (P_mono hmono)

theorem RInv.coincide {env : Env} {s : Sys} (hr : RInv env s) (i : Nat) (p : Pending) (up : Contents)
    (hp : (s.hs i).pc = some p) (hm : s.disk.manifest = some up) (hl : up.lock = p.new.lock) :
    HInv env s.disk (ackedHandle (s.hs i) p) := by
  have hi := hr.hs i
  obtain ⟨hnew, _, _⟩ := hi.pcOK p hp
  -- equal locks: the manifest on disk names the tables the commit asked for
  have hiff := WF2.specs_eq (hr.dwf up hm) (by rw [hnew]; exact mk_wf2 _ _) hl
  refine hi.acked hp (fun t ht => ht) fun t ht => ?_
  rw [specs_of_manifest hm]
  exact (hiff t).2 (by rw [hnew]; exact ht)

/-- what `AddTableFilesToManifest` needs for the closure invariant: a root to check against, and nothing of the
handle's own that is not persisted yet (the store's `refCheck` also accepts references into the memtable and
into novel tables) -/
def AddSafe (s : Sys) : Op → Prop
  | .addTables i _ => (s.hs i).upstream.root ≠ 0 ∧ MemEmpty (s.hs i) ∧ ∀ a, ¬ N (s.hs i) a
  | .conjoin _ => False      -- conjoin replaces tables; C07 has step-level facts for it only (`conjoin_step_preserves_closure`)
  | _ => True

theorem rinv_congr {env : Env} {s t : Sys} (hm : t.disk.manifest = s.disk.manifest) (hh : t.hs = s.hs) (hr : RInv env s) :
    RInv env t := by
  have hsp : t.disk.specs = s.disk.specs := by unfold Disk.specs; rw [hm]
  have hP : ∀ a, P t.disk a ↔ P s.disk a := by intro a; rw [P_iff, P_iff, hsp]
  have hroot : t.disk.root = s.disk.root := by unfold Disk.root; rw [hm]
  refine ⟨by rw [hm]; exact hr.dwf, ?_, ?_, ?_⟩
  · intro a ha b hb; exact (hP b).2 (hr.closed a ((hP a).1 ha) b hb)
  · rw [hroot]; exact hr.root.imp id (hP _).2
  · intro i; rw [hh]
    exact (hr.hs i).mono (d' := t.disk) (by rw [hsp]; exact fun _ hu => hu)

theorem rinv_step (env : Env) (s : Sys) (hr : RInv env s) (op : Op) (hsafe : AddSafe s op) : RInv env (s.step env op).1 := by
  have hm := step_moves env s op
  generalize s.step env op = x at hm
  cases hm with
  | stay => exact hr
  | locally _ i h' _ _ hl => exact hr.setHandle i h' ((hr.hs i).local hr.dwf hl)
  | files => exact rinv_congr (s := s) rfl rfl hr
  | wrote i p hp hl => exact hr.wrote i p hp hl
  | coincide i p up hp hm hl => exact hr.setHandle i _ (hr.coincide i p up hp hm hl)
  | added i ts add hpc hrefs => exact hr.added i add hpc hsafe.2.1 hsafe.2.2 (hrefs hsafe.1)
  | conjoin => exact hsafe.elim

theorem rinv_next (env : Env) (s : Sys) (hr : RInv env s) (op : Op) (hsafe : AddSafe s op) : RInv env (s.next env op).1 :=
  rinv_congr (next_manifest env s op) (next_hs env s op) (rinv_step env s hr op hsafe)

end DoltVerif.ManStore
