import DoltVerif.Lemmas.ManStoreRefs
/-! Handle-local part of the C07 closure invariant and its preservation by the handle-level functions. -/
namespace DoltVerif.ManStore

/-- the closure invariant for one handle -/
structure HInv (env : Env) (d : Disk) (h : Handle) : Prop where
  upsub : ∀ t ∈ h.upTables, t ∈ d.specs
  upiff : ∀ t, t ∈ h.upTables ↔ t ∈ h.upstream.specs
  upwf : h.upstream.WF2
  novelRefs : ∀ a, N h a → ∀ b ∈ env.refs a, N h b ∨ P d b
  cache : ∀ a ∈ h.hasCache, N h a ∨ P d a
  pcOK : ∀ p, h.pc = some p →
    p.new = { root := p.cur, lock := mkLock p.cur h.toSpecs, specs := h.toSpecs } ∧
    (p.cur = 0 ∨ N h p.cur ∨ P d p.cur) ∧ MemEmpty h

theorem hinv_blank (env : Env) (d : Disk) (o : Bool) (mm : Nat) : HInv env d { Handle.closed with opened := o, memMax := mm } :=
  ⟨by intro t h; simp [Handle.closed] at h, by intro t; simp [Handle.closed, Contents.initial], initial_wf2,
   by intro a h; simp [N, Handle.closed] at h, by intro a h; simp [Handle.closed] at h, by intro p h; simp [Handle.closed] at h⟩

theorem HInv.mono {env : Env} {d d' : Disk} {h : Handle} (hi : HInv env d h) (hs : ∀ t ∈ d.specs, t ∈ d'.specs) : HInv env d' h :=
  ⟨fun t ht => hs t (hi.upsub t ht), hi.upiff, hi.upwf,
   fun a ha b hb => (hi.novelRefs a ha b hb).imp id (P_mono hs),
   fun a ha => (hi.cache a ha).imp id (P_mono hs),
   fun p hp => ⟨(hi.pcOK p hp).1, (hi.pcOK p hp).2.1.imp id (Or.imp id (P_mono hs)), (hi.pcOK p hp).2.2⟩⟩

theorem inTables_iff (h : Handle) (a : Addr) : h.inTables a = true ↔ N h a ∨ ∃ t ∈ h.upTables, a ∈ t := by
  simp [Handle.inTables, N, List.any_eq_true]

theorem inTables_NP {d : Disk} {h : Handle} (hup : ∀ t ∈ h.upTables, t ∈ d.specs) {a : Addr} (ha : h.inTables a = true) :
    N h a ∨ P d a := by
  rcases (inTables_iff h a).1 ha with hn | ⟨t, ht, hat⟩
  · exact Or.inl hn
  · exact Or.inr ((P_iff d a).2 ⟨t, hup t ht, hat⟩)

theorem mem_addNovel (t : Table) (novel : List Table) (u : Table) : u ∈ addNovel t novel ↔ u = t ∨ u ∈ novel := by
  unfold addNovel
  split
  · rename_i hc
    have : t ∈ novel := by simpa using hc
    constructor
    · exact Or.inr
    · rintro (rfl | h)
      · exact this
      · exact h
  · simp [or_comm]

theorem N_flushed (env : Env) (h : Handle) (m : Mem) (x : Option Mem) (a : Addr) :
    N (flushed env h m x) a ↔ N h a ∨ (a ∈ m.chunks ∧ h.inTables a = false) := by
  simp only [N_iff, flushed, mem_addNovel]
  constructor
  · rintro ⟨t, (rfl | ht), ha⟩
    · simp only [List.mem_filter] at ha
      exact Or.inr ⟨ha.1, by simpa using ha.2⟩
    · exact Or.inl ⟨t, ht, ha⟩
  · rintro (⟨t, ht, ha⟩ | ⟨h1, h2⟩)
    · exact ⟨t, Or.inr ht, ha⟩
    · exact ⟨_, Or.inl rfl, by simp [List.mem_filter, h1, h2]⟩

theorem inTables_flushed (env : Env) (h : Handle) (m : Mem) (x : Option Mem) (a : Addr) :
    (flushed env h m x).inTables a = true ↔ h.inTables a = true ∨ a ∈ m.chunks := by
  rw [inTables_iff, inTables_iff, N_flushed]
  constructor
  · rintro ((hn | ⟨hc, _⟩) | hu)
    · exact Or.inl (Or.inl hn)
    · exact Or.inr hc
    · exact Or.inl (Or.inr hu)
  · rintro ((hn | hu) | hc)
    · exact Or.inl (Or.inl hn)
    · exact Or.inr hu
    · cases hin : h.inTables a with
      | true => exact ((inTables_iff h a).1 hin).imp Or.inl id
      | false => exact Or.inl (Or.inr ⟨hc, rfl⟩)

theorem HInv.afterFlush {env : Env} {d : Disk} {h : Handle} (hi : HInv env d h) (hpc : h.pc = none) (m : Mem) (x : Option Mem)
    (hok : flushOk env h m = true) : HInv env d (ManStore.flushed env h m x) := by
  have hrefs : ∀ c ∈ m.chunks, ∀ r ∈ env.refs c, N (ManStore.flushed env h m x) r ∨ P d r := by
    intro c hc r hr
    rcases (flushOk_iff env h m).1 hok c hc r hr with h1 | h2
    · exact (hi.cache r h1).imp (fun hn => (N_flushed env h m x r).2 (Or.inl hn)) id
    · -- in the memtable or in a table before the flush: in a table after it
      exact inTables_NP (h := flushed env h m x) hi.upsub ((inTables_flushed env h m x r).2 h2.symm)
  refine ⟨hi.upsub, hi.upiff, hi.upwf, ?_, ?_, ?_⟩
  · intro a ha b hb
    rcases (N_flushed env h m x a).1 ha with hn | ⟨hc, _⟩
    · exact (hi.novelRefs a hn b hb).imp (fun hn => (N_flushed env h m x b).2 (Or.inl hn)) id
    · exact hrefs a hc b hb
  · intro a ha
    simp only [ManStore.flushed, List.mem_append, List.mem_flatMap] at ha
    rcases ha with ha | ⟨c, hc, hr⟩
    · exact (hi.cache a ha).imp (fun hn => (N_flushed env h m x a).2 (Or.inl hn)) id
    · exact hrefs c hc a hr
  · intro p hp; simp [ManStore.flushed, hpc] at hp

theorem HInv.setMem {env : Env} {d : Disk} {h : Handle} (hi : HInv env d h) (hpc : h.pc = none) (x : Option Mem) :
    HInv env d { h with mem := x } :=
  ⟨hi.upsub, hi.upiff, hi.upwf, hi.novelRefs, hi.cache, by intro p hp; simp [hpc] at hp⟩

theorem HInv.put {env : Env} {d : Disk} {h : Handle} (hi : HInv env d h) (hpc : h.pc = none) (a : Addr) :
    HInv env d (h.put env a).1 := by
  rcases put_cases env h a with ⟨x, e⟩ | ⟨m, x, hok, e⟩ <;> rw [e]
  · exact hi.setMem hpc x
  · exact (hi.afterFlush hpc m _ hok).setMem hpc x

/-- `rebaseTo` drops only empty novel tables -/
theorem N_rebaseTo (h : Handle) (c : Contents) (a : Addr) : N (h.rebaseTo c) a ↔ N h a := by
  rw [N_iff, N_iff]
  constructor
  · rintro ⟨t, ht, ha⟩; exact ⟨t, (List.mem_filter.1 ht).1, ha⟩
  · rintro ⟨t, ht, ha⟩
    refine ⟨t, List.mem_filter.2 ⟨ht, ?_⟩, ha⟩
    cases t with
    | nil => simp at ha
    | cons _ _ => rfl

theorem HInv.rebaseTo {env : Env} {d : Disk} {h : Handle} (hi : HInv env d h) (hpc : h.pc = none) (c : Contents)
    (hc : c.WF2) (hs : ∀ t ∈ c.specs, t ∈ d.specs) : HInv env d (h.rebaseTo c) := by
  have hup : ∀ t, t ∈ (h.rebaseTo c).upTables ↔ t ∈ c.specs := by
    intro t; simp [Handle.rebaseTo, mem_dedup]
  refine ⟨fun t ht => hs t ((hup t).1 ht), hup, hc, ?_, ?_, ?_⟩
  · intro a ha b hb
    exact (hi.novelRefs a ((N_rebaseTo h c a).1 ha) b hb).imp (fun hn => (N_rebaseTo h c b).2 hn) id
  · intro a ha
    exact (hi.cache a ha).imp (fun hn => (N_rebaseTo h c a).2 hn) id
  · intro p hp; simp [Handle.rebaseTo, hpc] at hp

theorem HInv.rebase {env : Env} {d : Disk} {h : Handle} (hi : HInv env d h) (hpc : h.pc = none)
    (hd : ∀ m, d.manifest = some m → m.WF2) : HInv env d (h.rebase d).1 := by
  rcases rebase_cases d h with ⟨_, e⟩ | ⟨m, hm, e⟩ | e <;> rw [e]
  · exact hi
  · exact hi.rebaseTo hpc m (hd m hm) (by rw [specs_of_manifest hm]; exact fun _ ht => ht)
  · exact hi

end DoltVerif.ManStore
