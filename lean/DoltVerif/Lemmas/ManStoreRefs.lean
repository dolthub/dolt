import DoltVerif.Lemmas.ManStore
/-! The vocabulary of the C07 closure invariant: the persisted chunk set `P` and a handle's novel chunk set `N`;
manifests whose lock is the lock hash of their own root and specs (`WF2`: equal locks name the same tables, `mem_canon`);
which tables, hence which chunks, `toSpecs` names. -/
namespace DoltVerif.ManStore

theorem mem_insertT (t : Table) (l : List Table) (x : Table) : x ∈ insertT t l ↔ x = t ∨ x ∈ l := by
  fun_induction insertT t l
  next => simp
  next u us he => -- `t` is there already
    have : t = u := by simpa using he
    subst this
    simp
  next => simp -- `t` goes in front
  next ih => simp only [List.mem_cons, ih]; exact or_left_comm -- `t` goes further back

theorem mem_canon (l : List Table) (x : Table) : x ∈ canon l ↔ x ∈ l := by
  induction l with
  | nil => simp [canon]
  | cons t ts ih =>
    have : canon (t :: ts) = insertT t (canon ts) := rfl
    rw [this, mem_insertT, ih]; simp

/-- the persisted chunk set -/
def P (d : Disk) (a : Addr) : Prop := d.persisted a = true
/-- chunks in the handle's novel tables -/
def N (h : Handle) (a : Addr) : Prop := h.novel.any (·.contains a) = true

theorem P_iff (d : Disk) (a : Addr) : P d a ↔ ∃ t ∈ d.specs, a ∈ t := by
  simp [P, Disk.persisted, List.any_eq_true]

theorem N_iff (h : Handle) (a : Addr) : N h a ↔ ∃ t ∈ h.novel, a ∈ t := by
  simp [N, List.any_eq_true]

theorem P_mono {d d' : Disk} (hs : ∀ t ∈ d.specs, t ∈ d'.specs) {a : Addr} (h : P d a) : P d' a := by
  rw [P_iff] at h ⊢
  obtain ⟨t, ht, ha⟩ := h
  exact ⟨t, hs t ht, ha⟩

theorem P_closed_write {env : Env} {d : Disk} {n : Contents} (hclosed : ∀ a, P d a → ∀ b ∈ env.refs a, P d b)
    (hmono : ∀ t ∈ d.specs, t ∈ n.specs)
    (hnew : ∀ t ∈ n.specs, t ∉ d.specs → ∀ a ∈ t, ∀ b ∈ env.refs a, P { d with manifest := some n } b) :
    ∀ a, P { d with manifest := some n } a → ∀ b ∈ env.refs a, P { d with manifest := some n } b := by
  intro a ha b hb
  obtain ⟨t, ht, hat⟩ := (P_iff _ a).1 ha
  by_cases hold : t ∈ d.specs
  · exact P_mono hmono (hclosed a ((P_iff _ a).2 ⟨t, hold, hat⟩) b hb)
  · exact hnew t ht hold a hat b hb

/-- the lock is the lock hash of the contents' own root and specs (or all is empty); `Contents.WF` ties it to the root only -/
def Contents.WF2 (c : Contents) : Prop := (c.lock = none ∧ c.specs = [] ∧ c.root = 0) ∨ c.lock = mkLock c.root c.specs

theorem WF2.specs_eq {a b : Contents} (ha : a.WF2) (hb : b.WF2) (h : a.lock = b.lock) : ∀ t, t ∈ a.specs ↔ t ∈ b.specs := by
  intro t
  rcases ha with ⟨la, sa, _⟩ | la <;> rcases hb with ⟨lb, sb, _⟩ | lb
  · simp [sa, sb]
  · rw [la, lb] at h; simp [mkLock] at h
  · rw [la, lb] at h; simp [mkLock] at h
  · rw [la, lb] at h
    simp only [mkLock, Option.some.injEq, Prod.mk.injEq] at h
    rw [← mem_canon a.specs, ← mem_canon b.specs, h.2]

theorem WF2.wf {c : Contents} (h : c.WF2) : c.WF := by
  unfold Contents.WF
  rcases h with ⟨l, _, r⟩ | l <;> rw [l]
  · exact r
  · rfl

theorem WF2.root_eq {a b : Contents} (ha : a.WF2) (hb : b.WF2) (h : a.lock = b.lock) : a.root = b.root :=
  Contents.WF.root_eq (WF2.wf ha) (WF2.wf hb) h

theorem initial_wf2 : Contents.initial.WF2 := Or.inl ⟨rfl, rfl, rfl⟩

theorem mk_wf2 (r : Addr) (s : List Table) : ({ root := r, lock := mkLock r s, specs := s } : Contents).WF2 := Or.inr rfl

theorem mem_toSpecs (h : Handle) (t : Table) :
    t ∈ h.toSpecs ↔ (t ∈ h.novel ∧ t ≠ [] ∧ t ∉ h.upTables) ∨ t ∈ h.upTables := by
  simp only [Handle.toSpecs, List.mem_append, List.mem_filter]
  constructor
  · rintro (⟨h1, h2⟩ | h)
    · simp only [Bool.and_eq_true, Bool.not_eq_true'] at h2
      refine Or.inl ⟨h1, ?_, ?_⟩
      · intro e; subst e; simp at h2
      · intro hu; have := h2.2; simp [hu] at this
    · exact Or.inr h
  · rintro (⟨h1, h2, h3⟩ | h)
    · refine Or.inl ⟨h1, ?_⟩
      have e1 : t.isEmpty = false := by cases t <;> simp_all
      have e2 : h.upTables.contains t = false := by simpa using h3
      simp [e1, h3]
    · exact Or.inr h

theorem toSpecs_covers (h : Handle) (a : Addr) : (∃ t ∈ h.toSpecs, a ∈ t) ↔ (N h a ∨ ∃ t ∈ h.upTables, a ∈ t) := by
  constructor
  · rintro ⟨t, ht, ha⟩
    rw [mem_toSpecs] at ht
    rcases ht with ⟨h1, _, _⟩ | h1
    · exact Or.inl ((N_iff h a).2 ⟨t, h1, ha⟩)
    · exact Or.inr ⟨t, h1, ha⟩
  · rintro (hn | ⟨t, ht, ha⟩)
    · obtain ⟨t, ht, ha⟩ := (N_iff h a).1 hn
      by_cases hu : t ∈ h.upTables
      · exact ⟨t, (mem_toSpecs h t).2 (Or.inr hu), ha⟩
      · exact ⟨t, (mem_toSpecs h t).2 (Or.inl ⟨ht, by intro e; subst e; simp at ha, hu⟩), ha⟩
    · exact ⟨t, (mem_toSpecs h t).2 (Or.inr ht), ha⟩

end DoltVerif.ManStore
