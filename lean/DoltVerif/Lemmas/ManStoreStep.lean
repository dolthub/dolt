import DoltVerif.Lemmas.ManStoreCas
/-! Every atomic step of the ManStore system preserves `Inv` and moves the persisted root only as an
acknowledged compare-and-swap: `step_facts`, by cases on the shapes a step can have (`Moves`).  Landing a conjoin is
the one shape that needs an induction of its own (`conjoinLand_facts`). -/
namespace DoltVerif.ManStore

theorem conjoinLand_facts (cs : List Table) (c : Table) : ∀ (fuel : Nat) (d : Disk) (cur : Contents),
    DiskOK d → cur.WF →
    DiskOK (conjoinLand d cs c cur fuel).1 ∧
    (conjoinLand d cs c cur fuel).1.root = d.root ∧ (conjoinLand d cs c cur fuel).2.1.WF := by
  intro fuel
  induction fuel with
  | zero => intro d cur hd hc; exact ⟨hd, rfl, hc⟩
  | succ n ih =>
    intro d cur hd hc
    unfold conjoinLand
    by_cases hall : (cs.all fun t => cur.specs.contains t) = true
    · rw [if_pos hall]
      dsimp only
      rcases update_cases d cur.lock (conjoinContents cs c cur) with ⟨e, hu⟩ | ⟨up, hm, hu⟩ | ⟨hl, hu⟩ <;> rw [hu] <;> dsimp only
      · exact ⟨hd, rfl, hc⟩
      · by_cases h1 : (up.lock == (conjoinContents cs c cur).lock) = true
        · rw [if_pos h1]; exact ⟨hd, rfl, (hd up hm).1⟩
        · rw [if_neg h1]; exact ih d up hd (hd up hm).1
      · -- the root written is that of `cur`, whose lock was on disk
        exact ⟨fun m hm => by cases hm; exact ⟨mk_wf _ _, mkLock_ne_none _ _⟩, (disk_root_of_lock hd hc hl).symm, mk_wf _ _⟩
    · rw [if_neg hall]; exact ⟨hd, rfl, hc⟩

theorem facts_conjoin (s : Sys) (hi : Inv s) (i : Nat) (hpc : (s.hs i).pc = none) (r : Resp) :
    StepFacts s { disk := (conjoinAll s.disk (s.hs i)).1,
                  hs := fun j => if j = i then (conjoinAll s.disk (s.hs i)).2.1 else s.hs j } (.conjoin i) r := by
  have key : ∀ x : Disk × Handle × Option Err, DiskOK x.1 →
      x.1.root = s.disk.root → x.2.1.upstream.WF → x.2.1.pc = none →
      StepFacts s { disk := x.1, hs := fun j => if j = i then x.2.1 else s.hs j } (.conjoin i) r :=
    fun x hd hroot hw hp => facts_noack rfl (hi.replace _ hd i _ (handleOK_of_idle hw hp)) hroot nofun
  unfold conjoinAll
  by_cases h1 : (s.hs i).upTables.isEmpty = true
  · rw [if_pos h1]; exact key _ hi.disk rfl (hi.up i) hpc
  rw [if_neg h1]
  by_cases h2 : (!(s.hs i).upTables.all fun t => s.disk.files.contains t) = true
  · rw [if_pos h2]; exact key _ hi.disk rfl (hi.up i) hpc
  rw [if_neg h2]
  dsimp only
  -- 4 is the fuel `conjoinAll` gives the landing loop
  have hf := conjoinLand_facts (s.hs i).upTables (conjoinedTable (s.hs i).upTables) 4
    { s.disk with files := if s.disk.files.contains (conjoinedTable (s.hs i).upTables) then s.disk.files
                           else s.disk.files ++ [conjoinedTable (s.hs i).upTables] }
    (s.hs i).upstream hi.disk (hi.up i)
  generalize conjoinLand _ _ _ _ 4 = y at hf ⊢
  obtain ⟨d1, m, landed, e⟩ := y
  cases e with
  | some e => exact key _ hf.1 hf.2.1 (hi.up i) hpc
  | none =>
    dsimp only
    by_cases h3 : (!canOpen d1 (s.hs i) m.specs) = true
    · rw [if_pos h3]; exact key _ hf.1 hf.2.1 (hi.up i) hpc
    · rw [if_neg h3]
      -- the cleanup unlinks files and leaves the manifest alone
      cases landed <;> exact key _ hf.1 hf.2.1 hf.2.2 hpc

theorem step_facts (env : Env) (s : Sys) (hi : Inv s) (op : Op) :
    StepFacts s (s.step env op).1 op (s.step env op).2 := by
  have hm := step_moves env s op
  generalize s.step env op = x at hm
  cases hm with
  | stay _ r ha => exact facts_noack ha hi rfl fun _ => rfl
  | locally _ i h' r ha hl => exact facts_noack ha (hi.replace _ hi.disk i h' (hl.ok hi)) rfl fun _ => rfl
  | files t fs => exact facts_noack rfl ⟨hi.disk, hi.up, hi.pc⟩ rfl fun _ => rfl
  | wrote i p hp hl =>
    obtain ⟨hnwf, hnl, hnr, hlast⟩ := hi.pc i p hp
    have hroot : s.disk.root = p.last := (disk_root_of_lock hi.disk (hi.up i) hl).trans hlast
    exact facts_acked hp (hi.replace _ (fun m hm => by cases hm; exact ⟨hnwf, hnl⟩) i _ (handleOK_of_idle hnwf rfl)) hnr
      (Or.inl hroot) fun _ => hroot
  | coincide i p up hp hm hl =>
    obtain ⟨hnwf, hnl, hnr, hlast⟩ := hi.pc i p hp
    -- the manifest on disk carries the lock asked for, hence the root asked for
    have hdl : s.disk.lock = p.new.lock := (lock_of_manifest hm).trans hl
    have hroot : s.disk.root = p.cur := (disk_root_of_lock hi.disk hnwf hdl).trans hnr
    exact facts_acked hp (hi.replace _ hi.disk i _ (handleOK_of_idle hnwf rfl)) hroot (Or.inr ⟨hroot, rfl⟩)
      fun hne => absurd hdl hne
  | added i ts add hpc =>
    exact facts_noack rfl
      (hi.replace _ (fun m hm => by cases hm; exact ⟨mk_wf _ _, mkLock_ne_none _ _⟩) i _ (handleOK_of_idle (mk_wf _ _) hpc))
      (getD_initial_root s.disk) nofun
  | conjoin i r hpc => exact facts_conjoin s hi i hpc r

theorem inv_congr {s t : Sys} (hm : t.disk.manifest = s.disk.manifest) (hh : t.hs = s.hs) (hi : Inv s) : Inv t :=
  ⟨by rw [hm]; exact hi.disk, by rw [hh]; exact hi.up, by rw [hh]; exact hi.pc⟩

theorem root_congr {s t : Sys} (hm : t.disk.manifest = s.disk.manifest) : t.disk.root = s.disk.root := by
  unfold Disk.root; rw [hm]

theorem next_facts (env : Env) (s : Sys) (hi : Inv s) (op : Op) :
    StepFacts s (s.next env op).1 op (s.next env op).2 := by
  have f := step_facts env s hi op
  have hm := next_manifest env s op
  have hh := next_hs env s op
  rw [next_resp]
  exact ⟨inv_congr hm hh f.inv,
    fun l c h => ⟨by rw [root_congr hm]; exact (f.ack l c h).1, by
      rcases (f.ack l c h).2 with e | ⟨e1, e2⟩
      · exact Or.inl e
      · exact Or.inr ⟨e1, by rw [hm]; exact e2⟩⟩,
    fun l c i p h h1 h2 h3 => f.strict l c i p h h1 h2 h3,
    fun h => by rw [root_congr hm]; exact f.noack h,
    fun h h2 => by rw [hm]; exact f.manifest h h2⟩

end DoltVerif.ManStore
