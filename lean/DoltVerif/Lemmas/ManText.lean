import DoltVerif.Model.ManText
/-! Round trip of the v5 manifest text format: `split`/`join` through core's `List.splitOn`/`List.intercalate`, the spec
fields, `parse_write`. -/
namespace DoltVerif.ManText

theorem split_eq_splitOn (s : Str) : split s = s.splitOn sep := by
  induction s with
  | nil => rfl
  | cons c t ih =>
    rw [split, List.splitOn_cons_eq_if_modifyHead, ih]
    simp only [beq_iff_eq]
    cases h : t.splitOn sep with
    | nil => exact absurd h (List.splitOn_ne_nil sep t)
    | cons x r => rfl

theorem join_eq_intercalate : ∀ fs : List Str, join fs = [sep].intercalate fs
  | [] => rfl
  | [f] => List.intercalate_singleton.symm
  | f :: g :: fs => by
    rw [join, join_eq_intercalate (g :: fs), List.intercalate_cons_cons, List.append_assoc]; rfl

theorem split_ne_nil (s : Str) : split s ≠ [] := by
  rw [split_eq_splitOn]; exact List.splitOn_ne_nil sep s

/-- `strings.Split(strings.Join(fs, ":"), ":") = fs` -/
theorem split_join (fs : List Str) (h : fs ≠ []) (hs : ∀ f ∈ fs, sep ∉ f) : split (join fs) = fs := by
  rw [split_eq_splitOn, join_eq_intercalate]; exact List.splitOn_intercalate sep hs h

theorem b32_ne_sep (c : Char) (h : isB32 c = true) : c ≠ sep := by
  intro e; subst e; simp [isB32, sep] at h

theorem parseHash_nosep (s : Str) (h : parseHash s = some s) : sep ∉ s := by
  unfold parseHash at h
  split at h
  · rename_i hv
    intro hm
    have := (List.all_eq_true.1 hv.2) sep hm
    exact b32_ne_sep sep this rfl
  · cases h

structure Codec.OK (cd : DecCodec) : Prop where
  rt : ∀ n, cd.dec (cd.enc n) = some n
  nosep : ∀ n, sep ∉ cd.enc n

def Spec.Valid (s : Spec) : Prop := parseHash s.name = some s.name

theorem specFields_length (cd : DecCodec) (ss : List Spec) : (specFields cd ss).length = 2 * ss.length := by
  induction ss with
  | nil => rfl
  | cons s ss ih => simp [specFields, ih]; omega

theorem specFields_nosep (cd : DecCodec) (hc : Codec.OK cd) (ss : List Spec) (hv : ∀ s ∈ ss, s.Valid) :
    ∀ f ∈ specFields cd ss, sep ∉ f := by
  induction ss with
  | nil => intro f hf; simp [specFields] at hf
  | cons s ss ih =>
    intro f hf
    simp only [specFields, List.mem_cons] at hf
    rcases hf with rfl | rfl | hf
    · exact parseHash_nosep _ (hv s (by simp))
    · exact hc.nosep _
    · exact ih (fun x hx => hv x (List.mem_cons_of_mem _ hx)) f hf

theorem parseSpecs_specFields (cd : DecCodec) (hc : Codec.OK cd) (ss : List Spec) (hv : ∀ s ∈ ss, s.Valid) :
    parseSpecs cd (specFields cd ss) = .ok ss := by
  induction ss with
  | nil => rfl
  | cons s ss ih =>
    have hs : parseHash s.name = some s.name := hv s (by simp)
    simp only [specFields, parseSpecs, hs, hc.rt, ih (fun x hx => hv x (List.mem_cons_of_mem _ hx))]

/-- a manifest `writeManifest` accepts and whose fields are what the format can carry -/
structure Man.Valid (m : Man) : Prop where
  nbfNonempty : m.nbfVers ≠ []
  nbfNosep : sep ∉ m.nbfVers
  lock : parseHash m.lock = some m.lock
  lockNonzero : m.lock ≠ zeroHash
  root : parseHash m.root = some m.root
  gcGen : parseHash m.gcGen = some m.gcGen
  specs : ∀ s ∈ m.specs, s.Valid

theorem parseV5_fields (cd : DecCodec) (hc : Codec.OK cd) (m : Man) (hm : m.Valid) :
    parseV5 cd (m.nbfVers :: m.lock :: m.root :: m.gcGen :: specFields cd m.specs) = .ok m := by
  unfold parseV5
  have hcond : ¬ ((m.nbfVers :: m.lock :: m.root :: m.gcGen :: specFields cd m.specs).length < prefixLen - 1 ∨
      (m.nbfVers :: m.lock :: m.root :: m.gcGen :: specFields cd m.specs).length % 2 ≠ 0) := by
    simp only [List.length_cons, specFields_length, prefixLen]; omega
  rw [if_neg hcond]
  dsimp only
  rw [parseSpecs_specFields cd hc m.specs hm.specs]
  simp only [hm.lock, hm.root, hm.gcGen]

theorem parse_write (cd : DecCodec) (hc : Codec.OK cd) (m : Man) (hm : m.Valid) :
    ∃ text, write cd m = .ok text ∧ parse cd text = .ok m := by
  have hne : m.nbfVers.isEmpty = false := by
    cases h : m.nbfVers with
    | nil => exact absurd h hm.nbfNonempty
    | cons _ _ => rfl
  refine ⟨join (headFields m ++ specFields cd m.specs), by simp [write, hne, hm.lockNonzero], ?_⟩
  have hnosep : ∀ f ∈ headFields m ++ specFields cd m.specs, sep ∉ f := by
    intro f hf
    simp only [List.mem_append, headFields, List.mem_cons, List.not_mem_nil, or_false] at hf
    rcases hf with (rfl | rfl | rfl | rfl | rfl) | hf
    · simp [storageVersion, sep]
    · exact hm.nbfNosep
    · exact parseHash_nosep _ hm.lock
    · exact parseHash_nosep _ hm.root
    · exact parseHash_nosep _ hm.gcGen
    · exact specFields_nosep cd hc m.specs hm.specs f hf
  unfold parse
  rw [split_join _ (by simp [headFields]) hnosep]
  -- the version field is "5": short enough, and the known one
  show (if _ then _ else if storageVersion = storageVersion then parseV5 cd _ else _) = _
  rw [if_neg (fun h => h.elim (fun h => nomatch h) (by decide)), if_pos rfl]
  exact parseV5_fields cd hc m hm

end DoltVerif.ManText
