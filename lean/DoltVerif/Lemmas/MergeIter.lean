/-
`mutableMapIter` (merge of the pending edits with the tree items, edits win, deletes drop) is
`applyEdits`; the `[start, stop)` window of the pending edits holds every edit a range matches; hence
the range iterator of a mutable map, on lists: the matches of the merged windows are the matches of the
overlay (`mergeIter_windows_filter`; C11).
-/
import DoltVerif.Model.MutableMap
import DoltVerif.Lemmas.Overlay
import DoltVerif.Lemmas.Rank
namespace DoltVerif.Prolly
open DoltVerif.SortedDict

variable {κ ν : Type}

theorem mergeIter_eq_applyEdits {cmp : κ → κ → Ordering} (hc : TotalPreorder cmp)
    (ms : List (κ × Option ν)) (ps : List (κ × ν)) : MutMap.mergeIter cmp ms ps = applyEdits cmp ps ms := by
  fun_induction MutMap.mergeIter cmp ms ps with
  | case1 ps => simp [applyEdits]
  | case2 k v ms ih => simp [applyEdits, cutAt, emit, ih]
  | case3 k ms ih => simp [applyEdits, cutAt, emit, ih]
  | case4 ek ev ms pk pv ps hpe ih =>
    -- the tree item is below the edit: it is kept, and the cut at the edit's key passes it
    have hep : cmp ek pk = .gt := hc.gt_of_lt pk ek hpe
    cases ev <;> simp [ih, applyEdits, cutAt, hep]
  | case5 ek ev ms pk pv ps hpe ih =>
    -- the edit is below the tree item: it is emitted, the item waits
    have hep : cmp ek pk = .lt := (hc.swap_lt ek pk).mpr hpe
    cases ev <;> simp [ih, applyEdits, cutAt, hep, emit]
  | case6 ek ev ms pk pv ps hpe ih =>
    -- equal keys: the edit wins, the item is dropped by the cut
    have hep : cmp ek pk = .eq := hc.swap_eq pk ek hpe
    cases ev <;> simp [ih, applyEdits, cutAt, hep, emit]

/-- the left side filters what `memIterFromRange` yields: the `[start, stop)` window of the pending edits -/
theorem mem_window_filter {cmp : κ → κ → Ordering} {pLo pHi : κ → Bool} (hHi : Mono cmp pHi)
    (es : Edits κ ν) (hs : Sorted cmp es) (mk : κ → Bool)
    (hm : ∀ x, mk x = true → pLo x = true ∧ pHi x = false) :
    ((es.dropWhile (fun e => !pLo e.1)).takeWhile (fun e => !pHi e.1)).filter (fun e => mk e.1)
      = es.filter (fun e => mk e.1) := by
  have hsplit := List.takeWhile_append_dropWhile (p := fun e : κ × Option ν => !pLo e.1) (l := es)
  have hA : (es.takeWhile (fun e => !pLo e.1)).filter (fun e => mk e.1) = [] := by
    rw [List.filter_eq_nil_iff]
    intro x hx hmx
    have := mem_takeWhile_true _ _ x hx
    rw [(hm x.1 hmx).1] at this; simp at this
  generalize hD : es.dropWhile (fun e => !pLo e.1) = D at hsplit
  have hDs : Sorted cmp D := by
    have hsub : D.Sublist es := by rw [← hD]; exact List.dropWhile_sublist _
    exact List.Pairwise.sublist hsub hs
  have hsplit2 := List.takeWhile_append_dropWhile (p := fun e : κ × Option ν => !pHi e.1) (l := D)
  have hR : (D.dropWhile (fun e => !pHi e.1)).filter (fun e => mk e.1) = [] := by
    rw [List.filter_eq_nil_iff]
    intro x hx hmx
    have := dropWhile_all (ν := Option ν) hHi D hDs x hx
    rw [(hm x.1 hmx).2] at this; cases this
  conv => rhs; rw [← hsplit, List.filter_append, hA, List.nil_append, ← hsplit2, List.filter_append, hR,
    List.append_nil]

/-- `MutableMap.IterRange` on lists: the `[start, stop)` window of the pending edits merged into that of the tree's
entries, then filtered by the range -/
theorem mergeIter_windows_filter {cmp : κ → κ → Ordering} (hc : TotalPreorder cmp) {pLo pHi : κ → Bool}
    (hHi : Mono cmp pHi) (l : List (κ × ν)) (hl : Sorted cmp l) (es : Edits κ ν) (hes : Sorted cmp es)
    (mk : κ → Bool) (hcongr : ∀ a b, cmp a b = .eq → mk a = mk b)
    (hm : ∀ x, mk x = true → pLo x = true ∧ pHi x = false) :
    (MutMap.mergeIter cmp ((es.dropWhile (fun e => !pLo e.1)).takeWhile (fun e => !pHi e.1))
        (if rankP pLo l < rankP pHi l then (l.drop (rankP pLo l)).take (rankP pHi l - rankP pLo l) else [])).filter
      (fun kv => mk kv.1) = (applyEdits cmp l es).filter (fun kv => mk kv.1) := by
  have hWs : Sorted cmp (if rankP pLo l < rankP pHi l then (l.drop (rankP pLo l)).take (rankP pHi l - rankP pLo l)
      else []) := by
    split
    · exact List.Pairwise.sublist ((List.take_sublist _ _).trans (List.drop_sublist _ _)) hl
    · exact List.Pairwise.nil
  have hMs : Sorted cmp ((es.dropWhile (fun e => !pLo e.1)).takeWhile (fun e => !pHi e.1)) :=
    List.Pairwise.sublist ((List.takeWhile_sublist _).trans (List.dropWhile_sublist _)) hes
  rw [mergeIter_eq_applyEdits hc, filter_applyEdits hc mk hcongr _ _ hWs hMs,
    window_filter hHi l hl (fun kv => mk kv.1) (fun x hx => hm x.1 hx), mem_window_filter hHi es hes mk hm,
    ← filter_applyEdits hc mk hcongr _ _ hl hes]

end DoltVerif.Prolly
