import DoltVerif.Model.ProllyDiff
/-!
C13/C14: the laws of a three-way key comparison (`OrdLaws`; its derived laws are core's, through `OrdLaws.transCmp`),
and the merge walk of two lists that ascend strictly by key — every key of either list exactly once, tagged left-only /
right-only / both.  `specDiff` (C13) and `specDiffP`, `sendSpec` (C14) are `filterMap`s of it, `twNext` (C14) is a `map`.
-/
namespace DoltVerif.ProllyDiff

/-- the laws of a total preorder presented as a three-way comparison -/
structure OrdLaws (cmp : Bytes → Bytes → Ordering) : Prop where
  refl : ∀ k, cmp k k = .eq
  gt_iff : ∀ a b, cmp a b = .gt ↔ cmp b a = .lt
  lt_trans : ∀ a b c, cmp a b = .lt → cmp b c = .lt → cmp a c = .lt
  eq_lt : ∀ a b c, cmp a b = .eq → cmp b c = .lt → cmp a c = .lt
  lt_eq : ∀ a b c, cmp a b = .lt → cmp b c = .eq → cmp a c = .lt

/-- The fields `refl` and `eq_lt` are not used: they follow from the other three. -/
theorem OrdLaws.transCmp {cmp} (h : OrdLaws cmp) : Std.TransCmp cmp where
  eq_swap {a b} := by
    cases hab : cmp a b with
    | lt => rw [(h.gt_iff b a).mpr hab]; rfl
    | gt => rw [(h.gt_iff a b).mp hab]; rfl
    | eq =>
      cases hba : cmp b a with
      | eq => rfl
      | lt => rw [(h.gt_iff a b).mpr hba] at hab; cases hab
      | gt => rw [(h.gt_iff b a).mp hba] at hab; cases hab
  isLE_trans {a b c} hab hbc := by
    -- were `a > c`, i.e. `c < a ≤ b`, then `c < b`, i.e. `b > c`
    rw [Ordering.isLE_iff_ne_gt] at hab hbc ⊢
    intro hac
    have hca := (h.gt_iff a c).mp hac
    refine hbc ((h.gt_iff b c).mpr ?_)
    cases hab' : cmp a b with
    | lt => exact h.lt_trans c a b hca hab'
    | eq => exact h.lt_eq c a b hca hab'
    | gt => exact absurd hab' hab

theorem OrdLaws.eq_symm {cmp} (h : OrdLaws cmp) {a b} (he : cmp a b = .eq) : cmp b a = .eq :=
  haveI := h.transCmp; Std.OrientedCmp.eq_symm he

theorem OrdLaws.lt_irrefl {cmp} (h : OrdLaws cmp) {a} : cmp a a ≠ .lt := by rw [h.refl]; simp

theorem OrdLaws.eq_trans {cmp} (h : OrdLaws cmp) {a b c} (h1 : cmp a b = .eq) (h2 : cmp b c = .eq) : cmp a c = .eq :=
  haveI := h.transCmp; Std.TransCmp.eq_trans h1 h2

theorem OrdLaws.congr_left {cmp} (h : OrdLaws cmp) {a b} (he : cmp a b = .eq) (k : Bytes) : cmp a k = cmp b k :=
  haveI := h.transCmp; Std.TransCmp.congr_left he

theorem OrdLaws.congr_right {cmp} (h : OrdLaws cmp) {a b} (he : cmp a b = .eq) (k : Bytes) : cmp k a = cmp k b :=
  haveI := h.transCmp; Std.TransCmp.congr_right he

theorem OrdLaws.ne_of_lt {cmp : Bytes → Bytes → Ordering} {a b : Bytes} (h : cmp a b = .lt) : cmp a b ≠ .eq := by simp [h]

theorem OrdLaws.ne_of_gt {cmp} (ol : OrdLaws cmp) {a b : Bytes} (h : cmp b a = .lt) : cmp a b ≠ .eq :=
  fun he => OrdLaws.ne_of_lt h (ol.eq_symm he)

theorem le_lt_lt {cmp} (ol : OrdLaws cmp) {a b c : Bytes} (h1 : cmp a b ≠ .gt) (h2 : cmp b c = .lt) : cmp a c = .lt :=
  haveI := ol.transCmp; Std.TransCmp.lt_of_isLE_of_lt (Ordering.isLE_iff_ne_gt.mpr h1) h2

theorem lt_le_lt {cmp} (ol : OrdLaws cmp) {a b c : Bytes} (h1 : cmp a b = .lt) (h2 : cmp b c ≠ .gt) : cmp a c = .lt :=
  haveI := ol.transCmp; Std.TransCmp.lt_of_lt_of_isLE h1 (Ordering.isLE_iff_ne_gt.mpr h2)

theorem le_trans' {cmp} (ol : OrdLaws cmp) {a b c : Bytes} (h1 : cmp a b ≠ .gt) (h2 : cmp b c ≠ .gt) : cmp a c ≠ .gt :=
  haveI := ol.transCmp
  Ordering.isLE_iff_ne_gt.mp (Std.TransCmp.isLE_trans (Ordering.isLE_iff_ne_gt.mpr h1) (Ordering.isLE_iff_ne_gt.mpr h2))

theorem lt_ne_gt {cmp : Bytes → Bytes → Ordering} {a b : Bytes} (h : cmp a b = .lt) : cmp a b ≠ .gt := by rw [h]; simp

inductive Tag (α : Type) where
  | left (l : α)
  | right (r : α)
  | both (l r : α)

variable {α : Type}

def Tag.elems : Tag α → List α
  | .left l => [l]
  | .right r => [r]
  | .both l r => [l, r]

def mergeWalk (cmp : Bytes → Bytes → Ordering) (key : α → Bytes) : List α → List α → List (Tag α)
  | [], [] => []
  | l :: ls, [] => Tag.left l :: mergeWalk cmp key ls []
  | [], r :: rs => Tag.right r :: mergeWalk cmp key [] rs
  | l :: ls, r :: rs =>
    match cmp (key l) (key r) with
    | .lt => Tag.left l :: mergeWalk cmp key ls (r :: rs)
    | .gt => Tag.right r :: mergeWalk cmp key (l :: ls) rs
    | .eq => Tag.both l r :: mergeWalk cmp key ls rs
termination_by ls rs => ls.length + rs.length

/-- what the tags of the walk must be, stated per pair of elements -/
def WalkSpec (cmp : Bytes → Bytes → Ordering) (key : α → Bytes) (a b : List α) (t : Tag α) : Prop :=
  (∃ l ∈ a, t = Tag.left l ∧ ∀ r ∈ b, cmp (key l) (key r) ≠ .eq) ∨
  (∃ r ∈ b, t = Tag.right r ∧ ∀ l ∈ a, cmp (key l) (key r) ≠ .eq) ∨
  (∃ l ∈ a, ∃ r ∈ b, t = Tag.both l r ∧ cmp (key l) (key r) = .eq)

variable {cmp : Bytes → Bytes → Ordering} {key : α → Bytes}

theorem mergeWalk_nil_right : ∀ (ls : List α), mergeWalk cmp key ls [] = ls.map Tag.left
  | [] => by simp [mergeWalk]
  | l :: ls => by simp [mergeWalk, mergeWalk_nil_right ls]

theorem mergeWalk_nil_left : ∀ (rs : List α), mergeWalk cmp key [] rs = rs.map Tag.right
  | [] => by simp [mergeWalk]
  | r :: rs => by simp [mergeWalk, mergeWalk_nil_left rs]

theorem WalkSpec.elems_mem {a b : List α} {t : Tag α} (h : WalkSpec cmp key a b t) : ∀ e ∈ t.elems, e ∈ a ∨ e ∈ b := by
  rcases h with ⟨l, hl, rfl, _⟩ | ⟨r, hr, rfl, _⟩ | ⟨l, hl, r, hr, rfl, _⟩
  · simp [Tag.elems, hl]
  · simp [Tag.elems, hr]
  · simp [Tag.elems, hl, hr]

theorem WalkSpec.cons_left (x : α) {a b : List α} (hx : ∀ r ∈ b, cmp (key x) (key r) = .lt) (t : Tag α) :
    WalkSpec cmp key (x :: a) b t ↔ t = Tag.left x ∨ WalkSpec cmp key a b t := by
  constructor
  · rintro (⟨l, hl, rfl, hno⟩ | ⟨r, hr, rfl, hno⟩ | ⟨l, hl, r, hr, rfl, he⟩)
    · rcases List.mem_cons.mp hl with rfl | hl
      · exact Or.inl rfl
      · exact Or.inr (Or.inl ⟨l, hl, rfl, hno⟩)
    · exact Or.inr (Or.inr (Or.inl ⟨r, hr, rfl, fun l hl => hno l (List.mem_cons_of_mem _ hl)⟩))
    · rcases List.mem_cons.mp hl with rfl | hl
      · exact absurd he (OrdLaws.ne_of_lt (hx r hr))
      · exact Or.inr (Or.inr (Or.inr ⟨l, hl, r, hr, rfl, he⟩))
  · rintro (rfl | ⟨l, hl, rfl, hno⟩ | ⟨r, hr, rfl, hno⟩ | ⟨l, hl, r, hr, rfl, he⟩)
    · exact Or.inl ⟨x, List.mem_cons_self, rfl, fun r hr => OrdLaws.ne_of_lt (hx r hr)⟩
    · exact Or.inl ⟨l, List.mem_cons_of_mem _ hl, rfl, hno⟩
    · refine Or.inr (Or.inl ⟨r, hr, rfl, fun l hl => ?_⟩)
      rcases List.mem_cons.mp hl with rfl | hl
      · exact OrdLaws.ne_of_lt (hx r hr)
      · exact hno l hl
    · exact Or.inr (Or.inr ⟨l, List.mem_cons_of_mem _ hl, r, hr, rfl, he⟩)

theorem WalkSpec.cons_right (ol : OrdLaws cmp) (y : α) {a b : List α} (hy : ∀ l ∈ a, cmp (key y) (key l) = .lt) (t : Tag α) :
    WalkSpec cmp key a (y :: b) t ↔ t = Tag.right y ∨ WalkSpec cmp key a b t := by
  constructor
  · rintro (⟨l, hl, rfl, hno⟩ | ⟨r, hr, rfl, hno⟩ | ⟨l, hl, r, hr, rfl, he⟩)
    · exact Or.inr (Or.inl ⟨l, hl, rfl, fun r hr => hno r (List.mem_cons_of_mem _ hr)⟩)
    · rcases List.mem_cons.mp hr with rfl | hr
      · exact Or.inl rfl
      · exact Or.inr (Or.inr (Or.inl ⟨r, hr, rfl, hno⟩))
    · rcases List.mem_cons.mp hr with rfl | hr
      · exact absurd he (ol.ne_of_gt (hy l hl))
      · exact Or.inr (Or.inr (Or.inr ⟨l, hl, r, hr, rfl, he⟩))
  · rintro (rfl | ⟨l, hl, rfl, hno⟩ | ⟨r, hr, rfl, hno⟩ | ⟨l, hl, r, hr, rfl, he⟩)
    · exact Or.inr (Or.inl ⟨y, List.mem_cons_self, rfl, fun l hl => ol.ne_of_gt (hy l hl)⟩)
    · refine Or.inl ⟨l, hl, rfl, fun r hr => ?_⟩
      rcases List.mem_cons.mp hr with rfl | hr
      · exact ol.ne_of_gt (hy l hl)
      · exact hno r hr
    · exact Or.inr (Or.inl ⟨r, List.mem_cons_of_mem _ hr, rfl, hno⟩)
    · exact Or.inr (Or.inr ⟨l, hl, r, List.mem_cons_of_mem _ hr, rfl, he⟩)

theorem WalkSpec.cons_both (ol : OrdLaws cmp) {x y : α} {a b : List α} (hc : cmp (key x) (key y) = .eq)
    (hx : ∀ r ∈ b, cmp (key x) (key r) = .lt) (hy : ∀ l ∈ a, cmp (key y) (key l) = .lt) (t : Tag α) :
    WalkSpec cmp key (x :: a) (y :: b) t ↔ t = Tag.both x y ∨ WalkSpec cmp key a b t := by
  have hxy : ∀ l ∈ a, cmp (key l) (key y) ≠ .eq := fun l hl => ol.ne_of_gt (hy l hl)
  constructor
  · rintro (⟨l, hl, rfl, hno⟩ | ⟨r, hr, rfl, hno⟩ | ⟨l, hl, r, hr, rfl, he⟩)
    · rcases List.mem_cons.mp hl with rfl | hl
      · exact absurd hc (hno y List.mem_cons_self)
      · exact Or.inr (Or.inl ⟨l, hl, rfl, fun r hr => hno r (List.mem_cons_of_mem _ hr)⟩)
    · rcases List.mem_cons.mp hr with rfl | hr
      · exact absurd hc (hno x List.mem_cons_self)
      · exact Or.inr (Or.inr (Or.inl ⟨r, hr, rfl, fun l hl => hno l (List.mem_cons_of_mem _ hl)⟩))
    · rcases List.mem_cons.mp hl with rfl | hl <;> rcases List.mem_cons.mp hr with rfl | hr
      · exact Or.inl rfl
      · exact absurd he (OrdLaws.ne_of_lt (hx r hr))
      · exact absurd he (hxy l hl)
      · exact Or.inr (Or.inr (Or.inr ⟨l, hl, r, hr, rfl, he⟩))
  · rintro (rfl | ⟨l, hl, rfl, hno⟩ | ⟨r, hr, rfl, hno⟩ | ⟨l, hl, r, hr, rfl, he⟩)
    · exact Or.inr (Or.inr ⟨x, List.mem_cons_self, y, List.mem_cons_self, rfl, hc⟩)
    · refine Or.inl ⟨l, List.mem_cons_of_mem _ hl, rfl, fun r hr => ?_⟩
      rcases List.mem_cons.mp hr with rfl | hr
      · exact hxy l hl
      · exact hno r hr
    · refine Or.inr (Or.inl ⟨r, List.mem_cons_of_mem _ hr, rfl, fun l hl => ?_⟩)
      rcases List.mem_cons.mp hl with rfl | hl
      · exact OrdLaws.ne_of_lt (hx r hr)
      · exact hno l hl
    · exact Or.inr (Or.inr ⟨l, List.mem_cons_of_mem _ hl, r, List.mem_cons_of_mem _ hr, rfl, he⟩)

theorem lt_tail_of_le_head (ol : OrdLaws cmp) {k : Bytes} {y : α} {b : List α}
    (sb : (y :: b).Pairwise (fun p q => cmp (key p) (key q) = .lt)) (h : cmp k (key y) = .lt ∨ cmp k (key y) = .eq) :
    ∀ r ∈ b, cmp k (key r) = .lt := fun r hr =>
  have hyr := (List.pairwise_cons.mp sb).1 r hr
  h.elim (fun h => ol.lt_trans _ _ _ h hyr) (fun h => ol.eq_lt _ _ _ h hyr)

theorem mergeWalk_mem (ol : OrdLaws cmp) (key : α → Bytes) (a b : List α) :
    a.Pairwise (fun p q => cmp (key p) (key q) = .lt) → b.Pairwise (fun p q => cmp (key p) (key q) = .lt) →
    ∀ t, t ∈ mergeWalk cmp key a b ↔ WalkSpec cmp key a b t := by
  fun_induction mergeWalk cmp key a b with
  | case1 => intro _ _ t; simp [WalkSpec]
  | case2 x as ih => intro sa sb t; rw [List.mem_cons, WalkSpec.cons_left x (by simp), ih sa.tail sb]
  | case3 y bs ih => intro sa sb t; rw [List.mem_cons, WalkSpec.cons_right ol y (by simp), ih sa sb.tail]
  | case4 x as y bs hc ih =>
    intro sa sb t
    rw [List.mem_cons, WalkSpec.cons_left x (List.forall_mem_cons.mpr ⟨hc, lt_tail_of_le_head ol sb (Or.inl hc)⟩),
      ih sa.tail sb]
  | case5 x as y bs hc ih =>
    intro sa sb t
    have hlt := (ol.gt_iff _ _).mp hc
    rw [List.mem_cons, WalkSpec.cons_right ol y (List.forall_mem_cons.mpr ⟨hlt, lt_tail_of_le_head ol sa (Or.inl hlt)⟩),
      ih sa sb.tail]
  | case6 x as y bs hc ih =>
    intro sa sb t
    rw [List.mem_cons, WalkSpec.cons_both ol hc (lt_tail_of_le_head ol sb (Or.inr hc))
      (lt_tail_of_le_head ol sa (Or.inr (ol.eq_symm hc))), ih sa.tail sb.tail]

theorem mergeWalk_head_lt (ol : OrdLaws cmp) {a b : List α} (sa : a.Pairwise (fun p q => cmp (key p) (key q) = .lt))
    (sb : b.Pairwise (fun p q => cmp (key p) (key q) = .lt)) {hd : Tag α}
    (h : ∀ p ∈ hd.elems, (∀ l ∈ a, cmp (key p) (key l) = .lt) ∧ ∀ r ∈ b, cmp (key p) (key r) = .lt) :
    ∀ t ∈ mergeWalk cmp key a b, ∀ p ∈ hd.elems, ∀ q ∈ t.elems, cmp (key p) (key q) = .lt := by
  intro t ht p hp q hq
  rcases ((mergeWalk_mem ol key a b sa sb t).mp ht).elems_mem q hq with hq | hq
  · exact (h p hp).1 q hq
  · exact (h p hp).2 q hq

theorem mergeWalk_ascending (ol : OrdLaws cmp) (key : α → Bytes) (a b : List α) :
    a.Pairwise (fun p q => cmp (key p) (key q) = .lt) → b.Pairwise (fun p q => cmp (key p) (key q) = .lt) →
    (mergeWalk cmp key a b).Pairwise (fun t1 t2 => ∀ p ∈ t1.elems, ∀ q ∈ t2.elems, cmp (key p) (key q) = .lt) := by
  fun_induction mergeWalk cmp key a b with
  | case1 => intro _ _; exact List.Pairwise.nil
  | case2 x as ih =>
    intro sa sb
    exact List.pairwise_cons.mpr ⟨mergeWalk_head_lt ol sa.tail sb
      (List.forall_mem_singleton.mpr ⟨(List.pairwise_cons.mp sa).1, nofun⟩), ih sa.tail sb⟩
  | case3 y bs ih =>
    intro sa sb
    exact List.pairwise_cons.mpr ⟨mergeWalk_head_lt ol sa sb.tail
      (List.forall_mem_singleton.mpr ⟨nofun, (List.pairwise_cons.mp sb).1⟩), ih sa sb.tail⟩
  | case4 x as y bs hc ih =>
    intro sa sb
    exact List.pairwise_cons.mpr ⟨mergeWalk_head_lt ol sa.tail sb (List.forall_mem_singleton.mpr
      ⟨(List.pairwise_cons.mp sa).1, List.forall_mem_cons.mpr ⟨hc, lt_tail_of_le_head ol sb (Or.inl hc)⟩⟩), ih sa.tail sb⟩
  | case5 x as y bs hc ih =>
    intro sa sb
    have hlt := (ol.gt_iff _ _).mp hc
    exact List.pairwise_cons.mpr ⟨mergeWalk_head_lt ol sa sb.tail (List.forall_mem_singleton.mpr
      ⟨List.forall_mem_cons.mpr ⟨hlt, lt_tail_of_le_head ol sa (Or.inl hlt)⟩, (List.pairwise_cons.mp sb).1⟩), ih sa sb.tail⟩
  | case6 x as y bs hc ih =>
    intro sa sb
    exact List.pairwise_cons.mpr ⟨mergeWalk_head_lt ol sa.tail sb.tail (List.forall_mem_cons.mpr
      ⟨⟨(List.pairwise_cons.mp sa).1, lt_tail_of_le_head ol sb (Or.inr hc)⟩, List.forall_mem_singleton.mpr
        ⟨lt_tail_of_le_head ol sa (Or.inr (ol.eq_symm hc)), (List.pairwise_cons.mp sb).1⟩⟩), ih sa.tail sb.tail⟩

theorem mem_filterMap_mergeWalk {β : Type} (ol : OrdLaws cmp) (f : Tag α → Option β) {a b : List α}
    (sa : a.Pairwise (fun p q => cmp (key p) (key q) = .lt)) (sb : b.Pairwise (fun p q => cmp (key p) (key q) = .lt)) (e : β) :
    e ∈ (mergeWalk cmp key a b).filterMap f ↔ ∃ t, WalkSpec cmp key a b t ∧ f t = some e := by
  rw [List.mem_filterMap]
  exact exists_congr fun t => and_congr_left fun _ => mergeWalk_mem ol key a b sa sb t

theorem pairwise_filterMap_mergeWalk {β : Type} (ol : OrdLaws cmp) (f : Tag α → Option β) (keyβ : β → Bytes)
    (hf : ∀ t e, f t = some e → ∃ p ∈ t.elems, keyβ e = key p) {a b : List α}
    (sa : a.Pairwise (fun p q => cmp (key p) (key q) = .lt)) (sb : b.Pairwise (fun p q => cmp (key p) (key q) = .lt)) :
    ((mergeWalk cmp key a b).filterMap f).Pairwise (fun e1 e2 => cmp (keyβ e1) (keyβ e2) = .lt) := by
  refine List.Pairwise.filterMap f (fun t t' h e he e' he' => ?_) (mergeWalk_ascending ol key a b sa sb)
  obtain ⟨p, hp, e1⟩ := hf t e he
  obtain ⟨q, hq, e2⟩ := hf t' e' he'
  rw [e1, e2]; exact h p hp q hq

end DoltVerif.ProllyDiff
