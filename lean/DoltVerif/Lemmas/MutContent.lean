/-
`ApplyMutations` on ANY well-formed tree (no canonicity / NoOverflowBoundary assumption) gives a
well-formed tree that holds the edited content: every level keeps the content (`levels_content`),
and `Roots.good` finishes above the top level (C11 `applyMutations_wf_any`).
-/
import DoltVerif.Lemmas.TreeLevels
namespace DoltVerif.Prolly
open DoltVerif.SortedDict

variable {σ κ ν : Type}

theorem flatMap_children (n : Nat) (nds : List (NodeH κ ν (n+1))) :
    (children n nds).flatMap (flatten n) = nds.flatMap (flatten (n+1)) := by
  rw [children_eq, flatMap_flatten_succ, List.flatMap_map]

variable [Inhabited κ]

theorem children_wf (n : Nat) (nds : List (NodeH κ ν (n+1))) (hne : nds ≠ [])
    (hwf : ∀ nd ∈ nds, WFNode (n+1) nd ∧ nd ≠ []) :
    children n nds ≠ [] ∧ ∀ c ∈ children n nds, WFNode n c ∧ c ≠ [] := by
  constructor
  · cases nds with
    | nil => exact absurd rfl hne
    | cons nd rest =>
      cases nd with
      | nil => exact absurd rfl (hwf [] (by simp)).2
      | cons it r => simp [children]
  · intro c hcm
    rw [children_eq] at hcm
    obtain ⟨it, hit, rfl⟩ := List.mem_map.mp hcm
    obtain ⟨nd, hnd, hitnd⟩ := List.mem_flatten.mp hit
    obtain ⟨h1, _, _, h4⟩ := (hwf nd hnd).1 it hitnd
    exact ⟨h4, h1⟩

variable [BEq κ] [BEq ν]

theorem levelsOk_incrOk (C : Cfg σ κ ν) (cmp : κ → κ → Ordering) (es : Edits κ ν) : ∀ (n : Nat)
    (nds : List (NodeH κ ν n)), levelsOk C cmp n nds es = true →
      (C n).incrOk (C n).fresh (regionsAt C cmp n nds es) = true
  | 0, _, h => h
  | _+1, _, h => (Bool.and_eq_true _ _ ▸ h : _ ∧ _).2

variable [LawfulBEq κ] [LawfulBEq ν]

theorem levels_content (C : Cfg σ κ ν) {cmp : κ → κ → Ordering} (hc : TotalPreorder cmp) (es : Edits κ ν)
    (hes : Sorted cmp es) :
    ∀ (n : Nat) (nds : List (NodeH κ ν n)), nds ≠ [] → (∀ nd ∈ nds, WFNode n nd ∧ nd ≠ []) →
      Sorted cmp (nds.flatMap (flatten n)) → levelsOk C cmp n nds es = true →
      (((C n).incr (C n).fresh (regionsAt C cmp n nds es)).flatMap Out.chunks).flatMap (flatten n)
        = applyEdits cmp (nds.flatMap (flatten n)) es ∧
      ∀ c ∈ ((C n).incr (C n).fresh (regionsAt C cmp n nds es)).flatMap Out.chunks, WFNode n c ∧ c ≠ []
  | 0, nds, hne, hwf, hs, hok => by
    have hnonempty := ((C 0).incr_run _ _).nonempty (levelsOk_incrOk C cmp es 0 nds hok)
      (fun r hr _ => (hwf _ (mem_regionsAt_old C cmp 0 nds es hr)).2)
    rw [flatMap_flatten0] at hs
    have hclean := leafRegions_clean hc nds es false true (fun l hl => sorted_of_mem_flatten _ l hl hs) hes
    have hfl := ((C 0).incr_run _ (C 0).fresh).flatten (Or.inl rfl) hclean
    refine ⟨?_, fun c hcm => ⟨trivial, hnonempty c hcm⟩⟩
    rw [flatMap_flatten0, flatMap_flatten0]
    exact hfl.trans (leafRegions_content hc nds es false true hne (fun l hl => (hwf l hl).2) hs)
  | n+1, nds, hne, hwf, hs, hok => by
    have hnonempty := ((C (n+1)).incr_run _ _).nonempty (levelsOk_incrOk C cmp es (n+1) nds hok)
      (fun r hr _ => (hwf _ (mem_regionsAt_old C cmp (n+1) nds es hr)).2)
    have hokn : levelsOk C cmp n (children n nds) es = true :=
      (Bool.and_eq_true _ _ ▸ hok : _ ∧ _).1
    obtain ⟨hchne, hchwf⟩ := children_wf n nds hne hwf
    obtain ⟨hBn, hCn⟩ := levels_content C hc es hes n (children n nds) hchne hchwf
      (by rw [flatMap_children]; exact hs) hokn
    -- the items left at this level are the summaries of the nodes the child level left
    have hfl := ((C (n+1)).incr_run _ (C (n+1)).fresh).flatten (Or.inl rfl) (regionsAt_succ_clean C cmp n nds es)
    rw [regionsAt_succ_new C cmp n nds es (fun it hit => by
      obtain ⟨nd, hnd, hitnd⟩ := List.mem_flatten.mp hit
      exact (hwf nd hnd).1.eq_summary hitnd)] at hfl
    have hfl' : _ = List.map (summary n) _ := hfl
    constructor
    · rw [flatten_of_summaries hfl', ← flatMap_children]
      exact hBn
    · exact fun c hcm => ⟨wf_of_summaries hCn hfl' c hcm, hnonempty c hcm⟩

theorem applyMutations_good (C : Cfg σ κ ν) {cmp : κ → κ → Ordering} (hc : TotalPreorder cmp)
    (t : Tree κ ν) (hwf : WFNode t.height t.root) (hne : t.height = 0 ∨ t.root ≠ [])
    (hs : Sorted cmp t.flatten) (es : Edits κ ν) (hes : Sorted cmp es)
    (t1 : Tree κ ν) (h1 : applyMutations C cmp t es = .ok t1) :
    t1.flatten = applyEdits cmp t.flatten es ∧ WFNode t1.height t1.root ∧ (t1.height = 0 ∨ t1.root ≠ []) := by
  obtain ⟨h, root⟩ := t
  simp only at hwf hne hs
  rcases applyMutations_inv C cmp h root es t1 h1 with ⟨rfl, rfl⟩ | ⟨hemp, hok, hf⟩
  · exact ⟨rfl, hwf, hne⟩
  · by_cases hroot : root = []
    · -- the empty map: a single empty leaf
      have hh : h = 0 := by rcases hne with h0 | h0; exact h0; exact absurd hroot h0
      subst hh
      subst hroot
      obtain ⟨hchunks, hokc⟩ := incr_empty_leaf C cmp es hemp
      rw [hchunks] at hf
      obtain ⟨h1', h2'⟩ := hf.good (fun c hcm => ⟨trivial, (C 0).chunk_nonempty _ (hokc hok) c hcm⟩)
      refine ⟨?_, h2'⟩
      rw [h1', flatMap_flatten0]
      exact (C 0).chunk_flatten _
    · have hs2 : Sorted cmp (flatten h root) := hs
      have hsorted : Sorted cmp ([root].flatMap (flatten h)) := by simpa using hs2
      obtain ⟨hB, hCc⟩ := levels_content C hc es hes h [root] (by simp)
        (fun nd hnd => by simp only [List.mem_singleton] at hnd; subst hnd; exact ⟨hwf, hroot⟩) hsorted hok
      obtain ⟨h1', h2'⟩ := hf.good hCc
      refine ⟨?_, h2'⟩
      rw [h1', hB]
      simp [Tree.flatten]

end DoltVerif.Prolly
