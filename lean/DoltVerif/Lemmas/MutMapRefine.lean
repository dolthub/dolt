/-
The mutable map as a state machine over contents: every public operation, with any flush
threshold, keeps `content = sorted dictionary`, away from the two checkpoint shapes of the known
findings (C11 `mutable_refines_partial`).
-/
import DoltVerif.Model.MutableMap
import DoltVerif.Lemmas.Overlay
namespace DoltVerif.Prolly
open DoltVerif.SortedDict

variable {σ κ ν : Type}

/-- `EditLog.view` on the raw log -/
def viewL (cmp : κ → κ → Ordering) (log : List (κ × Option ν)) : Edits κ ν :=
  log.foldl (EditLog.insertSorted cmp) []

theorem view_eq_viewL (cmp : κ → κ → Ordering) (l : EditLog κ ν) : l.view cmp = viewL cmp l.log := rfl

theorem viewL_append (cmp : κ → κ → Ordering) (log : List (κ × Option ν)) (e : κ × Option ν) :
    viewL cmp (log ++ [e]) = EditLog.insertSorted cmp (viewL cmp log) e := by
  simp [viewL, List.foldl_append]

theorem insertSorted_eq_insert (cmp : κ → κ → Ordering) (e : κ × Option ν) : ∀ (es : Edits κ ν),
    EditLog.insertSorted cmp es e = SortedDict.insert cmp es e.1 e.2 := by
  intro es
  fun_induction EditLog.insertSorted cmp es e with
  | case1 => rfl
  | case2 _ _ _ h | case3 _ _ _ h => simp [SortedDict.insert, h]
  | case4 _ _ _ h ih => simp [SortedDict.insert, h, ih]

theorem viewL_sorted {cmp : κ → κ → Ordering} (hc : TotalPreorder cmp) (log : List (κ × Option ν)) :
    Sorted cmp (viewL cmp log) := by
  suffices ∀ acc : Edits κ ν, Sorted cmp acc → Sorted cmp (log.foldl (EditLog.insertSorted cmp) acc) from
    this [] List.Pairwise.nil
  induction log with
  | nil => exact fun _ h => h
  | cons e log ih =>
    exact fun acc h => ih _ (by rw [insertSorted_eq_insert, insert_eq_upd]; exact upd_sorted hc h _)

theorem content_step {cmp : κ → κ → Ordering} (hc : TotalPreorder cmp) (base : List (κ × ν)) (hs : Sorted cmp base)
    (log : List (κ × Option ν)) (e : κ × Option ν) :
    applyEdits cmp base (viewL cmp (log ++ [e])) = upd cmp (applyEdits cmp base (viewL cmp log)) e := by
  have hes := viewL_sorted hc log
  have hes' := upd_sorted hc hes (e.1, some e.2)
  have hcur := applyEdits_sorted hc _ _ hs hes
  rw [viewL_append, insertSorted_eq_insert, insert_eq_upd]
  refine sorted_ext hc (applyEdits_sorted hc _ _ hs hes') (upd_sorted hc hcur e) (fun k => ?_)
  rw [lookup_applyEdits hc k _ _ hs hes', lookup_upd hc hes, lookup_upd hc hcur, lookup_applyEdits hc k _ _ hs hes]
  by_cases hk : cmp k e.1 = .eq
  · rw [if_pos hk, if_pos hk]; cases e.2 <;> rfl
  · rw [if_neg hk, if_neg hk]

variable [BEq κ] [BEq ν] [Inhabited κ]

/-- what the state machine needs of a flush, for a tree invariant `P`; C11 takes `P` = "well formed, no empty
internal root" (`C11.flushRefines_wf`) -/
def FlushRefines (C : Cfg σ κ ν) (cmp : κ → κ → Ordering) (P : Tree κ ν → Prop) : Prop :=
  ∀ (tr t' : Tree κ ν) (es : Edits κ ν), P tr → Sorted cmp tr.flatten →
    es.Pairwise (fun a b => cmp a.1 b.1 = .lt) →
    applyMutations C cmp tr es = .ok t' → t'.flatten = applyEdits cmp tr.flatten es ∧ P t'

/-- the run never takes a checkpoint of an empty pending list and never reverts without a
checkpoint or on a list shared with the stash — the two shapes of the known findings -/
def SafeRun (C : Cfg σ κ ν) (cmp : κ → κ → Ordering) : MutMap κ ν → Bool → List (MOp κ ν) → Prop
  | _, _, [] => True
  | m, _, .checkpoint :: os => m.edits.log ≠ [] ∧ SafeRun C cmp m.checkpoint true os
  | m, seen, .revert :: os => seen = true ∧ m.aliased = false ∧ SafeRun C cmp m.revert seen os
  | m, seen, .del k :: os => SafeRun C cmp (m.delete k) seen os
  | m, seen, .put k v :: os =>
    match m.put C cmp k v with
    | .ok m' => SafeRun C cmp m' seen os
    | .error _ => True

/-- the invariant of the state machine, relating a mutable map `m` to the dictionary state `d`
(`seen`: a checkpoint was taken).  `cur`: the map presents `d.cur`.  The checkpointed content
`d.cp` lives in one of two places: in the live pending list, as its first `cp` entries over the
live tree (`liveOk`: there is no stash, or the stash is the live list itself), or in the stash
(`stashOk`: a flush moved the tree and the reverted list there; the live list then has no
checkpoint).  `cpLe`, `aliasCp` and `unseen` keep that case distinction well defined. -/
structure MInv (cmp : κ → κ → Ordering) (P : Tree κ ν → Prop) (m : MutMap κ ν) (d : Dict κ ν) (seen : Bool) : Prop where
  goodTree : P m.tree
  sortedTree : Sorted cmp m.tree.flatten
  cur : applyEdits cmp m.tree.flatten (viewL cmp m.edits.log) = d.cur
  cpLe : m.edits.cp ≤ m.edits.log.length
  aliasCp : m.aliased = true → 0 < m.edits.cp
  unseen : seen = false → m.edits.cp = 0 ∧ m.stash = none ∧ m.aliased = false
  stashOk : ∀ s, m.stash = some s → m.aliased = false →
    m.edits.cp = 0 ∧ P s.1 ∧ Sorted cmp s.1.flatten ∧ 0 < s.2.cp ∧ s.2.log.length = s.2.cp ∧
    (seen = true → applyEdits cmp s.1.flatten (viewL cmp s.2.log) = d.cp)
  liveOk : seen = true → (m.stash = none ∨ m.aliased = true) →
    0 < m.edits.cp ∧ applyEdits cmp m.tree.flatten (viewL cmp (m.edits.log.take m.edits.cp)) = d.cp

theorem MInv.append {cmp : κ → κ → Ordering} {P : Tree κ ν → Prop} (hc : TotalPreorder cmp) {m : MutMap κ ν} {d : Dict κ ν} {seen : Bool}
    (h : MInv cmp P m d seen) (e : κ × Option ν) (stash' : Option (Tree κ ν × EditLog κ ν))
    (hst : m.aliased = false → stash' = m.stash) (hst' : stash' = none → m.stash = none) :
    MInv cmp P { m with edits := m.edits.put e.1 e.2, stash := stash' } { d with cur := upd cmp d.cur e } seen where
  goodTree := h.goodTree
  sortedTree := h.sortedTree
  cur := by
    show applyEdits cmp m.tree.flatten (viewL cmp (m.edits.log ++ [(e.1, e.2)])) = _
    rw [content_step hc _ h.sortedTree, h.cur]
  cpLe := by
    show m.edits.cp ≤ (m.edits.log ++ [(e.1, e.2)]).length
    have := h.cpLe; simp; omega
  aliasCp := h.aliasCp
  unseen := fun hs => by
    obtain ⟨h1, h2, h3⟩ := h.unseen hs
    exact ⟨h1, by show stash' = none; rw [hst h3]; exact h2, h3⟩
  stashOk := fun s hs ha => by
    have : m.stash = some s := by rw [← hst ha]; exact hs
    exact h.stashOk s this ha
  liveOk := fun hseen hor => by
    have hor' : m.stash = none ∨ m.aliased = true := by
      rcases hor with h1 | h1
      · exact Or.inl (hst' h1)
      · exact Or.inr h1
    obtain ⟨h1, h2⟩ := h.liveOk hseen hor'
    refine ⟨h1, ?_⟩
    show applyEdits cmp m.tree.flatten (viewL cmp ((m.edits.log ++ [(e.1, e.2)]).take m.edits.cp)) = d.cp
    rw [List.take_append_of_le_length h.cpLe]; exact h2

theorem MInv.flush {C : Cfg σ κ ν} {cmp : κ → κ → Ordering} {P : Tree κ ν → Prop} (hc : TotalPreorder cmp) (hf : FlushRefines C cmp P)
    {m m' : MutMap κ ν} {d : Dict κ ν} {seen : Bool} (h : MInv cmp P m d seen)
    (hfl : m.flush C cmp = .ok m') : MInv cmp P m' d seen := by
  unfold MutMap.flush at hfl
  simp only [bind, Except.bind, pure, Except.pure] at hfl
  cases hmat : m.materialize C cmp with
  | error e => rw [hmat] at hfl; cases hfl
  | ok t' =>
    rw [hmat] at hfl
    simp only [Except.ok.injEq] at hfl
    have hview := viewL_sorted (ν := ν) hc m.edits.log
    obtain ⟨hfl', hP'⟩ := hf m.tree t' _ h.goodTree h.sortedTree hview hmat
    have htf : t'.flatten = d.cur := by rw [hfl']; exact h.cur
    have hts : Sorted cmp t'.flatten := by
      rw [hfl']
      exact applyEdits_sorted hc _ _ h.sortedTree hview
    by_cases hcp : 0 < m.edits.cp
    · -- a checkpoint is pending: it moves into the stash
      have hhas : m.edits.hasCheckpoint = true := by simp [EditLog.hasCheckpoint, hcp]
      have hseen : seen = true := by
        cases seen with
        | true => rfl
        | false => have := (h.unseen rfl).1; omega
      have hor : m.stash = none ∨ m.aliased = true := by
        cases hst : m.stash with
        | none => exact Or.inl rfl
        | some s =>
          right
          cases hal : m.aliased with
          | true => rfl
          | false => have := (h.stashOk s hst hal).1; omega
      obtain ⟨_, hlive⟩ := h.liveOk hseen hor
      simp only [hhas, if_true, Bool.false_eq_true, if_false] at hfl
      subst hfl
      exact {
        goodTree := hP'
        sortedTree := hts
        cur := by show applyEdits cmp t'.flatten (viewL cmp []) = d.cur; exact htf
        cpLe := Nat.le_refl _
        aliasCp := fun ha => by cases ha
        unseen := fun hs => by rw [hseen] at hs; cases hs
        stashOk := fun s hs _ => by
          simp only [Option.some.injEq] at hs
          subst hs
          refine ⟨rfl, h.goodTree, h.sortedTree, hcp, ?_, fun _ => hlive⟩
          show (m.edits.log.take m.edits.cp).length = m.edits.cp
          rw [List.length_take]; exact Nat.min_eq_left h.cpLe
        liveOk := fun _ hor' => by
          rcases hor' with h1 | h1
          · cases h1
          · cases h1 }
    · have hcp0 : m.edits.cp = 0 := by omega
      have hhas : m.edits.hasCheckpoint = false := by simp [EditLog.hasCheckpoint, hcp0]
      have hal : m.aliased = false := by
        cases ha : m.aliased with
        | false => rfl
        | true => have := h.aliasCp ha; omega
      simp only [hhas, Bool.false_eq_true, if_false, hal] at hfl
      subst hfl
      exact {
        goodTree := hP'
        sortedTree := hts
        cur := by show applyEdits cmp t'.flatten (viewL cmp []) = d.cur; exact htf
        cpLe := Nat.le_refl _
        aliasCp := fun ha => by have hx : (false : Bool) = true := ha; cases hx
        unseen := fun hs => ⟨rfl, (h.unseen hs).2.1, rfl⟩
        stashOk := fun s hs _ => by
          obtain ⟨_, h0, h2, h3, h4, h5⟩ := h.stashOk s hs hal
          exact ⟨rfl, h0, h2, h3, h4, h5⟩
        liveOk := fun hseen hor' => by
          have hor : m.stash = none ∨ m.aliased = true := by
            rcases hor' with h1 | h1
            · exact Or.inl h1
            · have hx : (false : Bool) = true := h1; cases hx
          have := (h.liveOk hseen hor).1
          omega }

theorem MInv.checkpoint {cmp : κ → κ → Ordering} {P : Tree κ ν → Prop} {m : MutMap κ ν} {d : Dict κ ν} {seen : Bool}
    (h : MInv cmp P m d seen) (hne : m.edits.log ≠ []) :
    MInv cmp P m.checkpoint { d with cp := d.cur } true where
  goodTree := h.goodTree
  sortedTree := h.sortedTree
  cur := h.cur
  cpLe := Nat.le_refl _
  aliasCp := fun ha => by cases ha
  unseen := fun hs => by cases hs
  stashOk := fun s hs _ => by cases hs
  liveOk := fun _ _ => by
    refine ⟨List.length_pos_iff.mpr hne, ?_⟩
    show applyEdits cmp m.tree.flatten (viewL cmp (m.edits.log.take m.edits.log.length)) = d.cur
    rw [List.take_length]; exact h.cur

theorem MInv.revert {cmp : κ → κ → Ordering} {P : Tree κ ν → Prop} {m : MutMap κ ν} {d : Dict κ ν}
    (h : MInv cmp P m d true) (hal : m.aliased = false) :
    MInv cmp P m.revert { d with cur := d.cp } true := by
  fun_cases MutMap.revert m with
  | case1 s hst =>
    obtain ⟨_, h0, h2, h3, h4, h5⟩ := h.stashOk s hst hal
    exact {
      goodTree := h0
      sortedTree := h2
      cur := h5 rfl
      cpLe := by show s.2.cp ≤ s.2.log.length; omega
      aliasCp := fun _ => h3
      unseen := fun hs => by cases hs
      stashOk := fun _ _ ha => by cases ha
      liveOk := fun _ _ => by
        refine ⟨h3, ?_⟩
        show applyEdits cmp s.1.flatten (viewL cmp (s.2.log.take s.2.cp)) = d.cp
        rw [← h4, List.take_length]; exact h5 rfl }
  | case2 hst =>
    obtain ⟨h1, h2⟩ := h.liveOk rfl (Or.inl hst)
    exact {
      goodTree := h.goodTree
      sortedTree := h.sortedTree
      cur := h2
      cpLe := by
        show m.edits.cp ≤ (m.edits.log.take m.edits.cp).length
        rw [List.length_take]; exact Nat.le_min.mpr ⟨Nat.le_refl _, h.cpLe⟩
      aliasCp := fun ha => by rw [hal] at ha; cases ha
      unseen := fun hs => by cases hs
      stashOk := fun s hs _ => by rw [hst] at hs; cases hs
      liveOk := fun _ _ => by
        refine ⟨h1, ?_⟩
        show applyEdits cmp m.tree.flatten (viewL cmp ((m.edits.log.take m.edits.cp).take m.edits.cp)) = d.cp
        rw [List.take_take, Nat.min_self]; exact h2 }

/-- `MInv.append` with the stash as `Put`/`Delete` leave it: written through when it is the live list -/
theorem MInv.append_log {cmp : κ → κ → Ordering} {P : Tree κ ν → Prop} (hc : TotalPreorder cmp)
    {m : MutMap κ ν} {d : Dict κ ν} {seen : Bool} (h : MInv cmp P m d seen) (e : κ × Option ν) :
    MInv cmp P { m with edits := m.edits.put e.1 e.2,
                        stash := if m.aliased then m.stash.map (fun s => (s.1, s.2.put e.1 e.2)) else m.stash }
      { d with cur := upd cmp d.cur e } seen :=
  MInv.append hc h e _ (fun ha => by simp [ha])
    (fun hn => by
      by_cases ha : m.aliased = true
      · simp only [ha, if_true, Option.map_eq_none_iff] at hn; exact hn
      · simp only [ha, Bool.false_eq_true, if_false] at hn; exact hn)

theorem MInv.put {C : Cfg σ κ ν} {cmp : κ → κ → Ordering} {P : Tree κ ν → Prop} (hc : TotalPreorder cmp) (hf : FlushRefines C cmp P)
    {m m' : MutMap κ ν} {d : Dict κ ν} {seen : Bool} (h : MInv cmp P m d seen) (k : κ) (v : ν)
    (hp : m.put C cmp k v = .ok m') : MInv cmp P m' { d with cur := SortedDict.insert cmp d.cur k v } seen := by
  have happ := MInv.append_log hc h (k, some v)
  rw [← insert_eq_upd] at happ
  revert hp
  fun_cases MutMap.put C cmp m k v with
  | case1 => exact MInv.flush hc hf happ  -- over `maxPending`: flushed
  | case2 => intro hp; rw [← Except.ok.inj hp]; exact happ

theorem MInv.delete {cmp : κ → κ → Ordering} {P : Tree κ ν → Prop} (hc : TotalPreorder cmp)
    {m : MutMap κ ν} {d : Dict κ ν} {seen : Bool} (h : MInv cmp P m d seen) (k : κ) :
    MInv cmp P (m.delete k) { d with cur := SortedDict.erase cmp d.cur k } seen := by
  have happ := MInv.append_log hc h (k, none)
  rw [← erase_eq_upd] at happ
  exact happ

theorem MInv.init {cmp : κ → κ → Ordering} {P : Tree κ ν → Prop} (t : Tree κ ν) (hP : P t)
    (hs : Sorted cmp t.flatten) (maxPending : Nat) :
    MInv cmp P ({ tree := t, maxPending := maxPending } : MutMap κ ν) ⟨t.flatten, t.flatten⟩ false where
  goodTree := hP
  sortedTree := hs
  cur := rfl
  cpLe := Nat.le_refl _
  aliasCp := fun ha => by cases ha
  unseen := fun _ => ⟨rfl, rfl, rfl⟩
  stashOk := fun s hs' _ => by cases hs'
  liveOk := fun hseen _ => by cases hseen

theorem mutable_run_inv {C : Cfg σ κ ν} {cmp : κ → κ → Ordering} {P : Tree κ ν → Prop} (hc : TotalPreorder cmp)
    (hf : FlushRefines C cmp P) :
    ∀ (ops : List (MOp κ ν)) (m m' : MutMap κ ν) (d : Dict κ ν) (seen : Bool),
      MInv cmp P m d seen → SafeRun C cmp m seen ops → m.run C cmp ops = .ok m' →
      ∃ seen', MInv cmp P m' (ops.foldl (Dict.step cmp) d) seen' := by
  intro ops m
  fun_induction MutMap.run C cmp m ops with
  | case1 m => intro m' d seen h _ hr; rw [← Except.ok.inj hr]; exact ⟨seen, h⟩
  | case2 m o os m1 hst ih => -- the step succeeds: its `MInv` lemma, then the rest of the run
    intro m' d seen h hsafe hr
    cases o with
    | put k v =>
      have hp : m.put C cmp k v = .ok m1 := hst
      simp only [SafeRun, hp] at hsafe
      exact ih m' _ seen (MInv.put hc hf h k v hp) hsafe hr
    | del k => cases hst; exact ih m' _ seen (MInv.delete hc h k) hsafe hr
    | checkpoint => cases hst; exact ih m' _ true (MInv.checkpoint h hsafe.1) hsafe.2 hr
    | revert =>
      cases hst
      obtain ⟨hseen, hal, hrest⟩ := hsafe
      subst hseen
      exact ih m' _ true (MInv.revert h hal) hrest hr
  | case3 => intro m' d seen _ _ hr; cases hr

def safeRunB (C : Cfg σ κ ν) (cmp : κ → κ → Ordering) : MutMap κ ν → Bool → List (MOp κ ν) → Bool
  | _, _, [] => true
  | m, _, .checkpoint :: os => !m.edits.log.isEmpty && safeRunB C cmp m.checkpoint true os
  | m, seen, .revert :: os => seen && !m.aliased && safeRunB C cmp m.revert seen os
  | m, seen, .del k :: os => safeRunB C cmp (m.delete k) seen os
  | m, seen, .put k v :: os =>
    match m.put C cmp k v with
    | .ok m' => safeRunB C cmp m' seen os
    | .error _ => true

theorem safeRun_of_safeRunB (C : Cfg σ κ ν) (cmp : κ → κ → Ordering) :
    ∀ (ops : List (MOp κ ν)) (m : MutMap κ ν) (seen : Bool), safeRunB C cmp m seen ops = true → SafeRun C cmp m seen ops := by
  intro ops m seen
  fun_induction safeRunB C cmp m seen ops with
  | case1 => exact fun _ => trivial
  | case2 _ _ _ ih => -- checkpoint
    intro h
    simp only [Bool.and_eq_true, Bool.not_eq_true', List.isEmpty_eq_false_iff] at h
    exact ⟨h.1, ih h.2⟩
  | case3 _ _ _ ih => -- revert
    intro h
    simp only [Bool.and_eq_true, Bool.not_eq_true'] at h
    exact ⟨h.1.1, h.1.2, ih h.2⟩
  | case4 _ _ _ _ ih => exact ih  -- delete
  | case5 _ _ _ _ _ _ hp ih => simpa only [SafeRun, hp] using ih  -- put
  | case6 _ _ _ _ _ _ hp => simp only [SafeRun, hp, implies_true]  -- put, failing

end DoltVerif.Prolly
