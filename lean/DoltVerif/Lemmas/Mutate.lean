/-
The incremental chunker (C12): one level of `ApplyMutations` produces exactly the chunks of a from-scratch chunker
on the edited items, for every sound dirty-marking (`Run.chunks`; defines `Closed`, `Whole`, `Canon`, `Sound`,
`CleanUnchanged`, `feedNoOvf`).  The facts about `incr` are inductions over `LevelCfg.Run`, what a run of it consists
of.  A level built without capacity boundaries consists of closed chunks (`feed_closed`, `chunk_canon`).
-/
import DoltVerif.Model.Mutate
import DoltVerif.Lemmas.Chunker
namespace DoltVerif.Prolly

variable {σ α : Type}

/-- a chunk that, fed to a reset chunker, is emitted as exactly itself and leaves the chunker reset -/
def LevelCfg.Closed (L : LevelCfg σ α) (c : List α) : Prop := L.feed L.fresh c = ([c], L.fresh)

/-- a run of items that a from-scratch chunker turns into exactly one chunk (possibly by the final flush) -/
def LevelCfg.Whole (L : LevelCfg σ α) (c : List α) : Prop := L.chunk c = [c]

theorem LevelCfg.Closed.whole {L : LevelCfg σ α} {c : List α} (h : L.Closed c) : L.Whole c := by
  unfold LevelCfg.Whole LevelCfg.chunk
  rw [h]; simp [St.flush_fresh]

/-- canonical chunk list: every chunk but the last is closed, the last is whole -/
def LevelCfg.Canon (L : LevelCfg σ α) : List (List α) → Prop
  | [] => True
  | [c] => L.Whole c
  | c :: c' :: cs => L.Closed c ∧ L.Canon (c' :: cs)

/-- the dirty marking of a region list is sound: a clean region is unchanged and its old chunk
is closed (whole, if it is the last region) -/
def LevelCfg.Sound (L : LevelCfg σ α) : List (Region α) → Prop
  | [] => True
  | [r] => r.dirty = false → r.new = r.old ∧ L.Whole r.old
  | r :: r' :: rs => (r.dirty = false → r.new = r.old ∧ L.Closed r.old) ∧ L.Sound (r' :: rs)

/-- what a run of the incremental chunker over a region list consists of: a clean region met with
an empty builder is skipped and its node reused; any other region is fed, the last one also flushed -/
inductive LevelCfg.Run (L : LevelCfg σ α) : St σ α → List (Region α) → List (Out α) → Prop
  | nil (st : St σ α) : L.Run st [] []
  | reused {st : St σ α} {r : Region α} {rs : List (Region α)} {outs : List (Out α)} :
      st.cur = [] → r.dirty = false → L.Run st rs outs → L.Run st (r :: rs) (.reused r.old :: outs)
  | last {st : St σ α} {r : Region α} : ¬ (st.cur = [] ∧ r.dirty = false) →
      L.Run st [r] [.fresh ((L.feed st r.new).1 ++ (L.feed st r.new).2.flush)]
  | fresh {st : St σ α} {r : Region α} {rs : List (Region α)} {outs : List (Out α)} :
      ¬ (st.cur = [] ∧ r.dirty = false) → rs ≠ [] → L.Run (L.feed st r.new).2 rs outs →
      L.Run st (r :: rs) (.fresh (L.feed st r.new).1 :: outs)

theorem LevelCfg.incr_run (L : LevelCfg σ α) : ∀ (rs : List (Region α)) (st : St σ α), L.Run st rs (L.incr st rs)
  | [], st => .nil st
  | r :: rs, st => by
    rw [LevelCfg.incr]
    by_cases hc : st.cur = [] ∧ r.dirty = false
    · rw [if_pos (by simp [hc.1, hc.2])]
      exact .reused hc.1 hc.2 (L.incr_run rs st)
    · rw [if_neg (by simpa [List.isEmpty_iff] using hc)]
      cases rs with
      | nil => exact .last hc
      | cons r' rs => exact .fresh hc (List.cons_ne_nil _ _) (L.incr_run (r' :: rs) _)

variable {L : LevelCfg σ α} {st : St σ α} {rs : List (Region α)} {outs : List (Out α)}

theorem LevelCfg.Run.chunks (h : L.Run st rs outs) (hne : st.cur = [] ∨ rs ≠ []) (hinv : L.Inv st) (hs : L.Sound rs) :
    outs.flatMap Out.chunks = (L.feed st (rs.flatMap (·.new))).1 ++ (L.feed st (rs.flatMap (·.new))).2.flush := by
  induction h with
  | nil st => simp [LevelCfg.feed, St.flush, hne.resolve_right (fun h => h rfl)]
  | @reused st r rs outs h1 h2 h ih =>
    -- the chunker is reset; the old node is what it would emit for the (unchanged) items
    cases hinv h1
    rw [List.flatMap_cons, List.flatMap_cons, L.feed_append]
    cases h with
    | nil =>
      obtain ⟨hnew, hwhole⟩ := hs h2
      rw [hnew]
      simpa [Out.chunks, LevelCfg.feed, LevelCfg.chunk_eq] using hwhole.symm
    | _ =>
      obtain ⟨hnew, hclosed⟩ := hs.1 h2
      have hcl : L.feed L.fresh r.old = ([r.old], L.fresh) := hclosed
      rw [ih (Or.inl rfl) L.inv_fresh hs.2, hnew, hcl]
      rfl
  | last => simp [Out.chunks]
  | @fresh st r rs outs _ hne' h ih =>
    have hs' : L.Sound rs := by
      cases rs with
      | nil => exact absurd rfl hne'
      | cons => exact hs.2
    rw [List.flatMap_cons, List.flatMap_cons, L.feed_append, ih (Or.inr hne') (L.inv_feed _ _ hinv) hs']
    simp [Out.chunks, List.append_assoc]

theorem LevelCfg.incr_eq_chunk (L : LevelCfg σ α) (rs : List (Region α)) (hs : L.Sound rs) :
    (L.incr L.fresh rs).flatMap Out.chunks = L.chunk (rs.flatMap (·.new)) :=
  (L.incr_run rs L.fresh).chunks (Or.inl rfl) L.inv_fresh hs

/-- no `append` of this run hit the capacity rule (`hasCapacity` was always true) -/
def LevelCfg.feedNoOvf (L : LevelCfg σ α) : St σ α → List α → Bool
  | _, [] => true
  | st, x :: xs => !L.overflow st.cur x && L.feedNoOvf (L.stepItem st x).2.1 xs

theorem LevelCfg.feedNoOvf_append (L : LevelCfg σ α) : ∀ (xs ys : List α) (st : St σ α),
    L.feedNoOvf st (xs ++ ys) = (L.feedNoOvf st xs && L.feedNoOvf (L.feed st xs).2 ys)
  | [], _, _ => by simp [LevelCfg.feedNoOvf, LevelCfg.feed]
  | x :: xs, ys, st => by
    simp only [List.cons_append, LevelCfg.feedNoOvf, LevelCfg.feed, L.feedNoOvf_append xs ys, Bool.and_assoc]

theorem LevelCfg.feedOk_of_noOvf (L : LevelCfg σ α) : ∀ (xs : List α) (st : St σ α),
    L.feedNoOvf st xs = true → L.feedOk st xs = true
  | [], _, _ => rfl
  | x :: xs, st, h => by
    simp only [LevelCfg.feedNoOvf, Bool.and_eq_true, Bool.not_eq_true'] at h
    simp only [LevelCfg.feedOk, Bool.and_eq_true]
    exact ⟨by simp [LevelCfg.stepOk, h.1], L.feedOk_of_noOvf xs _ h.2⟩

/-- the induction is over the states a reset chunker reaches by taking in some `pre` without emitting; the final
state is again of that kind -/
theorem LevelCfg.feed_closed (L : LevelCfg σ α) : ∀ (xs : List α) (st : St σ α) (pre : List α),
    L.feed L.fresh pre = ([], st) → L.feedNoOvf st xs = true →
    (∀ c ∈ (L.feed st xs).1, L.Closed c) ∧ ∃ q, L.feed L.fresh q = ([], (L.feed st xs).2)
  | [], st, pre, hpre, _ => ⟨by simp [LevelCfg.feed], pre, hpre⟩
  | x :: xs, st, pre, hpre, hno => by
    simp only [LevelCfg.feedNoOvf, Bool.and_eq_true, Bool.not_eq_true'] at hno
    obtain ⟨hov, hno'⟩ := hno
    have hx : L.feed L.fresh (pre ++ [x]) = ((L.stepItem st x).1, (L.stepItem st x).2.1) := by
      rw [L.feed_append, hpre]; simp [LevelCfg.feed]
    have hcur : st.cur = pre := by
      have := L.feed_flatten pre L.fresh; rw [hpre] at this; simpa [LevelCfg.fresh] using this
    simp only [LevelCfg.feed]
    revert hno' hx
    fun_cases L.stepItem st x with
    | case1 h | case2 h => rw [hov] at h; cases h
    | case3 => -- a boundary after `x`: `pre ++ [x]` is emitted, and is closed by `hx`
      intro hno' hx
      obtain ⟨h1, h2⟩ := L.feed_closed xs L.fresh [] rfl hno'
      refine ⟨fun c hc => ?_, h2⟩
      rcases List.mem_append.mp hc with hc | hc
      · rw [List.mem_singleton.mp hc, hcur]; rw [hcur] at hx; exact hx
      · exact h1 c hc
    | case4 => intro hno' hx; simpa using L.feed_closed xs _ (pre ++ [x]) hx hno'

theorem LevelCfg.canon_append (L : LevelCfg σ α) : ∀ (E : List (List α)), (∀ c ∈ E, L.Closed c) →
    ∀ (F : List (List α)), L.Canon F → L.Canon (E ++ F)
  | [], _, F, hF => hF
  | [c], hE, [], _ => (hE c (by simp)).whole
  | [c], hE, f :: F, hF => ⟨hE c (by simp), hF⟩
  | c :: c' :: E, hE, F, hF =>
    ⟨hE c (by simp), L.canon_append (c' :: E) (fun x hx => hE x (by simp [hx])) F hF⟩

/-- this is what makes an old node reusable after a resynchronisation -/
theorem LevelCfg.chunk_canon (L : LevelCfg σ α) (xs : List α) (hno : L.feedNoOvf L.fresh xs = true) :
    L.Canon (L.chunk xs) := by
  obtain ⟨hE, q, hq⟩ := L.feed_closed xs L.fresh [] rfl hno
  rw [L.chunk_eq]
  refine L.canon_append _ hE _ ?_
  -- what is pending at the end is `q`, and a reset chunker flushes `q` as one chunk
  have hcur : (L.feed L.fresh xs).2.cur = q := by
    have := L.feed_flatten q L.fresh; rw [hq] at this; simpa [LevelCfg.fresh] using this
  unfold St.flush
  rw [hcur]
  by_cases hq0 : q = []
  · simp [hq0, LevelCfg.Canon]
  · have : L.Whole q := by
      show L.chunk q = [q]
      rw [L.chunk_eq, hq]; simp [St.flush, hcur, hq0]
    simpa [hq0, LevelCfg.Canon] using this

/-- holds of the regions `ApplyMutations` walks: `leafRegions_clean`, `regionsAt_succ_clean` -/
def CleanUnchanged (rs : List (Region α)) : Prop := ∀ r ∈ rs, r.dirty = false → r.new = r.old

/-- no closedness assumption (`Sound`): holds also when the nodes left at the level are not the canonical ones -/
theorem LevelCfg.Run.flatten (h : L.Run st rs outs) (hne : st.cur = [] ∨ rs ≠ []) (hcu : CleanUnchanged rs) :
    (outs.flatMap Out.chunks).flatten = st.cur ++ rs.flatMap (·.new) := by
  induction h with
  | nil st => rw [hne.resolve_right (fun h => h rfl)]; rfl
  | @reused st r rs outs h1 h2 _ ih =>
    rw [List.flatMap_cons, List.flatten_append, ih (Or.inl h1) (fun x hx => hcu x (List.mem_cons_of_mem _ hx)),
      List.flatMap_cons, hcu r List.mem_cons_self h2, h1]
    simp [Out.chunks]
  | @last st r _ =>
    simp only [List.flatMap_cons, List.flatMap_nil, Out.chunks, List.append_nil, List.flatten_append, St.flush_flatten]
    exact L.feed_flatten r.new st
  | @fresh st r rs outs _ hne' _ ih =>
    rw [List.flatMap_cons, List.flatten_append, ih (Or.inr hne') (fun x hx => hcu x (List.mem_cons_of_mem _ hx)),
      List.flatMap_cons, ← List.append_assoc, ← List.append_assoc]
    exact congrArg (· ++ rs.flatMap (·.new)) (L.feed_flatten r.new st)

theorem LevelCfg.Run.nonempty (h : L.Run st rs outs) (hok : L.incrOk st rs = true)
    (hold : ∀ r ∈ rs, r.dirty = false → r.old ≠ []) : ∀ c ∈ outs.flatMap Out.chunks, c ≠ [] := by
  induction h with
  | nil => simp
  | @reused st r rs outs h1 h2 _ ih =>
    rw [LevelCfg.incrOk, if_pos (by simp [h1, h2])] at hok
    intro c hc
    rcases List.mem_append.mp (List.flatMap_cons ▸ hc) with hc | hc
    · rw [List.mem_singleton.mp hc]; exact hold r List.mem_cons_self h2
    · exact ih hok (fun x hx => hold x (List.mem_cons_of_mem _ hx)) c hc
  | @last st r hc =>
    rw [LevelCfg.incrOk, if_neg (by simpa [List.isEmpty_iff] using hc), Bool.and_eq_true] at hok
    intro c hcm
    simp only [List.flatMap_cons, List.flatMap_nil, List.append_nil, Out.chunks, List.mem_append] at hcm
    exact hcm.elim (L.feed_nonempty r.new st hok.1 c) (St.flush_nonempty _ c)
  | @fresh st r rs outs hc _ _ ih =>
    rw [LevelCfg.incrOk, if_neg (by simpa [List.isEmpty_iff] using hc), Bool.and_eq_true] at hok
    intro c hcm
    rcases List.mem_append.mp (List.flatMap_cons ▸ hcm) with hcm | hcm
    · exact L.feed_nonempty r.new st hok.1 c hcm
    · exact ih hok.2 (fun x hx => hold x (List.mem_cons_of_mem _ hx)) c hcm

theorem LevelCfg.Run.length (h : L.Run st rs outs) : outs.length = rs.length := by
  induction h with
  | nil => rfl
  | reused _ _ _ ih => simp [ih]
  | last => rfl
  | fresh _ _ _ ih => simp [ih]

end DoltVerif.Prolly
