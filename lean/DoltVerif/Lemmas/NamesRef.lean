import DoltVerif.Model.Names
/-! C44, ref-name validation: the loop of `ValidateDatasetId` checks, on every `/`-separated component, the documented
rule (`okByte`, `documentedComponent`).  The component loop and the loop around it are followed together, one byte at
a time, which is how `components` recurses (`compLoop_validateLoop`); the scan is then put in the documented
vocabulary (`scanOk_eq`, `compOk_eq`). -/
namespace DoltVerif.Names

/-- The documented set of forbidden bytes: ASCII control characters (incl. DEL) and
`SP : ? [ \ ^ ~ *`. -/
def documentedForbidden (b : Nat) : Bool :=
  b < 32 || b == 127 || b == 0x20 || b == 0x3a || b == 0x3f || b == 0x5b || b == 0x5c ||
  b == 0x5e || b == 0x7e || b == 0x2a

def documentedAction (n : Nat) : Action :=
  if documentedForbidden n then .illegal
  else if n == 0x2f then .eof
  else if n == 0x2e then .dot
  else if n == 0x7b then .leftCurly
  else .ok

theorem action_cases (b : UInt8) : action b = documentedAction b.toNat := by
  unfold action
  rw [List.getD_eq_getElem?_getD]
  by_cases h : b.toNat < 128
  · -- one pass over the 128 written-out entries (a lookup per byte walks the list each time)
    have ht : actionCodes.map actionOfCode = (List.range 128).map documentedAction := by decide +kernel
    have := congrArg (·[b.toNat]?) ht
    simp only [List.getElem?_map, List.getElem?_range h, Option.map_some] at this
    obtain ⟨c, hc, hd⟩ := Option.map_eq_some_iff.mp this
    rw [hc, Option.getD_some, hd]
  · -- beyond them the table holds the zero value `ok`, and no rule names a byte ≥ 128
    rw [List.getElem?_eq_none (by simpa [actionCodes] using h)]
    simp only [documentedAction, documentedForbidden, actionOfCode, Option.getD_none, Bool.or_eq_true,
      decide_eq_true_eq, beq_iff_eq]
    rw [if_neg (by omega), if_neg (by omega), if_neg (by omega), if_neg (by omega)]

/-- the textbook split of a byte string at every `/` -/
def components : Bytes → List Bytes
  | [] => [[]]
  | c :: t =>
    if c == 0x2f then [] :: components t else
      match components t with
      | [] => [[c]]
      | h :: r => (c :: h) :: r

theorem components_eq_splitOn (s : Bytes) : components s = s.splitOn 0x2f := by
  induction s with
  | nil => rfl
  | cons c t ih =>
    rw [components, List.splitOn_cons_eq_if_modifyHead, ih]
    cases h : t.splitOn 0x2f with
    | nil => exact absurd h (List.splitOn_ne_nil _ t)
    | cons x r => rfl

theorem components_ne_nil (s : Bytes) : components s ≠ [] :=
  components_eq_splitOn s ▸ List.splitOn_ne_nil _ s

/-- the inverse of `components` (`C44.components_join`) -/
def joinSlash : List Bytes → Bytes
  | [] => []
  | [c] => c
  | c :: d :: r => c ++ 0x2f :: joinSlash (d :: r)

theorem joinSlash_eq_intercalate (l : List Bytes) : joinSlash l = [0x2f].intercalate l := by
  fun_induction joinSlash l with
  | case1 => rfl
  | case2 c => exact List.intercalate_singleton.symm
  | case3 c d r ih => rw [ih, List.intercalate_cons_cons, List.append_assoc]; rfl

theorem all_components (p : UInt8 → Bool) (hp : p 0x2f = true) (s : Bytes) :
    (components s).all (fun c => c.all p) = s.all p := by
  fun_induction components s <;> simp_all [Bool.and_assoc]

/-- per-byte documented rule -/
def okByte (b : UInt8) : Bool := b.toNat < 128 && !documentedForbidden b.toNat

/-- the left-to-right scan of one component, in documented terms -/
def scanOk : UInt8 → Bytes → Bool
  | _, [] => true
  | last, ch :: t =>
    okByte ch && !(last == 0x2e && ch == 0x2e) && !(last == 0x40 && ch == 0x7b) && scanOk ch t

theorem toNat_beq (b k : UInt8) : (b.toNat == k.toNat) = (b == k) := by
  rw [Bool.eq_iff_iff]; simp [UInt8.toNat_inj]

theorem compLoop_cons (full : Bytes) (ch : UInt8) (t : Bytes) (last : UInt8) (n : Nat) :
    compLoop full (ch :: t) last n =
      if ch = 0x2f then (if hasSuffix (full.take n) lockSuffix then none else some (n+1))
      else if okByte ch && !(last == 0x2e && ch == 0x2e) && !(last == 0x40 && ch == 0x7b)
        then compLoop full t ch (n+1) else none := by
  have e1 : (ch.toNat == 0x2f) = (ch == 0x2f) := toNat_beq ch 0x2f
  have e2 : (ch.toNat == 0x2e) = (ch == 0x2e) := toNat_beq ch 0x2e
  have e3 : (ch.toNat == 0x7b) = (ch == 0x7b) := toNat_beq ch 0x7b
  rw [compLoop, action_cases ch, documentedAction, e1, e2, e3]
  by_cases h127 : ch.toNat > 127
  · have hk : okByte ch = false := by simp [okByte]; omega
    have hs : ch ≠ 0x2f := by intro h; subst h; simp at h127
    simp [h127, hk, hs]
  · simp only [h127, if_false]
    by_cases hf : documentedForbidden ch.toNat = true
    · have hk : okByte ch = false := by simp [okByte, hf]
      have hs : ch ≠ 0x2f := by intro h; subst h; simp [documentedForbidden] at hf
      simp [hf, hk, hs]
    · have hk : okByte ch = true := by simp [okByte, hf]; omega
      simp only [hf, hk, Bool.true_and]
      by_cases hs : ch = 0x2f
      · subst hs; simp
      · by_cases hd : ch = 0x2e
        · subst hd; by_cases hl : last = 0x2e <;> simp [hl]
        · by_cases hc : ch = 0x7b
          · subst hc; by_cases hl : last = 0x40 <;> simp [hl]
          · simp [hs, hd, hc]

/-- documented rule for one `/`-separated component -/
def compOk (c : Bytes) : Bool :=
  !([0x2e].isPrefixOf c) && scanOk 0 c && !hasSuffix c lockSuffix

theorem validateLoop_nil (fuel : Nat) : validateLoop fuel [] = true := by cases fuel <;> rfl

theorem components_cons_head (c : UInt8) (t : Bytes) :
    ∃ h r, components (c :: t) = h :: r ∧ [0x2e].isPrefixOf h = (c == 0x2e) := by
  rw [components]
  by_cases hc : c = 0x2f
  · subst hc; exact ⟨[], _, rfl, rfl⟩
  · rw [if_neg (by simpa using hc)]
    split
    all_goals exact ⟨_, _, rfl, by simp [List.isPrefixOf, BEq.comm (a := c)]⟩

/-- What is left to check when the scan stands inside the first of the components, having read `pre` of it, the last
byte being `last`. -/
def restOk (pre : Bytes) (last : UInt8) : List Bytes → Bool
  | [] => false
  | c :: cs => scanOk last c && !hasSuffix (pre ++ c) lockSuffix && cs.all compOk

/-- The hypothesis is `compLoop_validateLoop` below at the start of a component (`pre = []`, `last = 0`); it is a
hypothesis here because that lemma's induction needs this step at every `/`. -/
theorem validateLoop_of_compLoop (f : Nat) (t : Bytes)
    (h : (compLoop t t 0 0).any (fun k => validateLoop f (t.drop k)) = restOk [] 0 (components t)) :
    validateLoop (f + 1) t = (components t).all compOk := by
  cases t with
  | nil => rfl
  | cons c t =>
    obtain ⟨x, r, hx, hd⟩ := components_cons_head c t
    rw [hx] at h ⊢
    simp only [validateLoop, validateComponent, List.all_cons, compOk, hd]
    cases c == 0x2e
    · refine .trans ?_ h
      cases compLoop (c :: t) (c :: t) 0 0 <;> rfl
    · rfl

/-- The left side: the component loop standing after `pre`, followed by the loop over what it leaves. -/
theorem compLoop_validateLoop (cur : Bytes) : ∀ (pre : Bytes) (last : UInt8) (fuel : Nat),
    cur.length ≤ fuel →
    (compLoop (pre ++ cur) cur last pre.length).any (fun k => validateLoop fuel ((pre ++ cur).drop k)) =
      restOk pre last (components cur) := by
  fun_induction components cur with
  | case1 =>
    intro pre last fuel _
    cases h : hasSuffix pre lockSuffix <;> simp [compLoop, restOk, scanOk, h, validateLoop_nil]
  | case2 c t hc ih =>
    -- a `/`: the component ends here; the remaining iterations are the statement for `t` from its start
    intro pre last fuel hf
    obtain rfl := eq_of_beq hc
    obtain ⟨f, rfl⟩ : ∃ f, fuel = f + 1 := ⟨fuel - 1, by simp at hf; omega⟩
    have := validateLoop_of_compLoop f t (ih [] 0 f (by simpa using hf))
    rw [compLoop_cons]
    cases h : hasSuffix pre lockSuffix <;> simp [restOk, scanOk, h, this]
  | case3 c t hc h ih => exact absurd h (components_ne_nil t)
  | case4 c t hc x r h ih =>
    -- another byte of the component: it joins `pre`
    intro pre last fuel hf
    have hc' : c ≠ 0x2f := fun e => hc (by simp [e])
    have := ih (pre ++ [c]) c fuel (by simp at hf; omega)
    simp only [h, restOk, List.append_assoc, List.singleton_append, List.length_append,
      List.length_singleton] at this
    rw [compLoop_cons, if_neg hc']
    simp only [restOk, scanOk]
    cases okByte c && !(last == 0x2e && c == 0x2e) && !(last == 0x40 && c == 0x7b)
    · simp
    · simp only [if_true, this, Bool.true_and]

def dotdot : Bytes := [0x2e, 0x2e]
def atBrace : Bytes := [0x40, 0x7b]

theorem hasInfix_cons2 (a b : UInt8) (t : Bytes) (x y : UInt8) :
    hasInfix (a :: b :: t) [x, y] = ((a == x && b == y) || hasInfix (b :: t) [x, y]) := by
  rw [show (a == x) = (x == a) from BEq.comm, show (b == y) = (y == b) from BEq.comm]
  simp [hasInfix, List.isPrefixOf]

theorem scanOk_eq : ∀ (c : Bytes) (last : UInt8),
    scanOk last c = (c.all okByte && !hasInfix (last :: c) dotdot && !hasInfix (last :: c) atBrace) := by
  intro c
  induction c with
  | nil => intro last; simp [scanOk, dotdot, atBrace, hasInfix, List.isPrefixOf]
  | cons ch t ih =>
    intro last
    rw [scanOk, ih ch]
    simp only [dotdot, atBrace, hasInfix_cons2, List.all_cons]
    generalize okByte ch = a
    generalize (last == 0x2e && ch == 0x2e) = x
    generalize (last == 0x40 && ch == 0x7b) = y
    cases a <;> cases x <;> cases y <;> simp

theorem hasInfix_zero_cons (c : Bytes) (x y : UInt8) (hx : x ≠ 0) :
    hasInfix (0 :: c) [x, y] = hasInfix c [x, y] := by
  cases c with
  | nil => simp [hasInfix, List.isPrefixOf]
  | cons b t =>
    rw [hasInfix_cons2]
    have : ((0 : UInt8) == x) = false := by simp; exact fun h => hx h.symm
    simp [this]

/-- documented rule for one component, without the per-byte part -/
def documentedComponent (c : Bytes) : Bool :=
  !([0x2e].isPrefixOf c) && !hasInfix c dotdot && !hasInfix c atBrace && !hasSuffix c lockSuffix

theorem compOk_eq (c : Bytes) : compOk c = (c.all okByte && documentedComponent c) := by
  simp only [compOk, documentedComponent, scanOk_eq, dotdot, atBrace]
  rw [hasInfix_zero_cons _ _ _ (by decide), hasInfix_zero_cons _ _ _ (by decide)]
  generalize [0x2e].isPrefixOf c = a
  generalize c.all okByte = b
  generalize hasInfix c [0x2e, 0x2e] = d
  generalize hasInfix c [0x40, 0x7b] = e
  generalize hasSuffix c lockSuffix = f
  cases a <;> cases b <;> cases d <;> cases e <;> cases f <;> rfl

theorem all_and {α} (p q : α → Bool) (l : List α) :
    l.all (fun x => p x && q x) = (l.all p && l.all q) := by
  induction l with
  | nil => rfl
  | cons a l ih => simp only [List.all_cons, ih]; cases p a <;> cases q a <;> simp

theorem all_compOk (s : Bytes) :
    (components s).all compOk = (s.all okByte && (components s).all documentedComponent) := by
  rw [← all_components okByte (by decide) s, ← all_and]
  exact List.all_congr rfl compOk_eq

end DoltVerif.Names
