import DoltVerif.Model.Names
/-! Helper lemmas for C44 (ancestor specs): fuel irrelevance of `parseInstructions`, `strings.TrimSpace`
facts, the slicing of `SplitAncestorSpec`, and `NewCommitSpec` as the classification of the base name
plus the walk parsed from the suffix (`newCommitSpec_eq`). -/
namespace DoltVerif.Names

theorem dropWhile_self_of_head {α} (p : α → Bool) : ∀ (l : List α),
    (∀ a, l.head? = some a → p a = false) → l.dropWhile p = l
  | [], _ => rfl
  | a :: _, h => List.dropWhile_cons_of_neg (by simp [h a rfl])

theorem takeWhile_nil_of_head {α} (p : α → Bool) : ∀ (l : List α),
    (∀ a, l.head? = some a → p a = false) → l.takeWhile p = []
  | [], _ => rfl
  | a :: _, h => List.takeWhile_cons_of_neg (by simp [h a rfl])

theorem parse_zero (s : Bytes) : parseInstructions 0 s = .ok [] := by
  cases s <;> rfl

theorem parse_nil (f : Nat) : parseInstructions f [] = .ok [] := by
  cases f <;> rfl

/-- one loop iteration, as a function of the result on the remaining input -/
def parseStep (c : UInt8) (rest : Bytes) (k : Except SpecErr (List Nat)) : Except SpecErr (List Nat) :=
  let ds := rest.takeWhile isDigit
  if !ds.isEmpty && !atoiOk ds then .error .atoi else
  let num := if ds.isEmpty then 1 else digitsVal ds
  if c == 0x5e then
    if num == 1 || num == 2 then
      match k with
      | .ok is => .ok ((num - 1) :: is)
      | .error e => .error e
    else .error .invalidAncestor
  else if c == 0x7e then
    match k with
    | .ok is => .ok (List.replicate num 0 ++ is)
    | .error e => .error e
  else .error .invalidHead

theorem parse_succ_cons (f : Nat) (c : UInt8) (rest : Bytes) :
    parseInstructions (f+1) (c :: rest) =
      parseStep c rest (parseInstructions f (rest.dropWhile isDigit)) := rfl

theorem parse_fuel : ∀ (f1 f2 : Nat) (s : Bytes), s.length < f1 → s.length < f2 →
    parseInstructions f1 s = parseInstructions f2 s
  | _, _, [], _, _ => by rw [parse_nil, parse_nil]
  | f1 + 1, f2 + 1, c :: rest, h1, h2 => by
    have hl := (List.dropWhile_sublist isDigit (l := rest)).length_le
    simp only [List.length_cons] at h1 h2
    rw [parse_succ_cons, parse_succ_cons, parse_fuel f1 f2 _ (by omega) (by omega)]

/-- `parseInstructions` with the fuel its callers pass -/
def parseI (s : Bytes) : Except SpecErr (List Nat) := parseInstructions (s.length + 1) s

theorem parseI_nil : parseI [] = .ok [] := rfl

theorem parse_eq_parseI (s : Bytes) (f : Nat) (h : s.length < f) : parseInstructions f s = parseI s :=
  parse_fuel f (s.length + 1) s h (Nat.lt_succ_self _)

theorem parseI_cons (c : UInt8) (rest : Bytes) :
    parseI (c :: rest) = parseStep c rest (parseI (rest.dropWhile isDigit)) := by
  rw [parseI, parse_succ_cons, parse_eq_parseI]
  exact Nat.lt_succ_of_le (List.dropWhile_sublist isDigit).length_le

theorem parseI_step_one (c : UInt8) (hc : c = 0x5e ∨ c = 0x7e) (rest : Bytes)
    (h : ∀ a, rest.head? = some a → isDigit a = false) :
    parseI (c :: rest) = (match parseI rest with | .ok is => .ok (0 :: is) | .error e => .error e) := by
  rw [parseI_cons, dropWhile_self_of_head _ _ h, parseStep, takeWhile_nil_of_head _ _ h]
  rcases hc with rfl | rfl <;> cases parseI rest <;> rfl

theorem parseStep_bad_head (c : UInt8) (rest : Bytes) (k) (h1 : c ≠ 0x5e) (h2 : c ≠ 0x7e) :
    ∃ e, parseStep c rest k = .error e := by
  unfold parseStep
  by_cases ha : (!(rest.takeWhile isDigit).isEmpty && !atoiOk (rest.takeWhile isDigit)) = true
  · exact ⟨.atoi, by simp only [ha, if_true]⟩
  · refine ⟨.invalidHead, ?_⟩
    simp only [ha, Bool.false_eq_true, if_false]
    simp [h1, h2]

def spaceLead (s : Bytes) : Bytes := s.takeWhile isSpace
def spaceTrail (s : Bytes) : Bytes := ((s.dropWhile isSpace).reverse.takeWhile isSpace).reverse

theorem dropWhile_space_eq (s : Bytes) : s.dropWhile isSpace = trimSpace s ++ spaceTrail s := by
  have := congrArg List.reverse
    (List.takeWhile_append_dropWhile (p := isSpace) (l := (s.dropWhile isSpace).reverse))
  simpa only [List.reverse_append, List.reverse_reverse, trimSpace, spaceTrail] using this.symm

theorem trim_decomp (s : Bytes) : s = spaceLead s ++ (trimSpace s ++ spaceTrail s) := by
  rw [← dropWhile_space_eq]
  exact List.takeWhile_append_dropWhile.symm

theorem spaceLead_all (s : Bytes) : ∀ a ∈ spaceLead s, isSpace a = true :=
  List.all_eq_true.mp List.all_takeWhile

theorem trim_eq_self {b : Bytes} (hd : ∀ a, b.head? = some a → isSpace a = false)
    (hl : ∀ a, b.reverse.head? = some a → isSpace a = false) : trimSpace b = b := by
  rw [trimSpace, dropWhile_self_of_head _ _ hd, dropWhile_self_of_head _ _ hl, List.reverse_reverse]

theorem trim_trim (s : Bytes) : trimSpace (trimSpace s) = trimSpace s := by
  refine trim_eq_self (fun a ha => ?_) (fun a ha => ?_)
  · have := List.head?_dropWhile_not isSpace s
    rwa [dropWhile_space_eq, List.head?_append, ha] at this
  · have := List.head?_dropWhile_not isSpace (s.dropWhile isSpace).reverse
    rw [trimSpace, List.reverse_reverse] at ha
    rwa [ha] at this

theorem trim_of_no_space (b : Bytes) (h : ∀ a ∈ b, isSpace a = false) : trimSpace b = b :=
  trim_eq_self (fun a ha => h a (List.mem_of_mem_head? ha))
    (fun a ha => h a (List.mem_reverse.mp (List.mem_of_mem_head? ha)))

def isSpec (b : UInt8) : Bool := b == 0x5e || b == 0x7e

theorem space_cases (a : UInt8) (h : isSpace a = true) :
    a = 0x20 ∨ a = 0x09 ∨ a = 0x0a ∨ a = 0x0b ∨ a = 0x0c ∨ a = 0x0d := by
  simpa only [isSpace, Bool.or_eq_true, beq_iff_eq, or_assoc] using h

theorem space_not_spec (a : UInt8) (h : isSpace a = true) : isSpec a = false := by
  rcases space_cases a h with rfl | rfl | rfl | rfl | rfl | rfl <;> rfl

theorem indexOfSpecChar_eq (c : Bytes) : indexOfSpecChar c = c.findIdx? isSpec := rfl

def notSpec (b : UInt8) : Bool := !isSpec b

theorem split_trimmed (c : Bytes) (hc : trimSpace c = c) :
    splitAncestorSpec c =
      match parseI (c.dropWhile notSpec) with
      | .ok is => .ok (c.takeWhile notSpec, is)
      | .error e => .error e := by
  unfold splitAncestorSpec
  simp only [hc, indexOfSpecChar_eq]
  simp only [show notSpec = fun a => !isSpec a from rfl, List.takeWhile_eq_take_findIdx_not,
    List.dropWhile_eq_drop_findIdx_not, Bool.not_not]
  cases h : c.findIdx? isSpec with
  | none =>
    rw [List.findIdx?_eq_none_iff_findIdx_eq.mp h, List.take_length, List.drop_length, parseI_nil]
  | some idx =>
    rw [(List.findIdx?_eq_some_iff_findIdx_eq.mp h).2]
    by_cases he : (c.drop idx).isEmpty = true
    · have h0 : c.drop idx = [] := by simpa using he
      simp [h0, parseI_nil]
    · have hp := parse_eq_parseI (c.drop idx) ((c.drop idx).length + 1) (by omega)
      simp only [he, Bool.false_eq_true, if_false, hp]
      rfl

theorem split_leading_space (w : UInt8) (s : Bytes) (hw : isSpace w = true) (idx : Nat)
    (h : indexOfSpecChar (trimSpace (w :: s)) = some idx) :
    ∃ e, splitAncestorSpec (w :: s) = .error e := by
  have hd := trim_decomp (w :: s)
  have hlead : 1 ≤ (spaceLead (w :: s)).length := by
    simp [spaceLead, hw]
  have hnone : (spaceLead (w :: s)).findIdx? isSpec = none := by
    rw [List.findIdx?_eq_none_iff]
    intro x hx
    exact space_not_spec x (spaceLead_all _ x hx)
  rw [indexOfSpecChar_eq] at h
  have hfull : (w :: s).findIdx? isSpec = some (idx + (spaceLead (w :: s)).length) := by
    conv => lhs; rw [hd]
    rw [List.findIdx?_append, hnone, List.findIdx?_append, h]
    simp
  rw [List.findIdx?_eq_some_iff_getElem] at hfull
  obtain ⟨hlt, _, hbefore⟩ := hfull
  have hidx : idx < (w :: s).length := by omega
  have hns : isSpec ((w :: s)[idx]) = false := by
    have := hbefore idx (by omega)
    simpa using this
  unfold splitAncestorSpec
  simp only [indexOfSpecChar_eq, h]
  rw [List.drop_eq_getElem_cons hidx]
  simp only [List.isEmpty_cons, Bool.false_eq_true, if_false, List.length_cons, parse_succ_cons]
  have hc : (w :: s)[idx] ≠ 0x5e ∧ (w :: s)[idx] ≠ 0x7e := by
    simp only [isSpec, Bool.or_eq_false_iff, beq_eq_false_iff_ne] at hns
    exact hns
  obtain ⟨e, he⟩ := parseStep_bad_head ((w :: s)[idx]) (List.drop (idx + 1) (w :: s))
    (parseInstructions ((List.drop (idx + 1) (w :: s)).length + 1) (List.dropWhile isDigit (List.drop (idx + 1) (w :: s)))) hc.1 hc.2
  exact ⟨e, by rw [he]⟩

theorem split_no_spec (s : Bytes) (h : indexOfSpecChar (trimSpace s) = none) :
    splitAncestorSpec s = .ok (trimSpace s, []) := by
  unfold splitAncestorSpec
  simp only [h]

def baseOf (s : Bytes) : Bytes := (trimSpace s).takeWhile notSpec
def suffixOf (s : Bytes) : Bytes := (trimSpace s).dropWhile notSpec

theorem baseOf_no_spec (s : Bytes) : ∀ a ∈ baseOf s, notSpec a = true :=
  List.all_eq_true.mp List.all_takeWhile

/-- how `NewCommitSpec` parses a base name on its own: HEAD (any case), a 32-char base32 hash, or a
valid branch name -/
def classifyBase (name : Bytes) : Except SpecErr (BaseKind × Bytes) :=
  if name.map toLower == [0x68,0x65,0x61,0x64] then .ok (.head, [0x68,0x65,0x61,0x64])
  else if looksLikeHash name then .ok (.hash, name)
  else if !isValidBranchName name then .error .invalidBranchOrHash
  else .ok (.ref, name)

theorem newCommitSpec_eq (s : Bytes) :
    newCommitSpec s =
      match parseI (suffixOf s) with
      | .error e => .error e
      | .ok is =>
        match classifyBase (baseOf s) with
        | .ok (k, b) => .ok (k, b, is)
        | .error e => .error e := by
  unfold newCommitSpec
  rw [split_trimmed (trimSpace s) (trim_trim s)]
  simp only [baseOf, suffixOf, classifyBase]
  cases parseI ((trimSpace s).dropWhile notSpec) with
  | error e => rfl
  | ok is =>
    simp only
    by_cases h1 : (List.map toLower ((trimSpace s).takeWhile notSpec) == [0x68,0x65,0x61,0x64]) = true
    · simp only [h1, if_true]
    · simp only [h1, Bool.false_eq_true, if_false]
      by_cases h2 : looksLikeHash ((trimSpace s).takeWhile notSpec) = true
      · simp only [h2, if_true]
      · simp only [h2, Bool.false_eq_true, if_false]
        by_cases h3 : (!isValidBranchName ((trimSpace s).takeWhile notSpec)) = true
        · simp only [h3, if_true]
        · simp only [h3, Bool.false_eq_true, if_false]

end DoltVerif.Names
