import DoltVerif.Lemmas.NbsPbs
/-! C01/C06: `findIndex` decides membership on a well-formed archive index; on `arcBuild`, found = staged. -/
namespace DoltVerif.NbsFiles

/-- archive index invariants (what `arcBuild` / parsing a written archive establishes) -/
structure AWF (ar : Arc) : Prop where
  suf_size : ar.suf.size = ar.pfx.size
  refs_size : ar.refs.size = ar.pfx.size
  sorted : SortedArr ar.pfx
  size_lt : ar.pfx.size < 18446744073709551616

def ARowIs (ar : Arc) (j : Nat) (a : Addr) : Prop :=
  ∃ _ : j < ar.pfx.size, ar.pfx[j]? = some a.pre ∧ ar.suf[j]? = some a.suf

theorem ARowIs_iff (ar : Arc) (j : Nat) (a : Addr) :
    ARowIs ar j a ↔ ∃ hj : j < ar.pfx.size, ar.pfx[j] = a.pre ∧ ar.suf[j]? = some a.suf :=
  exists_congr fun hj => by rw [Array.getElem?_eq_getElem hj, Option.some.injEq]

theorem arcScan_spec (ar : Arc) (a : Addr) (hwf : AWF ar) (r : Nat) (hlb : IsLowerBound ar.pfx a.pre r) :
    (∃ k, arcScan ar a r = some k ∧ ARowIs ar k a) ∨ (arcScan ar a r = none ∧ ∀ k, ¬ ARowIs ar k a) := by
  simp only [ARowIs_iff]
  refine scan_spec ar.pfx a.pre hwf.sorted (fun j => ar.suf[j]? = some a.suf) some none (arcScan ar a) (fun j => ?_) r hlb
  rw [arcScan]
  by_cases h : j < ar.pfx.size
  · rw [dif_pos h, dif_pos h]
    by_cases hp : ar.pfx[j] = a.pre
    · -- the suffix column is as long as the prefix column, so `getSuffix` is in range
      rw [if_pos hp, if_pos hp, Array.getElem?_eq_getElem (hwf.suf_size ▸ h)]
      simp only [Option.some.injEq]
    · rw [if_neg hp, if_neg hp]
  · rw [dif_neg h, dif_neg h]

/-- whatever the distribution of the prefixes: `prollyBinSearch` interpolates, but `prollyBinSearch_spec` needs no
density assumption -/
theorem findIndex_spec (ar : Arc) (a : Addr) (hwf : AWF ar) :
    (∃ k, findIndex ar a = some (some k) ∧ ARowIs ar k a) ∨
    (findIndex ar a = some none ∧ ∀ k, ¬ ARowIs ar k a) := by
  obtain ⟨pm, hpm, hlb⟩ := prollyBinSearch_spec ar.pfx a.pre hwf.sorted hwf.size_lt
  have hscan := arcScan_spec ar a hwf pm hlb
  unfold findIndex
  rw [hpm]
  by_cases hge : pm ≥ ar.count
  · -- the scan would stop at once: `arcScan` past the last row is `none`
    rw [arcScan, dif_neg (Nat.not_lt.mpr hge : ¬ pm < ar.pfx.size)] at hscan
    simp only [hge, if_true]
    exact hscan.elim (fun ⟨_, h, _⟩ => nomatch h) fun h => Or.inr ⟨trivial, h.2⟩
  · simp only [hge, if_false]
    exact hscan.imp (fun ⟨k, h1, h3⟩ => ⟨k, by rw [h1], h3⟩) (And.imp_left fun h1 => by rw [h1])

theorem arcBuild_awf (spans : List Nat) (staged : List (Addr × Nat × Nat)) (hn : staged.length < 18446744073709551616) :
    AWF (arcBuild spans staged) := by
  exact ⟨by simp [arcBuild], by simp [arcBuild], sortedArr_of_pairwise _ _ (sortStaged_pairwise staged),
    by simpa [arcBuild, (sortStaged_isSort.perm _).length_eq] using hn⟩

theorem arcBuild_row (spans : List Nat) (staged : List (Addr × Nat × Nat)) (k : Nat) (a : Addr)
    (h : ARowIs (arcBuild spans staged) k a) :
    ∃ d x, (a, d, x) ∈ staged ∧ (arcBuild spans staged).refs[k]? = some (d, x) := by
  obtain ⟨hk, hp, hs⟩ := h
  simp only [arcBuild, List.size_toArray, List.length_map] at hk
  simp only [arcBuild, List.getElem?_toArray, List.getElem?_map, List.getElem?_eq_getElem hk, Option.map_some,
    Option.some.injEq] at hp hs ⊢
  have hm := (sortStaged_isSort.perm _).mem_iff.mp (List.getElem_mem hk)
  refine ⟨((sortStaged staged)[k]).2.1, ((sortStaged staged)[k]).2.2, ?_, rfl⟩
  have : (sortStaged staged)[k] = (a, ((sortStaged staged)[k]).2.1, ((sortStaged staged)[k]).2.2) := by
    rcases hx : (sortStaged staged)[k] with ⟨⟨p, s⟩, d, x⟩
    rw [hx] at hp hs
    cases a
    simp_all
  rw [this] at hm
  exact hm

theorem arcBuild_mem (spans : List Nat) (staged : List (Addr × Nat × Nat)) (a : Addr) (d x : Nat)
    (h : (a, d, x) ∈ staged) : ∃ k, ARowIs (arcBuild spans staged) k a := by
  obtain ⟨k, hk, hx⟩ := List.getElem_of_mem ((sortStaged_isSort.perm _).mem_iff.mpr h)
  refine ⟨k, by simpa [arcBuild] using hk, ?_, ?_⟩
  · simp [arcBuild, List.getElem?_eq_getElem hk, hx]
  · simp [arcBuild, List.getElem?_eq_getElem hk, hx]

theorem arcBuild_findIndex (spans : List Nat) (staged : List (Addr × Nat × Nat)) (hn : staged.length < 18446744073709551616)
    (a : Addr) :
    (∃ k d x, findIndex (arcBuild spans staged) a = some (some k) ∧ (a, d, x) ∈ staged ∧
        (arcBuild spans staged).refs[k]? = some (d, x)) ∨
    (findIndex (arcBuild spans staged) a = some none ∧ ∀ d x, (a, d, x) ∉ staged) := by
  rcases findIndex_spec _ a (arcBuild_awf spans staged hn) with ⟨k, h1, h2⟩ | ⟨h1, h2⟩
  · obtain ⟨d, x, hm, hr⟩ := arcBuild_row spans staged k a h2
    exact Or.inl ⟨k, d, x, h1, hm, hr⟩
  · refine Or.inr ⟨h1, ?_⟩
    intro d x hm
    obtain ⟨k, hk⟩ := arcBuild_mem spans staged a d x hm
    exact h2 k hk

theorem nodup_map_inj {α β : Type} (f : α → β) : ∀ (l : List α), (l.map f).Nodup → ∀ x ∈ l, ∀ y ∈ l, f x = f y → x = y
  | [], _, _, hx, _, _, _ => absurd hx (by simp)
  | z :: zs, h, x, hx, y, hy, e => by
    have h' : f z ∉ zs.map f ∧ (zs.map f).Nodup := List.nodup_cons.mp h
    rcases List.mem_cons.mp hx with hxz | hx <;> rcases List.mem_cons.mp hy with hyz | hy
    · rw [hxz, hyz]
    · exact absurd (List.mem_map.mpr ⟨y, hy, by rw [← e, hxz]⟩) h'.1
    · exact absurd (List.mem_map.mpr ⟨x, hx, by rw [e, hyz]⟩) h'.1
    · exact nodup_map_inj f zs h'.2 x hx y hy e

theorem arcBuild_find_mem (spans : List Nat) (staged : List (Addr × Nat × Nat)) (hn : staged.length < 18446744073709551616)
    (hnd : (staged.map (·.1)).Nodup) {a : Addr} {d x : Nat} (hm : (a, d, x) ∈ staged) :
    ∃ k, findIndex (arcBuild spans staged) a = some (some k) ∧ (arcBuild spans staged).refs[k]? = some (d, x) := by
  rcases arcBuild_findIndex spans staged hn a with ⟨k, d', x', hf, hm', hr⟩ | ⟨_, hno⟩
  · cases nodup_map_inj (·.1) staged hnd _ hm' _ hm rfl
    exact ⟨k, hf, hr⟩
  · exact absurd hm (hno d x)

end DoltVerif.NbsFiles
