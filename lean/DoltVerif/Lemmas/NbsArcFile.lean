import DoltVerif.Lemmas.NbsArc
import DoltVerif.Lemmas.NbsTable
/-! C06, whole archive files: span table, index section and footer are each read back; `archive_roundtrip`. -/
namespace DoltVerif.NbsFiles

theorem foldl_take_succ (ls : List Nat) (p : Nat) (h : p < ls.length) :
    (ls.take (p + 1)).foldl (· + ·) 0 = (ls.take p).foldl (· + ·) 0 + ls[p] := by
  rw [List.take_succ_eq_append_getElem h, List.foldl_append, List.foldl_cons, List.foldl_nil]

theorem spanEnds_length : ∀ (acc : Nat) (ls : List Nat), (spanEnds acc ls).length = ls.length
  | _, [] => rfl
  | acc, l :: ls => by simp [spanEnds, spanEnds_length (acc + l) ls]

theorem spanEnds_get : ∀ (ls : List Nat) (acc p : Nat) (_ : p < ls.length),
    (spanEnds acc ls)[p]? = some (acc + (ls.take (p + 1)).foldl (· + ·) 0)
  | [], _, p, h => absurd h (by simp)
  | l :: ls, acc, 0, _ => by simp [spanEnds]
  | l :: ls, acc, p + 1, h => by
    simp only [spanEnds, List.getElem?_cons_succ, List.take_succ_cons, List.foldl_cons, Nat.zero_add]
    rw [spanEnds_get ls (acc + l) p (by simpa using h), foldl_add_eq (List.take (p + 1) ls) l, Nat.add_assoc]

theorem spanEnds_le : ∀ (ls : List Nat) (acc x : Nat), x ∈ spanEnds acc ls → x ≤ acc + ls.foldl (· + ·) 0
  | [], _, _, h => by simp [spanEnds] at h
  | l :: ls, acc, x, h => by
    simp only [spanEnds, List.mem_cons] at h
    simp only [List.foldl_cons, Nat.zero_add]
    rw [foldl_add_eq]
    rcases h with rfl | h
    · omega
    · have := spanEnds_le ls (acc + l) x h; omega

theorem spanOf_build (lens : List Nat) (staged : List (Addr × Nat × Nat)) (p : Nat) (h : p < lens.length) :
    spanOf (arcBuild lens staged) (p + 1) = ((lens.take p).foldl (· + ·) 0, lens[p]) := by
  have he : ∀ q (hq : q < lens.length),
      (arcBuild lens staged).spanEnd[q]? = some ((lens.take q).foldl (· + ·) 0 + lens[q]) := by
    intro q hq
    simp [arcBuild, spanEnds_get lens 0 q hq, foldl_take_succ lens q hq]
  unfold spanOf
  simp only [Nat.add_one_ne_zero, if_false, Nat.add_sub_cancel, he p h, Option.getD_some]
  cases p with
  | zero => simp [wsub]
  | succ q =>
    rw [if_neg (by omega), show q + 1 + 1 - 2 = q by omega, he q (by omega), Option.getD_some, foldl_take_succ lens q (by omega)]
    simp [wsub]

theorem spanBytes_build (spans : List Bytes) (staged : List (Addr × Nat × Nat)) (rest : Bytes) (p : Nat)
    (h : p < spans.length) :
    spanBytes (spans.flatten ++ rest) (arcBuild (spans.map (·.length)) staged) (p + 1) = some spans[p] := by
  have h1 := slice_flatMap (fun (b : Bytes) => b) spans p h rest
  rw [List.flatMap_id'] at h1
  unfold spanBytes
  rw [spanOf_build _ staged p (by simpa using h)]
  simp only [List.getElem_map]
  rw [if_pos (by rw [List.length_append]; omega), h1.2]

/-- field bounds of an archive index that can be written without truncation -/
structure ABounded (ar : Arc) : Prop where
  suf_size : ar.suf.size = ar.pfx.size
  refs_size : ar.refs.size = ar.pfx.size
  end_lt : ∀ x ∈ ar.spanEnd.toList, x < 256 ^ 8
  pfx_lt : ∀ x ∈ ar.pfx.toList, x < 256 ^ 8
  ref_lt : ∀ x ∈ ar.refs.toList, x.1 < 256 ^ 4 ∧ x.2 < 256 ^ 4
  suf_lt : ∀ x ∈ ar.suf.toList, x < 256 ^ suffixLen

theorem arcSerializeIndex_eq (ar : Arc) : arcSerializeIndex ar =
    ar.spanEnd.toList.flatMap (beBytes 8) ++ (ar.pfx.toList.flatMap (beBytes 8) ++
      (ar.refs.toList.flatMap (pairBytes 4 4) ++ ar.suf.toList.flatMap (beBytes suffixLen))) := by
  simp only [arcSerializeIndex, pairBytes_eq, List.append_assoc]

theorem arcSerializeIndex_length (ar : Arc) (h1 : ar.suf.size = ar.pfx.size) (h2 : ar.refs.size = ar.pfx.size) :
    (arcSerializeIndex ar).length = ar.spanEnd.size * 8 + ar.pfx.size * 8 + ar.pfx.size * 8 + ar.pfx.size * suffixLen := by
  rw [arcSerializeIndex_eq]
  simp only [List.length_append, flatMap_length_const _ _ (beBytes_length _), flatMap_length_const _ _ (pairBytes_length 4 4),
    Array.length_toList, h1, h2]
  omega

theorem arcParseIndex_regions (E P R S rest : Bytes) (sc cc : Nat) (es ps ss : List Nat) (rs : List (Nat × Nat))
    (hE : E.length = sc * 8) (hP : P.length = cc * 8) (hR : R.length = cc * 8) (hS : S.length = cc * suffixLen)
    (h1 : ∀ r, fields 8 sc (E ++ r) = es) (h2 : ∀ r, fields 8 cc (P ++ r) = ps)
    (h3 : ∀ r, refsOf cc (R ++ r) = rs) (h4 : ∀ r, fields suffixLen cc (S ++ r) = ss) :
    arcParseIndex sc cc (E ++ (P ++ (R ++ (S ++ rest)))) = some ⟨es.toArray, ps.toArray, rs.toArray, ss.toArray⟩ := by
  unfold arcParseIndex
  rw [if_neg (by simp only [List.length_append, hE, hP, hR, hS]; omega), h1, List.drop_left' hE, h2,
    drop_add_append hE, List.drop_left' hP, h3, show cc * 16 = cc * 8 + cc * 8 by omega,
    drop_add_append hE, drop_add_append hP, List.drop_left' hR, h4]

theorem arcParse_serialize (ar : Arc) (hb : ABounded ar) (rest : Bytes) :
    arcParseIndex ar.spanEnd.size ar.pfx.size (arcSerializeIndex ar ++ rest) = some ar := by
  have hr : ar.refs.toList.length = ar.pfx.size := by simp [hb.refs_size]
  have hs : ar.suf.toList.length = ar.pfx.size := by simp [hb.suf_size]
  rw [arcSerializeIndex_eq]
  simp only [List.append_assoc]
  rw [arcParseIndex_regions _ _ _ _ rest _ _ ar.spanEnd.toList ar.pfx.toList ar.suf.toList ar.refs.toList
    (by rw [flatMap_length_const _ _ (beBytes_length _), Array.length_toList])
    (by rw [flatMap_length_const _ _ (beBytes_length _), Array.length_toList])
    (by rw [flatMap_length_const _ _ (pairBytes_length 4 4), hr])
    (by rw [flatMap_length_const _ _ (beBytes_length _), hs])
    (fun r => Array.length_toList ▸ fields_flatMap 8 _ r hb.end_lt)
    (fun r => Array.length_toList ▸ fields_flatMap 8 _ r hb.pfx_lt)
    (fun r => hr ▸ refsOf_flatMap _ r hb.ref_lt) (fun r => hs ▸ fields_flatMap _ _ r hb.suf_lt)]

theorem arcFooter_length (il sc cc ml : Nat) : (arcSerializeFooter il sc cc ml).length = archiveFooterSize := by
  simp only [arcSerializeFooter, List.length_append, beBytes_length, List.length_replicate, List.length_cons, List.length_nil,
    doltMagic]
  rfl

theorem arcParseFooter_serialize (x : Bytes) (il sc cc ml : Nat) (h1 : il < 256 ^ 8) (h2 : sc < 256 ^ 4)
    (h3 : cc < 256 ^ 4) (h4 : ml < 256 ^ 4) :
    arcParseFooter (x ++ arcSerializeFooter il sc cc ml) = .ok ⟨il, sc, cc, ml, 3, x.length + archiveFooterSize⟩ := by
  have hl : (x ++ arcSerializeFooter il sc cc ml).length = x.length + archiveFooterSize := by
    rw [List.length_append, arcFooter_length]
  unfold arcParseFooter
  rw [hl, if_neg (by omega), Nat.add_sub_cancel, List.drop_left]
  -- the footer with its fields nested to the right, and each offset as the sum of the widths before it
  have hF : arcSerializeFooter il sc cc ml = beBytes 8 il ++ (beBytes 4 sc ++ (beBytes 4 cc ++ (beBytes 4 ml ++
      (List.replicate archiveCheckSumSize (0 : UInt8) ++ ([UInt8.ofNat archiveFormatVersionMax] ++ doltMagic))))) := by
    simp only [arcSerializeFooter, List.append_assoc]
  have lz : (List.replicate archiveCheckSumSize (0 : UInt8)).length = archiveCheckSumSize := List.length_replicate ..
  have dtail : (arcSerializeFooter il sc cc ml).drop afrVersionOffset = [UInt8.ofNat archiveFormatVersionMax] ++ doltMagic := by
    rw [hF, show afrVersionOffset = 8 + (4 + (4 + (4 + archiveCheckSumSize))) from rfl, drop_add_append (beBytes_length ..),
      drop_add_append (beBytes_length ..), drop_add_append (beBytes_length ..), drop_add_append (beBytes_length ..),
      List.drop_left' lz]
  have dsig : (arcSerializeFooter il sc cc ml).drop afrSigOffset = doltMagic := by
    rw [show afrSigOffset = afrVersionOffset + 1 from rfl, ← List.drop_drop, dtail]; rfl
  have dil : beVal (((arcSerializeFooter il sc cc ml).drop afrIndexLenOffset).take 8) = il := by
    rw [hF]; exact beVal_take_beBytes h1 _
  have dsc : beVal (((arcSerializeFooter il sc cc ml).drop afrByteSpanOffset).take 4) = sc := by
    rw [hF, show afrByteSpanOffset = 8 from rfl, drop_beBytes]; exact beVal_take_beBytes h2 _
  have dcc : beVal (((arcSerializeFooter il sc cc ml).drop afrChunkCountOffset).take 4) = cc := by
    rw [hF, show afrChunkCountOffset = 8 + 4 from rfl, drop_add_append (beBytes_length ..), drop_beBytes]
    exact beVal_take_beBytes h3 _
  have dml : beVal (((arcSerializeFooter il sc cc ml).drop afrMetaLenOffset).take 4) = ml := by
    rw [hF, show afrMetaLenOffset = 8 + (4 + 4) from rfl, drop_add_append (beBytes_length ..),
      drop_add_append (beBytes_length ..), drop_beBytes]
    exact beVal_take_beBytes h4 _
  have hv : beVal (([UInt8.ofNat archiveFormatVersionMax] ++ doltMagic).take 1) = 3 := rfl
  simp only [dsig, dtail, dil, dsc, dcc, dml, hv, bne_self_eq_false, Bool.false_eq_true, if_false]
  rfl

theorem indexOffset_layout (d il sc cc ml : Nat) :
    ArcFooter.indexOffset ⟨il, sc, cc, ml, 3, d + il + ml + archiveFooterSize⟩ = d := by
  simp only [ArcFooter.indexOffset, ArcFooter.actualFooterSize, show ¬ 3 < archiveVersionGiantIndexSupport by decide, if_false]
  rw [wsub_add_cancel, wsub_add_cancel, wsub_add_cancel]

/-- an archive file image: data spans, index section, metadata, footer -/
def arcFile (data : Bytes) (ar : Arc) (metadata : Bytes) : Bytes :=
  data ++ arcSerializeIndex ar ++ metadata ++
    arcSerializeFooter (arcSerializeIndex ar).length ar.spanEnd.size ar.pfx.size metadata.length

theorem arcOpen_arcFile (data : Bytes) (ar : Arc) (hb : ABounded ar) (metadata : Bytes)
    (hsc : ar.spanEnd.size < 256 ^ 4) (hcc : ar.pfx.size < 256 ^ 4) (hml : metadata.length < 256 ^ 4) :
    ∃ f, arcOpen (arcFile data ar metadata) = .ok (f, some ar) ∧ f.chunkCount = ar.pfx.size ∧
      f.byteSpanCount = ar.spanEnd.size := by
  have hil : (arcSerializeIndex ar).length < 256 ^ 8 := by
    rw [arcSerializeIndex_length ar hb.suf_size hb.refs_size]; simp only [suffixLen]; omega
  refine ⟨⟨(arcSerializeIndex ar).length, ar.spanEnd.size, ar.pfx.size, metadata.length, 3,
    (data ++ arcSerializeIndex ar ++ metadata).length + archiveFooterSize⟩, ?_, rfl, rfl⟩
  unfold arcOpen
  rw [arcFile, arcParseFooter_serialize _ _ _ _ _ hil hsc hcc hml]
  simp only [bind, Except.bind, List.length_append, indexOffset_layout]
  rw [if_pos (by omega), List.append_assoc, List.append_assoc, List.drop_left, arcParse_serialize ar hb]

/-- what is assumed of zstd (payloads with their dictionary, and the dictionary span itself) -/
structure ZCodec.Ok (z : ZCodec) : Prop where
  zdec_zcmp : ∀ r d, z.zdec r (z.zcmp r d) = some d
  ddec_dcmp : ∀ r, z.ddec (z.dcmp r) = some r

def dictIdOf (it : AItem) : Nat := match it.dict with | some k => k + 1 | none => 0

/-- what `stageAll` produces when nothing is rejected -/
def stagedOf (nd i : Nat) (items : List AItem) : List (Addr × Nat × Nat) :=
  items.mapIdx fun j it => (it.a, dictIdOf it, nd + i + j + 1)

theorem stagedOf_cons (nd i : Nat) (it : AItem) (rest : List AItem) :
    stagedOf nd i (it :: rest) = (it.a, dictIdOf it, nd + i + 1) :: stagedOf nd (i + 1) rest := by
  simp only [stagedOf, List.mapIdx_cons, Nat.add_zero, List.cons.injEq, true_and]
  congr 1
  funext j it
  rw [show nd + i + (j + 1) = nd + (i + 1) + j by omega]

theorem mem_stagedOf (nd : Nat) (items : List AItem) (i : Nat) (e : Addr × Nat × Nat) :
    e ∈ stagedOf nd i items ↔ ∃ j, ∃ h : j < items.length, ((items[j]).a, dictIdOf items[j], nd + i + j + 1) = e :=
  List.mem_mapIdx

theorem stagedOf_length (nd : Nat) (items : List AItem) (i : Nat) : (stagedOf nd i items).length = items.length :=
  List.length_mapIdx

theorem stagedOf_addrs (nd : Nat) (items : List AItem) (i : Nat) : (stagedOf nd i items).map (·.1) = items.map (·.a) := by
  apply List.ext_getElem <;> simp [stagedOf]

theorem dictIdOf_le {it : AItem} {nd : Nat} (h : ∀ k, it.dict = some k → k < nd) : dictIdOf it ≤ nd := by
  unfold dictIdOf
  split
  · exact h _ ‹_›
  · exact Nat.zero_le _

/-- one step of `stageAll`, the two dictionary branches told apart by `dictIdOf` only -/
theorem stageAll_cons (nd i : Nat) (seen : List Addr) (it : AItem) (rest : List AItem) :
    stageAll nd i seen (it :: rest) =
      if it.a ∈ seen then .error (.duplicateChunk i)
      else if dictIdOf it ≤ nd then
        (stageAll nd (i + 1) (it.a :: seen) rest).map ((it.a, dictIdOf it, nd + i + 1) :: ·)
      else .error (.invalidDictionaryRange i) := by
  rw [stageAll]
  cases hd : it.dict <;> simp [dictIdOf, hd, Nat.succ_le_iff]

theorem stageAll_ok (nd : Nat) : ∀ (items : List AItem) (i : Nat) (seen : List Addr),
    (items.map (·.a)).Nodup → (∀ it ∈ items, it.a ∉ seen) → (∀ it ∈ items, dictIdOf it ≤ nd) →
    stageAll nd i seen items = .ok (stagedOf nd i items)
  | [], _, _, _, _, _ => rfl
  | it :: rest, i, seen, hnd, hseen, hd => by
    have hnd' : it.a ∉ rest.map (·.a) ∧ (rest.map (·.a)).Nodup := List.nodup_cons.mp hnd
    rw [stageAll_cons, if_neg (hseen it (List.mem_cons_self ..)), if_pos (hd it (List.mem_cons_self ..)),
      stageAll_ok nd rest (i + 1) (it.a :: seen) hnd'.2 ?_ (fun x hx => hd x (List.mem_cons_of_mem _ hx)), stagedOf_cons]
    · rfl
    · intro x hx hmem
      rcases List.mem_cons.mp hmem with e | hmem
      · exact hnd'.1 (List.mem_map.mpr ⟨x, hx, e⟩)
      · exact hseen x (List.mem_cons_of_mem _ hx) hmem

theorem stageAll_nodup (nd : Nat) : ∀ (items : List AItem) (i : Nat) (seen : List Addr) (st : List (Addr × Nat × Nat)),
    stageAll nd i seen items = .ok st → (items.map (·.a)).Nodup ∧ ∀ it ∈ items, it.a ∉ seen
  | [], _, _, _, _ => by simp
  | it :: rest, i, seen, st, h => by
    rw [stageAll_cons] at h
    split at h
    · cases h
    · rename_i h1
      split at h
      · cases hr : stageAll nd (i + 1) (it.a :: seen) rest with
        | error e => rw [hr] at h; cases h
        | ok st' =>
          obtain ⟨ihn, ihs⟩ := stageAll_nodup nd rest (i + 1) (it.a :: seen) st' hr
          refine ⟨List.nodup_cons.mpr ⟨fun hm => ?_, ihn⟩, fun x hx => ?_⟩
          · obtain ⟨x, hx, e⟩ := List.mem_map.mp hm
            exact ihs x hx (e ▸ List.mem_cons_self ..)
          · rcases List.mem_cons.mp hx with rfl | hx
            · exact h1
            · exact fun hm => ihs x hx (List.mem_cons_of_mem _ hm)
      · cases h

/-- `itemPayload` made total -/
def payOf (c : Codec) (z : ZCodec) (dicts : List Bytes) (it : AItem) : Bytes :=
  match it.dict with
  | none => record c it.data
  | some k => z.zcmp ((dicts[k]?).getD []) it.data

theorem itemPayload_eq (c : Codec) (z : ZCodec) (dicts : List Bytes) (it : AItem)
    (h : ∀ k, it.dict = some k → k < dicts.length) : itemPayload c z dicts it = some (payOf c z dicts it) := by
  unfold itemPayload payOf
  cases hd : it.dict with
  | none => rfl
  | some k => simp [List.getElem?_eq_getElem (h k hd)]

def spansOf (c : Codec) (z : ZCodec) (dicts : List Bytes) (items : List AItem) : List Bytes :=
  dicts.map z.dcmp ++ items.map (payOf c z dicts)

/-- what the archive writer needs of its input; the last two fields are about zstd, not about the items: no
compressed span is empty (`arcWrite` rejects an empty span) -/
structure AItemsOk (c : Codec) (z : ZCodec) (dicts : List Bytes) (items : List AItem) (metadata : Bytes) : Prop where
  nodup : (items.map (·.a)).Nodup
  dict_ok : ∀ it ∈ items, ∀ k, it.dict = some k → k < dicts.length
  pre_lt : ∀ it ∈ items, it.a.pre < 256 ^ 8
  suf_lt : ∀ it ∈ items, it.a.suf < 256 ^ suffixLen
  count_lt : dicts.length + items.length + 1 < 256 ^ 4
  data_lt : ((spansOf c z dicts items).map (·.length)).foldl (· + ·) 0 < 256 ^ 8
  meta_lt : metadata.length < 256 ^ 4
  zcmp_ne : ∀ r d, z.zcmp r d ≠ []
  dcmp_ne : ∀ r, z.dcmp r ≠ []

theorem record_ne (c : Codec) (d : Bytes) : record c d ≠ [] :=
  fun h => record_not_short c d (by rw [h]; decide)

theorem arcBuild_bounded (lens : List Nat) (staged : List (Addr × Nat × Nat)) (hn : staged.length < 18446744073709551616)
    (hl : lens.foldl (· + ·) 0 < 256 ^ 8)
    (hs : ∀ e ∈ staged, e.1.pre < 256 ^ 8 ∧ e.1.suf < 256 ^ suffixLen ∧ e.2.1 < 256 ^ 4 ∧ e.2.2 < 256 ^ 4) :
    ABounded (arcBuild lens staged) := by
  have hawf := arcBuild_awf lens staged hn
  have hs' : ∀ e ∈ sortStaged staged, _ := fun e he => hs e ((sortStaged_isSort.perm staged).mem_iff.mp he)
  refine ⟨hawf.suf_size, hawf.refs_size, fun x hx => ?_, fun x hx => ?_, fun x hx => ?_, fun x hx => ?_⟩
  all_goals simp only [arcBuild, List.toList_toArray] at hx
  · have := spanEnds_le _ 0 x hx; omega
  · obtain ⟨e, he, rfl⟩ := List.mem_map.mp hx; exact (hs' e he).1
  · obtain ⟨e, he, rfl⟩ := List.mem_map.mp hx; exact (hs' e he).2.2
  · obtain ⟨e, he, rfl⟩ := List.mem_map.mp hx; exact (hs' e he).2.1

theorem arcGet_absent (c : Codec) (z : ZCodec) (file : Bytes) (lens : List Nat) (staged : List (Addr × Nat × Nat))
    (hn : staged.length < 18446744073709551616) (a : Addr) (ha : a ∉ staged.map (·.1)) :
    arcGet c z file (arcBuild lens staged) a = .ok none := by
  rcases arcBuild_findIndex lens staged hn a with ⟨_, d, x, _, hm, _⟩ | ⟨hf, _⟩
  · exact absurd (List.mem_map.mpr ⟨_, hm, rfl⟩) ha
  · simp [arcGet, hf]

theorem arcGet_staged (c : Codec) (hc : c.Ok) (z : ZCodec) (hz : z.Ok) (dicts : List Bytes) (items : List AItem)
    (hnd : (items.map (·.a)).Nodup) (hdict : ∀ it ∈ items, ∀ k, it.dict = some k → k < dicts.length)
    (hn : items.length < 18446744073709551616) (rest : Bytes) (it : AItem) (hit : it ∈ items) :
    arcGet c z ((spansOf c z dicts items).flatten ++ rest)
      (arcBuild ((spansOf c z dicts items).map (·.length)) (stagedOf dicts.length 0 items)) it.a = .ok (some it.data) := by
  obtain ⟨j, hj, rfl⟩ := List.getElem_of_mem hit
  obtain ⟨k, hf, hr⟩ := arcBuild_find_mem ((spansOf c z dicts items).map (·.length)) _
    (by rw [stagedOf_length]; exact hn) (by rw [stagedOf_addrs]; exact hnd)
    ((mem_stagedOf dicts.length items 0 _).mpr ⟨j, hj, rfl⟩)
  have hlen : (spansOf c z dicts items).length = dicts.length + items.length := by simp [spansOf]
  -- span `dicts.length + j + 1` is the item's payload, span `q + 1` is dictionary `q`
  have hdata := spanBytes_build (spansOf c z dicts items) (stagedOf dicts.length 0 items) rest (dicts.length + j)
    (by omega)
  have hpay : (spansOf c z dicts items)[dicts.length + j]'(by omega) = payOf c z dicts items[j] := by
    simp only [spansOf]
    rw [List.getElem_append_right (by simp)]
    simp
  simp only [arcGet, hf, hr, Nat.add_zero, hdata, hpay]
  cases hd : (items[j]).dict with
  | none => simp [dictIdOf, payOf, hd, decodeRecord_record c hc]
  | some q =>
    have hq : q < dicts.length := hdict _ hit q hd
    have hdct := spanBytes_build (spansOf c z dicts items) (stagedOf dicts.length 0 items) rest q (by omega)
    have hsq : (spansOf c z dicts items)[q]'(by omega) = z.dcmp dicts[q] := by
      simp only [spansOf]
      rw [List.getElem_append_left (by simpa using hq)]
      simp
    simp [dictIdOf, payOf, hd, hdct, hsq, hz.ddec_dcmp, hz.zdec_zcmp, List.getElem?_eq_getElem hq]

theorem archive_roundtrip (c : Codec) (hc : c.Ok) (z : ZCodec) (hz : z.Ok) (dicts : List Bytes) (items : List AItem)
    (metadata : Bytes) (hk : AItemsOk c z dicts items metadata) :
    ∃ file f ar, arcWrite c z dicts items metadata = .ok file ∧ arcOpen file = .ok (f, some ar) ∧
      f.chunkCount = items.length ∧ f.byteSpanCount = dicts.length + items.length ∧
      (∀ a, a ∉ items.map (·.a) → arcGet c z file ar a = .ok none) ∧
      (∀ it ∈ items, arcGet c z file ar it.a = .ok (some it.data)) := by
  have hc4 := hk.count_lt
  have hst := stageAll_ok dicts.length items 0 [] hk.nodup (fun _ _ h => absurd h (by simp))
    (fun it hit => dictIdOf_le (hk.dict_ok it hit))
  have hsp : dicts.map z.dcmp ++ items.filterMap (itemPayload c z dicts) = spansOf c z dicts items := by
    rw [spansOf, filterMap_congr' _ _ _ (fun it hit => itemPayload_eq c z dicts it (hk.dict_ok it hit)), List.filterMap_eq_map']
  have hany : (spansOf c z dicts items).any (·.isEmpty) = false := by
    simp only [List.any_eq_false, List.isEmpty_iff, spansOf, List.mem_append, List.mem_map]
    rintro b (⟨r, _, rfl⟩ | ⟨it, _, rfl⟩)
    · exact hk.dcmp_ne r
    · unfold payOf; split
      · exact record_ne c _
      · exact hk.zcmp_ne _ _
  have hslen : (spansOf c z dicts items).length = dicts.length + items.length := by simp [spansOf]
  have hTl := stagedOf_length dicts.length items 0
  have hn : (stagedOf dicts.length 0 items).length < 18446744073709551616 := by omega
  have hesz : (arcBuild ((spansOf c z dicts items).map (·.length)) (stagedOf dicts.length 0 items)).spanEnd.size
      = (spansOf c z dicts items).length := by simp [arcBuild, spanEnds_length]
  have hpsz : (arcBuild ((spansOf c z dicts items).map (·.length)) (stagedOf dicts.length 0 items)).pfx.size
      = (stagedOf dicts.length 0 items).length := by simp [arcBuild, (sortStaged_isSort.perm _).length_eq]
  have hbd := arcBuild_bounded _ _ hn hk.data_lt (by
    intro e he
    obtain ⟨j, hj, rfl⟩ := (mem_stagedOf _ _ _ _).mp he
    have := dictIdOf_le (hk.dict_ok _ (List.getElem_mem hj))
    exact ⟨hk.pre_lt _ (List.getElem_mem hj), hk.suf_lt _ (List.getElem_mem hj), by simp only; omega, by simp only; omega⟩)
  obtain ⟨f, hopen, hcc, hsc⟩ := arcOpen_arcFile (spansOf c z dicts items).flatten _ hbd metadata
    (by rw [hesz]; omega) (by rw [hpsz]; omega) hk.meta_lt
  refine ⟨_, f, _, ?_, hopen, by rw [hcc, hpsz, hTl], by rw [hsc, hesz, hslen], fun a ha => ?_, fun it hit => ?_⟩
  · unfold arcWrite
    rw [hst]
    simp only [bind, Except.bind, hsp, hany, Bool.false_eq_true, if_false, arcFile, hesz, hpsz]
  · exact arcGet_absent c z _ _ _ hn a (by rw [stagedOf_addrs]; exact ha)
  · simp only [arcFile, List.append_assoc]
    exact arcGet_staged c hc z hz dicts items hk.nodup hk.dict_ok (by omega) _ it hit

/-- in Go `ErrDuplicateChunkWritten`; which `ArcWErr` comes back, and at which position, is not stated -/
theorem archive_rejects_duplicates (c : Codec) (z : ZCodec) (dicts : List Bytes) (items : List AItem) (metadata : Bytes)
    (h : ¬ (items.map (·.a)).Nodup) : ∀ file, arcWrite c z dicts items metadata ≠ .ok file := by
  intro file hw
  unfold arcWrite at hw
  cases hs : stageAll dicts.length 0 [] items with
  | ok st => exact h (stageAll_nodup _ _ _ _ _ hs).1
  | error e => simp [hs, bind, Except.bind] at hw

end DoltVerif.NbsFiles
