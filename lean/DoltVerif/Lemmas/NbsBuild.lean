import DoltVerif.Lemmas.NbsFiles
/-! C06: `IsIndexOf ix cs` (an index of the chunk list `cs`, equal prefixes in any order) and `build_isIndexOf`. -/
namespace DoltVerif.NbsFiles

/-- `ix` is *an* index of the chunk list `cs` (ordinal = position in `cs`), for whatever order the
writer's unstable sort left rows with equal prefix in. -/
structure IsIndexOf (ix : Idx) (cs : List Rec) : Prop where
  size : ix.pfx.size = cs.length
  ord_size : ix.ord.size = cs.length
  suf : ix.suf = (cs.map (·.a.suf)).toArray
  len : ix.len = (cs.map (·.len)).toArray
  sorted : SortedArr ix.pfx
  tuple_ok : ∀ k (h1 : k < ix.pfx.size) (h2 : k < ix.ord.size),
    ∃ h : ix.ord[k] < cs.length, (cs[ix.ord[k]]).a.pre = ix.pfx[k]
  ord_surj : ∀ o, o < cs.length → ∃ k, ∃ h : k < ix.ord.size, ix.ord[k] = o

theorem IsIndexOf.wf {ix : Idx} {cs : List Rec} (h : IsIndexOf ix cs) : WF ix where
  ord_size := by rw [h.ord_size, h.size]
  suf_size := by rw [h.suf, h.size]; simp
  len_size := by rw [h.len, h.size]; simp
  ord_lt := by
    intro i hi
    obtain ⟨h1, _⟩ := h.tuple_ok i (by rw [h.size, ← h.ord_size]; exact hi) hi
    rw [h.size]; exact h1

theorem IsIndexOf.ord_size' {ix : Idx} {cs : List Rec} (h : IsIndexOf ix cs) : ix.ord.size = ix.pfx.size := by
  rw [h.ord_size, h.size]

theorem IsIndexOf.rowIs_iff {ix : Idx} {cs : List Rec} (h : IsIndexOf ix cs) (k : Nat) (hk : k < ix.ord.size) :
    ∃ ho : ix.ord[k] < cs.length, ∀ a, RowIs ix k a ↔ (cs[ix.ord[k]]).a = a := by
  have hkp : k < ix.pfx.size := h.ord_size' ▸ hk
  obtain ⟨ho, hpre⟩ := h.tuple_ok k hkp hk
  have hsuf : rowSuf ix k = some (cs[ix.ord[k]]).a.suf := by
    simp [rowSuf, Array.getElem?_eq_getElem hk, h.suf, ho]
  refine ⟨ho, fun a => ?_⟩
  simp only [RowIs, hkp, exists_true_left, ← hpre, hsuf, Option.some.injEq]
  cases (cs[ix.ord[k]]).a
  cases a
  simp

def offsetIn (cs : List Rec) (o : Nat) : Nat := ((cs.map (·.len)).take o).foldl (· + ·) 0

theorem IsIndexOf.indexEntry {ix : Idx} {cs : List Rec} (h : IsIndexOf ix cs) (o : Nat) (ho : o < cs.length) :
    indexEntry ix o = some (offsetIn cs o, (cs[o]).len) := by
  simp [NbsFiles.indexEntry, offsetOf, offsetIn, h.len, ho]

theorem IsIndexOf.mem_iff {ix : Idx} {cs : List Rec} (h : IsIndexOf ix cs) (a : Addr) :
    Mem ix a ↔ a ∈ cs.map (·.a) := by
  constructor
  · intro ⟨k, hrow⟩
    obtain ⟨ho, hiff⟩ := h.rowIs_iff k (h.ord_size' ▸ hrow.1)
    exact List.mem_map.mpr ⟨_, List.getElem_mem ho, (hiff a).mp hrow⟩
  · intro hm
    obtain ⟨c, hc, rfl⟩ := List.mem_map.mp hm
    obtain ⟨o, ho, rfl⟩ := List.getElem_of_mem hc
    obtain ⟨k, hk, rfl⟩ := h.ord_surj o ho
    exact ⟨k, ((h.rowIs_iff k hk).2 _).mpr rfl⟩

theorem IsIndexOf.has_eq {ix : Idx} {cs : List Rec} (h : IsIndexOf ix cs) (a : Addr) :
    has ix a = some (decide (a ∈ cs.map (·.a))) := by
  rcases has_spec ix a h.wf h.sorted with ⟨e, hm⟩ | ⟨e, hn⟩
  · rw [e, decide_eq_true ((h.mem_iff a).mp hm)]
  · rw [e, decide_eq_false fun hm => hn ((h.mem_iff a).mpr hm)]

theorem IsIndexOf.lookup_spec {ix : Idx} {cs : List Rec} (h : IsIndexOf ix cs) (a : Addr) :
    (lookup ix a = some none ∧ a ∉ cs.map (·.a)) ∨
    (∃ o, ∃ ho : o < cs.length, (cs[o]).a = a ∧ lookup ix a = some (some (offsetIn cs o, (cs[o]).len))) := by
  rcases lookupOrdinal_spec ix a h.wf h.sorted with ⟨k, hrow, hk, hlo⟩ | ⟨hlo, hn⟩
  · obtain ⟨ho, hiff⟩ := h.rowIs_iff k hk
    have hne : ix.ord[k] ≠ ix.count := by unfold Idx.count; rw [h.size]; omega
    exact Or.inr ⟨ix.ord[k], ho, (hiff a).mp hrow, by simp [lookup, hlo, hne, h.indexEntry _ ho]⟩
  · exact Or.inl ⟨by simp [lookup, hlo], fun hm => hn ((h.mem_iff a).mpr hm)⟩

theorem rawTuples_length (cs : List Rec) : (rawTuples cs).length = cs.length := by
  simp [rawTuples]

theorem mem_rawTuples (cs : List Rec) (x : Nat × Nat) :
    x ∈ rawTuples cs ↔ ∃ o, ∃ h : o < cs.length, x = ((cs[o]).a.pre, o) := by
  unfold rawTuples
  constructor
  · intro hx
    obtain ⟨i, hi, rfl⟩ := List.getElem_of_mem hx
    simp at hi
    exact ⟨i, by omega, by simp⟩
  · intro ⟨o, ho, hx⟩
    subst hx
    apply List.mem_iff_getElem.mpr
    exact ⟨o, by simp; exact ho, by simp⟩

theorem build_isIndexOf (cs : List Rec) (unc : Nat) : IsIndexOf (build cs unc) cs := by
  have hlen : (sortTuples (rawTuples cs)).length = cs.length := by
    rw [(sortTuples_isSort.perm _).length_eq, rawTuples_length]
  refine ⟨by simp [build, hlen], by simp [build, hlen], rfl, rfl,
    sortedArr_of_pairwise _ _ (sortTuples_pairwise (rawTuples cs)), ?_, ?_⟩
  · intro k h1 h2
    simp only [build, List.size_toArray, List.length_map] at h1
    have hm := (sortTuples_isSort.perm _).mem_iff.mp (List.getElem_mem h1)
    obtain ⟨o, ho, hx⟩ := (mem_rawTuples cs _).mp hm
    simp only [build, List.getElem_toArray, List.getElem_map, hx]
    exact ⟨ho, trivial⟩
  · intro o ho
    have hm : ((cs[o]).a.pre, o) ∈ sortTuples (rawTuples cs) :=
      (sortTuples_isSort.perm _).mem_iff.mpr ((mem_rawTuples cs _).mpr ⟨o, ho, rfl⟩)
    obtain ⟨k, hk, hx⟩ := List.getElem_of_mem hm
    exact ⟨k, by simp [build]; exact hk, by simp [build, hx]⟩

end DoltVerif.NbsFiles
