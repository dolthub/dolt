import DoltVerif.Model.NbsFiles
/-! Fixed-width big-endian fields and parsers that read one fixed-width block per step (both index formats). -/
namespace DoltVerif.NbsFiles

@[simp] theorem beBytes_length : ∀ k v, (beBytes k v).length = k
  | 0, _ => rfl
  | k + 1, v => by simp [beBytes, beBytes_length k v]

theorem beVal_beBytes_mod : ∀ k v, beVal (beBytes k v) = v % 256 ^ k
  | 0, v => by simp [beBytes, beVal, Nat.mod_one]
  | k + 1, v => by
    simp only [beBytes, beVal, beBytes_length, beVal_beBytes_mod k v]
    have h : (UInt8.ofNat (v / 256 ^ k % 256)).toNat = v / 256 ^ k % 256 := by
      simp [UInt8.toNat_ofNat']
    rw [h, Nat.pow_succ, Nat.mod_mul, Nat.mul_comm (256 ^ k)]
    omega

theorem beVal_beBytes (k v : Nat) (h : v < 256 ^ k) : beVal (beBytes k v) = v := by
  rw [beVal_beBytes_mod, Nat.mod_eq_of_lt h]

theorem beVal_take_beBytes {k v : Nat} (h : v < 256 ^ k) (r : List UInt8) :
    beVal ((beBytes k v ++ r).take k) = v := by
  rw [List.take_left' (beBytes_length k v), beVal_beBytes k v h]

theorem drop_beBytes (k v : Nat) (r : List UInt8) : (beBytes k v ++ r).drop k = r :=
  List.drop_left' (beBytes_length k v)

theorem drop_add_append {α} {a : List α} {n : Nat} (h : a.length = n) (b : List α) (m : Nat) :
    (a ++ b).drop (n + m) = b.drop m := by
  subst h; exact List.drop_length_add_append m

theorem flatMap_length_const {α β} (f : α → List β) (w : Nat) (hf : ∀ x, (f x).length = w) (l : List α) :
    (l.flatMap f).length = l.length * w := by
  rw [List.length_flatMap, funext hf, List.map_const', List.sum_replicate_nat]

theorem blocks_flatMap {β : Type} {P : Nat → List UInt8 → List β} {dec : List UInt8 → β} {w : Nat}
    (hP0 : ∀ b, P 0 b = []) (hP : ∀ n b, P (n + 1) b = dec b :: P n (b.drop w)) (enc : β → List UInt8) :
    ∀ (l : List β) (rest : List UInt8), (∀ x ∈ l, (enc x).length = w ∧ ∀ r, dec (enc x ++ r) = x) →
      P l.length (l.flatMap enc ++ rest) = l
  | [], _, _ => hP0 _
  | x :: xs, rest, h => by
    have hx := h x (List.mem_cons_self ..)
    rw [List.length_cons, hP, List.flatMap_cons, List.append_assoc, hx.2, List.drop_left' hx.1,
      blocks_flatMap hP0 hP enc xs rest (fun y hy => h y (List.mem_cons_of_mem _ hy))]

theorem fields_flatMap (w : Nat) (l : List Nat) (rest : List UInt8) (hb : ∀ x ∈ l, x < 256 ^ w) :
    fields w l.length (l.flatMap (beBytes w) ++ rest) = l :=
  blocks_flatMap (fun _ => rfl) (fun _ _ => rfl) _ l rest
    (fun x hx => ⟨beBytes_length w x, beVal_take_beBytes (hb x hx)⟩)

/-- the block of a prefix tuple (`tuples`) and of an archive chunk ref (`refsOf`) -/
def pairBytes (j k : Nat) (x : Nat × Nat) : List UInt8 := beBytes j x.1 ++ beBytes k x.2

@[simp] theorem pairBytes_length (j k : Nat) (x : Nat × Nat) : (pairBytes j k x).length = j + k := by
  simp [pairBytes]

theorem pairBytes_eq (j k : Nat) :
    (fun x : Nat × Nat => match x with | (p, o) => beBytes j p ++ beBytes k o) = pairBytes j k :=
  funext fun (_, _) => rfl

theorem pairBytes_decode {j k : Nat} {x : Nat × Nat} (h1 : x.1 < 256 ^ j) (h2 : x.2 < 256 ^ k) (r : List UInt8) :
    (beVal ((pairBytes j k x ++ r).take j), beVal (((pairBytes j k x ++ r).drop j).take k)) = x := by
  rw [pairBytes, List.append_assoc, beVal_take_beBytes h1, drop_beBytes, beVal_take_beBytes h2]

theorem tuples_flatMap (l : List (Nat × Nat)) (rest : List UInt8)
    (hb : ∀ x ∈ l, x.1 < 256 ^ prefixLen ∧ x.2 < 256 ^ ordinalSize) :
    tuples l.length (l.flatMap (pairBytes prefixLen ordinalSize) ++ rest) = l :=
  blocks_flatMap (P := tuples) (w := prefixTupleSize) (fun _ => rfl) (fun _ _ => rfl) _ l rest
    (fun x hx => ⟨pairBytes_length .., pairBytes_decode (hb x hx).1 (hb x hx).2⟩)

theorem refsOf_flatMap (l : List (Nat × Nat)) (rest : List UInt8) (hb : ∀ x ∈ l, x.1 < 256 ^ 4 ∧ x.2 < 256 ^ 4) :
    refsOf l.length (l.flatMap (pairBytes 4 4) ++ rest) = l :=
  blocks_flatMap (P := refsOf) (w := 8) (fun _ => rfl) (fun _ _ => rfl) _ l rest
    (fun x hx => ⟨pairBytes_length .., pairBytes_decode (hb x hx).1 (hb x hx).2⟩)

end DoltVerif.NbsFiles
