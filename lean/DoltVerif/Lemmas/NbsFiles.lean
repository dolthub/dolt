import DoltVerif.Model.NbsFiles
/-! C01/C06, the parsed table index: insertion sorts, carried binary search, equal-prefix scan, single lookups. -/
namespace DoltVerif.NbsFiles

/-- The model sorts three times by insertion (`sortTuples`, `sortStaged`, `sortByOff`), each time with its own copy
of the two functions; this is what the copies share. -/
structure IsInsertionSort {α : Type} (lt : α → α → Prop) [DecidableRel lt] (ins : α → List α → List α)
    (sort : List α → List α) : Prop where
  ins_nil : ∀ x, ins x [] = [x]
  ins_cons : ∀ x y ys, ins x (y :: ys) = if lt x y then x :: y :: ys else y :: ins x ys
  sort_nil : sort [] = []
  sort_cons : ∀ x xs, sort (x :: xs) = ins x (sort xs)

namespace IsInsertionSort
variable {α : Type} {lt : α → α → Prop} [DecidableRel lt] {ins : α → List α → List α} {sort : List α → List α}

theorem ins_perm (h : IsInsertionSort lt ins sort) (x : α) : ∀ l, (ins x l).Perm (x :: l)
  | [] => by rw [h.ins_nil]
  | y :: ys => by
    rw [h.ins_cons]
    split
    · exact .refl _
    · exact ((h.ins_perm x ys).cons y).trans (.swap x y ys)

theorem perm (h : IsInsertionSort lt ins sort) : ∀ l, (sort l).Perm l
  | [] => by rw [h.sort_nil]
  | x :: xs => by rw [h.sort_cons]; exact (h.ins_perm x _).trans ((h.perm xs).cons x)

theorem ins_pairwise (h : IsInsertionSort lt ins sort) {R : α → α → Prop} (hlt : ∀ x y, lt x y → R x y)
    (hge : ∀ x y, ¬ lt x y → R y x) (htr : ∀ x y z, R x y → R y z → R x z) (x : α) :
    ∀ l, l.Pairwise R → (ins x l).Pairwise R
  | [], _ => by rw [h.ins_nil]; exact List.pairwise_singleton ..
  | y :: ys, hp => by
    have hy := List.pairwise_cons.mp hp
    rw [h.ins_cons]
    split
    · rename_i hxy
      exact List.pairwise_cons.mpr ⟨fun b hb => (List.mem_cons.mp hb).elim (fun e => e ▸ hlt _ _ hxy)
        (fun hb => htr _ _ _ (hlt _ _ hxy) (hy.1 b hb)), hp⟩
    · rename_i hxy
      refine List.pairwise_cons.mpr ⟨fun b hb => ?_, h.ins_pairwise hlt hge htr x ys hy.2⟩
      exact (List.mem_cons.mp ((h.ins_perm x ys).mem_iff.mp hb)).elim (fun e => e ▸ hge _ _ hxy) (hy.1 b)

theorem pairwise (h : IsInsertionSort lt ins sort) {R : α → α → Prop} (hlt : ∀ x y, lt x y → R x y)
    (hge : ∀ x y, ¬ lt x y → R y x) (htr : ∀ x y z, R x y → R y z → R x z) : ∀ l, (sort l).Pairwise R
  | [] => by rw [h.sort_nil]; exact .nil
  | x :: xs => by rw [h.sort_cons]; exact h.ins_pairwise hlt hge htr x _ (h.pairwise hlt hge htr xs)

end IsInsertionSort

theorem sortTuples_isSort : IsInsertionSort (fun x y => x.1 < y.1) insertTuple sortTuples :=
  ⟨fun _ => rfl, fun _ _ _ => rfl, rfl, fun _ _ => rfl⟩

theorem sortStaged_isSort : IsInsertionSort (fun x y => addrLt x.1 y.1 = true) insertStaged sortStaged :=
  ⟨fun _ => rfl, fun _ _ _ => rfl, rfl, fun _ _ => rfl⟩

theorem sortByOff_isSort : IsInsertionSort (fun x y => x.off < y.off) insertByOff sortByOff :=
  ⟨fun _ => rfl, fun _ _ _ => rfl, rfl, fun _ _ => rfl⟩

theorem sortTuples_pairwise (l : List (Nat × Nat)) : (sortTuples l).Pairwise (fun a b => a.1 ≤ b.1) :=
  sortTuples_isSort.pairwise (fun _ _ => Nat.le_of_lt) (fun _ _ => Nat.le_of_not_lt) (fun _ _ _ => Nat.le_trans) l

theorem sortByOff_pairwise (l : List OffRec) : (sortByOff l).Pairwise (fun a b => a.off ≤ b.off) :=
  sortByOff_isSort.pairwise (fun _ _ => Nat.le_of_lt) (fun _ _ => Nat.le_of_not_lt) (fun _ _ _ => Nat.le_trans) l

theorem sortStaged_pairwise (l : List (Addr × Nat × Nat)) : (sortStaged l).Pairwise (fun a b => a.1.pre ≤ b.1.pre) :=
  sortStaged_isSort.pairwise (R := fun a b => a.1.pre ≤ b.1.pre)
    (fun _ _ h => by simp [addrLt] at h; omega) (fun _ _ h => by simp [addrLt] at h; omega)
    (fun _ _ _ => Nat.le_trans) l

def SortedArr (p : Array Nat) : Prop :=
  ∀ i j (hi : i < p.size) (hj : j < p.size), i ≤ j → p[i] ≤ p[j]

theorem sortedArr_of_pairwise {α : Type} (f : α → Nat) (l : List α) (h : l.Pairwise (fun a b => f a ≤ f b)) :
    SortedArr (l.map f).toArray := by
  intro i j hi hj hij
  simp only [List.size_toArray, List.length_map] at hi hj
  simp only [List.getElem_toArray, List.getElem_map]
  rcases Nat.lt_or_eq_of_le hij with hlt | rfl
  · exact List.pairwise_iff_getElem.mp h i j hi hj hlt
  · exact Nat.le_refl _

def IsLowerBound (p : Array Nat) (t r : Nat) : Prop :=
  r ≤ p.size ∧ (∀ k (hk : k < p.size), k < r → p[k] < t) ∧ (∀ k (hk : k < p.size), r ≤ k → t ≤ p[k])

theorem SortedArr.lt_of_lt {p : Array Nat} (hs : SortedArr p) {a b : Nat} (ha : a < p.size) (hb : b < p.size)
    (h : p[a] < p[b]) : a < b :=
  Nat.lt_of_not_le fun hba => Nat.not_lt.mpr (hs b a hb ha hba) h

theorem lb_of_adjacent (s : Array Nat) (t j : Nat) (hs : SortedArr s) (hj : j < s.size) (hj0 : 0 < j)
    (h1 : s[j - 1]'(by omega) < t) (h2 : t ≤ s[j]) : IsLowerBound s t j :=
  ⟨Nat.le_of_lt hj, fun k hk hkj => Nat.lt_of_le_of_lt (hs k (j - 1) hk _ (Nat.le_sub_one_of_lt hkj)) h1,
    fun k hk hjk => Nat.le_trans h2 (hs j k hj hk hjk)⟩

theorem findFrom_spec (p : Array Nat) (t : Nat) (hs : SortedArr p) :
    ∀ (d i j : Nat) (hj : j ≤ p.size), j - i = d → i ≤ j →
      (∀ k (hk : k < p.size), k < i → p[k] < t) →
      (∀ k (hk : k < p.size), j ≤ k → t ≤ p[k]) →
      i ≤ findFrom p t i j hj ∧ IsLowerBound p t (findFrom p t i j hj) := by
  intro _ i j hj _
  clear ‹j - i = _›
  -- along the recursion of `findFrom`; of the midpoint `m` only `i ≤ m < j` matters
  fun_induction findFrom p t i j hj with
  | case1 i j hj h m hc ih =>
    intro _ hlo hhi
    have hmj : m < j := by omega
    have hmp : m < p.size := Nat.lt_of_lt_of_le hmj hj
    have := ih hmj (fun k hk hkm => Nat.lt_of_le_of_lt (hs k m hk hmp (Nat.le_of_lt_succ hkm)) hc) hhi
    exact ⟨Nat.le_trans (Nat.le_succ_of_le (Nat.le_add_right ..)) this.1, this.2⟩
  | case2 i j hj h m hc ih =>
    intro _ hlo hhi
    have hmp : m < p.size := Nat.lt_of_lt_of_le (by omega) hj
    exact ih (Nat.le_add_right ..) hlo fun k hk hkm => Nat.le_trans (Nat.le_of_not_lt hc) (hs m k hmp hk hkm)
  | case3 i j hj h =>
    intro hij hlo hhi
    cases Nat.le_antisymm hij (Nat.le_of_not_lt h)
    exact ⟨Nat.le_refl _, hj, hlo, hhi⟩

/-- the search as every caller runs it, from a start row `i` to the end of the column: `i = 0` for `findPrefix`,
the carried `filterIdx` for the batched lookups -/
theorem findFrom_isLowerBound (p : Array Nat) (t i : Nat) (hs : SortedArr p) (hi : i ≤ p.size)
    (hlo : ∀ k (hk : k < p.size), k < i → p[k] < t) : IsLowerBound p t (findFrom p t i p.size (Nat.le_refl _)) :=
  (findFrom_spec p t hs _ i p.size (Nat.le_refl _) rfl hi hlo fun _ hk h => absurd hk (Nat.not_lt.mpr h)).2

/-- the index invariants `parseIndex` of a written file establishes -/
structure WF (ix : Idx) : Prop where
  ord_size : ix.ord.size = ix.pfx.size
  suf_size : ix.suf.size = ix.pfx.size
  len_size : ix.len.size = ix.pfx.size
  ord_lt : ∀ i (h : i < ix.ord.size), ix.ord[i] < ix.pfx.size

def RowIs (ix : Idx) (k : Nat) (a : Addr) : Prop :=
  ∃ hk : k < ix.pfx.size, ix.pfx[k] = a.pre ∧ rowSuf ix k = some a.suf

def Mem (ix : Idx) (a : Addr) : Prop := ∃ k, RowIs ix k a

theorem rowSuf_some (ix : Idx) (hwf : WF ix) (k : Nat) (hk : k < ix.pfx.size) :
    ∃ s, rowSuf ix k = some s := by
  have h1 : k < ix.ord.size := by rw [hwf.ord_size]; exact hk
  have h2 : ix.ord[k] < ix.suf.size := by rw [hwf.suf_size]; exact hwf.ord_lt k h1
  refine ⟨ix.suf[ix.ord[k]], ?_⟩
  simp [rowSuf, Array.getElem?_eq_getElem h1, Array.getElem?_eq_getElem h2]

/-- The equal-prefix scan of the table index (`scanRun`) and of the archive index (`arcScan`), through the recursion
equation the two share. -/
theorem scan_spec {ρ : Type} (p : Array Nat) (pre : Nat) (hs : SortedArr p) (isRow : Nat → Prop) [DecidablePred isRow]
    (found : Nat → ρ) (nf : ρ) (scan : Nat → ρ)
    (hscan : ∀ j, scan j =
      if h : j < p.size then (if p[j] = pre then (if isRow j then found j else scan (j + 1)) else nf) else nf)
    (r : Nat) (hlb : IsLowerBound p pre r) :
    (∃ k, scan r = found k ∧ ∃ hk : k < p.size, p[k] = pre ∧ isRow k) ∨
    (scan r = nf ∧ ∀ k, ¬ ∃ hk : k < p.size, p[k] = pre ∧ isRow k) := by
  suffices H : ∀ d j, p.size - j = d → (∀ k, k < j → ¬ ∃ hk : k < p.size, p[k] = pre ∧ isRow k) →
      (∀ k (hk : k < p.size), j ≤ k → pre ≤ p[k]) →
      (∃ k, scan j = found k ∧ ∃ hk : k < p.size, p[k] = pre ∧ isRow k) ∨
      (scan j = nf ∧ ∀ k, ¬ ∃ hk : k < p.size, p[k] = pre ∧ isRow k) from
    H _ r rfl (fun k hk ⟨hks, hp, _⟩ => Nat.lt_irrefl _ (hp ▸ hlb.2.1 k hks hk)) hlb.2.2
  intro d
  induction d using Nat.strongRecOn with
  | _ d ih =>
    intro j hd hno hge
    rw [hscan]
    by_cases h : j < p.size
    · simp only [h, dite_true]
      by_cases hp : p[j] = pre
      · simp only [hp, if_true]
        by_cases hr : isRow j
        · simp only [hr, if_true]
          exact Or.inl ⟨j, rfl, h, hp, hr⟩
        · simp only [hr, if_false]
          refine ih (p.size - (j + 1)) (hd ▸ Nat.sub_lt_sub_left h (Nat.lt_succ_self j)) (j + 1) rfl (fun k hk hrow => ?_)
            (fun k hk hjk => hge k hk (Nat.le_of_succ_le hjk))
          rcases Nat.eq_or_lt_of_le (Nat.le_of_lt_succ hk) with rfl | hlt
          · exact hr hrow.2.2
          · exact hno k hlt hrow
      · -- the run is over: by sortedness every later prefix is larger
        simp only [hp, if_false]
        refine Or.inr ⟨trivial, fun k hrow => (Nat.lt_or_ge k j).elim (fun hk => hno k hk hrow) fun hjk => ?_⟩
        obtain ⟨hk, hpk, _⟩ := hrow
        exact hp (Nat.le_antisymm (hpk ▸ hs j k h hk hjk) (hge j h (Nat.le_refl _)))
    · simp only [h, dite_false]
      exact Or.inr ⟨trivial, fun k hrow => (Nat.lt_or_ge k j).elim (fun hk => hno k hk hrow)
        fun hjk => h (Nat.lt_of_le_of_lt hjk hrow.1)⟩

theorem scanRun_spec (ix : Idx) (a : Addr) (hwf : WF ix) (hs : SortedArr ix.pfx) (r : Nat)
    (hlb : IsLowerBound ix.pfx a.pre r) :
    (∃ k, scanRun ix a r = some (some k) ∧ RowIs ix k a) ∨ (scanRun ix a r = some none ∧ ¬ Mem ix a) := by
  refine (scan_spec ix.pfx a.pre hs (fun j => rowSuf ix j = some a.suf) (fun k => some (some k)) (some none)
    (scanRun ix a) (fun j => ?_) r hlb).imp id (And.imp_right fun h ⟨k, hrow⟩ => h k hrow)
  rw [scanRun]
  by_cases h : j < ix.pfx.size
  · rw [dif_pos h, dif_pos h]
    by_cases hp : ix.pfx[j] = a.pre
    · -- a well-formed index has a suffix in every row, so the panic branch is not taken
      obtain ⟨s, hsj⟩ := rowSuf_some ix hwf j h
      rw [if_pos hp, if_pos hp, hsj]
      simp only [Option.some.injEq]
    · rw [if_neg hp, if_neg hp]
  · rw [dif_neg h, dif_neg h]

theorem findPrefix_isLowerBound (ix : Idx) (t : Nat) (hs : SortedArr ix.pfx) :
    IsLowerBound ix.pfx t (findPrefix ix t) :=
  findFrom_isLowerBound ix.pfx t 0 hs (Nat.zero_le _) fun k _ h => absurd h (Nat.not_lt_zero k)

theorem lookupOrdinal_spec (ix : Idx) (a : Addr) (hwf : WF ix) (hs : SortedArr ix.pfx) :
    (∃ k, RowIs ix k a ∧ ∃ hk : k < ix.ord.size, lookupOrdinal ix a = some ix.ord[k]) ∨
    (lookupOrdinal ix a = some ix.count ∧ ¬ Mem ix a) := by
  have hlb := findPrefix_isLowerBound ix a.pre hs
  rcases scanRun_spec ix a hwf hs (findPrefix ix a.pre) hlb with ⟨k, h1, h3⟩ | ⟨h1, h2⟩
  · have hk' : k < ix.ord.size := by rw [hwf.ord_size]; exact h3.1
    exact Or.inl ⟨k, h3, hk', by simp [lookupOrdinal, h1, Array.getElem?_eq_getElem hk']⟩
  · exact Or.inr ⟨by simp [lookupOrdinal, h1], h2⟩

theorem has_spec (ix : Idx) (a : Addr) (hwf : WF ix) (hs : SortedArr ix.pfx) :
    (has ix a = some true ∧ Mem ix a) ∨ (has ix a = some false ∧ ¬ Mem ix a) := by
  rcases lookupOrdinal_spec ix a hwf hs with ⟨k, hrow, hk, h⟩ | ⟨h, hn⟩
  · left
    refine ⟨?_, k, hrow⟩
    have h1 : ix.ord[k] < ix.pfx.size := hwf.ord_lt k hk
    have h2 : ix.ord[k] < ix.len.size := by rw [hwf.len_size]; exact h1
    have h3 : ix.ord[k] ≠ ix.count := by unfold Idx.count; omega
    simp [has, lookup, h, h3, indexEntry, Array.getElem?_eq_getElem h2]
  · right
    exact ⟨by simp [has, lookup, h], hn⟩

/-- pointwise relation between two lists of equal length (core has no `Forall₂`) -/
inductive All2 {α β : Type} (P : α → β → Prop) : List α → List β → Prop
  | nil : All2 P [] []
  | cons {a b as bs} : P a b → All2 P as bs → All2 P (a :: as) (b :: bs)

theorem All2.refl {α : Type} (P : α → α → Prop) : ∀ (l : List α), (∀ x ∈ l, P x x) → All2 P l l
  | [], _ => All2.nil
  | x :: xs, h => All2.cons (h x (List.mem_cons_self ..)) (All2.refl P xs (fun y hy => h y (List.mem_cons_of_mem _ hy)))

end DoltVerif.NbsFiles
