import DoltVerif.Lemmas.NbsFiles
/-! C01, the batched lookups `hasMany` and `findOffsets`: their shared loop body (`probe`) and what it can do to the
carried search index (`probe_cases`); `HasOut` / `FoRel` say what the requests end up as. -/
namespace DoltVerif.NbsFiles

/-- One unanswered request of a batched lookup, as the loops of `hasMany` and `findOffsets` both have it: the carried
binary search, then the equal-prefix scan.  What the caller does in each outcome is a parameter. -/
def probe {ρ : Type} (ix : Idx) (a : Addr) (fi : Nat) (stop : ρ) (miss : Nat → ρ) (hit : Nat → Nat → ρ) (panic : ρ) : ρ :=
  if _hfi : fi ≤ ix.pfx.size then
    let fi' := findFrom ix.pfx a.pre fi ix.pfx.size (Nat.le_refl _)
    if h : fi' < ix.pfx.size then
      if ix.pfx[fi'] ≠ a.pre then miss fi'
      else match scanRun ix a fi' with
        | none => panic
        | some none => miss fi'
        | some (some k) => hit fi' k
    else stop
  else stop

/-- where the carried search index (`filterIdx`) may stand before a request for prefix `pre` -/
def Carried (ix : Idx) (fi pre : Nat) : Prop :=
  fi ≤ ix.pfx.size ∧ ∀ k (hk : k < ix.pfx.size), k < fi → ix.pfx[k] < pre

theorem Carried.zero (ix : Idx) (pre : Nat) : Carried ix 0 pre :=
  ⟨Nat.zero_le _, fun k _ hk => absurd hk (Nat.not_lt_zero k)⟩

theorem Carried.mono {ix : Idx} {fi pre pre' : Nat} (h : Carried ix fi pre) (hle : pre ≤ pre') : Carried ix fi pre' :=
  ⟨h.1, fun k hk hlt => Nat.lt_of_lt_of_le (h.2 k hk hlt) hle⟩

/-- The outcomes of a probe on a well-formed sorted index, as a case rule; `panic` needs no case. -/
theorem probe_cases {ρ : Type} (P : ρ → Prop) (ix : Idx) (hwf : WF ix) (hs : SortedArr ix.pfx) (a : Addr) (fi : Nat)
    (hc : Carried ix fi a.pre) (stop : ρ) (miss : Nat → ρ) (hit : Nat → Nat → ρ) (panic : ρ)
    (hstop : (∀ b : Addr, a.pre ≤ b.pre → ¬ Mem ix b) → P stop)
    (hmiss : ∀ fi', Carried ix fi' a.pre → ¬ Mem ix a → P (miss fi'))
    (hhit : ∀ fi' k, Carried ix fi' a.pre → RowIs ix k a → P (hit fi' k)) :
    P (probe ix a fi stop miss hit panic) := by
  have hlb := findFrom_isLowerBound ix.pfx a.pre fi hs hc.1 hc.2
  rw [probe, dif_pos hc.1]
  generalize findFrom ix.pfx a.pre fi ix.pfx.size (Nat.le_refl _) = fi' at hlb ⊢
  have hc' : Carried ix fi' a.pre := ⟨hlb.1, hlb.2.1⟩
  dsimp only
  by_cases hlt : fi' < ix.pfx.size
  · rw [dif_pos hlt]
    by_cases hp : ix.pfx[fi'] = a.pre
    · rw [if_neg (fun h => h hp)]
      rcases scanRun_spec ix a hwf hs fi' hlb with ⟨k, hk1, hk3⟩ | ⟨hn1, hn2⟩
      · rw [hk1]; exact hhit fi' k hc' hk3
      · rw [hn1]; exact hmiss fi' hc' hn2
    · -- the prefix is not in the index: the rows before `fi'` are smaller, the others no smaller than row `fi'`
      rw [if_pos hp]
      refine hmiss fi' hc' fun ⟨k, hks, hpk, _⟩ => ?_
      have h1 := fun hk => hlb.2.1 k hks hk
      have h2 := fun hk => hs _ k hlt hks hk
      have h3 := hlb.2.2 _ hlt (Nat.le_refl _)
      omega
  · rw [dif_neg hlt]
    refine hstop fun b hb ⟨k, hks, hp, _⟩ => ?_
    have := hlb.2.1 k hks (by omega)
    omega

def HasOut (ix : Idx) (r o : HasRec) : Prop := o.a = r.a ∧ (o.has = true ↔ (r.has = true ∨ Mem ix r.a))

theorem hasManyGo_cons (ix : Idx) (r : HasRec) (rs : List HasRec) (fi : Nat) (rem : Bool) :
    hasManyGo ix (r :: rs) fi rem =
      if r.has then (hasManyGo ix rs fi rem).map (fun (o, b) => (r :: o, b))
      else probe ix r.a fi (some (r :: rs, true))
        (fun fi' => (hasManyGo ix rs fi' true).map (fun (o, b) => (r :: o, b)))
        (fun fi' _ => (hasManyGo ix rs fi' rem).map (fun (o, b) => ({ r with has := true } :: o, b))) none := rfl

/-- `remaining` comes out exact, not only as an upper bound: it is set at a request the index does not hold and on the
early exit, which is only reached at an unanswered request. -/
theorem hasManyGo_spec (ix : Idx) (hwf : WF ix) (hs : SortedArr ix.pfx) :
    ∀ (rs : List HasRec) (fi : Nat) (rem : Bool), rs.Pairwise (fun x y => x.a.pre ≤ y.a.pre) →
      (∀ r ∈ rs, Carried ix fi r.a.pre) →
      ∃ out, hasManyGo ix rs fi rem = some (out, rem || out.any (!·.has)) ∧ All2 (HasOut ix) rs out := by
  intro rs
  induction rs with
  | nil =>
    intro fi rem _ _
    exact ⟨[], by simp [hasManyGo], .nil⟩
  | cons r rs ih =>
    intro fi rem hpw hcar
    have hpw' := (List.pairwise_cons.mp hpw)
    rw [hasManyGo_cons]
    split
    · rename_i hh
      obtain ⟨out, h1, h2⟩ := ih fi rem hpw'.2 (fun r' hr' => hcar r' (List.mem_cons_of_mem _ hr'))
      exact ⟨r :: out, by simp [h1, hh], .cons ⟨rfl, by simp [hh]⟩ h2⟩
    · rename_i hh
      -- the later requests have no smaller prefixes, so the search may go on from where this one leaves it
      have next : ∀ {fi'}, Carried ix fi' r.a.pre → ∀ rem : Bool, _ := fun hc rem =>
        ih _ rem hpw'.2 (fun r' hr' => hc.mono (hpw'.1 r' hr'))
      refine probe_cases (fun res => ∃ out, res = some (out, rem || out.any (!·.has)) ∧ All2 (HasOut ix) (r :: rs) out)
        ix hwf hs r.a fi (hcar r (List.mem_cons_self ..)) _ _ _ _ (fun hall => ?_) (fun fi' hc hnm => ?_)
        (fun fi' k hc hrow => ?_)
      · -- early exit: every remaining request lies beyond the last prefix of the index; `r` itself is left unanswered
        exact ⟨r :: rs, by simp [hh], All2.refl (HasOut ix) _ fun x hx => ⟨rfl, by
          simp [hall x.a ((List.mem_cons.mp hx).elim (fun e => e ▸ Nat.le_refl _) (hpw'.1 x))]⟩⟩
      · -- an absent request is passed on unchanged and forces `remaining`
        obtain ⟨out, h1, h2⟩ := next hc true
        exact ⟨r :: out, by simp [h1, hh], .cons ⟨rfl, by simp [hh, hnm]⟩ h2⟩
      · obtain ⟨out, h1, h2⟩ := next hc rem
        exact ⟨{ r with has := true } :: out, by simp [h1], .cons ⟨rfl, by simp; exact Or.inr ⟨k, hrow⟩⟩ h2⟩

def RowEntry (ix : Idx) (a : Addr) (off len : Nat) : Prop :=
  ∃ k, RowIs ix k a ∧ ∃ hk : k < ix.ord.size, indexEntry ix ix.ord[k] = some (off, len)

/-- relation between the requests, the updated requests and the offset records of `findOffsets` -/
inductive FoRel (ix : Idx) : List GetRec → List GetRec → List OffRec → Prop
  | nil : FoRel ix [] [] []
  | skip {r o rs os recs} : o = r → (r.found = true ∨ ¬ Mem ix r.a) → FoRel ix rs os recs →
      FoRel ix (r :: rs) (o :: os) recs
  | hit {r o rc rs os recs} : r.found = false → o = { r with found := true } → rc.a = r.a →
      RowEntry ix r.a rc.off rc.len → FoRel ix rs os recs → FoRel ix (r :: rs) (o :: os) (rc :: recs)

theorem FoRel.self (ix : Idx) : ∀ (rs : List GetRec), (∀ r ∈ rs, r.found = true ∨ ¬ Mem ix r.a) → FoRel ix rs rs []
  | [], _ => .nil
  | r :: rs, h => .skip rfl (h r (List.mem_cons_self ..)) (FoRel.self ix rs (fun y hy => h y (List.mem_cons_of_mem _ hy)))

theorem findOffsetsGo_cons (ix : Idx) (r : GetRec) (rs : List GetRec) (fi : Nat) (rem : Bool) :
    findOffsetsGo ix (r :: rs) fi rem =
      if r.found then (findOffsetsGo ix rs fi rem).map (fun (o, rc, b) => (r :: o, rc, b))
      else probe ix r.a fi (some (r :: rs, [], true))
        (fun fi' => (findOffsetsGo ix rs fi' true).map (fun (o, rc, b) => (r :: o, rc, b)))
        (fun fi' j => match ix.ord[j]? with
          | none => none
          | some o => match indexEntry ix o with
            | none => none
            | some (off, l) => (findOffsetsGo ix rs fi' rem).map
                (fun (o', rc, b) => ({ r with found := true } :: o', ⟨r.a, off, l⟩ :: rc, b))) none := rfl

theorem findOffsetsGo_spec (ix : Idx) (hwf : WF ix) (hs : SortedArr ix.pfx) :
    ∀ (rs : List GetRec) (fi : Nat) (rem : Bool), rs.Pairwise (fun x y => x.a.pre ≤ y.a.pre) →
      (∀ r ∈ rs, Carried ix fi r.a.pre) →
      ∃ out recs, findOffsetsGo ix rs fi rem = some (out, recs, rem || out.any (!·.found)) ∧ FoRel ix rs out recs := by
  intro rs
  induction rs with
  | nil =>
    intro fi rem _ _
    exact ⟨[], [], by simp [findOffsetsGo], .nil⟩
  | cons r rs ih =>
    intro fi rem hpw hcar
    have hpw' := (List.pairwise_cons.mp hpw)
    rw [findOffsetsGo_cons]
    split
    · rename_i hh
      obtain ⟨out, recs, h1, h2⟩ := ih fi rem hpw'.2 (fun r' hr' => hcar r' (List.mem_cons_of_mem _ hr'))
      exact ⟨r :: out, recs, by simp [h1, hh], .skip rfl (Or.inl hh) h2⟩
    · rename_i hh
      have next : ∀ {fi'}, Carried ix fi' r.a.pre → ∀ rem : Bool, _ := fun hc rem =>
        ih _ rem hpw'.2 (fun r' hr' => hc.mono (hpw'.1 r' hr'))
      refine probe_cases (fun res => ∃ out recs, res = some (out, recs, rem || out.any (!·.found)) ∧
          FoRel ix (r :: rs) out recs) ix hwf hs r.a fi
        (hcar r (List.mem_cons_self ..)) _ _ _ _ (fun hall => ?_) (fun fi' hc hnm => ?_) (fun fi' k hc hrow => ?_)
      · exact ⟨r :: rs, [], by simp [hh], FoRel.self ix _ fun r' hr' =>
          Or.inr (hall r'.a ((List.mem_cons.mp hr').elim (fun e => e ▸ Nat.le_refl _) (hpw'.1 r')))⟩
      · -- an absent request is passed on unchanged, yields no record and forces `remaining`
        obtain ⟨out, recs, h1, h2⟩ := next hc true
        exact ⟨r :: out, recs, by simp [h1, hh], .skip rfl (Or.inr hnm) h2⟩
      · -- a well-formed index has an ordinal in row `k` and an entry for that ordinal
        have hk2 : k < ix.ord.size := by rw [hwf.ord_size]; exact hrow.1
        have ho2 : ix.ord[k] < ix.len.size := by rw [hwf.len_size]; exact hwf.ord_lt k hk2
        have hent : indexEntry ix ix.ord[k] = some (offsetOf ix ix.ord[k], ix.len[ix.ord[k]]) := by
          simp [indexEntry, Array.getElem?_eq_getElem ho2]
        obtain ⟨out, recs, h1, h2⟩ := next hc rem
        exact ⟨{ r with found := true } :: out, ⟨r.a, offsetOf ix ix.ord[k], ix.len[ix.ord[k]]⟩ :: recs,
          by simp [Array.getElem?_eq_getElem hk2, hent, h1],
          .hit (by simpa using hh) rfl rfl ⟨k, hrow, hk2, hent⟩ h2⟩

end DoltVerif.NbsFiles
