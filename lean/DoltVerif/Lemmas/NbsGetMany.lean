import DoltVerif.Lemmas.NbsTable
import DoltVerif.Lemmas.NbsFindOffsets
/-! C01: `getMany` / `getManyCompressed` read the records that `findOffsets` located. -/
namespace DoltVerif.NbsFiles

theorem rowEntry_chunk (c : Codec) (chunks : List Chunk) (ix : Idx) (hix : IsIndexOf ix (chunks.map (recOf c)))
    (a : Addr) (off len : Nat) (h : RowEntry ix a off len) :
    ∃ o, ∃ ho : o < chunks.length, (chunks[o]).a = a ∧ off = offsetIn (chunks.map (recOf c)) o ∧
      len = (record c (chunks[o]).data).length := by
  obtain ⟨k, hrow, hk2, hent⟩ := h
  obtain ⟨ho, hiff⟩ := hix.rowIs_iff k hk2
  have ho' : ix.ord[k] < chunks.length := by simpa using ho
  simp only [hix.indexEntry _ ho, Option.some.injEq, Prod.mk.injEq] at hent
  exact ⟨ix.ord[k], ho', by simpa [recOf] using (hiff a).mp hrow, hent.1.symm, by simpa [recOf] using hent.2.symm⟩

theorem read_recs (c : Codec) (hc : c.Ok) (chunks : List Chunk) (ix : Idx)
    (hix : IsIndexOf ix (chunks.map (recOf c))) (tail : Bytes) :
    ∀ (recs : List OffRec), (∀ r ∈ recs, RowEntry ix r.a r.off r.len) →
      ∃ L : List (Addr × Bytes),
        recs.mapM (fun r => (readDecoded c (recordsOf c chunks ++ tail) r.off r.len).map (fun d => (r.a, d))) = .ok L ∧
        recs.mapM (fun r => (readCompressed c (recordsOf c chunks ++ tail) r.off r.len).map (fun z => (r.a, z)))
          = .ok (L.map (fun p => (p.1, c.cmp p.2))) ∧
        L.map (·.1) = recs.map (·.a) ∧ ∀ p ∈ L, ∃ ch ∈ chunks, p = (ch.a, ch.data)
  | [], _ => ⟨[], rfl, rfl, rfl, fun _ h => absurd h (by simp)⟩
  | r :: rest, h => by
    obtain ⟨L, h1, h2, h3, h4⟩ := read_recs c hc chunks ix hix tail rest (fun x hx => h x (List.mem_cons_of_mem _ hx))
    obtain ⟨o, ho, ha, hoff, hlen⟩ := rowEntry_chunk c chunks ix hix r.a r.off r.len (h r (List.mem_cons_self ..))
    have hcmp : readCompressed c (recordsOf c chunks ++ tail) r.off r.len = .ok (c.cmp (chunks[o]).data) := by
      rw [hoff, hlen]
      exact readCompressed_slice c hc _ _ _ (record_at c chunks tail o ho).1 (record_at c chunks tail o ho).2
    have hdec : readDecoded c (recordsOf c chunks ++ tail) r.off r.len = .ok (chunks[o]).data := by
      simp [readDecoded, hcmp, hc.dec_cmp]
    refine ⟨(r.a, (chunks[o]).data) :: L, ?_, ?_, by simp [h3], ?_⟩
    · simp only [List.mapM_cons, hdec, h1]; rfl
    · simp only [List.mapM_cons, hcmp, h2]; rfl
    · intro p hp
      rcases List.mem_cons.mp hp with rfl | hp
      · exact ⟨chunks[o], List.getElem_mem ho, by rw [ha]⟩
      · exact h4 p hp

theorem foRel_entries (ix : Idx) : ∀ (rs out : List GetRec) (recs : List OffRec), FoRel ix rs out recs →
    ∀ r ∈ recs, RowEntry ix r.a r.off r.len
  | _, _, _, .nil => fun _ h => absurd h (by simp)
  | _, _, _, .skip _ _ t => foRel_entries ix _ _ _ t
  | _, _, _, .hit _ _ ha he t => by
    intro r hr
    rcases List.mem_cons.mp hr with rfl | hr
    · rw [ha]; exact he
    · exact foRel_entries ix _ _ _ t r hr

end DoltVerif.NbsFiles
