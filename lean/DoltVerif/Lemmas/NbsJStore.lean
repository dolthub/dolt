import DoltVerif.Lemmas.NbsStore
/-! C01, journaling store: over histories it holds the written pairs, the flattened ones by 16 address bytes only. -/
namespace DoltVerif.NbsStore
open DoltVerif.NbsFiles (Addr)

/-- the journal store holds exactly the written pairs `w`, the flattened ones only by their first 16
address bytes -/
structure JHolds (s : JStore) (w : List (Addr × Bytes)) : Prop where
  mem_sub : ∀ e ∈ s.mem, e ∈ w
  novel_sub : ∀ e ∈ s.j.novel, e ∈ w
  tables_sub : ∀ e ∈ s.tables.flatten, e ∈ w
  cached_sub : ∀ e ∈ s.j.cached, ∃ a, a.a16 = e.1 ∧ (a, e.2) ∈ w
  cover : ∀ e ∈ w, s.has e.1 = true

theorem jsrc_has_iff (j : JSrc) (a : Addr) :
    j.has a = true ↔ a ∈ j.novel.map (·.1) ∨ a.a16 ∈ j.cached.map (·.1) := by
  unfold JSrc.has JSrc.get
  rw [← lookup_isSome_iff j.novel a, ← lookup_isSome_iff j.cached a.a16]
  cases j.novel.lookup a <;> simp

theorem jstore_has_eq (s : JStore) (a : Addr) : s.has a = (s.get a).isSome := by
  unfold JStore.has JStore.get Source.has Source.get JSrc.has
  rw [chainHas_eq]
  cases s.mem.lookup a <;> cases s.j.get a <;> simp

theorem jstore_has_iff (s : JStore) (a : Addr) : s.has a = true ↔
    a ∈ s.mem.map (·.1) ∨ a ∈ s.j.novel.map (·.1) ∨ a.a16 ∈ s.j.cached.map (·.1) ∨ a ∈ s.tables.flatten.map (·.1) := by
  simp only [JStore.has, Source.has, chainHas_eq, chainGet_eq, Bool.or_eq_true, lookup_isSome_iff, jsrc_has_iff, or_assoc]

theorem has_put (s : JStore) (a : Addr) (d : Bytes) (x : Addr) :
    (s.put a d).has x = true ↔ s.has x = true ∨ x = a := by
  fun_cases JStore.put s a d
  next hh => -- already in the memtable
    refine ⟨Or.inl, fun h => h.elim id fun e => e ▸ (jstore_has_iff s a).mpr (Or.inl ?_)⟩
    exact (lookup_isSome_iff s.mem a).mp (by simpa [Source.has] using hh)
  next => -- appended
    simp only [jstore_has_iff, List.map_append, List.mem_append, List.map_cons, List.map_nil, List.mem_singleton]
    constructor
    · rintro ((h | h) | h)
      · exact Or.inl (Or.inl h)
      · exact Or.inr h
      · exact Or.inl (Or.inr h)
    · rintro ((h | h) | h)
      · exact Or.inl (Or.inl h)
      · exact Or.inr h
      · exact Or.inl (Or.inr h)

/-- a commit only moves chunks (memtable → journal, unless already held) -/
theorem has_flush (s : JStore) (x : Addr) : s.flush.has x = true ↔ s.has x = true := by
  simp only [jstore_has_iff, JStore.flush, List.map_nil, List.not_mem_nil, false_or, List.map_append, List.mem_append]
  constructor
  · rintro ((h | h) | h)
    · obtain ⟨e, he, rfl⟩ := List.mem_map.mp h
      exact Or.inl (List.mem_map.mpr ⟨e, (List.mem_filter.mp (List.mem_reverse.mp he)).1, rfl⟩)
    · exact Or.inr (Or.inl h)
    · exact Or.inr (Or.inr h)
  · rintro (h | h | h)
    · obtain ⟨e, he, rfl⟩ := List.mem_map.mp h
      by_cases hf : (s.j.has e.1 || chainHas s.tables e.1) = true
      · rcases Bool.or_eq_true_iff.mp hf with hj | ht
        · rcases (jsrc_has_iff s.j e.1).mp hj with c | c
          · exact Or.inl (Or.inr c)
          · exact Or.inr (Or.inl c)
        · rw [chainHas_eq, chainGet_eq] at ht
          exact Or.inr (Or.inr ((lookup_isSome_iff _ _).mp ht))
      · exact Or.inl (Or.inl (List.mem_map.mpr ⟨e, List.mem_reverse.mpr (List.mem_filter.mpr ⟨he, by simp [hf]⟩), rfl⟩))
    · exact Or.inl (Or.inr h)
    · exact Or.inr h

/-- not an `iff`: `flatten` adds the addresses that share their first 16 bytes with a novel one -/
theorem has_flatten (s : JStore) (x : Addr) (h : s.has x = true) : ({ s with j := s.j.flatten } : JStore).has x = true := by
  rw [jstore_has_iff] at h ⊢
  simp only [JSrc.flatten, List.map_nil, List.not_mem_nil, false_or, List.map_append, List.mem_append, List.map_map]
  rcases h with h | h | h | h
  · exact Or.inl h
  · obtain ⟨e, he, rfl⟩ := List.mem_map.mp h
    exact Or.inr (Or.inl (Or.inl (List.mem_map.mpr ⟨e, he, rfl⟩)))
  · exact Or.inr (Or.inl (Or.inr h))
  · exact Or.inr (Or.inr h)

theorem jholds_step (s : JStore) (w : List (Addr × Bytes)) (h : JHolds s w) (op : JOp) :
    JHolds (s.apply op) (jwritten [op] ++ w) := by
  cases op with
  | put a d =>
    simp only [JStore.apply, jwritten, List.nil_append, List.cons_append]
    obtain ⟨hj, ht, hm⟩ : (s.put a d).j = s.j ∧ (s.put a d).tables = s.tables ∧
        ∀ e ∈ (s.put a d).mem, e ∈ s.mem ∨ e = (a, d) := by
      fun_cases JStore.put s a d
      · exact ⟨rfl, rfl, fun e he => Or.inl he⟩
      · exact ⟨rfl, rfl, fun e he => (List.mem_append.mp he).imp id List.eq_of_mem_singleton⟩
    refine ⟨fun e he => ?_, fun e he => List.mem_cons_of_mem _ (h.novel_sub e (hj ▸ he)),
      fun e he => List.mem_cons_of_mem _ (h.tables_sub e (ht ▸ he)), fun e he => ?_, fun e he => ?_⟩
    · exact (hm e he).elim (fun h' => List.mem_cons_of_mem _ (h.mem_sub e h')) (fun e' => e' ▸ List.mem_cons_self ..)
    · obtain ⟨a', h1, h2⟩ := h.cached_sub e (hj ▸ he)
      exact ⟨a', h1, List.mem_cons_of_mem _ h2⟩
    · exact (has_put s a d e.1).mpr
        ((List.mem_cons.mp he).elim (fun e' => Or.inr (e' ▸ rfl)) (fun he => Or.inl (h.cover e he)))
  | commit =>
    simp only [JStore.apply, jwritten, List.nil_append]
    refine ⟨fun e he => absurd he (by simp [JStore.flush]), fun e he => ?_, h.tables_sub, h.cached_sub,
      fun e he => (has_flush s e.1).mpr (h.cover e he)⟩
    rcases List.mem_append.mp he with he | he
    · exact h.mem_sub e (List.mem_filter.mp (List.mem_reverse.mp he)).1
    · exact h.novel_sub e he
  | flatten =>
    simp only [JStore.apply, jwritten, List.nil_append]
    refine ⟨h.mem_sub, fun e he => absurd he (by simp [JSrc.flatten]), h.tables_sub, fun e he => ?_,
      fun e he => has_flatten s e.1 (h.cover e he)⟩
    rcases List.mem_append.mp he with he | he
    · obtain ⟨x, hx, rfl⟩ := List.mem_map.mp he
      exact ⟨x.1, rfl, h.novel_sub x hx⟩
    · exact h.cached_sub e he

theorem JHolds.congr {s : JStore} {w w' : List (Addr × Bytes)} (h : JHolds s w) (hw : ∀ e, e ∈ w ↔ e ∈ w') :
    JHolds s w' :=
  ⟨fun e he => (hw e).mp (h.mem_sub e he), fun e he => (hw e).mp (h.novel_sub e he),
    fun e he => (hw e).mp (h.tables_sub e he),
    fun e he => let ⟨a, h1, h2⟩ := h.cached_sub e he; ⟨a, h1, (hw _).mp h2⟩,
    fun e he => h.cover e ((hw e).mpr he)⟩

theorem jholds_foldl : ∀ (ops : List JOp) (s : JStore) (w : List (Addr × Bytes)), JHolds s w →
    JHolds (ops.foldl JStore.apply s) (w ++ jwritten ops)
  | [], _, _, h => by rwa [jwritten, List.append_nil]
  | op :: rest, s, w, h => (jholds_foldl rest _ _ (jholds_step s w h op)).congr fun e => by
    cases op <;> simp [jwritten, or_left_comm]

theorem jholds_run (ops : List JOp) : JHolds (jrun ops) (jwritten ops) :=
  List.nil_append (jwritten ops) ▸ jholds_foldl ops _ [] ⟨by simp, by simp, by simp, by simp, by simp⟩

theorem jstore_get_mem {s : JStore} {a : Addr} {d : Bytes} (h : s.get a = some d) :
    (a, d) ∈ s.mem ∨ (a, d) ∈ s.j.novel ∨ (a.a16, d) ∈ s.j.cached ∨ (a, d) ∈ s.tables.flatten := by
  unfold JStore.get Source.get JSrc.get at h
  split at h
  · exact Or.inl (mem_of_lookup (h ▸ ‹_›))
  · split at h
    · rename_i hj
      split at hj
      · exact Or.inr (Or.inl (mem_of_lookup (h ▸ hj ▸ ‹_›)))
      · exact Or.inr (Or.inr (Or.inl (mem_of_lookup (h ▸ hj))))
    · exact Or.inr (Or.inr (Or.inr (mem_of_lookup (chainGet_eq .. ▸ h))))

theorem jstore_get_sound (ops : List JOp) (a : Addr) (hno : ∀ x ∈ jwritten ops, x.1.a16 = a.a16 → x.1 = a)
    (d : Bytes) (h : (jrun ops).get a = some d) : (a, d) ∈ jwritten ops := by
  have hw := jholds_run ops
  rcases jstore_get_mem h with h | h | h | h
  · exact hw.mem_sub _ h
  · exact hw.novel_sub _ h
  · -- the cached chunk was written under an address with the same first 16 bytes, which is then `a`
    obtain ⟨a', h1, h2⟩ := hw.cached_sub _ h
    exact hno (a', d) h2 h1 ▸ h2
  · exact hw.tables_sub _ h

theorem jstore_get_complete (ops : List JOp) (a : Addr) (h : a ∈ (jwritten ops).map (·.1)) :
    ((jrun ops).get a).isSome := by
  obtain ⟨e, he, rfl⟩ := List.mem_map.mp h
  rw [← jstore_has_eq]
  exact (jholds_run ops).cover e he

theorem jstore_hasMany_eq (s : JStore) (as : List Addr) : s.hasMany as = as.filter (fun a => !s.has a) := by
  unfold JStore.hasMany
  rw [chainHasMany_eq, srcHasMany_eq]
  simp only [List.map_map, List.filter_map, Function.comp_def, Bool.false_or, List.map_id', JStore.has, Bool.or_assoc]

def JOp.isFlatten : JOp → Bool
  | .flatten => true
  | _ => false

theorem cached_nil_foldl : ∀ (ops : List JOp) (s : JStore), s.j.cached = [] → (∀ op ∈ ops, op.isFlatten = false) →
    (ops.foldl JStore.apply s).j.cached = []
  | [], _, h, _ => h
  | op :: rest, s, h, hn => by
    apply cached_nil_foldl rest (s.apply op) _ (fun o ho => hn o (List.mem_cons_of_mem _ ho))
    have := hn op (List.mem_cons_self ..)
    cases op with
    | put a d => simp only [JStore.apply, JStore.put]; split <;> exact h
    | commit => simpa [JStore.apply, JStore.flush] using h
    | flatten => simp [JOp.isFlatten] at this

theorem jstore_iterate_sound (ops : List JOp) (hn : ∀ op ∈ ops, op.isFlatten = false) (p : Addr × Bytes)
    (hp : p ∈ (jrun ops).j.iterate) : p ∈ jwritten ops := by
  have hc : (jrun ops).j.cached = [] := cached_nil_foldl ops _ rfl hn
  simp only [JSrc.iterate, hc, List.map_nil, List.append_nil] at hp
  exact (jholds_run ops).novel_sub p hp

end DoltVerif.NbsStore
