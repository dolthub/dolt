import DoltVerif.Lemmas.NbsBytes
/-! C06: `parseIndex` reads back what `serializeIndex` writes (`parse_serialize`). -/
namespace DoltVerif.NbsFiles

def footerBytes (n unc : Nat) : List UInt8 := beBytes uint32Size n ++ (beBytes uint64Size unc ++ magicNumber)

theorem footerBytes_length (n unc : Nat) : (footerBytes n unc).length = footerSize := by
  simp [footerBytes, footerSize, Nat.add_assoc]

theorem readFooter_append (x : List UInt8) (n unc : Nat) (hn : n < 256 ^ 4) (hu : unc < 256 ^ 8) :
    readFooter (x ++ footerBytes n unc) = .ok (n, unc) := by
  have hl : (x ++ footerBytes n unc).length = x.length + footerSize := by
    rw [List.length_append, footerBytes_length]
  have hm : (footerBytes n unc).drop (uint32Size + uint64Size) = magicNumber := by
    rw [footerBytes, drop_add_append (beBytes_length ..), drop_beBytes]
  unfold readFooter
  rw [hl, if_neg (by omega), Nat.add_sub_cancel, List.drop_left]
  simp only [hm, bne_self_eq_false, Bool.false_eq_true, if_false]
  rw [footerBytes, beVal_take_beBytes (k := uint32Size) hn, drop_beBytes, beVal_take_beBytes (k := uint64Size) hu]

/-- field bounds of an index that can be written without truncation -/
structure Bounded (ix : Idx) : Prop where
  ord_size : ix.ord.size = ix.pfx.size
  suf_size : ix.suf.size = ix.pfx.size
  len_size : ix.len.size = ix.pfx.size
  pfx_lt : ∀ x ∈ ix.pfx.toList, x < 256 ^ prefixLen
  ord_lt : ∀ x ∈ ix.ord.toList, x < 256 ^ ordinalSize
  suf_lt : ∀ x ∈ ix.suf.toList, x < 256 ^ suffixLen
  len_lt : ∀ x ∈ ix.len.toList, x < 256 ^ lengthSize
  count_lt : ix.pfx.size < 256 ^ 4
  unc_lt : ix.unc < 256 ^ 8

theorem serializeIndex_eq (ix : Idx) : serializeIndex ix =
    (ix.pfx.toList.zip ix.ord.toList).flatMap (pairBytes prefixLen ordinalSize) ++
      (ix.len.toList.flatMap (beBytes lengthSize) ++
        (ix.suf.toList.flatMap (beBytes suffixLen) ++ footerBytes ix.count ix.unc)) := by
  simp only [serializeIndex, footerBytes, pairBytes_eq, List.append_assoc]

theorem parseIndex_regions (before T L S : List UInt8) (n unc : Nat) (tu : List (Nat × Nat)) (lens sufs : List Nat)
    (hT : T.length = lengthsOffset n) (hL : L.length = n * lengthSize) (hS : S.length = n * suffixLen)
    (h1 : ∀ r, tuples n (T ++ r) = tu) (h2 : ∀ r, fields lengthSize n (L ++ r) = lens)
    (h3 : ∀ r, fields suffixLen n (S ++ r) = sufs) (hn : n < 256 ^ 4) (hu : unc < 256 ^ 8) :
    parseIndex (before ++ (T ++ (L ++ (S ++ footerBytes n unc)))) =
      .ok ⟨(tu.map (·.1)).toArray, (tu.map (·.2)).toArray, sufs.toArray, lens.toArray, unc⟩ := by
  have hrf : readFooter (before ++ (T ++ (L ++ (S ++ footerBytes n unc)))) = .ok (n, unc) := by
    simpa only [List.append_assoc] using readFooter_append (before ++ T ++ L ++ S) n unc hn hu
  have hlen : (before ++ (T ++ (L ++ (S ++ footerBytes n unc)))).length =
      before.length + (indexSize n + footerSize) := by
    simp only [List.length_append, hT, hL, hS, footerBytes_length, indexSize, lengthsOffset, Nat.mul_add]
    omega
  have hso : suffixesOffset n = lengthsOffset n + n * lengthSize := Nat.mul_add ..
  unfold parseIndex
  rw [hrf]
  simp only [bind, Except.bind, hlen]
  rw [if_neg (by omega), Nat.add_sub_cancel, List.drop_left, h1, List.drop_left' hT, h2, hso,
    drop_add_append hT, List.drop_left' hL, h3]

/-- `before`: the chunk records that precede the index in a table file -/
theorem parse_serialize (ix : Idx) (hb : Bounded ix) (before : List UInt8) :
    parseIndex (before ++ serializeIndex ix) = .ok ix := by
  have hz : (ix.pfx.toList.zip ix.ord.toList).length = ix.count := by simp [hb.ord_size, Idx.count]
  have hl : ix.len.toList.length = ix.count := by simp [hb.len_size, Idx.count]
  have hs : ix.suf.toList.length = ix.count := by simp [hb.suf_size, Idx.count]
  rw [serializeIndex_eq, parseIndex_regions before _ _ _ ix.count ix.unc (ix.pfx.toList.zip ix.ord.toList)
    ix.len.toList ix.suf.toList
    (by rw [flatMap_length_const _ _ (pairBytes_length _ _), hz]; rfl)
    (by rw [flatMap_length_const _ _ (beBytes_length _), hl])
    (by rw [flatMap_length_const _ _ (beBytes_length _), hs])
    (fun r => hz ▸ tuples_flatMap _ r fun x hx => ⟨hb.pfx_lt _ (List.of_mem_zip hx).1, hb.ord_lt _ (List.of_mem_zip hx).2⟩)
    (fun r => hl ▸ fields_flatMap _ _ r hb.len_lt) (fun r => hs ▸ fields_flatMap _ _ r hb.suf_lt)
    hb.count_lt hb.unc_lt,
    List.map_fst_zip (by simp [hb.ord_size]), List.map_snd_zip (by simp [hb.ord_size])]

end DoltVerif.NbsFiles
