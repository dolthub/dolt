import DoltVerif.Lemmas.NbsFiles
import DoltVerif.Lemmas.Div64
/-! C01: `prollyBinSearch` neither panics nor loops and returns the lower bound on every sorted slice. -/
namespace DoltVerif.NbsFiles

theorem wsub_of_le {a b : Nat} (h : b ≤ a) : wsub a b = a - b := by simp [wsub, h]

theorem wsub_add_cancel (a b : Nat) : wsub (a + b) b = a := by
  rw [wsub_of_le (Nat.le_add_left ..), Nat.add_sub_cancel]

theorem interp_le (t lo hi n : Nat) (h1 : lo < t) (h2 : t ≤ hi) : interp t lo hi n ≤ n := by
  unfold interp
  rw [wsub_of_le (Nat.le_of_lt h1), wsub_of_le (by omega)]
  exact interp_quot_le (by omega)

/-- the loop invariant of `prollyBinSearch`: `lo`, `hi` are the values at rows `lft < r' ≤ rht` with `lo < t ≤ hi` (`r'` is
`rht - 1` at the start, where `hi` is the last value, and `rht` once a left move has put the right end on a probed row) -/
structure PInv (s : Array Nat) (t lft rht lo hi r' : Nat) : Prop where
  hl : lft < s.size
  hlo : s[lft]? = some lo
  lo_lt : lo < t
  le_hi : t ≤ hi
  hr : rht ≤ s.size
  hr' : r' ≤ rht
  lt_r' : lft < r'
  hhi : s[r']? = some hi

/-- `bits.Div64` does not panic: the divisor `hi - lo` is positive and exceeds the high word of the product -/
theorem div64_ok {t lo hi n : Nat} (h1 : lo < t) (h2 : t ≤ hi) (hn : n < 18446744073709551616) :
    wsub hi lo ≠ 0 ∧ ¬ wsub hi lo ≤ wsub t lo * n / 18446744073709551616 := by
  rw [wsub_of_le (Nat.le_of_lt h1), wsub_of_le (by omega)]
  exact ⟨by omega, Nat.not_le.mpr (interp_high_lt (by omega) (by omega) hn)⟩

theorem pbsLoop_spec (s : Array Nat) (t : Nat) (hs : SortedArr s) (hsz : s.size < 18446744073709551616)
    (lft rht lo hi r' : Nat) (inv : PInv s t lft rht lo hi r') :
    ∃ r, pbsLoop s t lft rht lo hi = some r ∧ IsLowerBound s t r := by
  generalize hd : rht - lft = d
  induction d using Nat.strongRecOn generalizing lft rht lo hi r' with
  | _ d ih =>
    obtain ⟨hl, hlo, lo_lt, le_hi, hr, hr', lt_r', hhi⟩ := inv
    obtain ⟨hr's, hhiv⟩ := Array.getElem?_eq_some_iff.mp hhi
    obtain ⟨_, hlov⟩ := Array.getElem?_eq_some_iff.mp hlo
    have hlt : lft < rht := Nat.lt_of_lt_of_le lt_r' hr'
    have hdiv := div64_ok (n := rht - lft - 1) lo_lt le_hi
      (Nat.lt_of_le_of_lt (Nat.le_trans (Nat.sub_le ..) (Nat.le_trans (Nat.sub_le ..) hr)) hsz)
    -- the probe `m`: all that matters of the interpolation is that it stays inside `[lft, rht)`
    obtain ⟨m, hm, hlm, hmr⟩ : ∃ m, interp t lo hi (rht - lft - 1) + lft = m ∧ lft ≤ m ∧ m < rht :=
      ⟨_, rfl, Nat.le_add_left .., by have := interp_le t lo hi (rht - lft - 1) lo_lt le_hi; omega⟩
    have hms : m < s.size := Nat.lt_of_lt_of_le hmr hr
    rw [pbsLoop]
    simp only [hlt, if_true, hdiv.1, if_false, hdiv.2, hm, Array.getElem?_eq_getElem hms, hmr]
    by_cases hv : s[m] < t
    · have hmr' : m < r' := hs.lt_of_lt hms hr's (hhiv ▸ Nat.lt_of_lt_of_le hv le_hi)
      have hnx : m + 1 < s.size := Nat.lt_of_le_of_lt hmr' hr's
      simp only [hv, hnx, if_true, Array.getElem?_eq_getElem hnx]
      by_cases hge : s[m + 1] ≥ t
      · simp only [hge, if_true]
        exact ⟨_, rfl, lb_of_adjacent s t _ hs hnx (Nat.succ_pos m) hv hge⟩
      · simp only [hge, if_false]
        exact ih (rht - (m + 1)) (hd ▸ Nat.sub_lt_sub_left hlt (Nat.lt_succ_of_le hlm)) _ rht _ hi r'
          ⟨hnx, Array.getElem?_eq_getElem hnx, Nat.lt_of_not_le hge, le_hi, hr, hr',
            hs.lt_of_lt hnx hr's (hhiv ▸ Nat.lt_of_lt_of_le (Nat.lt_of_not_le hge) le_hi), hhi⟩ rfl
    · simp only [hv, if_false]
      exact ih (m - lft) (hd ▸ Nat.sub_lt_sub_right hlm hmr) lft _ lo _ _
        ⟨hl, hlo, lo_lt, Nat.le_of_not_lt hv, Nat.le_of_lt hms, Nat.le_refl _,
          hs.lt_of_lt hl hms (hlov ▸ Nat.lt_of_lt_of_le lo_lt (Nat.le_of_not_lt hv)),
          Array.getElem?_eq_getElem hms⟩ rfl

theorem prollyBinSearch_spec (s : Array Nat) (t : Nat) (hs : SortedArr s) (hsz : s.size < 18446744073709551616) :
    ∃ r, prollyBinSearch s t = some r ∧ IsLowerBound s t r := by
  fun_cases prollyBinSearch s t
  next => exact ⟨0, rfl, by omega, fun k hk _ => absurd hk (by omega), fun k hk _ => absurd hk (by omega)⟩
  next hgt => -- beyond the last element
    exact ⟨_, rfl, Nat.le_refl _, fun k hk _ => Nat.lt_of_le_of_lt (hs k _ hk (by omega) (Nat.le_sub_one_of_lt hk)) hgt,
      fun k hk h => absurd hk (Nat.not_lt.mpr h)⟩
  next hge => -- not beyond the last, not above the first element
    exact ⟨0, rfl, Nat.zero_le _, fun k _ h => absurd h (Nat.not_lt_zero k),
      fun k hk _ => Nat.le_trans hge (hs 0 k (Nat.zero_lt_of_lt hk) hk (Nat.zero_le k))⟩
  next h0 _ _ hgt hge => -- between the first and the last: the loop
    have hlast : s.size - 1 < s.size := by omega
    have h0' : 0 < s.size := Nat.pos_of_ne_zero h0
    have hlo : s[0] < t := Nat.lt_of_not_le hge
    have hhi : t ≤ s[s.size - 1] := Nat.le_of_not_lt hgt
    exact pbsLoop_spec s t hs hsz 0 s.size _ _ (s.size - 1)
      ⟨h0', Array.getElem?_eq_getElem h0', hlo, hhi, Nat.le_refl _, Nat.sub_le ..,
       hs.lt_of_lt h0' hlast (Nat.lt_of_lt_of_le hlo hhi), Array.getElem?_eq_getElem hlast⟩

end DoltVerif.NbsFiles
