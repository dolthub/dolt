import DoltVerif.Model.NbsStore
import DoltVerif.Lemmas.AssocList
/-! C01, store level: all read paths agree with `Store.abs`; over histories the store holds the live written pairs. -/
namespace DoltVerif.NbsStore
open DoltVerif.NbsFiles (Addr)

theorem lookup_isSome_iff {κ β : Type} [BEq κ] [LawfulBEq κ] (l : List (κ × β)) (a : κ) :
    (l.lookup a).isSome ↔ a ∈ l.map (·.1) := by
  rw [List.lookup_isSome_iff, List.mem_map]
  exact ⟨fun ⟨p, hp, e⟩ => ⟨p, hp, (beq_iff_eq.mp e).symm⟩, fun ⟨p, hp, e⟩ => ⟨p, hp, beq_iff_eq.mpr e.symm⟩⟩

theorem chainGet_eq (ss : List Source) (a : Addr) : chainGet ss a = ss.flatten.lookup a := by
  induction ss with
  | nil => rfl
  | cons s ss ih =>
    simp only [chainGet, List.flatten_cons, List.lookup_append, Source.get, ih]
    cases s.lookup a <;> simp

theorem chainHas_eq (ss : List Source) (a : Addr) : chainHas ss a = (chainGet ss a).isSome := by
  induction ss with
  | nil => rfl
  | cons s ss ih =>
    simp only [chainHas, chainGet, Source.has, Source.get, ih]
    cases s.lookup a <;> simp

theorem get_eq_abs (s : Store) (a : Addr) : s.get a = s.abs a := chainGet_eq _ _

theorem has_eq_abs (s : Store) (a : Addr) : s.has a = (s.abs a).isSome := by
  unfold Store.has; rw [chainHas_eq]; exact congrArg _ (chainGet_eq _ _)

theorem srcGetMany_flags (src : Source) : ∀ reqs, (srcGetMany src reqs).1 = reqs.map (fun r => (r.1, r.2 || src.has r.1))
  | [] => rfl
  | (a, f) :: rest => by
    cases f <;> cases h : src.lookup a <;> simp [srcGetMany, srcGetMany_flags src rest, Source.has, Source.get, h]

theorem srcGetMany_delivered (src : Source) : ∀ reqs,
    (srcGetMany src reqs).2 = reqs.filterMap (fun r => if r.2 then none else (src.get r.1).map (fun d => (r.1, d)))
  | [] => rfl
  | (a, f) :: rest => by
    cases f <;> cases h : src.lookup a <;> simp [srcGetMany, srcGetMany_delivered src rest, Source.get, h]

theorem Source.has_eq_false (s : Source) (a : Addr) : s.has a = false ↔ s.get a = none := by
  unfold Source.has Source.get; cases s.lookup a <;> simp

theorem srcGetMany_mem (src : Source) (reqs : List (Addr × Bool)) (p : Addr × Bytes) :
    p ∈ (srcGetMany src reqs).2 ↔ (p.1, false) ∈ reqs ∧ src.get p.1 = some p.2 := by
  rw [srcGetMany_delivered, List.mem_filterMap]
  constructor
  · rintro ⟨⟨a, f⟩, hr, hv⟩
    cases f with
    | true => simp at hv
    | false =>
      obtain ⟨d, hd, rfl⟩ := Option.map_eq_some_iff.mp hv
      exact ⟨hr, hd⟩
  · rintro ⟨hr, hg⟩
    exact ⟨(p.1, false), hr, by simp [hg]⟩

theorem srcGetMany_pending (src : Source) (reqs : List (Addr × Bool)) (a : Addr) :
    (a, false) ∈ (srcGetMany src reqs).1 ↔ (a, false) ∈ reqs ∧ src.get a = none := by
  rw [srcGetMany_flags, List.mem_map]
  constructor
  · rintro ⟨⟨a', f⟩, hr, he⟩
    simp only [Prod.mk.injEq, Bool.or_eq_false_iff] at he
    obtain ⟨rfl, rfl, hh⟩ := he
    exact ⟨hr, (src.has_eq_false a').mp hh⟩
  · rintro ⟨hr, hg⟩
    exact ⟨(a, false), hr, by simp [(src.has_eq_false a).mpr hg]⟩

theorem chainGetMany_mem : ∀ (ss : List Source) (reqs : List (Addr × Bool)) (p : Addr × Bytes),
    p ∈ chainGetMany ss reqs ↔ (p.1, false) ∈ reqs ∧ chainGet ss p.1 = some p.2
  | [], reqs, p => by simp [chainGetMany, chainGet]
  | s :: ss, reqs, p => by
    rw [chainGetMany, List.mem_append, srcGetMany_mem, chainGetMany_mem ss, srcGetMany_pending, chainGet]
    cases s.get p.1 <;> simp

theorem getMany_spec (s : Store) (as : List Addr) (p : Addr × Bytes) :
    p ∈ s.getMany as ↔ p.1 ∈ as ∧ s.abs p.1 = some p.2 := by
  unfold Store.getMany
  rw [chainGetMany_mem, ← get_eq_abs]
  simp [Store.get]

theorem srcHasMany_eq (src : Source) : ∀ reqs, srcHasMany src reqs = reqs.map (fun r => (r.1, r.2 || src.has r.1))
  | [] => rfl
  | (a, f) :: rest => by simp [srcHasMany, srcHasMany_eq src rest]

theorem chainHasMany_eq : ∀ (ss : List Source) (reqs : List (Addr × Bool)),
    chainHasMany ss reqs = reqs.map (fun r => (r.1, r.2 || chainHas ss r.1))
  | [], reqs => by simp [chainHasMany, chainHas]
  | s :: ss, reqs => by
    simp [chainHasMany, chainHasMany_eq ss, srcHasMany_eq, chainHas, List.map_map, Function.comp_def, Bool.or_assoc]

theorem hasMany_spec (s : Store) (as : List Addr) : s.hasMany as = as.filter (fun a => (s.abs a).isNone) := by
  unfold Store.hasMany
  rw [chainHasMany_eq]
  simp only [List.map_map, List.filter_map, Function.comp_def, Bool.false_or]
  simp only [List.map_id']
  congr 1
  funext a
  have := has_eq_abs s a
  unfold Store.has at this
  simp only [this]
  cases s.abs a <;> rfl

def Store.keys (s : Store) : List Addr := s.entries.map (·.1)

theorem abs_isSome_iff (s : Store) (a : Addr) : (s.abs a).isSome ↔ a ∈ s.keys := lookup_isSome_iff _ _

theorem abs_mem (s : Store) (a : Addr) (d : Bytes) (h : s.abs a = some d) : (a, d) ∈ s.entries := mem_of_lookup h

theorem Store.entries_eq (s : Store) : s.entries = s.mem ++ (s.novel ++ s.upstream).flatten := by
  simp [Store.entries]

/-- Each operation takes the pairs a store holds to a list that covers the old one (with the new pair in front, for a
write); the specification list is taken along. -/
def Covers (l₁ l₂ : List (Addr × Bytes)) : Prop :=
  (∀ e ∈ l₁, e ∈ l₂) ∧ ∀ e ∈ l₂, e.1 ∈ l₁.map (·.1)

theorem Covers.of_mem_iff {l₁ l₂ : List (Addr × Bytes)} (h : ∀ e, e ∈ l₁ ↔ e ∈ l₂) : Covers l₁ l₂ :=
  ⟨fun e => (h e).mp, fun e he => List.mem_map.mpr ⟨e, (h e).mpr he, rfl⟩⟩

theorem Covers.trans {l₁ l₂ l₃ : List (Addr × Bytes)} (h : Covers l₁ l₂) (h' : Covers l₂ l₃) : Covers l₁ l₃ :=
  ⟨fun e he => h'.1 e (h.1 e he), fun e he => by
    obtain ⟨e', he', hk⟩ := List.mem_map.mp (h'.2 e he)
    exact hk ▸ h.2 e' he'⟩

theorem Covers.cons (x : Addr × Bytes) {l₁ l₂ : List (Addr × Bytes)} (h : Covers l₁ l₂) : Covers (x :: l₁) (x :: l₂) :=
  ⟨fun e he => (List.mem_cons.mp he).elim (fun e' => e' ▸ List.mem_cons_self ..) fun he => List.mem_cons_of_mem _ (h.1 e he),
    fun e he => (List.mem_cons.mp he).elim (fun e' => e' ▸ List.mem_cons_self ..) fun he => List.mem_cons_of_mem _ (h.2 e he)⟩

theorem Covers.filter (keep : Addr → Bool) {l₁ l₂ : List (Addr × Bytes)} (h : Covers l₁ l₂) :
    Covers (l₁.filter (fun e => keep e.1)) (l₂.filter (fun e => keep e.1)) :=
  ⟨fun e he => List.mem_filter.mpr ⟨h.1 e (List.mem_filter.mp he).1, (List.mem_filter.mp he).2⟩, fun e he => by
    obtain ⟨e', he', hk⟩ := List.mem_map.mp (h.2 e (List.mem_filter.mp he).1)
    exact List.mem_map.mpr ⟨e', List.mem_filter.mpr ⟨he', by rw [hk]; exact (List.mem_filter.mp he).2⟩, hk⟩⟩

theorem Covers.keys_iff {l₁ l₂ : List (Addr × Bytes)} (h : Covers l₁ l₂) (k : Addr) :
    k ∈ l₁.map (·.1) ↔ k ∈ l₂.map (·.1) :=
  ⟨fun hk => let ⟨e, he, hk⟩ := List.mem_map.mp hk; List.mem_map.mpr ⟨e, h.1 e he, hk⟩,
    fun hk => let ⟨e, he, hk⟩ := List.mem_map.mp hk; hk ▸ h.2 e he⟩

theorem put_covers (s : Store) (a : Addr) (d : Bytes) : Covers (s.put a d).entries ((a, d) :: s.entries) := by
  unfold Store.put
  split
  · -- `chunkExists`: the memtable has the address already
    rename_i h
    refine ⟨fun e he => List.mem_cons_of_mem _ he, fun e he => (List.mem_cons.mp he).elim (fun e' => ?_)
      fun he => List.mem_map.mpr ⟨e, he, rfl⟩⟩
    rw [e', Store.entries_eq, List.map_append]
    exact List.mem_append_left _ ((lookup_isSome_iff s.mem a).mp h)
  · -- the new pair goes to the end of the memtable: the same pairs in another order
    refine .of_mem_iff fun e => List.Perm.mem_iff ?_
    simp only [Store.entries_eq, List.append_assoc]
    exact List.perm_middle

theorem flush_covers (s : Store) : Covers s.flush.entries s.entries := by
  have hE : s.flush.entries = s.mem.filter (fun e => !chainHas (s.novel ++ s.upstream) e.1) ++ (s.novel ++ s.upstream).flatten := by
    simp [Store.flush, Store.entries]
  rw [hE, s.entries_eq]
  refine ⟨fun e he => ?_, fun e he => ?_⟩
  · exact (List.mem_append.mp he).elim (fun h => List.mem_append_left _ (List.mem_filter.mp h).1) (List.mem_append_right _)
  · rw [List.map_append]
    rcases List.mem_append.mp he with h | h
    · -- a memtable chunk is written out unless a table has its address already
      by_cases hc : chainHas (s.novel ++ s.upstream) e.1 = true
      · rw [chainHas_eq, chainGet_eq] at hc
        exact List.mem_append_right _ ((lookup_isSome_iff _ _).mp hc)
      · exact List.mem_append_left _ (List.mem_map.mpr ⟨e, List.mem_filter.mpr ⟨h, by simp [hc]⟩, rfl⟩)
    · exact List.mem_append_right _ (List.mem_map.mpr ⟨e, h, rfl⟩)

theorem reopen_entries (s : Store) : s.reopen.entries = s.flush.entries := by
  simp [Store.reopen, Store.flush, Store.entries]

theorem conjoin_entries (s : Store) (sel : Source → Bool) :
    (∀ e, e ∈ (s.conjoin sel).entries ↔ e ∈ s.entries) := by
  intro e
  have hm : e ∈ ((s.upstream.filter sel).flatten :: s.upstream.filter (fun t => !sel t)).flatten ↔ e ∈ s.upstream.flatten := by
    simp only [List.flatten_cons, List.mem_append, List.mem_flatten, List.mem_filter]
    constructor
    · rintro (⟨l, ⟨hl, _⟩, he⟩ | ⟨l, ⟨hl, _⟩, he⟩) <;> exact ⟨l, hl, he⟩
    · rintro ⟨l, hl, he⟩
      by_cases h : sel l = true
      · exact Or.inl ⟨l, ⟨hl, h⟩, he⟩
      · exact Or.inr ⟨l, ⟨hl, by simp [h]⟩, he⟩
  simp only [Store.conjoin, Store.entries, List.flatten_cons, List.flatten_append, List.mem_append] at hm ⊢
  rw [hm]

theorem gc_entries (s : Store) (keep : Addr → Bool) :
    (s.gc keep).entries = s.entries.filter (fun e => keep e.1) := by
  simp [Store.gc, Store.entries]

theorem gc_abs (s : Store) (keep : Addr → Bool) (a : Addr) :
    (s.gc keep).abs a = if keep a then s.abs a else none := by
  unfold Store.abs
  rw [gc_entries]
  exact lookup_filter_key keep s.entries a

def Holds (s : Store) (l : List (Addr × Bytes)) : Prop := Covers s.entries l

theorem holds_step (s : Store) (l : List (Addr × Bytes)) (h : Holds s l) (op : Op) :
    Holds (s.apply op) (liveStep l op) := by
  cases op with
  | put a d => exact (put_covers s a d).trans (h.cons _)
  | commit => exact (flush_covers s).trans h
  | reopen => exact (reopen_entries s ▸ flush_covers s).trans h
  | conjoin sel => exact (Covers.of_mem_iff (conjoin_entries s sel)).trans h
  | gc keep => exact show Covers (s.gc keep).entries _ from gc_entries s keep ▸ h.filter keep

theorem holds_foldl : ∀ (ops : List Op) (s : Store) (l : List (Addr × Bytes)), Holds s l →
    Holds (ops.foldl Store.apply s) (ops.foldl liveStep l)
  | [], _, _, h => h
  | op :: rest, s, l, h => holds_foldl rest _ _ (holds_step s l h op)

theorem holds_run (ops : List Op) : Holds (run ops) (live ops) :=
  holds_foldl ops ⟨[], [], []⟩ [] ⟨by simp [Store.entries], by simp⟩

theorem live_sub_written : ∀ (ops : List Op) (l : List (Addr × Bytes)) (e : Addr × Bytes),
    e ∈ ops.foldl liveStep l → e ∈ l ∨ e ∈ written ops
  | [], _, _, h => Or.inl h
  | op :: rest, l, e, h0 => by
    rcases live_sub_written rest (liveStep l op) e h0 with h | h
    · clear h0
      cases op with
      | put a d =>
        rcases List.mem_cons.mp h with h | h
        · exact Or.inr (by rw [h]; exact List.mem_cons_self ..)
        · exact Or.inl h
      | gc keep => exact Or.inl (List.mem_filter.mp h).1
      | commit => exact Or.inl h
      | reopen => exact Or.inl h
      | conjoin sel => exact Or.inl h
    · clear h0
      cases op with
      | put a d => exact Or.inr (List.mem_cons_of_mem _ h)
      | gc keep => exact Or.inr h
      | commit => exact Or.inr h
      | reopen => exact Or.inr h
      | conjoin sel => exact Or.inr h

theorem store_present_iff_written (ops : List Op) (a : Addr) :
    ((run ops).abs a).isSome ↔ a ∈ (live ops).map (·.1) := by
  rw [abs_isSome_iff]; exact (holds_run ops).keys_iff a

theorem store_returns_live (ops : List Op) (a : Addr) (d : Bytes) (h : (run ops).abs a = some d) :
    (a, d) ∈ live ops := (holds_run ops).1 (a, d) (abs_mem _ _ _ h)

theorem store_returns_written (ops : List Op) (a : Addr) (d : Bytes) (h : (run ops).abs a = some d) :
    (a, d) ∈ written ops := by
  rcases live_sub_written ops [] (a, d) (store_returns_live ops a d h) with h | h
  · simp at h
  · exact h

theorem store_content_addressed (H : Bytes → Addr) (ops : List Op) (hw : ∀ e ∈ written ops, H e.2 = e.1)
    (a : Addr) (d : Bytes) (h : (run ops).get a = some d) : H d = a := by
  rw [get_eq_abs] at h
  exact hw (a, d) (store_returns_written ops a d h)

theorem gen_get_eq_abs (g : Gen) (a : Addr) : g.get a = g.abs a := by
  simp [Gen.get, Gen.abs, get_eq_abs]

theorem gen_has_eq_abs (g : Gen) (a : Addr) : g.has a = (g.abs a).isSome := by
  simp only [Gen.has, Gen.abs, has_eq_abs]
  cases g.old.abs a <;> simp

theorem gen_hasMany_spec (g : Gen) (as : List Addr) : g.hasMany as = as.filter (fun a => (g.abs a).isNone) := by
  simp only [Gen.hasMany, hasMany_spec, List.filter_filter, Gen.abs]
  congr 1
  funext a
  cases g.old.abs a <;> cases g.new.abs a <;> rfl

end DoltVerif.NbsStore
