/-
`newCursorAtOrdinal` / `newCursorPastEnd` — the two cursors that are not positioned by a search —
and the ordinal they sit on; an iterator that runs to `newCursorPastEnd` (C11).
-/
import DoltVerif.Lemmas.CursorOrder
namespace DoltVerif.Prolly
open DoltVerif.SortedDict

variable {κ ν : Type}

theorem ordinalPath_go_spec (n : Nat) : ∀ (items : List (ItemH κ ν (n+1))) (i0 d : Nat),
    d < (items.map (countOf (n+1))).sum →
    ∃ pre it post, items = pre ++ it :: post ∧ (pre.map (countOf (n+1))).sum ≤ d ∧
      ordinalPath.go n items i0 d = (i0 + pre.length, d - (pre.map (countOf (n+1))).sum) ∧
      d - (pre.map (countOf (n+1))).sum < countOf (n+1) it := by
  intro items i0 d
  fun_induction ordinalPath.go n items i0 d with
  | case1 => nofun  -- no items: the sum is 0
  | case2 i0 d it rest hd => exact fun _ => ⟨[], it, rest, rfl, Nat.zero_le d, rfl, hd⟩  -- the ordinal is inside `it`
  | case3 i0 d it rest hd ih =>
    -- past `it`
    intro h
    have hsum : d - countOf (n+1) it < (rest.map (countOf (n+1))).sum := by
      simp only [List.map_cons, List.sum_cons] at h; omega
    obtain ⟨pre, it', post, rfl, h1, h2, h3⟩ := ih hsum
    refine ⟨it :: pre, it', post, rfl, ?_, ?_, ?_⟩
    · simp only [List.map_cons, List.sum_cons]; omega
    · rw [h2]; simp only [List.map_cons, List.sum_cons, List.length_cons, Prod.mk.injEq]
      omega
    · simp only [List.map_cons, List.sum_cons]; omega

theorem ordinalPath_pos [Inhabited κ] : ∀ (n : Nat) (nd : NodeH κ ν n) (k : Nat), WFNode n nd →
    k < (flatten n nd).length → ∃ p, ordinalPath n nd k = some p ∧ Pos n nd p k
  | 0, nd, k, _, hk => ⟨[k], rfl, .leaf nd k (Nat.le_of_lt hk)⟩
  | n+1, nd, k, hwf, hk => by
    have hsum : (nd.map (countOf (n+1))).sum = (flatten (n+1) nd).length := sum_counts_eq_length n nd hwf
    obtain ⟨pre, it, post, rfl, hle, hgo, hlt⟩ := ordinalPath_go_spec n nd 0 k (by rw [hsum]; exact hk)
    obtain ⟨hch, _, hcnt, hwfc⟩ := hwf it (by simp)
    -- the stored counts are the sizes of the contents
    rw [sum_counts_eq_length n pre (fun x hx => hwf x (by simp [hx]))] at hle hgo hlt
    rw [hcnt, treeCount_eq_length n _ hwfc] at hlt
    obtain ⟨p', hp1, hp2⟩ := ordinalPath_pos n (childOf it) _ hwfc hlt
    refine ⟨pre.length :: p', by simp [ordinalPath, hgo, hp1], ?_⟩
    have hpos := Pos.inner pre it post hp2 (Or.inl hlt)
    rwa [Nat.add_sub_cancel' hle] at hpos

theorem pastEndPath_ordinal [Inhabited κ] : ∀ (n : Nat) (nd : NodeH κ ν n), WFNode n nd → (n = 0 ∨ nd ≠ []) →
    pathOrdinal n nd (pastEndPath n nd) = some (flatten n nd).length
  | 0, nd, _, _ => rfl
  | n+1, nd, hwf, hne => by
    have hne : nd ≠ [] := by rcases hne with h | h; exact absurd h (by simp); exact h
    have hc1 : nd = nd.dropLast ++ [nd.getLast hne] := (List.dropLast_concat_getLast hne).symm
    have hlast : nd.getLast? = some (nd.getLast hne) := List.getLast?_eq_some_getLast hne
    have hmem : nd.getLast hne ∈ nd := List.getLast_mem hne
    obtain ⟨hch, _, _, hwfc⟩ := hwf _ hmem
    have ih := pastEndPath_ordinal n (childOf (nd.getLast hne)) hwfc (Or.inr hch)
    have hidx : min nd.length (nd.length - 1) = nd.dropLast.length := by rw [List.length_dropLast]; omega
    have hget : nd[nd.dropLast.length]? = some (nd.getLast hne) := by
      conv => lhs; rw [hc1]
      simp
    have htake : nd.take nd.dropLast.length = nd.dropLast := by
      conv => lhs; rw [hc1]
      simp
    have hwfd : WFNode (n+1) nd.dropLast := fun x hx => hwf x ((List.dropLast_sublist nd).subset hx)
    simp only [pastEndPath, hlast, pathOrdinal, hidx, hget, ih, Option.map_some, htake,
      sum_counts_eq_length n _ hwfd, Option.some.injEq]
    conv => rhs; rw [hc1, flatten_append]
    have : flatten (n+1) [nd.getLast hne] = flatten n (childOf (nd.getLast hne)) := by simp [flatten]
    rw [List.length_append, this]; omega

theorem cmpPath_pastEnd_lt (n : Nat) (nd : NodeH κ ν n) (i : Nat) (rest : List Nat) (hi : i < nd.length) :
    cmpPath (i :: rest) (pastEndPath n nd) = .lt := by
  cases n with
  | zero => simp [pastEndPath, cmpPath, hi]
  | succ n => simp [pastEndPath, cmpPath, hi]

theorem Pos.cmp_pastEnd {n : Nat} {nd : NodeH κ ν n} {lo : List Nat} {a : Nat} (h : Pos n nd lo a)
    (ha : a < (flatten n nd).length) : cmpPath lo (pastEndPath n nd) = .lt := by
  cases h with
  | leaf _ _ _ => exact cmpPath_pastEnd_lt 0 _ _ [] ha
  | inner pre it post _ _ => exact cmpPath_pastEnd_lt _ _ _ _ (by simp)

theorem Tree.iterPaths_to_end [Inhabited κ] (t : Tree κ ν) (hwf : WFNode t.height t.root) (hne : t.height = 0 ∨ t.root ≠ [])
    {lo : List Nat} {a : Nat} (hl : Pos t.height t.root lo a) (ha : a < t.flatten.length) :
    t.iterPaths lo (pastEndPath t.height t.root) = some (t.flatten.drop a) := by
  have hitem : pathItem t.height t.root lo = some t.flatten[a] := hl.item.trans (List.getElem?_eq_getElem ha)
  unfold Tree.iterPaths
  simp only [hl.cmp_pastEnd ha, bne_self_eq_false, Bool.false_eq_true, if_false, hitem, hl.ordinal hwf,
    pastEndPath_ordinal t.height t.root hwf hne, Tree.slice, Option.some.injEq]
  show (if a < t.flatten.length then _ else _) = _
  rw [if_pos ha, List.take_of_length_le (by rw [List.length_drop]; exact Nat.le_refl _)]

theorem Tree.atOrdinal_spec [Inhabited κ] (t : Tree κ ν) (hwf : WFNode t.height t.root) (hne : t.height = 0 ∨ t.root ≠ [])
    (ord : Nat) (hord : ord ≤ t.flatten.length) :
    ∃ p, t.atOrdinalPath ord = some p ∧ pathOrdinal t.height t.root p = some ord ∧
      (ord < t.flatten.length → pathItem t.height t.root p = t.flatten[ord]?) := by
  have hcount : t.count = t.flatten.length := treeCount_eq_length t.height t.root hwf
  unfold Tree.atOrdinalPath
  rw [hcount]
  by_cases hlt : ord < t.flatten.length
  · rw [if_neg (Nat.not_le.mpr hlt)]
    obtain ⟨p, hp, hpos⟩ := ordinalPath_pos t.height t.root ord hwf hlt
    exact ⟨p, hp, hpos.ordinal hwf, fun _ => hpos.item⟩
  · -- `ord = Count`: `newCursorPastEnd`
    rw [if_pos (Nat.not_lt.mp hlt)]
    exact ⟨_, rfl, by rw [pastEndPath_ordinal t.height t.root hwf hne, Nat.le_antisymm hord (Nat.not_lt.mp hlt)]; rfl,
      fun h => absurd h hlt⟩

end DoltVerif.Prolly
