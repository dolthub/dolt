/-
A sorted dictionary is determined by its lookups (`sorted_ext`), and the lookups of `upd`,
`applyEdits` and `filter` are computed here; the laws of edits follow by comparing lookups.  An edit
batch is itself a sorted dictionary, with values `Option ν`: looking a key up after `applyEdits` is
looking it up in the batch first, then in the dictionary (the overlay read of `MutableMap.Get`; C11, C12).
-/
import DoltVerif.Lemmas.SortedDict
namespace DoltVerif.SortedDict
open DoltVerif.Prolly (TotalPreorder)

variable {κ ν : Type}

theorem lookup_cons (cmp : κ → κ → Ordering) (a : κ × ν) (l : List (κ × ν)) (k : κ) :
    lookup cmp (a :: l) k = if cmp k a.1 = .eq then some a else lookup cmp l k := by
  unfold lookup
  rw [List.find?_cons]
  cases cmp k a.1 <;> rfl

theorem lookup_of_mem {cmp : κ → κ → Ordering} (hc : TotalPreorder cmp) : ∀ {l : List (κ × ν)}, Sorted cmp l →
    ∀ {a : κ × ν}, a ∈ l → lookup cmp l a.1 = some a
  | b :: l, hs, a, ha => by
    have hs' := List.pairwise_cons.mp hs
    rw [lookup_cons]
    rcases List.mem_cons.mp ha with rfl | ha
    · rw [if_pos (hc.refl _)]
    · rw [if_neg (by rw [hc.gt_of_lt _ _ (hs'.1 a ha)]; simp), lookup_of_mem hc hs'.2 ha]

theorem mem_of_lookup {cmp : κ → κ → Ordering} {l : List (κ × ν)} {k : κ} {a : κ × ν}
    (h : lookup cmp l k = some a) : a ∈ l ∧ cmp k a.1 = .eq :=
  ⟨List.mem_of_find?_eq_some h, by simpa using List.find?_some h⟩

theorem lookup_congr {cmp : κ → κ → Ordering} (hc : TotalPreorder cmp) (l : List (κ × ν)) {a b : κ}
    (h : cmp a b = .eq) : lookup cmp l a = lookup cmp l b := by
  unfold lookup
  exact congrArg (l.find? ·) (funext fun kv => by rw [hc.cmp_congr a b kv.1 h])

theorem sorted_ext {cmp : κ → κ → Ordering} (hc : TotalPreorder cmp) {l₁ l₂ : List (κ × ν)}
    (h₁ : Sorted cmp l₁) (h₂ : Sorted cmp l₂) (h : ∀ k, lookup cmp l₁ k = lookup cmp l₂ k) : l₁ = l₂ := by
  have irr : ∀ a : κ, cmp a a ≠ .lt := fun a hlt => by rw [hc.refl] at hlt; cases hlt
  have mem : ∀ {l₁ l₂ : List (κ × ν)}, Sorted cmp l₁ → (∀ k, lookup cmp l₁ k = lookup cmp l₂ k) → ∀ x ∈ l₁, x ∈ l₂ :=
    fun h₁ h x hx => (mem_of_lookup ((h x.1).symm.trans (lookup_of_mem hc h₁ hx))).1
  have nd : ∀ {l : List (κ × ν)}, Sorted cmp l → l.Nodup := fun hs =>
    List.Pairwise.imp (S := (· ≠ ·)) (fun hlt he => irr _ (he ▸ hlt)) hs
  exact List.Perm.eq_of_pairwise (fun x y _ _ hxy hyx => absurd (hc.lt_trans _ _ _ hxy hyx) (irr _)) h₁ h₂
    ((List.perm_ext_iff_of_nodup (nd h₁) (nd h₂)).mpr fun x => ⟨mem h₁ h x, mem h₂ (fun k => (h k).symm) x⟩)

theorem cutAt_decomp (cmp : κ → κ → Ordering) (k : κ) : ∀ (l : List (κ × ν)),
    ∃ mid, l = (cutAt cmp k l).1 ++ mid ++ (cutAt cmp k l).2 ∧ ∀ x ∈ mid, cmp k x.1 = .eq := by
  intro l
  fun_induction cutAt cmp k l with
  | case1 => exact ⟨[], rfl, by simp⟩
  | case2 => exact ⟨[], by simp, by simp⟩
  | case3 kv _ hc => exact ⟨[kv], by simp, by simp [hc]⟩  -- the entry with key `k` is what is dropped
  | case4 kv l _ ih =>
    obtain ⟨mid, h1, h2⟩ := ih
    exact ⟨mid, by simp only [List.cons_append]; rw [← h1], h2⟩

theorem lookup_append (cmp : κ → κ → Ordering) (k : κ) (a b : List (κ × ν)) :
    lookup cmp (a ++ b) k = (lookup cmp a k).or (lookup cmp b k) := by
  unfold lookup; exact List.find?_append

theorem lookup_nil_of (cmp : κ → κ → Ordering) (k : κ) (l : List (κ × ν)) (h : ∀ x ∈ l, cmp k x.1 ≠ .eq) :
    lookup cmp l k = none := by
  unfold lookup; rw [List.find?_eq_none]; intro x hx; simp [h x hx]

theorem lookup_upd {cmp : κ → κ → Ordering} (hc : TotalPreorder cmp) {l : List (κ × ν)} (hs : Sorted cmp l)
    (e : κ × Option ν) (k : κ) :
    lookup cmp (upd cmp l e) k = if cmp k e.1 = .eq then (emit e.1 e.2).head? else lookup cmp l k := by
  obtain ⟨mid, hdec, hmid⟩ := cutAt_decomp cmp e.1 l
  have hemit : lookup cmp (emit e.1 e.2) k = if cmp k e.1 = .eq then (emit e.1 e.2).head? else none := by
    cases e.2 with
    | none => simp [emit, lookup]
    | some v => by_cases hk : cmp k e.1 = .eq <;> simp [emit, lookup, hk]
  unfold upd
  rw [lookup_append, lookup_append, hemit]
  split
  · -- everything before the cut is below `k`, everything after it above
    rename_i hk
    have hpre : lookup cmp (cutAt cmp e.1 l).1 k = none := lookup_nil_of cmp k _ (fun x hx => by
      rw [hc.cmp_congr k e.1 x.1 hk, cutAt_fst_gt cmp e.1 l x hx]; simp)
    have hpost : lookup cmp (cutAt cmp e.1 l).2 k = none := lookup_nil_of cmp k _ (fun x hx => by
      rw [hc.cmp_congr k e.1 x.1 hk, cutAt_snd_lt hc e.1 l hs x hx]; simp)
    rw [hpre, hpost, Option.none_or, Option.or_none]
  · -- the entries dropped by the cut carry the edit's key, not `k`
    rename_i hk
    have hmidn : lookup cmp mid k = none := lookup_nil_of cmp k _ (fun x hx hkx => by
      rw [hc.cmp_congr k x.1 e.1 hkx, hc.swap_eq _ _ (hmid x hx)] at hk; exact hk rfl)
    conv => rhs; rw [hdec, lookup_append, lookup_append, hmidn]

theorem upd_comm {cmp : κ → κ → Ordering} (hc : TotalPreorder cmp) {l : List (κ × ν)} (hs : Sorted cmp l)
    (a b : κ × Option ν) (hab : cmp a.1 b.1 = .lt) : upd cmp (upd cmp l a) b = upd cmp (upd cmp l b) a := by
  refine sorted_ext hc (upd_sorted hc (upd_sorted hc hs a) b) (upd_sorted hc (upd_sorted hc hs b) a) (fun k => ?_)
  rw [lookup_upd hc (upd_sorted hc hs a), lookup_upd hc hs, lookup_upd hc (upd_sorted hc hs b), lookup_upd hc hs]
  -- no key equals both `a` and `b`
  by_cases hka : cmp k a.1 = .eq
  · have hkb : ¬ cmp k b.1 = .eq := by rw [hc.cmp_congr k a.1 b.1 hka, hab]; simp
    simp only [if_pos hka, if_neg hkb]
  · simp only [if_neg hka]

theorem upd_absorb {cmp : κ → κ → Ordering} (hc : TotalPreorder cmp) {l : List (κ × ν)} (hs : Sorted cmp l)
    (x e : κ × Option ν) (hex : cmp e.1 x.1 = .eq) : upd cmp (upd cmp l x) e = upd cmp l e := by
  refine sorted_ext hc (upd_sorted hc (upd_sorted hc hs x) e) (upd_sorted hc hs e) (fun k => ?_)
  rw [lookup_upd hc (upd_sorted hc hs x), lookup_upd hc hs, lookup_upd hc hs]
  by_cases hke : cmp k e.1 = .eq
  · rw [if_pos hke, if_pos hke]
  · rw [if_neg hke, if_neg hke,
      if_neg (fun hkx => hke ((hc.cmp_congr k x.1 e.1 hkx).trans (hc.swap_eq _ _ hex)))]

theorem lookup_applyEdits {cmp : κ → κ → Ordering} (hc : TotalPreorder cmp) (k : κ) (es : Edits κ ν)
    (l : List (κ × ν)) (hs : Sorted cmp l) (hes : Sorted cmp es) :
    lookup cmp (applyEdits cmp l es) k =
      match lookup cmp es k with
      | some (k', some v) => some (k', v)
      | some (_, none) => none
      | none => lookup cmp l k := by
  rw [applyEdits_eq_foldl hc es l hes]
  induction es generalizing l with
  | nil => rfl
  | cons e es ih =>
    have hes' := List.pairwise_cons.mp hes
    rw [List.foldl_cons, ih _ (upd_sorted hc hs e) hes'.2, lookup_upd hc hs, lookup_cons]
    by_cases hk : cmp k e.1 = .eq
    · -- the edit decides; no later edit has this key
      have hnone : lookup cmp es k = none := List.find?_eq_none.mpr (fun f hf => by
        rw [hc.cmp_congr k e.1 f.1 hk, hes'.1 f hf]; simp)
      rw [hnone, if_pos hk, if_pos hk]
      obtain ⟨k', ov⟩ := e
      cases ov <;> rfl
    · rw [if_neg hk, if_neg hk]

theorem lookup_filter {cmp : κ → κ → Ordering} (mk : κ → Bool) (hcongr : ∀ a b, cmp a b = .eq → mk a = mk b)
    (k : κ) : ∀ (l : List (κ × ν)),
    lookup cmp (l.filter (fun kv => mk kv.1)) k = if mk k then lookup cmp l k else none := by
  intro l
  fun_induction List.filter (fun kv : κ × ν => mk kv.1) l with
  | case1 => simp [lookup]
  | case2 a l ha ih => -- `a` is kept
    rw [lookup_cons, lookup_cons, ih]
    by_cases hk : cmp k a.1 = .eq
    · rw [if_pos hk, if_pos hk, hcongr k a.1 hk, ha]; rfl
    · rw [if_neg hk, if_neg hk]
  | case3 a l ha ih => -- `a` is dropped
    rw [ih, lookup_cons]
    by_cases hk : cmp k a.1 = .eq
    · rw [hcongr k a.1 hk]; simp [ha]
    · rw [if_neg hk]

theorem filter_applyEdits {cmp : κ → κ → Ordering} (hc : TotalPreorder cmp) (mk : κ → Bool)
    (hcongr : ∀ a b, cmp a b = .eq → mk a = mk b) (es : Edits κ ν) (l : List (κ × ν)) (hs : Sorted cmp l)
    (hes : Sorted cmp es) :
    (applyEdits cmp l es).filter (fun kv => mk kv.1)
      = applyEdits cmp (l.filter (fun kv => mk kv.1)) (es.filter (fun e => mk e.1)) := by
  have hs' : Sorted cmp (l.filter (fun kv => mk kv.1)) := List.Pairwise.sublist List.filter_sublist hs
  have hes' : Sorted cmp (es.filter (fun e => mk e.1)) := List.Pairwise.sublist List.filter_sublist hes
  refine sorted_ext hc (List.Pairwise.sublist List.filter_sublist (applyEdits_sorted hc _ _ hs hes))
    (applyEdits_sorted hc _ _ hs' hes') (fun k => ?_)
  rw [lookup_filter mk hcongr, lookup_applyEdits hc k _ _ hs hes, lookup_applyEdits hc k _ _ hs' hes',
    lookup_filter mk hcongr, lookup_filter mk hcongr]
  cases mk k <;> rfl

theorem noop_all {cmp : κ → κ → Ordering} (hc : TotalPreorder cmp) (es : Edits κ ν) (l : List (κ × ν))
    (hs : Sorted cmp l) (hes : Sorted cmp es) (hno : ∀ e ∈ es, lookup cmp l e.1 = (emit e.1 e.2).head?) :
    applyEdits cmp l es = l := by
  refine sorted_ext hc (applyEdits_sorted hc _ _ hs hes) hs (fun k => ?_)
  rw [lookup_applyEdits hc k _ _ hs hes]
  cases he : lookup cmp es k with
  | none => rfl
  | some e =>
    obtain ⟨hmem, hk⟩ := mem_of_lookup he
    rw [lookup_congr hc l hk, hno e hmem]
    obtain ⟨k', ov⟩ := e
    cases ov <;> rfl

end DoltVerif.SortedDict
