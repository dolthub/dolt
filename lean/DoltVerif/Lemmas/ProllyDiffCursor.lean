import DoltVerif.Lemmas.ProllyDiffTree
/-!
C13: `advance`, `refetch` and `compareCur` on proper cursors.
-/
namespace DoltVerif.ProllyDiff

/-- what a cursor keeps while it moves: the heights of its frames and the root it hangs from -/
def shape (c : Cur) : List Nat × Option Tree := (c.map (·.nd.height), c.getLast?.map (·.nd))

theorem shape_eq_iff {d c : Cur} : shape d = shape c ↔
    d.map (·.nd.height) = c.map (·.nd.height) ∧ d.getLast?.map (·.nd) = c.getLast?.map (·.nd) := Prod.ext_iff

theorem shape_cons (g p : Frame) (ps : Cur) :
    shape (g :: p :: ps) = (g.nd.height :: (shape (p :: ps)).1, (shape (p :: ps)).2) := rfl

theorem shape_len {c d : Cur} (h : shape d = shape c) : d.length = c.length := by
  simpa using congrArg List.length (shape_eq_iff.mp h).1

theorem rem_valid {c : Cur} (hv : valid c = true) : rem c = curItemFlat c ++ remAbove c := by
  cases c with
  | nil => simp [valid] at hv
  | cons f ps =>
    simp only [rem, remAbove, curItemFlat]
    rw [Tree.flatFrom_lt _ _ (by simpa [valid_cons] using hv), List.append_assoc]

theorem remAbove_le_rem (c : Cur) : (remAbove c).length ≤ (rem c).length := by
  cases c with
  | nil => simp [rem, remAbove]
  | cons f ps =>
    simp only [rem, remAbove, List.length_append]
    have := Tree.flatFrom_length_antitone f.nd (i := f.idx) (j := f.idx + 1) (by omega)
    omega

theorem remAbove_nil {c : Cur} (h : rem c = []) : remAbove c = [] :=
  List.length_eq_zero_iff.mp (Nat.le_zero.mp (by simpa [h] using remAbove_le_rem c))

theorem rem_stale (a : Frame) {ps : Cur} (h : rem ps = []) : rem ({ a with idx := a.nd.count } :: ps) = [] := by
  simp only [rem, Tree.flatFrom_ge _ _ (Nat.le_refl _), List.nil_append]
  exact remAbove_nil h

theorem refetch_spec {store} {a q : Frame} {qs pf : Cur} (h : Good store (a :: q :: qs))
    (hg : Good store pf) (hs : shape pf = shape (q :: qs)) :
    Good store (refetch (a :: q :: qs) pf) ∧ rem (refetch (a :: q :: qs) pf) = rem pf ∧
    shape (refetch (a :: q :: qs) pf) = shape (a :: q :: qs) := by
  cases pf with
  | nil => nomatch shape_len hs
  | cons p ps =>
  have hh : p.nd.height = a.nd.height + 1 := (List.cons.inj (shape_eq_iff.mp hs).1).1.trans h.path.2.1
  simp only [refetch]
  split
  · rename_i hv
    have hin : p.idx < p.nd.count := of_decide_eq_true hv
    obtain ⟨ch, hch⟩ := Tree.height_pos_child (t := p.nd) (by omega) p.idx hin
    have hcw := Tree.WF_child (hg.wf p List.mem_cons_self) hch
    have hfe : fetch p 0 = ⟨ch, 0⟩ := by rw [fetch, hch]
    rw [hfe]
    refine ⟨⟨⟨Or.inl ⟨hin, hch⟩, hcw.2.1.symm, hg.path⟩, List.forall_mem_cons.2 ⟨hcw.2.2, hg.wf⟩, ?_⟩, ?_, ?_⟩
    · intro h; exact absurd (Nat.pos_of_ne_zero hcw.1) (of_decide_eq_false h)
    · simp only [rem, remAbove]
      rw [Tree.flatFrom_zero, Tree.flatFrom_lt _ _ hin, Tree.itemFlat_child hch, List.append_assoc]
    · rw [shape_cons, shape_cons, hs]; congr 2; change ch.height = _; omega
  · rename_i hv
    have hout : p.nd.count ≤ p.idx := Nat.le_of_not_lt fun h => hv (decide_eq_true h)
    have hex := hg.exh (decide_eq_false (Nat.not_lt.mpr hout))
    refine ⟨⟨⟨Or.inr ⟨hout, Nat.le_refl _⟩, hh, hg.path⟩, List.forall_mem_cons.2 ⟨h.wf a List.mem_cons_self, hg.wf⟩,
      fun _ => rem_stale a hex⟩, by rw [rem_stale a hex, hex], by rw [shape_cons, shape_cons, hs]⟩

theorem advance_hasNext {f : Frame} {ps : Cur} (h : f.idx + 1 < f.nd.count) :
    advance (f :: ps) = { f with idx := f.idx + 1 } :: ps := by
  unfold advance; exact if_pos h

theorem advance_root_end {f : Frame} (h : ¬ f.idx + 1 < f.nd.count) :
    advance [f] = [{ f with idx := f.nd.count }] := by
  rw [advance, if_neg h]

theorem advance_ne_nil (f : Frame) (ps : Cur) : advance (f :: ps) ≠ [] := by
  unfold advance; (repeat' split) <;> simp

theorem advance_carry {f p : Frame} {pps : Cur} (h : ¬ f.idx + 1 < f.nd.count) :
    advance (f :: p :: pps) = refetch (f :: p :: pps) (advance (p :: pps)) := by
  rw [advance, if_neg h]
  cases he : advance (p :: pps) with
  | nil => exact absurd he (advance_ne_nil p pps)
  | cons p' pps' => simp [refetch, Frame.valid]

theorem refetch_root (a : Frame) (as : Cur) (p : Frame) (ps : Cur) :
    (refetch (a :: as) (p :: ps)).getLast?.map (·.nd) = (p :: ps).getLast?.map (·.nd) := by
  simp only [refetch]; split <;> rfl

theorem advance_root : ∀ (c : Cur), (advance c).getLast?.map (·.nd) = c.getLast?.map (·.nd)
  | [] => rfl
  | [f] => by
    by_cases hn : f.idx + 1 < f.nd.count
    · rw [advance_hasNext hn]; rfl
    · rw [advance_root_end hn]; rfl
  | f :: p :: pps => by
    by_cases hn : f.idx + 1 < f.nd.count
    · rw [advance_hasNext hn]; rfl
    · obtain ⟨p', pps', he⟩ := List.exists_cons_of_ne_nil (advance_ne_nil p pps)
      rw [advance_carry hn, he, refetch_root, ← he, advance_root (p :: pps)]; rfl

theorem advance_spec {store} : ∀ (c : Cur), Good store c → valid c = true →
    Good store (advance c) ∧ rem (advance c) = remAbove c ∧ shape (advance c) = shape c
  | [], _, hv => by simp [valid] at hv
  | f :: ps, hg, hv => by
    by_cases hn : f.idx + 1 < f.nd.count
    · rw [advance_hasNext hn]
      refine ⟨⟨?_, List.forall_mem_cons.2 (List.forall_mem_cons.1 hg.wf), ?_⟩, rfl, by cases ps <;> rfl⟩
      · cases ps with
        | nil => trivial
        | cons p pps => exact ⟨Or.inl (hg.parent hv), hg.path.2.1, hg.path.2.2⟩
      · intro h; simp [valid_cons] at h; omega
    · have hab : remAbove (f :: ps) = remAbove ps := by
        show f.nd.flatFrom (f.idx + 1) ++ remAbove ps = _
        rw [Tree.flatFrom_ge _ _ (by omega)]; rfl
      cases ps with
      | nil =>
        rw [advance_root_end hn]
        exact ⟨⟨trivial, List.forall_mem_cons.2 (List.forall_mem_cons.1 hg.wf), fun _ => rem_stale f rfl⟩,
          by rw [rem_stale f rfl, hab]; rfl, rfl⟩
      | cons p pps =>
        have hpar := hg.parent hv
        obtain ⟨ihg, ihr, ihs⟩ := advance_spec (p :: pps) hg.tail (by rw [valid_cons]; exact decide_eq_true hpar.1)
        obtain ⟨rg, rr, rs⟩ := refetch_spec hg ihg ihs
        rw [advance_carry hn]
        exact ⟨rg, by rw [rr, ihr, hab], rs⟩

theorem rem_le_parent {store} {g q : Frame} {ps : Cur} (h : Good store (g :: q :: ps)) :
    (rem (g :: q :: ps)).length ≤ (rem (q :: ps)).length := by
  rcases h.path.1 with h1 | ⟨h1, h2⟩
  · rw [rem_parent h1]; simp
  · simp [rem, remAbove, Tree.flatFrom_ge _ _ h1, Tree.flatFrom_ge _ _ h2, Tree.flatFrom_ge q.nd (q.idx + 1) (by omega)]

theorem remAbove_le_cons (f : Frame) (ps : Cur) : (remAbove ps).length ≤ (remAbove (f :: ps)).length := by
  simp only [remAbove, List.length_append]; exact Nat.le_add_left _ _

theorem same_node_cmp (f g : Frame) (A : Cur) (hnd : f.nd = g.nd) :
    (((f.idx : Int) - (g.idx : Int) < 0) → (rem (g :: A)).length ≤ (remAbove (f :: A)).length) ∧
    ((0 < (f.idx : Int) - (g.idx : Int)) → (rem (f :: A)).length ≤ (remAbove (g :: A)).length) ∧
    (((f.idx : Int) - (g.idx : Int) = 0) → f :: A = g :: A) := by
  refine ⟨fun h => ?_, fun h => ?_, fun h => ?_⟩
  · simp only [rem, remAbove, List.length_append, hnd]
    have := Tree.flatFrom_length_antitone g.nd (i := f.idx + 1) (j := g.idx) (by omega)
    omega
  · simp only [rem, remAbove, List.length_append, hnd]
    have := Tree.flatFrom_length_antitone g.nd (i := g.idx + 1) (j := f.idx) (by omega)
    omega
  · cases f; cases g; simp at hnd h ⊢; exact ⟨hnd, by omega⟩

/-- `compareCursors` on two proper cursors of the same tree orders them by position: negative ⇒
the other cursor is at least one whole item further, positive ⇒ symmetric, zero ⇒ identical. -/
theorem compare_spec {store} : ∀ (c s : Cur), Good store c → Good store s → valid c = true →
    c.length = s.length → (c.getLast?.map (·.nd) = s.getLast?.map (·.nd)) →
    (compareCur c s < 0 → (rem s).length ≤ (remAbove c).length) ∧
    (0 < compareCur c s → (rem c).length ≤ (remAbove s).length) ∧
    (compareCur c s = 0 → c = s) := by
  intro c s
  fun_induction compareCur c s with
  | case1 f pc g ps hi hz ih =>
    -- the parents differ: they decide, and what remains at a child lies within what remains at its parent
    intro hc hs hv hl hr
    cases pc with
    | nil => exact absurd rfl hz
    | cons p pc =>
    cases ps with
    | nil => simp at hl
    | cons q ps =>
      have ih := ih hc.tail hs.tail (decide_eq_true (hc.parent hv).1) (Nat.succ.inj hl) hr
      exact ⟨fun h => Nat.le_trans (Nat.le_trans (rem_le_parent hs) (ih.1 h)) (remAbove_le_cons f _),
        fun h => Nat.le_trans (Nat.le_trans (rem_le_parent hc) (ih.2.1 h)) (remAbove_le_cons g _), fun h => absurd h hz⟩
  | case2 f pc g ps hi hz ih =>
    -- same parents: the two frames are slots of one node
    intro hc hs hv hl hr
    cases pc with
    | nil =>
      cases ps with
      | nil => exact same_node_cmp f g [] (Option.some.inj hr)
      | cons q ps => simp at hl
    | cons p pc =>
    cases ps with
    | nil => simp at hl
    | cons q ps =>
      have hpar := hc.parent hv
      cases (ih hc.tail hs.tail (decide_eq_true hpar.1) (Nat.succ.inj hl) hr).2.2 (Decidable.not_not.mp hz)
      have hnd : f.nd = g.nd := by
        rcases hs.path.1 with h1 | ⟨h1, _⟩
        · exact Option.some.inj (hpar.2.symm.trans h1.2)
        · exact absurd hpar.1 (Nat.not_lt.mpr h1)
      exact same_node_cmp f g (p :: pc) hnd
  | case3 c s hne =>
    intro _ _ hv hl
    cases c with
    | nil => nomatch hv
    | cons f pc =>
    cases s with
    | nil => nomatch hl
    | cons g ps => exact (hne f pc g ps rfl rfl).elim

def AtLeaf : Cur → Prop
  | [] => True
  | f :: _ => f.nd.height = 0

theorem atLeaf_iff (c : Cur) : AtLeaf c ↔ ∀ h ∈ (shape c).1.head?, h = 0 := by
  cases c <;> simp [AtLeaf, shape]

theorem Tree.itemFlat_leaf {t : Tree} (h : t.height = 0) {i : Nat} (hi : i < t.count) :
    ∃ kv, t.kv? i = some kv ∧ t.itemFlat i = [kv] := by
  cases t with
  | leaf kvs => simp [Tree.count] at hi; exact ⟨kvs[i], by simp [Tree.kv?, hi], by simp [Tree.itemFlat, hi]⟩
  | node cs => simp [Tree.height] at h

theorem rem_leaf {c : Cur} (hl : AtLeaf c) (hv : valid c = true) :
    ∃ kv, curKV c = some kv ∧ rem c = kv :: remAbove c := by
  rw [rem_valid hv]
  cases c with
  | nil => simp [valid] at hv
  | cons f ps =>
    obtain ⟨kv, hk, hi⟩ := Tree.itemFlat_leaf hl (of_decide_eq_true hv)
    exact ⟨kv, hk, by rw [curItemFlat, hi]; rfl⟩

theorem advance_leaf {store} {c : Cur} (hg : Good store c) (hl : AtLeaf c) (hv : valid c = true) :
    ∃ kv, curKV c = some kv ∧ rem c = kv :: rem (advance c) ∧ Good store (advance c) ∧
      shape (advance c) = shape c := by
  obtain ⟨kv, hk, hr⟩ := rem_leaf hl hv
  obtain ⟨g, r, hs⟩ := advance_spec c hg hv
  exact ⟨kv, hk, r ▸ hr, g, hs⟩

theorem active_iff {store} {c s : Cur} (hc : Good store c) (hs : Good store s) (hlf : AtLeaf c)
    (hl : c.length = s.length) (hr : c.getLast?.map (·.nd) = s.getLast?.map (·.nd)) :
    active c s = true ↔ (rem s).length < (rem c).length := by
  unfold active
  by_cases hv : valid c = true
  · have sp := compare_spec c s hc hs hv hl hr
    have hne : (remAbove c).length < (rem c).length := by
      obtain ⟨kv, _, hk⟩ := rem_leaf hlf hv
      rw [hk]; exact Nat.lt_succ_self _
    simp only [hv, Bool.true_and, decide_eq_true_eq]
    constructor
    · intro h; have := sp.1 h; omega
    · intro h
      rcases Int.lt_trichotomy (compareCur c s) 0 with h0 | h0 | h0
      · exact h0
      · have := sp.2.2 h0; subst this; omega
      · have := sp.2.1 h0; have := remAbove_le_rem s; omega
  · simp at hv
    simp [hv, hc.exh hv]

end DoltVerif.ProllyDiff
