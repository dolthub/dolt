import DoltVerif.Lemmas.ProllyDiffCursor
/-!
C13: induction along a descent (`descend_induct`); any descent is a proper cursor of its tree
(`CurAt`, `descend_curAt`); `newCursorAtStart` and `newCursorPastEnd` are positioned where they should be.
-/
namespace DoltVerif.ProllyDiff

/-- `Tree` is nested through `List Child`: induction on it comes in two mutually recursive halves, and
`AllCs P cs` is the hypothesis of the list half.  `Tree.induct_aux` is the usable form. -/
def AllCs (P : Tree → Prop) : List Child → Prop
  | [] => True
  | c :: cs => P c.2.2 ∧ AllCs P cs

theorem AllCs.mem {P : Tree → Prop} : ∀ {cs : List Child}, AllCs P cs → ∀ c ∈ cs, P c.2.2
  | [], _, c, h => by simp at h
  | d :: ds, ha, c, h => by
    simp at h
    rcases h with rfl | h
    · exact ha.1
    · exact AllCs.mem ha.2 c h

mutual
theorem Tree.induct_aux0 {P : Tree → Prop} (hleaf : ∀ kvs, P (.leaf kvs))
    (hnode : ∀ cs : List Child, AllCs P cs → P (.node cs)) : ∀ t, P t
  | .leaf kvs => hleaf kvs
  | .node cs => hnode cs (Tree.induct_cs0 hleaf hnode cs)
theorem Tree.induct_cs0 {P : Tree → Prop} (hleaf : ∀ kvs, P (.leaf kvs))
    (hnode : ∀ cs : List Child, AllCs P cs → P (.node cs)) : ∀ (cs : List Child), AllCs P cs
  | [] => trivial
  | c :: cs => ⟨Tree.induct_aux0 hleaf hnode c.2.2, Tree.induct_cs0 hleaf hnode cs⟩
end

theorem Tree.induct_aux {P : Tree → Prop} (hleaf : ∀ kvs, P (.leaf kvs))
    (hnode : ∀ cs : List Child, (∀ c ∈ cs, P c.2.2) → P (.node cs)) : ∀ t, P t :=
  Tree.induct_aux0 hleaf (fun cs h => hnode cs (AllCs.mem h))

theorem descendCs_eq (pick : Tree → Nat) : ∀ (cs : List Child) (i : Nat) (h : i < cs.length),
    descendCs pick cs i = descend pick (cs[i]).2.2
  | [], i, h => by simp at h
  | c :: cs, 0, _ => by simp [descendCs]
  | c :: cs, i + 1, h => by
    simp [descendCs]
    exact descendCs_eq pick cs i (by simpa using h)

theorem descend_node (pick : Tree → Nat) (cs : List Child) (hne : cs ≠ []) :
    ∃ (i : Nat) (hi : i < cs.length), i = min (pick (.node cs)) (cs.length - 1) ∧
      descend pick (.node cs) = descend pick (cs[i]).2.2 ++ [⟨.node cs, i⟩] := by
  have hl : 0 < cs.length := List.length_pos_iff.mpr hne
  refine ⟨min (pick (.node cs)) (cs.length - 1), by omega, rfl, ?_⟩
  simp only [descend]
  rw [descendCs_eq pick cs _ (by omega)]

theorem descend_ne_nil (pick : Tree → Nat) (t : Tree) : descend pick t ≠ [] := by
  cases t with
  | leaf kvs => simp [descend]
  | node cs => simp [descend]

theorem remAbove_snoc : ∀ (c : Cur) (fr : Frame), remAbove (c ++ [fr]) = remAbove c ++ fr.nd.flatFrom (fr.idx + 1)
  | [], fr => by simp [remAbove]
  | f :: c, fr => by simp [remAbove, remAbove_snoc c fr]

theorem rem_snoc {c : Cur} (hne : c ≠ []) (fr : Frame) : rem (c ++ [fr]) = rem c ++ fr.nd.flatFrom (fr.idx + 1) := by
  cases c with
  | nil => simp at hne
  | cons f c => simp [rem, remAbove_snoc]

theorem valid_snoc {c : Cur} (hne : c ≠ []) (fr : Frame) : valid (c ++ [fr]) = valid c := by
  cases c with
  | nil => simp at hne
  | cons f c => simp [valid]

theorem path_snoc : ∀ {c : Cur} (hne : c ≠ []) (fr : Frame), Path c → Path [c.getLast hne, fr] → Path (c ++ [fr])
  | [_], _, _, _, hl => hl
  | _ :: g' :: rest, _, fr, hp, hl =>
    ⟨hp.1, hp.2.1, path_snoc (c := g' :: rest) (List.cons_ne_nil _ _) fr hp.2.2 hl⟩

theorem shape_snoc (c : Cur) (fr : Frame) : shape (c ++ [fr]) = ((shape c).1 ++ [fr.nd.height], some fr.nd) := by
  simp [shape]

theorem Tree.child_of_get {cs : List Child} {i : Nat} {d : Child} (h : cs[i]? = some d) :
    (Tree.node cs).child? i = some d.2.2 := by
  simp [Tree.child?, h]

theorem flattenCs_split {cs : List Child} {i : Nat} {d : Child} (h : cs[i]? = some d) :
    flattenCs cs = flattenCs (cs.take i) ++ (d.2.2.flatten ++ flattenCs (cs.drop (i + 1))) := by
  obtain ⟨hi, rfl⟩ := List.getElem?_eq_some_iff.mp h
  conv => lhs; rw [← List.take_append_drop i cs, ← List.getElem_cons_drop hi]
  rw [flattenCs_append]; rfl

theorem descend_induct {store} (pick : Tree → Nat) {Q : Tree → Cur → Prop}
    (hleaf : ∀ kvs, (Tree.leaf kvs).WF store → Q (.leaf kvs) [⟨.leaf kvs, pick (.leaf kvs)⟩])
    (hnode : ∀ (cs : List Child) (i : Nat) (d : Child), (Tree.node cs).WF store →
      i = min (pick (.node cs)) (cs.length - 1) → cs[i]? = some d →
      ∀ c, c ≠ [] → Q d.2.2 c → Q (.node cs) (c ++ [⟨.node cs, i⟩])) :
    ∀ t : Tree, t.WF store → Q t (descend pick t) := by
  apply Tree.induct_aux
  · exact hleaf
  · intro cs ih hw
    have hw' := hw
    simp only [Tree.WF] at hw'
    obtain ⟨i, hi, he, hd⟩ := descend_node pick cs hw'.1
    have hget : cs[i]? = some cs[i] := List.getElem?_eq_getElem hi
    rw [hd]
    exact hnode cs i cs[i] hw he hget _ (descend_ne_nil pick _)
      (ih cs[i] (List.getElem_mem hi) (WFCs_get hw'.2.2 hget).2.2.2)

/-- a proper cursor of tree `t`, reaching from a leaf to the root -/
structure CurAt (store : Addr → Option Tree) (t : Tree) (c : Cur) : Prop where
  good : Good store c
  shape : shape c = (List.range (t.height + 1), some t)

theorem CurAt.leaf {store t c} (h : CurAt store t c) : AtLeaf c :=
  (atLeaf_iff c).mpr (by rw [h.shape, List.range_succ_eq_map]; simp)

theorem descend_curAt {store} (pick : Tree → Nat) {t : Tree} (hw : t.WF store)
    (hex : valid (descend pick t) = false → rem (descend pick t) = []) : CurAt store t (descend pick t) := by
  suffices h : Path (descend pick t) ∧ (∀ f ∈ descend pick t, f.nd.WF store) ∧
      shape (descend pick t) = (List.range (t.height + 1), some t) from ⟨⟨h.1, h.2.1, hex⟩, h.2.2⟩
  refine descend_induct pick (Q := fun t c => Path c ∧ (∀ f ∈ c, f.nd.WF store) ∧
    shape c = (List.range (t.height + 1), some t)) ?_ ?_ t hw
  · intro kvs hw
    exact ⟨trivial, List.forall_mem_singleton.2 hw, rfl⟩
  · intro cs i d hw _ hget c hne ihc
    have hch := Tree.child_of_get hget
    have hcw := Tree.WF_child hw hch
    refine ⟨?_, ?_, ?_⟩
    · apply path_snoc hne _ ihc.1
      have hl : (c.getLast hne).nd = d.2.2 := by
        have := congrArg Prod.snd ihc.2.2
        simp only [shape, List.getLast?_eq_some_getLast hne] at this
        simpa using this
      have hi := (List.getElem?_eq_some_iff.mp hget).1
      exact ⟨Or.inl ⟨hi, by rw [hl]; exact hch⟩, by rw [hl]; exact hcw.2.1.symm, trivial⟩
    · intro f hf
      rcases List.mem_append.mp hf with hf | hf
      · exact ihc.2.1 f hf
      · rw [List.mem_singleton.mp hf]; exact hw
    · rw [shape_snoc, ihc.2.2, ← hcw.2.1, List.range_succ (n := d.2.2.height + 1)]

theorem atStart_rem {store} : ∀ t : Tree, t.WF store →
    rem (cursorAtStart t) = t.flatten ∧ (t.count ≠ 0 → valid (cursorAtStart t) = true) := by
  refine descend_induct (fun _ => 0) (Q := fun t c => rem c = t.flatten ∧ (t.count ≠ 0 → valid c = true)) ?_ ?_
  · intro kvs _
    refine ⟨by simp [rem, remAbove, Tree.flatFrom, Tree.flatten], ?_⟩
    intro h; simp [valid, Frame.valid]; simpa [Tree.count] using Nat.pos_of_ne_zero h
  · intro cs i d hw he hget c hne ihc
    have hi0 : i = 0 := by simpa using he
    subst hi0
    refine ⟨?_, fun _ => ?_⟩
    · rw [rem_snoc hne, ihc.1, Tree.flatten, flattenCs_split hget]; rfl
    · rw [valid_snoc hne]; exact ihc.2 (Tree.WF_child hw (Tree.child_of_get hget)).1

theorem WF_count_zero {store} {t : Tree} (hw : t.WF store) (h : t.count = 0) : t = .leaf [] := by
  cases t with
  | leaf kvs => simp [Tree.count] at h; simp [h]
  | node cs => simp [Tree.count] at h; simp only [Tree.WF] at hw; exact absurd h hw.1

theorem atStart_spec {store} {t : Tree} (hw : t.WF store) :
    CurAt store t (cursorAtStart t) ∧ rem (cursorAtStart t) = t.flatten := by
  obtain ⟨hr, hv⟩ := atStart_rem t hw
  refine ⟨descend_curAt (fun _ => 0) hw fun h => ?_, hr⟩
  by_cases hc : t.count = 0
  · rw [WF_count_zero hw hc]; rfl
  · rw [← cursorAtStart, hv hc] at h; cases h

theorem atEnd_rem {store} : ∀ t : Tree, t.WF store → t.count ≠ 0 →
    remAbove (cursorAtEnd t) = [] ∧ valid (cursorAtEnd t) = true := by
  refine descend_induct (fun n => n.count - 1)
    (Q := fun t c => t.count ≠ 0 → remAbove c = [] ∧ valid c = true) ?_ ?_
  · intro kvs _ h
    have hp : 0 < kvs.length := Nat.pos_of_ne_zero h
    exact ⟨by rw [remAbove, Tree.flatFrom_ge _ _ (by simp only [Tree.count]; omega)]; rfl,
      decide_eq_true (by simp only [Tree.count]; omega)⟩
  · intro cs i d hw he hget c hne ihc _
    have hi := (List.getElem?_eq_some_iff.mp hget).1
    have ihc := ihc (Tree.WF_child hw (Tree.child_of_get hget)).1
    refine ⟨?_, ?_⟩
    · rw [remAbove_snoc, ihc.1, Tree.flatFrom_ge _ _ (by simp only [Tree.count] at he ⊢; omega)]; rfl
    · rw [valid_snoc hne]; exact ihc.2

theorem pastEnd_spec {store} {t : Tree} (hw : t.WF store) :
    CurAt store t (cursorPastEnd t) ∧ rem (cursorPastEnd t) = [] := by
  by_cases hc : t.count = 0
  · rw [WF_count_zero hw hc]
    exact ⟨⟨⟨trivial, List.forall_mem_singleton.2 (by simp [Tree.WF]), fun _ => rfl⟩, rfl⟩, rfl⟩
  · obtain ⟨hr, hv⟩ := atEnd_rem t hw hc
    have d := descend_curAt (fun n => n.count - 1) hw fun h => nomatch hv.symm.trans h
    obtain ⟨g, r, hs⟩ := advance_spec _ d.good hv
    exact ⟨⟨g, hs.trans d.shape⟩, r.trans hr⟩

end DoltVerif.ProllyDiff
