import DoltVerif.Lemmas.ProllyDiffSkip
/-!
C13: the differ loop is the merge walk of the two remaining windows.
The window of a side is cut off by its stop cursor; both stops come from the same key
predicate `below`, which is what makes a stop inside a skipped subtree harmless.
-/
namespace DoltVerif.ProllyDiff

variable {cmp : Bytes → Bytes → Ordering}

/-- the window of a list: the pairs before the first key that is not `below` -/
def tw (below : Bytes → Bool) (l : List KV) : List KV := l.takeWhile (fun kv => below kv.1)

/-- `R` (what remains at the cursor) relative to `S` (what remains at the stop cursor): either `R`
still has a part before the stop, all of it `below`, or `R` is already inside `S`. -/
def CutOK (below : Bytes → Bool) (S R : List KV) : Prop :=
  (∀ x ∈ S, below x.1 = false) ∧
  ((∃ A, R = A ++ S ∧ ∀ x ∈ A, below x.1 = true) ∨ R <:+ S)

theorem CutOK.suffix {below S R R'} (h : CutOK below S R) (hs : R' <:+ R) : CutOK below S R' := by
  refine ⟨h.1, ?_⟩
  rcases h.2 with ⟨A, rfl, hA⟩ | h2
  · -- `R'` and `S` are suffixes of one list
    rcases List.suffix_or_suffix_of_suffix hs (List.suffix_append A S) with h1 | ⟨A', rfl⟩
    · exact Or.inr h1
    · exact Or.inl ⟨A', rfl, fun x hx => hA x ((List.suffix_append_self_iff.mp hs).subset hx)⟩
  · exact Or.inr (hs.trans h2)

theorem CutOK.active_iff {below S R} (h : CutOK below S R) :
    S.length < R.length ↔ ∃ kv rest, R = kv :: rest ∧ below kv.1 = true := by
  rcases h.2 with ⟨A, rfl, hA⟩ | h2
  · cases A with
    | nil =>
      constructor
      · intro h'; simp at h'
      · rintro ⟨kv, rest, he, hb⟩
        simp at he
        have := h.1 kv (by rw [he]; simp)
        simp [this] at hb
    | cons a A =>
      constructor
      · intro _; exact ⟨a, A ++ S, by simp, hA a (by simp)⟩
      · intro _; simp; omega
  · have hl := h2.length_le
    constructor
    · intro h'; omega
    · rintro ⟨kv, rest, rfl, hb⟩
      have := h.1 kv (h2.subset (by simp))
      simp [this] at hb

theorem CutOK.mono {below S R} (h : CutOK below S R) :
    ∃ A B, R = A ++ B ∧ (∀ x ∈ A, below x.1 = true) ∧ (∀ x ∈ B, below x.1 = false) := by
  rcases h.2 with ⟨A, rfl, hA⟩ | h2
  · exact ⟨A, S, rfl, hA, h.1⟩
  · exact ⟨[], R, by simp, by simp, fun x hx => h.1 x (h2.subset hx)⟩

theorem specDiff_nil_right (cmp) (cam : Bool) (as : List KV) : specDiff cmp cam as [] = as.map Event.removed := by
  cases as <;> simp [specDiff]

theorem specDiff_nil_left (cmp) (cam : Bool) (bs : List KV) : specDiff cmp cam [] bs = bs.map Event.added := by
  simp [specDiff]

theorem tw_none {below} {B : List KV} (hB : ∀ x ∈ B, below x.1 = false) : tw below B = [] := by
  cases B with
  | nil => rfl
  | cons b B => exact List.takeWhile_cons_of_neg (by rw [hB b List.mem_cons_self]; decide)

theorem tw_mono_split {below} {A B : List KV} (hA : ∀ x ∈ A, below x.1 = true) (hB : ∀ x ∈ B, below x.1 = false) :
    tw below (A ++ B) = A := by
  rw [tw, List.takeWhile_append_of_pos hA]
  exact (congrArg _ (tw_none hB)).trans (List.append_nil A)

theorem CutOK.tw_append {below S R} {L X : List KV} (h : CutOK below S R) (hR : R = L ++ X) :
    tw below R = tw below L ++ tw below X := by
  subst hR
  obtain ⟨A, B, hAB, hA, hB⟩ := h.mono
  rw [hAB, tw_mono_split hA hB]
  rcases List.append_eq_append_iff.mp hAB with ⟨a', rfl, rfl⟩ | ⟨c', rfl, rfl⟩
  · -- the cut falls inside `X`
    have hL : tw below L = L := by
      simpa using tw_mono_split (B := []) (fun x hx => hA x (List.mem_append_left _ hx)) (fun _ h => nomatch h)
    rw [hL, tw_mono_split (fun x hx => hA x (List.mem_append_right _ hx)) hB]
  · -- the cut falls inside `L`
    rw [tw_mono_split hA fun x hx => hB x (List.mem_append_left _ hx),
      tw_none fun x hx => hB x (List.mem_append_right _ hx), List.append_nil]

theorem specDiff_prefix (hrefl : ∀ k, cmp k k = .eq) : ∀ (P U V : List KV),
    specDiff cmp false (P ++ U) (P ++ V) = specDiff cmp false U V
  | [], _, _ => rfl
  | p :: P, U, V => by
    rw [List.cons_append, List.cons_append, specDiff, hrefl]
    simpa using specDiff_prefix hrefl P U V

/-- everything the loop needs to know about one side -/
structure Side (store : Addr → Option Tree) (below : Bytes → Bool) (c stop : Cur) : Prop where
  gc : Good store c
  gs : Good store stop
  leaf : AtLeaf c
  /-- same tree, same height as the stop cursor (only needed while the cursor is valid; the nil
  cursor `&cursor{}` of an empty tree has no frames at all) -/
  lr : valid c = true → c.map (·.nd.height) = stop.map (·.nd.height) ∧
    c.getLast?.map (·.nd) = stop.getLast?.map (·.nd)
  cut : CutOK below (rem stop) (rem c)

theorem Side.act_iff {store below c stop} (h : Side store below c stop) :
    ProllyDiff.active c stop = true ↔ ∃ kv rest, rem c = kv :: rest ∧ below kv.1 = true := by
  by_cases hv : valid c = true
  · have hs := shape_eq_iff.mpr (h.lr hv)
    rw [ProllyDiff.active_iff h.gc h.gs h.leaf (shape_len hs) (h.lr hv).2]
    exact h.cut.active_iff
  · simp at hv
    simp [ProllyDiff.active, hv, h.gc.exh hv]

theorem Side.inactive {store below c stop} (h : Side store below c stop) (ha : ¬ ProllyDiff.active c stop = true) :
    tw below (rem c) = [] := by
  have hn := mt h.act_iff.mpr ha
  cases hr : rem c with
  | nil => rfl
  | cons kv rest =>
    have : below kv.1 = false := by simpa [hr] using hn
    simp [tw, this]

theorem tw_cons_true {below} {kv : KV} {l : List KV} (h : below kv.1 = true) : tw below (kv :: l) = kv :: tw below l := by
  simp [tw, h]

theorem Side.move {store below c c' stop} (h : Side store below c stop)
    (hg : Good store c') (hs : shape c' = shape c) (hr : rem c' <:+ rem c) : Side store below c' stop := by
  have hl : AtLeaf c' := (atLeaf_iff c').mpr (hs ▸ (atLeaf_iff c).mp h.leaf)
  refine ⟨hg, h.gs, hl, fun hv' => ?_, h.cut.suffix hr⟩
  -- a pair remains at `c'`, hence at `c`, so `c` is valid and `lr` speaks
  have hv : valid c = true := by
    cases hv : valid c with
    | true => rfl
    | false =>
      obtain ⟨kv, _, hk⟩ := rem_leaf hl hv'
      rw [h.gc.exh hv, hk] at hr
      exact absurd (List.suffix_nil.mp hr) (List.cons_ne_nil _ _)
  exact shape_eq_iff.mp (hs.trans (shape_eq_iff.mpr (h.lr hv)))

theorem Side.step {store below c stop} (h : Side store below c stop) (ha : ProllyDiff.active c stop = true)
    {kv : KV} (hk : curKV c = some kv) :
    tw below (rem c) = kv :: tw below (rem (advance c)) ∧ Side store below (advance c) stop := by
  have hv : valid c = true := by simp [ProllyDiff.active] at ha; exact ha.1
  obtain ⟨kv', hk', hr, g, hs⟩ := advance_leaf h.gc h.leaf hv
  cases hk.symm.trans hk'
  obtain ⟨kv', rest, he, hb⟩ := h.act_iff.mp ha
  cases hr.symm.trans he
  exact ⟨by rw [hr, tw_cons_true hb], h.move g hs (hr ▸ List.suffix_cons _ _)⟩

theorem tw_true (l : List KV) : tw (fun _ => true) l = l := by
  induction l with
  | nil => simp [tw]
  | cons x xs ih => simp [tw] at ih ⊢; exact ih

theorem diffLoop_spec {store below} (hrefl : ∀ k, cmp k k = .eq) (cam : Bool) (sfuel : Nat) :
    ∀ (fuel : Nat) (f t fs ts : Cur) (evs : List Event),
    Side store below f fs → Side store below t ts →
    diffLoop cmp cam sfuel fuel f t fs ts = some evs →
    evs = specDiff cmp cam (tw below (rem f)) (tw below (rem t)) := by
  intro fuel f t fs ts
  -- one case per branch of `diffLoop`, in its order; these five are the branches that return `none`
  fun_induction diffLoop cmp cam sfuel fuel f t fs ts with
  | case1 | case5 | case7 | case9 | case11 => nofun
  | case2 fuel f t fs ts hact a b hkb hka hc ih =>
    intro evs sf st h
    obtain ⟨hwa, sfa⟩ := sf.step (Bool.and_eq_true_iff.mp hact).1 hka
    obtain ⟨hwb, -⟩ := st.step (Bool.and_eq_true_iff.mp hact).2 hkb
    obtain ⟨evs', hr, rfl⟩ := Option.map_eq_some_iff.mp h
    rw [ih evs' sfa st hr, hwa, hwb, specDiff, hc]
  | case3 fuel f t fs ts hact a b hkb hka hc ih =>
    intro evs sf st h
    obtain ⟨hwa, -⟩ := sf.step (Bool.and_eq_true_iff.mp hact).1 hka
    obtain ⟨hwb, stb⟩ := st.step (Bool.and_eq_true_iff.mp hact).2 hkb
    obtain ⟨evs', hr, rfl⟩ := Option.map_eq_some_iff.mp h
    rw [ih evs' sf stb hr, hwa, hwb, specDiff, hc]
  | case4 fuel f t fs ts hact a b hkb hka hc hm ih =>
    intro evs sf st h
    obtain ⟨hwa, sfa⟩ := sf.step (Bool.and_eq_true_iff.mp hact).1 hka
    obtain ⟨hwb, stb⟩ := st.step (Bool.and_eq_true_iff.mp hact).2 hkb
    obtain ⟨evs', hr, rfl⟩ := Option.map_eq_some_iff.mp h
    rw [ih evs' sfa stb hr, hwa, hwb, specDiff, hc, if_pos hm]
  | case6 fuel f t fs ts hact a b hkb hka hc hm f' t' hsk ih =>
    intro evs sf st h
    obtain ⟨hwa, sfa⟩ := sf.step (Bool.and_eq_true_iff.mp hact).1 hka
    obtain ⟨hwb, stb⟩ := st.step (Bool.and_eq_true_iff.mp hact).2 hkb
    -- equal pairs: both cursors skip the same list `L`, which the windows cut at the same place
    have sp := skipCommon_spec sfuel _ _ true f' t' sfa.gc stb.gc hsk
    obtain ⟨L, hLf, hLt, _⟩ := sp.common
    have sf' := sfa.move sp.gf (shape_eq_iff.mpr ⟨sp.hf, sp.rf⟩) (hLf ▸ List.suffix_append _ _)
    have st' := stb.move sp.gt (shape_eq_iff.mpr ⟨sp.ht, sp.rt⟩) (hLt ▸ List.suffix_append _ _)
    rw [ih evs sf' st' h, hwa, hwb, specDiff, hc, if_neg hm]
    simp only [Bool.or_eq_true, not_or, Bool.not_eq_true] at hm
    rw [sfa.cut.tw_append hLf, stb.cut.tw_append hLt, hm.1, specDiff_prefix hrefl]
  | case8 fuel f t fs ts hact ha a hka ih =>
    intro evs sf st h
    obtain ⟨hwa, sfa⟩ := sf.step ha hka
    obtain ⟨evs', hr, rfl⟩ := Option.map_eq_some_iff.mp h
    rw [ih evs' sfa st hr, hwa, st.inactive fun hb => hact (Bool.and_eq_true_iff.mpr ⟨ha, hb⟩),
      specDiff_nil_right, specDiff_nil_right]
    rfl
  | case10 fuel f t fs ts _ ha hb b hkb ih =>
    intro evs sf st h
    obtain ⟨hwb, stb⟩ := st.step hb hkb
    obtain ⟨evs', hr, rfl⟩ := Option.map_eq_some_iff.mp h
    rw [ih evs' sf stb hr, hwb, sf.inactive ha, specDiff_nil_left, specDiff_nil_left]
    rfl
  | case12 fuel f t fs ts _ ha hb =>
    intro evs sf st h
    cases h
    rw [sf.inactive ha, st.inactive hb, specDiff_nil_left]
    rfl

end DoltVerif.ProllyDiff
