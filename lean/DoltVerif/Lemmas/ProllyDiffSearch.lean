import DoltVerif.Lemmas.ProllyDiffLoop
import DoltVerif.Lemmas.ProllyDiffDescend
/-!
C13: `newCursorFromSearchFn` with a monotone key predicate lands on the first key satisfying it
(binary search per node on the last keys, `keepInBounds` on the way); start/stop cursors found that
way form proper sides, and the window between them is a filter.
-/
namespace DoltVerif.ProllyDiff

def MonoP (p : Bytes → Bool) (l : List KV) : Prop :=
  ∃ A B, l = A ++ B ∧ (∀ x ∈ A, p x.1 = false) ∧ (∀ x ∈ B, p x.1 = true)

theorem monoP_iff {p : Bytes → Bool} {l : List KV} :
    MonoP p l ↔ l.Pairwise (fun x y => p x.1 = true → p y.1 = true) := by
  constructor
  · rintro ⟨A, B, rfl, hA, hB⟩
    have hf : ∀ x ∈ A, ∀ y : KV, p x.1 = true → p y.1 = true := fun x hx _ h => by rw [hA x hx] at h; cases h
    exact List.pairwise_append.mpr ⟨List.pairwise_of_forall_mem_list fun x hx y _ => hf x hx y,
      List.pairwise_of_forall_mem_list fun _ _ y hy _ => hB y hy, fun x hx y _ => hf x hx y⟩
  · intro h
    induction l with
    | nil => exact ⟨[], [], rfl, nofun, nofun⟩
    | cons a l ih =>
      obtain ⟨ha, hl⟩ := List.pairwise_cons.mp h
      cases hp : p a.1 with
      | true => exact ⟨[], a :: l, rfl, nofun, List.forall_mem_cons.2 ⟨hp, fun x hx => ha x hx hp⟩⟩
      | false =>
        obtain ⟨A, B, he, hA, hB⟩ := ih hl
        exact ⟨a :: A, B, by rw [he]; rfl, List.forall_mem_cons.2 ⟨hp, hA⟩, hB⟩

theorem MonoP.suffix {p X Y} (h : MonoP p (X ++ Y)) : MonoP p Y :=
  monoP_iff.mpr ((monoP_iff.mp h).sublist (List.sublist_append_right X Y))

theorem MonoP.prefix {p X Y} (h : MonoP p (X ++ Y)) : MonoP p X :=
  monoP_iff.mpr ((monoP_iff.mp h).sublist (List.sublist_append_left X Y))

theorem MonoP.prefix_false {p X Y x} (h : MonoP p (X ++ Y)) (hl : X.getLast? = some x) (hp : p x.1 = false) :
    ∀ y ∈ X, p y.1 = false := by
  obtain ⟨X', rfl⟩ := List.getLast?_eq_some_iff.mp hl
  intro y hy
  rcases List.mem_append.mp hy with hy | hy
  · have := (List.pairwise_append.mp (monoP_iff.mp h.prefix)).2.2 y hy x (List.mem_singleton_self x)
    cases hpy : p y.1 with
    | false => rfl
    | true => rw [this hpy] at hp; cases hp
  · rw [List.mem_singleton.mp hy]; exact hp

theorem MonoP.after_true {p X Y x} (h : MonoP p (X ++ Y)) (hl : X.getLast? = some x) (hp : p x.1 = true) :
    ∀ y ∈ Y, p y.1 = true := fun y hy =>
  (List.pairwise_append.mp (monoP_iff.mp h)).2.2 x (List.mem_of_getLast? hl) y hy hp

theorem dropWhile_split {p : Bytes → Bool} {A B : List KV} (hA : ∀ x ∈ A, p x.1 = false) (hB : ∀ x ∈ B, p x.1 = true) :
    (A ++ B).dropWhile (fun kv => !p kv.1) = B := by
  rw [List.dropWhile_append_of_pos fun x hx => by rw [hA x hx]; rfl]
  cases B with
  | nil => rfl
  | cons b B => rw [List.dropWhile_cons_of_neg (by rw [hB b List.mem_cons_self]; decide)]

theorem dropWhile_const_false (l : List KV) : l.dropWhile (fun _ => false) = l := by
  cases l <;> rfl

theorem dropWhile_const_true (l : List KV) : l.dropWhile (fun _ => true) = [] := by
  induction l with
  | nil => rfl
  | cons a l ih => exact ih

theorem dropWhile_all_false {p : Bytes → Bool} {X : List KV} (h : ∀ x ∈ X, p x.1 = false) :
    X.dropWhile (fun kv => !p kv.1) = [] := by
  have := dropWhile_split (A := X) (B := []) h (by simp)
  simpa using this

theorem MonoP.dropWhile {p l} (h : MonoP p l) :
    ∃ A, l = A ++ l.dropWhile (fun kv => !p kv.1) ∧ (∀ x ∈ A, p x.1 = false) ∧
      (∀ x ∈ l.dropWhile (fun kv => !p kv.1), p x.1 = true) := by
  obtain ⟨A, B, rfl, hA, hB⟩ := h
  have := dropWhile_split hA hB
  rw [this]
  exact ⟨A, rfl, hA, hB⟩

theorem sortSearch_spec (f : Nat → Bool) : ∀ (fuel i j n : Nat), i ≤ n → n ≤ j →
    (∀ h, i ≤ h → h < n → f h = false) → (∀ h, n ≤ h → h < j → f h = true) → j - i < fuel →
    sortSearch f fuel i j = n
  | 0, _, _, _, _, _, _, _, hf => by omega
  | fuel + 1, i, j, n, h1, h2, hlo, hhi, hf => by
    unfold sortSearch
    split
    · simp only []
      generalize hm : (i + j) / 2 = m
      have hh : i ≤ m ∧ m < j := by omega
      clear hm
      by_cases hn : m < n
      · rw [hlo _ hh.1 hn, if_pos (by decide)]
        exact sortSearch_spec f fuel _ j n hn h2 (fun h a b => hlo h (by omega) b) hhi (by omega)
      · have hn := Nat.le_of_not_lt hn
        rw [hhi _ hn hh.2, if_neg (by decide)]
        exact sortSearch_spec f fuel i _ n h1 hn hlo (fun h a b => hhi h a (by omega)) (by omega)
    · omega

/-- `α`: the pairs of a leaf, or the children of an internal node -/
theorem searchNode_split {α} {p : Bytes → Bool} {nd : Tree} {key : α → Bytes} {X Y : List α}
    (hk : nd.keys = (X ++ Y).map key) (hX : ∀ x ∈ X, p (key x) = false) (hY : ∀ y ∈ Y, p (key y) = true) :
    searchNode p nd = X.length := by
  have hA : ∀ k ∈ X.map key, p k = false := List.forall_mem_map.2 hX
  have hB : ∀ k ∈ Y.map key, p k = true := List.forall_mem_map.2 hY
  rw [List.map_append] at hk
  rw [← List.length_map key]
  generalize X.map key = A at hk hA
  generalize Y.map key = B at hk hB
  simp only [searchNode, hk]
  apply sortSearch_spec _ _ 0 _ A.length (Nat.zero_le _) (by simp)
  · intro j _ hj
    simp [List.getElem?_append_left hj, List.getElem?_eq_getElem hj, hA _ (List.getElem_mem hj)]
  · intro j hj hl
    have hl' : j - A.length < B.length := by rw [List.length_append] at hl; omega
    simp [List.getElem?_append_right hj, List.getElem?_eq_getElem hl', hB _ (List.getElem_mem hl')]
  · omega

theorem KeysOKCs.last {cs : List Child} (hk : KeysOKCs cs) {j : Nat} {d : Child} (hget : cs[j]? = some d) :
    ∃ z, d.2.2.flatten.getLast? = some z ∧ z.1 = d.1 ∧ z ∈ flattenCs cs := by
  obtain ⟨z, hz, hz1⟩ := Option.map_eq_some_iff.mp (KeysOKCs_get hk hget).1
  refine ⟨z, hz, hz1, ?_⟩
  rw [flattenCs_split hget]
  exact List.mem_append_right _ (List.mem_append_left _ (List.mem_of_getLast? hz))

theorem node_split {p : Bytes → Bool} : ∀ {cs : List Child}, KeysOKCs cs → MonoP p (flattenCs cs) →
    ∃ cs1 cs2, cs = cs1 ++ cs2 ∧ (∀ x ∈ flattenCs cs1, p x.1 = false) ∧
      (∀ c ∈ cs1, p c.1 = false) ∧ (∀ c ∈ cs2, p c.1 = true)
  | [], _, _ => ⟨[], [], rfl, nofun, nofun, nofun⟩
  | c :: cs, hk, hm => by
    obtain ⟨lk, hlk, hlk1, _⟩ := hk.last (j := 0) rfl
    have hk' : KeysOKCs cs := hk.2.2
    simp only [flattenCs] at hm
    cases hp : p c.1 with
    | true =>
      -- everything after the first child is true
      have hall := MonoP.after_true hm hlk (by rw [hlk1]; exact hp)
      refine ⟨[], c :: cs, rfl, nofun, nofun, List.forall_mem_cons.2 ⟨hp, fun d hd => ?_⟩⟩
      obtain ⟨j, hj⟩ := List.getElem?_of_mem hd
      obtain ⟨z, _, hz1, hz⟩ := hk'.last hj
      rw [← hz1]; exact hall z hz
    | false =>
      have hfalse := MonoP.prefix_false hm hlk (by rw [hlk1]; exact hp)
      obtain ⟨cs1, cs2, rfl, h1, h2, h3⟩ := node_split hk' hm.suffix
      exact ⟨c :: cs1, cs2, rfl, fun x hx => (List.mem_append.mp hx).elim (hfalse x) (h1 x),
        List.forall_mem_cons.2 ⟨hp, h2⟩, h3⟩

theorem search_slot {p : Bytes → Bool} {cs : List Child} (hk : KeysOKCs cs) (hm : MonoP p (flattenCs cs))
    {i : Nat} {d : Child} (he : i = min (searchNode p (.node cs)) (cs.length - 1)) (hget : cs[i]? = some d) :
    (∀ x ∈ flattenCs (cs.take i), p x.1 = false) ∧
    ((∃ y ∈ d.2.2.flatten, p y.1 = true) ∨ (∀ x ∈ d.2.2.flatten, p x.1 = false) ∧ cs.drop (i + 1) = []) := by
  obtain ⟨cs1, cs2, rfl, h1, h2, h3⟩ := node_split hk hm
  rw [searchNode_split (nd := .node (cs1 ++ cs2)) (key := fun c : Child => c.1) rfl h2 h3] at he
  have hi := (List.getElem?_eq_some_iff.mp hget).1
  rw [List.length_append] at he hi
  refine ⟨fun x hx => ?_, ?_⟩
  · -- the first `i` children are among `cs1`
    rw [List.take_append_of_le_length (by omega)] at hx
    exact h1 x (by rw [← List.take_append_drop i cs1, flattenCs_append]; exact List.mem_append_left _ hx)
  · cases hp : p d.1 with
    | true =>
      obtain ⟨lk, hlk, hlk1, _⟩ := hk.last hget
      exact Or.inl ⟨lk, List.mem_of_getLast? hlk, by rw [hlk1]; exact hp⟩
    | false =>
      -- `d` is not among `cs2`; being at `min cs1.length (length - 1)`, it is the last child, and `cs2 = []`
      have hi1 : i < cs1.length := Nat.lt_of_not_le fun hle => by
        rw [List.getElem?_append_right hle] at hget
        rw [h3 d (List.mem_of_getElem? hget)] at hp; cases hp
      rw [List.getElem?_append_left hi1] at hget
      refine Or.inr ⟨fun x hx => h1 x ?_, List.drop_eq_nil_of_le (by rw [List.length_append]; omega)⟩
      rw [flattenCs_split hget]
      exact List.mem_append_right _ (List.mem_append_left _ hx)

theorem search_rem {store} (p : Bytes → Bool) : ∀ t : Tree, t.WF store → t.KeysOK → MonoP p t.flatten →
    rem (cursorFromSearch p t) = t.flatten.dropWhile (fun kv => !p kv.1) ∧
    (valid (cursorFromSearch p t) = false → rem (cursorFromSearch p t) = []) := by
  refine descend_induct (searchNode p) (Q := fun t c => t.KeysOK → MonoP p t.flatten →
    rem c = t.flatten.dropWhile (fun kv => !p kv.1) ∧ (valid c = false → rem c = [])) ?_ ?_
  · intro kvs _ _ hm
    obtain ⟨A, B, rfl, hA, hB⟩ := hm
    have hn : searchNode p (.leaf (A ++ B)) = A.length := searchNode_split (key := fun kv : KV => kv.1) rfl hA hB
    simp only [hn, rem, remAbove, Tree.flatFrom, Tree.flatten, List.append_nil]
    refine ⟨by rw [dropWhile_split hA hB, List.drop_left], fun hv => List.drop_eq_nil_of_le ?_⟩
    simp only [valid, Frame.valid, Tree.count] at hv
    exact Nat.not_lt.mp (of_decide_eq_false hv)
  · intro cs i d _ he hget c hne ihc hk hm
    simp only [Tree.KeysOK] at hk
    simp only [Tree.flatten] at hm ⊢
    obtain ⟨hpre, hslot⟩ := search_slot hk hm he hget
    have hsplit := flattenCs_split hget
    have hmc : MonoP p d.2.2.flatten := by rw [hsplit] at hm; exact hm.suffix.prefix
    obtain ⟨ihr, ihv⟩ := ihc (KeysOKCs_get hk hget).2 hmc
    -- the content before slot `i` is false, so the search continues inside child `i`
    rw [rem_snoc hne, valid_snoc hne, hsplit, List.dropWhile_append_of_pos fun x hx => by rw [hpre x hx]; rfl,
      List.dropWhile_append, ihr]
    simp only [Tree.flatFrom]
    rcases hslot with ⟨y, hy, hpy⟩ | ⟨hall, hd0⟩
    · -- the first true pair is inside child `i`
      have hne' : d.2.2.flatten.dropWhile (fun kv => !p kv.1) ≠ [] := by
        intro h0
        obtain ⟨A, h1, h2, _⟩ := hmc.dropWhile
        rw [h0, List.append_nil] at h1
        have := h2 y (h1 ▸ hy)
        rw [hpy] at this; cases this
      exact ⟨by rw [if_neg (by rwa [List.isEmpty_iff])], fun hv => absurd (ihr ▸ ihv hv) hne'⟩
    · -- nothing remains
      simp [dropWhile_all_false hall, hd0, flattenCs]

theorem search_spec {store} (p : Bytes → Bool) {t : Tree} (hw : t.WF store) (hk : t.KeysOK) (hm : MonoP p t.flatten) :
    CurAt store t (cursorFromSearch p t) ∧
    rem (cursorFromSearch p t) = t.flatten.dropWhile (fun kv => !p kv.1) :=
  have s := search_rem (store := store) p t hw hk hm
  ⟨descend_curAt (searchNode p) hw s.2, s.1⟩

theorem side_of {store} {pS pE : Bytes → Bool} {t : Tree} {c s : Cur} (hc : CurAt store t c) (hs : CurAt store t s)
    (rc : rem c = t.flatten.dropWhile (fun kv => !pS kv.1)) (rs : rem s = t.flatten.dropWhile (fun kv => !pE kv.1))
    (m : MonoP pE t.flatten) : Side store (fun k => !pE k) c s := by
  obtain ⟨A, h1, h2, h3⟩ := m.dropWhile
  refine ⟨hc.good, hs.good, hc.leaf, fun _ => shape_eq_iff.mp (hc.shape.trans hs.shape.symm),
    CutOK.suffix ⟨fun x hx => ?_, Or.inl ⟨A, rs ▸ h1, fun x hx => ?_⟩⟩ (rc ▸ List.dropWhile_suffix _)⟩
  · exact congrArg (!·) (h3 x (rs ▸ hx))
  · exact congrArg (!·) (h2 x hx)

theorem window_eq_filter {pStart pStop : Bytes → Bool} {F : List KV} (h1 : MonoP pStart F) (h2 : MonoP pStop F) :
    tw (fun k => !pStop k) (F.dropWhile (fun kv => !pStart kv.1)) = F.filter (fun kv => pStart kv.1 && !pStop kv.1) := by
  obtain ⟨A1, B1, rfl, hA1, hB1⟩ := h1
  rw [dropWhile_split hA1 hB1]
  obtain ⟨A2, B2, he, hA2, hB2⟩ := h2.suffix
  rw [he, tw_mono_split (below := fun k => !pStop k) (by simpa using hA2) (by simpa using hB2)]
  rw [List.filter_append, List.filter_append]
  rw [(List.filter_eq_nil_iff (l := A1)).mpr (by intro x hx; simp [hA1 x hx])]
  rw [(List.filter_eq_self (l := A2)).mpr (by intro x hx; simp [hA2 x hx, hB1 x (by rw [he]; simp [hx])])]
  rw [(List.filter_eq_nil_iff (l := B2)).mpr (by intro x hx; simp [hB2 x hx])]
  simp

end DoltVerif.ProllyDiff
