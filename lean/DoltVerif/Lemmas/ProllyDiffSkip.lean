import DoltVerif.Lemmas.ProllyDiffCursor
/-!
C13: `skipCommon` / `skipCommonParents` only skip a common prefix.
This is where content addressing is used: equal `(key, addr)` parent items ⇒ equal subtrees.
-/
namespace DoltVerif.ProllyDiff

theorem split_common {α} {P X Lp Y : List α} (h : P ++ X = Lp ++ Y) (hl : P.length ≤ Lp.length) :
    ∃ L1, Lp = P ++ L1 ∧ X = L1 ++ Y := by
  rcases List.append_eq_append_iff.mp h with h1 | ⟨c', h1, h2⟩
  · exact h1
  · have : c' = [] := List.length_eq_zero_iff.mp (by rw [h1, List.length_append] at hl; omega)
    subst this
    exact ⟨[], by simpa using h1.symm, by simpa using h2.symm⟩

theorem sig_key (t : Tree) (i : Nat) : (t.sig? i).map (·.1) = t.keys[i]? := by
  cases t <;> simp only [Tree.sig?, Tree.keys, List.getElem?_map, Option.map_map] <;> rfl

theorem Tree.WF_keys_nodup {store} {t : Tree} (h : t.WF store) : t.keys.Nodup := by
  cases t with
  | leaf kvs => simpa [Tree.WF, Tree.keys] using h
  | node cs => simp only [Tree.WF] at h; simpa [Tree.keys] using h.2.1

theorem keys_length (t : Tree) : t.keys.length = t.count := by
  cases t <;> simp [Tree.keys, Tree.count]

theorem equalItems_cons {a b : Frame} {fs ts : Cur} :
    equalItems (a :: fs) (b :: ts) = true ↔ ∃ x, a.nd.sig? a.idx = some x ∧ b.nd.sig? b.idx = some x := by
  simp only [equalItems]
  cases a.nd.sig? a.idx <;> cases b.nd.sig? b.idx <;> simp [eq_comm]

/-- the Merkle step: items that `equalItems` cannot tell apart have the same content below them -/
theorem Tree.sig_inj {store} {s t : Tree} (hs : s.WF store) (ht : t.WF store) {i j : Nat}
    {x : Bytes × (Bytes ⊕ Addr)} (h1 : s.sig? i = some x) (h2 : t.sig? j = some x) :
    s.itemFlat i = t.itemFlat j ∧ s.child? i = t.child? j := by
  cases s with
  | leaf ka =>
    cases t with
    | leaf kb =>
      simp only [Tree.sig?, Option.map_eq_some_iff] at h1 h2
      obtain ⟨u, hu, rfl⟩ := h1
      obtain ⟨v, hv, hx⟩ := h2
      simp only [Prod.mk.injEq, Sum.inl.injEq] at hx
      simp [Tree.itemFlat, Tree.child?, hu, hv, Prod.ext hx.1 hx.2]
    | node cb =>
      simp only [Tree.sig?, Option.map_eq_some_iff] at h1 h2
      obtain ⟨u, _, rfl⟩ := h1
      obtain ⟨v, _, hx⟩ := h2
      simp at hx
  | node ca =>
    cases t with
    | leaf kb =>
      simp only [Tree.sig?, Option.map_eq_some_iff] at h1 h2
      obtain ⟨u, _, rfl⟩ := h1
      obtain ⟨v, _, hx⟩ := h2
      simp at hx
    | node cb =>
      simp only [Tree.sig?, Option.map_eq_some_iff] at h1 h2
      obtain ⟨u, hu, rfl⟩ := h1
      obtain ⟨v, hv, hx⟩ := h2
      simp only [Prod.mk.injEq, Sum.inr.injEq] at hx
      simp only [Tree.WF] at hs ht
      -- both addresses resolve in the one store
      have e := (WFCs_get hs.2.2 hu).1
      rw [← hx.2, (WFCs_get ht.2.2 hv).1, Option.some.injEq] at e
      simp [Tree.itemFlat, Tree.child?, hu, hv, e]

theorem equalItems_itemFlat {store} {f t : Cur} (hf : Good store f) (ht : Good store t)
    (he : equalItems f t = true) : curItemFlat f = curItemFlat t := by
  cases f with
  | nil => simp [equalItems] at he
  | cons a fs =>
  cases t with
  | nil => simp [equalItems] at he
  | cons b ts =>
    obtain ⟨x, h1, h2⟩ := equalItems_cons.mp he
    exact (Tree.sig_inj (hf.wf a List.mem_cons_self) (ht.wf b List.mem_cons_self) h1 h2).1

theorem equal_parents_same_slot {store} {a b p q : Frame} {pps qqs : Cur}
    (hf : Good store (a :: p :: pps)) (ht : Good store (b :: q :: qqs))
    (hvf : valid (a :: p :: pps) = true) (hvt : valid (b :: q :: qqs) = true)
    (hep : equalItems (p :: pps) (q :: qqs) = true) (he : equalItems (a :: p :: pps) (b :: q :: qqs) = true) :
    a.nd = b.nd ∧ a.idx = b.idx := by
  have hnd : a.nd = b.nd := by
    obtain ⟨x, h1, h2⟩ := equalItems_cons.mp hep
    have := (Tree.sig_inj (hf.wf p (by simp)) (ht.wf q (by simp)) h1 h2).2
    rw [(hf.parent hvf).2, (ht.parent hvt).2] at this
    exact Option.some.inj this
  refine ⟨hnd, ?_⟩
  -- within one node the key determines the slot
  obtain ⟨x, h1, h2⟩ := equalItems_cons.mp he
  have ha : a.idx < a.nd.keys.length := by rw [keys_length]; simpa [valid_cons] using hvf
  have hk : a.nd.keys[a.idx]? = a.nd.keys[b.idx]? := by
    rw [← sig_key, ← sig_key, h1, hnd, h2]
  exact (List.getElem?_inj ha (Tree.WF_keys_nodup (hf.wf a List.mem_cons_self))).mp hk

/-- what `skipCommon` guarantees -/
structure SkipPost (store : Addr → Option Tree) (f t f' t' : Cur) : Prop where
  gf : Good store f'
  gt : Good store t'
  hf : f'.map (·.nd.height) = f.map (·.nd.height)
  ht : t'.map (·.nd.height) = t.map (·.nd.height)
  rf : f'.getLast?.map (·.nd) = f.getLast?.map (·.nd)
  rt : t'.getLast?.map (·.nd) = t.getLast?.map (·.nd)
  common : ∃ L, rem f = L ++ rem f' ∧ rem t = L ++ rem t' ∧
    (valid f = true → valid t = true → equalItems f t = true → (curItemFlat f).length ≤ L.length)

theorem SkipPost.refl {store} {f t : Cur} (hgf : Good store f) (hgt : Good store t)
    (hn : ¬ (valid f = true ∧ valid t = true ∧ equalItems f t = true)) : SkipPost store f t f t :=
  ⟨hgf, hgt, rfl, rfl, rfl, rfl, [], rfl, rfl, fun h1 h2 h3 => absurd ⟨h1, h2, h3⟩ hn⟩

theorem SkipPost.step {store} {f t f1 t1 f' t' : Cur} {L1 : List KV} (hsf : shape f1 = shape f) (hst : shape t1 = shape t)
    (hf : rem f = L1 ++ rem f1) (ht : rem t = L1 ++ rem t1) (hprog : (curItemFlat f).length ≤ L1.length)
    (ih : SkipPost store f1 t1 f' t') : SkipPost store f t f' t' := by
  obtain ⟨L2, h2f, h2t, _⟩ := ih.common
  have sf := shape_eq_iff.mp hsf
  have st := shape_eq_iff.mp hst
  refine ⟨ih.gf, ih.gt, ih.hf.trans sf.1, ih.ht.trans st.1, ih.rf.trans sf.2, ih.rt.trans st.2, L1 ++ L2, ?_, ?_, ?_⟩
  · rw [hf, h2f, List.append_assoc]
  · rw [ht, h2t, List.append_assoc]
  · intro _ _ _; rw [List.length_append]; exact Nat.le_trans hprog (Nat.le_add_right _ _)

/-- one side of `skipCommonParents` -/
theorem refetch_skip {store} {a p : Frame} {pps pf : Cur} {Lp : List KV} (hg : Good store (a :: p :: pps))
    (hv : valid (a :: p :: pps) = true) (gpf : Good store pf) (spf : shape pf = shape (p :: pps))
    (hL : rem (p :: pps) = Lp ++ rem pf) (hprog : (curItemFlat (p :: pps)).length ≤ Lp.length) :
    Good store (refetch (a :: p :: pps) pf) ∧ shape (refetch (a :: p :: pps) pf) = shape (a :: p :: pps) ∧
    ∃ L1, Lp = a.nd.flatTo a.idx ++ L1 ∧ rem (a :: p :: pps) = L1 ++ rem (refetch (a :: p :: pps) pf) ∧
      (curItemFlat (a :: p :: pps)).length ≤ L1.length := by
  have hpa := hg.parent hv
  obtain ⟨rg, rr, rs⟩ := refetch_spec hg gpf spf
  -- rem of the parents = slots of the node before the child's ++ rem of the children
  have e := rem_parent (ps := pps) hpa
  rw [hL, ← rr] at e
  have hlen : (a.nd.flatTo a.idx).length + (curItemFlat (a :: p :: pps)).length ≤ Lp.length := by
    have h1 : curItemFlat (p :: pps) = a.nd.flatten := Tree.itemFlat_child hpa.2
    rw [h1, ← Tree.flatTo_flatFrom a.nd a.idx,
      Tree.flatFrom_lt a.nd a.idx (by simpa [valid_cons] using hv)] at hprog
    simp only [List.length_append] at hprog
    exact Nat.le_trans (Nat.add_le_add_left (Nat.le_add_right _ _) _) hprog
  obtain ⟨L1, hL1, hX⟩ := split_common e.symm (Nat.le_trans (Nat.le_add_right _ _) hlen)
  refine ⟨rg, rs, L1, hL1, hX, ?_⟩
  rw [hL1, List.length_append] at hlen
  exact Nat.le_of_add_le_add_left hlen

theorem skipCommon_spec {store} : ∀ (fuel : Nat) (f t : Cur) (pnew : Bool) (f' t' : Cur),
    Good store f → Good store t → skipCommon fuel f t pnew = some (f', t') → SkipPost store f t f' t' := by
  intro fuel f t pnew
  fun_induction skipCommon fuel f t pnew with
  | case1 | case4 => nofun  -- out of fuel, here or in the parents' skip
  | case2 fuel f t pnew hv =>
    intro f' t' hgf hgt h
    cases h
    exact SkipPost.refl hgf hgt fun ⟨h1, h2, _⟩ => by simp [h1, h2] at hv
  | case3 fuel f t pnew _ he =>
    intro f' t' hgf hgt h
    cases h
    exact SkipPost.refl hgf hgt fun ⟨_, _, h3⟩ => by simp [h3] at he
  | case5 fuel f t pnew hv he hp pf pt hsk ihp ih =>
    -- skipCommonParents
    intro f' t' hgf hgt h
    simp only [Bool.not_eq_true', Bool.not_eq_false, Bool.and_eq_true] at hv he hp
    obtain ⟨hvf, hvt⟩ := hv
    have hep : equalItems f.tail t.tail = true := hp.2
    cases f with
    | nil => nomatch hvf
    | cons a fs =>
    cases t with
    | nil => nomatch hvt
    | cons b ts =>
    cases fs with
    | nil => simp [equalItems] at hep
    | cons p pps =>
    cases ts with
    | nil => simp [equalItems] at hep
    | cons q qqs =>
      have ihp := ihp pf pt hgf.tail hgt.tail hsk
      obtain ⟨Lp, hLf, hLt, hprog⟩ := ihp.common
      have hprog := hprog (decide_eq_true (hgf.parent hvf).1) (decide_eq_true (hgt.parent hvt).1) hep
      obtain ⟨g1, s1, L1, hL1, hX1, hp1⟩ :=
        refetch_skip hgf hvf ihp.gf (shape_eq_iff.mpr ⟨ihp.hf, ihp.rf⟩) hLf hprog
      obtain ⟨g2, s2, L1', hL1', hX2, _⟩ :=
        refetch_skip hgt hvt ihp.gt (shape_eq_iff.mpr ⟨ihp.ht, ihp.rt⟩) hLt
          (by rw [← equalItems_itemFlat hgf.tail hgt.tail hep]; exact hprog)
      -- both children sit in the same slot of the same node, so they have passed the same list
      obtain ⟨hnd, hidx⟩ := equal_parents_same_slot hgf hgt hvf hvt hep he
      rw [hL1, ← hnd, ← hidx] at hL1'
      rw [← List.append_cancel_left hL1'] at hX2
      exact SkipPost.step s1 s2 hX1 hX2 hp1 (ih f' t' g1 g2 h)
  | case6 fuel f t pnew hv he _ ih =>
    -- advance both
    intro f' t' hgf hgt h
    simp only [Bool.not_eq_true', Bool.not_eq_false, Bool.and_eq_true] at hv he
    obtain ⟨ga, ra, sa⟩ := advance_spec f hgf hv.1
    obtain ⟨gb, rb, sb⟩ := advance_spec t hgt hv.2
    refine SkipPost.step sa sb (L1 := curItemFlat f) ?_ ?_ (Nat.le_refl _) (ih f' t' ga gb h)
    · rw [rem_valid hv.1, ra]
    · rw [rem_valid hv.2, rb, equalItems_itemFlat hgf hgt he]

end DoltVerif.ProllyDiff
