import DoltVerif.Lemmas.MergeWalk
/-!
C13/C14: `specDiff` is the merge walk of `Lemmas/MergeWalk` read through `evOf`; hence what it is in terms of membership
on two strictly ascending association lists — every key whose presence or value differs, exactly once, ascending, with the
right From/To/type, and nothing else.
-/
namespace DoltVerif.ProllyDiff

def Sorted (cmp : Bytes → Bytes → Ordering) (l : List KV) : Prop := l.Pairwise (fun x y => cmp x.1 y.1 = .lt)

def Event.isKey (cmp : Bytes → Bytes → Ordering) (e : Event) (k : Bytes) : Prop := cmp e.key k = .eq

/-- what the events of a diff must be, stated per key-value pair -/
def DiffSpec (cmp : Bytes → Bytes → Ordering) (cam : Bool) (a b : List KV) (e : Event) : Prop :=
  (∃ x ∈ a, e = Event.removed x ∧ ∀ y ∈ b, cmp x.1 y.1 ≠ .eq) ∨
  (∃ y ∈ b, e = Event.added y ∧ ∀ x ∈ a, cmp x.1 y.1 ≠ .eq) ∨
  (∃ x ∈ a, ∃ y ∈ b, e = Event.modified x y ∧ cmp x.1 y.1 = .eq ∧ (cam = true ∨ x.2 ≠ y.2))

theorem sorted_head_lt {cmp} {x : KV} {l : List KV} (h : Sorted cmp (x :: l)) : ∀ y ∈ l, cmp x.1 y.1 = .lt :=
  (List.pairwise_cons.mp h).1

theorem sorted_tail {cmp} {x : KV} {l : List KV} (h : Sorted cmp (x :: l)) : Sorted cmp l :=
  (List.pairwise_cons.mp h).2

theorem sorted_filter {cmp : Bytes → Bytes → Ordering} {l : List KV} (q : KV → Bool) (h : Sorted cmp l) : Sorted cmp (l.filter q) :=
  List.Pairwise.filter q h

/-- the event a step of the merge walk reports -/
def evOf (cam : Bool) : Tag KV → Option Event
  | .left x => some (Event.removed x)
  | .right y => some (Event.added y)
  | .both x y => if cam || x.2 != y.2 then some (Event.modified x y) else none

theorem evOf_both {cam : Bool} {x y : KV} {e : Event} :
    evOf cam (.both x y) = some e ↔ e = Event.modified x y ∧ (cam = true ∨ x.2 ≠ y.2) := by
  have : (cam || x.2 != y.2) = true ↔ cam = true ∨ x.2 ≠ y.2 := by simp
  by_cases h : cam = true ∨ x.2 ≠ y.2
  · rw [evOf, if_pos (this.mpr h), Option.some.injEq, and_iff_left h, eq_comm]
  · rw [evOf, if_neg (mt this.mp h)]; exact ⟨nofun, fun h' => absurd h'.2 h⟩

theorem evOf_key {cam : Bool} (t : Tag KV) (e : Event) (h : evOf cam t = some e) : ∃ p ∈ t.elems, e.key = p.1 := by
  cases t with
  | left x => cases h; exact ⟨x, List.mem_singleton_self _, rfl⟩
  | right y => cases h; exact ⟨y, List.mem_singleton_self _, rfl⟩
  | both x y => rw [(evOf_both.mp h).1]; exact ⟨x, List.mem_cons_self, rfl⟩

theorem specDiff_eq_walk (cmp : Bytes → Bytes → Ordering) (cam : Bool) (a b : List KV) :
    specDiff cmp cam a b = (mergeWalk cmp (·.1) a b).filterMap (evOf cam) := by
  fun_induction specDiff cmp cam a b with
  | case1 bs => rw [mergeWalk_nil_left, List.filterMap_map]; exact (congrFun List.filterMap_eq_map bs).symm
  | case2 x as => rw [mergeWalk_nil_right, List.filterMap_map]; exact (congrFun List.filterMap_eq_map _).symm
  | case3 x as y bs hc ih => rw [mergeWalk, hc]; exact congrArg _ ih
  | case4 x as y bs hc ih => rw [mergeWalk, hc]; exact congrArg _ ih
  | case5 x as y bs hc hm ih => rw [mergeWalk, hc, ih]; simp only [List.filterMap_cons, evOf, if_pos hm]
  | case6 x as y bs hc hm ih => rw [mergeWalk, hc, ih]; simp only [List.filterMap_cons, evOf, if_neg hm]

theorem diffSpec_iff_walk {cmp : Bytes → Bytes → Ordering} {cam : Bool} {a b : List KV} {e : Event} :
    DiffSpec cmp cam a b e ↔ ∃ t, WalkSpec cmp (·.1) a b t ∧ evOf cam t = some e := by
  constructor
  · rintro (⟨x, hx, rfl, hno⟩ | ⟨y, hy, rfl, hno⟩ | ⟨x, hx, y, hy, rfl, hk, hv⟩)
    · exact ⟨.left x, Or.inl ⟨x, hx, rfl, hno⟩, rfl⟩
    · exact ⟨.right y, Or.inr (Or.inl ⟨y, hy, rfl, hno⟩), rfl⟩
    · exact ⟨.both x y, Or.inr (Or.inr ⟨x, hx, y, hy, rfl, hk⟩), evOf_both.mpr ⟨rfl, hv⟩⟩
  · rintro ⟨t, ⟨x, hx, rfl, hno⟩ | ⟨y, hy, rfl, hno⟩ | ⟨x, hx, y, hy, rfl, hk⟩, he⟩
    · cases he; exact Or.inl ⟨x, hx, rfl, hno⟩
    · cases he; exact Or.inr (Or.inl ⟨y, hy, rfl, hno⟩)
    · exact Or.inr (Or.inr ⟨x, hx, y, hy, (evOf_both.mp he).1, hk, (evOf_both.mp he).2⟩)

theorem specDiff_mem {cmp} (ol : OrdLaws cmp) (cam : Bool) : ∀ (a b : List KV), Sorted cmp a → Sorted cmp b →
    ∀ e, e ∈ specDiff cmp cam a b ↔ DiffSpec cmp cam a b e := by
  intro a b sa sb e
  rw [specDiff_eq_walk, mem_filterMap_mergeWalk ol _ sa sb, diffSpec_iff_walk]

theorem specDiff_ascending {cmp} (ol : OrdLaws cmp) (cam : Bool) : ∀ (a b : List KV), Sorted cmp a → Sorted cmp b →
    (specDiff cmp cam a b).Pairwise (fun e1 e2 => cmp e1.key e2.key = .lt) := by
  intro a b sa sb
  rw [specDiff_eq_walk]
  exact pairwise_filterMap_mergeWalk ol _ Event.key evOf_key sa sb

end DoltVerif.ProllyDiff
