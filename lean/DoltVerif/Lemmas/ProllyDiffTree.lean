import DoltVerif.Model.ProllyDiff
/-!
C13: tree well-formedness (content addressing as a hypothesis; slot keys are last keys, `KeysOK`), the
"remaining key-value pairs" abstraction of a cursor, and the cursor invariant.
-/
namespace DoltVerif.ProllyDiff

def Tree.itemFlat : Tree → Nat → List KV
  | .leaf kvs, i => (kvs[i]?).toList
  | .node cs, i => match cs[i]? with
    | some c => c.2.2.flatten
    | none => []

mutual
/-- Well-formed Merkle tree relative to a content-addressed store: every child entry's address
resolves (in `store`) to the embedded subtree — so equal addresses mean equal subtrees —, no
node below the root is empty, all leaves are at the same depth, keys inside a node are distinct. -/
def Tree.WF (store : Addr → Option Tree) : Tree → Prop
  | .leaf kvs => (kvs.map (·.1)).Nodup
  | .node cs => cs ≠ [] ∧ (cs.map (·.1)).Nodup ∧ WFCs store (firstHeight cs) cs
def WFCs (store : Addr → Option Tree) (h : Nat) : List Child → Prop
  | [] => True
  | c :: cs => store c.2.1 = some c.2.2 ∧ c.2.2.count ≠ 0 ∧ c.2.2.height = h ∧ c.2.2.WF store ∧ WFCs store h cs
end

theorem WFCs_get {store h} : ∀ {cs : List Child} {i : Nat} {c : Child}, WFCs store h cs → cs[i]? = some c →
    store c.2.1 = some c.2.2 ∧ c.2.2.count ≠ 0 ∧ c.2.2.height = h ∧ c.2.2.WF store
  | [], _, _, _, hc => nomatch hc
  | _ :: _, 0, _, hw, hc => by
    cases hc; rw [WFCs] at hw; exact ⟨hw.1, hw.2.1, hw.2.2.1, hw.2.2.2.1⟩
  | _ :: _, _ + 1, _, hw, hc => by rw [WFCs] at hw; exact WFCs_get hw.2.2.2.2 hc

mutual
/-- every slot key of an internal node is the last key below that slot -/
def Tree.KeysOK : Tree → Prop
  | .leaf _ => True
  | .node cs => KeysOKCs cs
def KeysOKCs : List Child → Prop
  | [] => True
  | c :: cs => (c.2.2.flatten.getLast?.map (·.1) = some c.1) ∧ c.2.2.KeysOK ∧ KeysOKCs cs
end

theorem KeysOKCs_get : ∀ {cs : List Child} {i : Nat} {c : Child}, KeysOKCs cs → cs[i]? = some c →
    (c.2.2.flatten.getLast?.map (·.1) = some c.1) ∧ c.2.2.KeysOK
  | [], _, _, _, hc => nomatch hc
  | _ :: _, 0, _, hw, hc => by cases hc; rw [KeysOKCs] at hw; exact ⟨hw.1, hw.2.1⟩
  | _ :: _, _ + 1, _, hw, hc => by rw [KeysOKCs] at hw; exact KeysOKCs_get hw.2.2 hc

theorem flattenCs_append : ∀ (xs ys : List Child), flattenCs (xs ++ ys) = flattenCs xs ++ flattenCs ys
  | [], ys => by simp [flattenCs]
  | x :: xs, ys => by simp [flattenCs, flattenCs_append xs ys]

theorem Tree.flatFrom_zero (t : Tree) : t.flatFrom 0 = t.flatten := by
  cases t <;> simp [Tree.flatFrom, Tree.flatten]

theorem Tree.flatFrom_ge (t : Tree) (i : Nat) (h : t.count ≤ i) : t.flatFrom i = [] := by
  cases t with
  | leaf kvs => simp only [Tree.flatFrom, Tree.count] at *; exact List.drop_eq_nil_of_le h
  | node cs => simp only [Tree.flatFrom, Tree.count] at *; rw [List.drop_eq_nil_of_le h]; simp [flattenCs]

theorem Tree.flatFrom_lt (t : Tree) (i : Nat) (h : i < t.count) :
    t.flatFrom i = t.itemFlat i ++ t.flatFrom (i + 1) := by
  cases t with
  | leaf kvs =>
    simp [Tree.count] at h
    simp [Tree.flatFrom, Tree.itemFlat, h]
  | node cs =>
    simp [Tree.count] at h
    simp only [Tree.flatFrom, Tree.itemFlat]
    rw [List.drop_eq_getElem_cons h]
    simp [flattenCs, h]

theorem Tree.flatTo_flatFrom (t : Tree) (i : Nat) : t.flatTo i ++ t.flatFrom i = t.flatten := by
  cases t with
  | leaf kvs => simp [Tree.flatTo, Tree.flatFrom, Tree.flatten]
  | node cs => simp [Tree.flatTo, Tree.flatFrom, Tree.flatten, ← flattenCs_append]

theorem Tree.child?_node {cs : List Child} {i : Nat} {c : Tree} (h : (Tree.node cs).child? i = some c) :
    ∃ d, cs[i]? = some d ∧ d.2.2 = c := Option.map_eq_some_iff.mp h

theorem Tree.itemFlat_child {t c : Tree} {i : Nat} (h : t.child? i = some c) : t.itemFlat i = c.flatten := by
  cases t with
  | leaf kvs => nomatch h
  | node cs =>
    obtain ⟨d, hd, rfl⟩ := Tree.child?_node h
    simp only [Tree.itemFlat, hd]

theorem Tree.flatFrom_length_antitone (t : Tree) {i j : Nat} (h : i ≤ j) :
    (t.flatFrom j).length ≤ (t.flatFrom i).length := by
  obtain ⟨d, rfl⟩ := Nat.exists_eq_add_of_le h
  cases t with
  | leaf kvs => simp [Tree.flatFrom]; omega
  | node cs =>
    simp only [Tree.flatFrom]
    have : cs.drop i = (cs.drop i).take d ++ cs.drop (i + d) := by
      rw [← List.drop_drop, List.take_append_drop]
    rw [this, flattenCs_append]; simp

theorem Tree.height_pos_child {t : Tree} (h : 0 < t.height) (i : Nat) (hi : i < t.count) :
    ∃ c, t.child? i = some c := by
  cases t with
  | leaf kvs => simp [Tree.height] at h
  | node cs =>
    simp [Tree.count] at hi
    exact ⟨cs[i].2.2, by simp [Tree.child?, hi]⟩

theorem Tree.WF_child {store} {t c : Tree} {i : Nat} (hw : t.WF store) (h : t.child? i = some c) :
    c.count ≠ 0 ∧ c.height + 1 = t.height ∧ c.WF store := by
  cases t with
  | leaf kvs => nomatch h
  | node cs =>
    obtain ⟨d, hd, rfl⟩ := Tree.child?_node h
    rw [Tree.WF] at hw
    have := WFCs_get hw.2.2 hd
    exact ⟨this.2.1, by rw [Tree.height, this.2.2.1], this.2.2.2⟩

/-- pairs strictly after the current slot of every frame -/
def remAbove : Cur → List KV
  | [] => []
  | p :: ps => p.nd.flatFrom (p.idx + 1) ++ remAbove ps

/-- everything the cursor has not passed yet, current item included -/
def rem : Cur → List KV
  | [] => []
  | f :: ps => f.nd.flatFrom f.idx ++ remAbove ps

def curItemFlat : Cur → List KV
  | [] => []
  | f :: _ => f.nd.itemFlat f.idx

/-- A proper cursor: every frame is the child its parent points to (or, when the parent is
exhausted, the child is exhausted too — the stale state `advance` leaves behind), and heights
go up by one per frame. -/
def Path : Cur → Prop
  | [] => True
  | [_] => True
  | f :: p :: ps =>
    ((p.idx < p.nd.count ∧ p.nd.child? p.idx = some f.nd) ∨ (p.nd.count ≤ p.idx ∧ f.nd.count ≤ f.idx))
    ∧ p.nd.height = f.nd.height + 1 ∧ Path (p :: ps)

structure Good (store : Addr → Option Tree) (c : Cur) : Prop where
  path : Path c
  wf : ∀ f ∈ c, f.nd.WF store
  exh : valid c = false → rem c = []

theorem valid_cons (f : Frame) (ps : Cur) : valid (f :: ps) = decide (f.idx < f.nd.count) := rfl

theorem Good.tail {store} {f : Frame} {ps : Cur} (h : Good store (f :: ps)) : Good store ps := by
  cases ps with
  | nil => exact ⟨trivial, by simp, by simp [rem]⟩
  | cons p pps =>
    refine ⟨h.path.2.2, fun g hg => h.wf g (List.mem_cons_of_mem _ hg), ?_⟩
    intro hv
    simp [valid_cons] at hv
    have hp := h.path.1
    rcases hp with ⟨h1, _⟩ | ⟨h1, h2⟩
    · omega
    · have := h.exh (by simp [valid_cons]; omega)
      simp [rem, remAbove] at this
      simp [rem, this.2.2, Tree.flatFrom_ge _ _ h1]

theorem Good.parent {store} {f p : Frame} {ps : Cur} (h : Good store (f :: p :: ps))
    (hv : valid (f :: p :: ps) = true) : p.idx < p.nd.count ∧ p.nd.child? p.idx = some f.nd := by
  rcases h.path.1 with h1 | ⟨_, h2⟩
  · exact h1
  · simp [valid_cons] at hv; omega

theorem rem_parent {f p : Frame} {ps : Cur} (hp : p.idx < p.nd.count ∧ p.nd.child? p.idx = some f.nd) :
    rem (p :: ps) = f.nd.flatTo f.idx ++ rem (f :: p :: ps) := by
  simp only [rem, remAbove]
  rw [Tree.flatFrom_lt _ _ hp.1, Tree.itemFlat_child hp.2, ← Tree.flatTo_flatFrom f.nd f.idx]
  simp

end DoltVerif.ProllyDiff
