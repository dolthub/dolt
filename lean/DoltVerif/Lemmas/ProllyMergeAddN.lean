import DoltVerif.Lemmas.ProllyDiffTree
import DoltVerif.Lemmas.ProllyMergeInterval
/-!
C14, obligation R1 for the empty base and a tree of ANY height: the generator for `empty → x` is a walk over in-bounds paths
of `x`.  With `x.flatten = D ++ I ++ A` (`D` the pairs before the cursor's current item, `I` the item's, `A` those after), a
patch at level > 0 is `(lastKey D, key] ↦ item subtree`, at level 0 the item's pair; `Next` climbs while at a node's end
and advances (`D := D ++ I`), `split` pushes the item's child (`D` unchanged).
-/
namespace DoltVerif.ProllyMerge
open DoltVerif.ProllyDiff

variable {cmp : Bytes → Bytes → Ordering}

theorem sorted_append_left {A C : List KV} (h : Sorted cmp (A ++ C)) : Sorted cmp A := (List.pairwise_append.mp h).1
theorem sorted_append_right {A C : List KV} (h : Sorted cmp (A ++ C)) : Sorted cmp C := (List.pairwise_append.mp h).2.1
theorem sorted_cross {A C : List KV} (h : Sorted cmp (A ++ C)) : ∀ x ∈ A, ∀ y ∈ C, cmp x.1 y.1 = .lt :=
  (List.pairwise_append.mp h).2.2

theorem chg_none {X : List KV} {k : Bytes} (h : lookupKV cmp k X = none) :
    changeOf (lookupKV cmp k []) (lookupKV cmp k X) = none := by rw [h]; rfl

def lastKey (l : List KV) : Option Bytes := l.getLast?.map (·.1)

theorem le_lastKey (ol : OrdLaws cmp) {A : List KV} (hs : Sorted cmp A) {a : Bytes} (ha : lastKey A = some a) :
    ∀ x ∈ A, cmp x.1 a ≠ .gt := by
  obtain ⟨y, hy, rfl⟩ := Option.map_eq_some_iff.mp ha
  obtain ⟨pre, rfl⟩ := List.getLast?_eq_some_iff.mp hy
  intro x hx
  rcases List.mem_append.mp hx with h | h
  · rw [sorted_cross hs x h y (by simp)]; simp
  · rw [List.mem_singleton.mp h, ol.refl]; simp

/-- pairs strictly before the current item -/
def doneOf : Cur → List KV
  | [] => []
  | f :: ps => doneOf ps ++ f.nd.flatTo f.idx

/-- an in-bounds path in `x` (deepest frame first) -/
def APath (x : Tree) : Cur → Prop
  | [] => False
  | [f] => f.nd = x ∧ f.idx < f.nd.count
  | f :: p :: ps => p.nd.child? p.idx = some f.nd ∧ f.idx < f.nd.count ∧ APath x (p :: ps)

theorem Tree.flatTo_zero (t : Tree) : t.flatTo 0 = [] := by cases t <;> simp [Tree.flatTo, flattenCs]

theorem Tree.flatTo_succ (t : Tree) (i : Nat) (h : i < t.count) : t.flatTo (i + 1) = t.flatTo i ++ t.itemFlat i := by
  cases t with
  | leaf kvs =>
    simp only [Tree.flatTo, Tree.itemFlat]
    rw [List.take_add_one]
  | node cs =>
    simp only [Tree.count] at h
    simp only [Tree.flatTo, Tree.itemFlat]
    rw [List.take_add_one, flattenCs_append]
    simp [h, flattenCs]

theorem Tree.flatTo_count (t : Tree) : t.flatTo t.count = t.flatten := by
  have := Tree.flatTo_flatFrom t t.count
  rw [Tree.flatFrom_ge _ _ (Nat.le_refl _)] at this
  simpa using this

theorem KeysOK_child {t c : Tree} {i : Nat} (hk : t.KeysOK) (h : t.child? i = some c) : c.KeysOK := by
  cases t with
  | leaf kvs => simp [Tree.child?] at h
  | node cs =>
    simp [Tree.child?] at h
    obtain ⟨a, ad, ha⟩ := h
    simp only [Tree.KeysOK] at hk
    exact (KeysOKCs_get hk ha).2

theorem node_item {store : Addr → Option Tree} {t : Tree} (hw : t.WF store) (hk : t.KeysOK) {i : Nat} (hi : i < t.count) (hh : 0 < t.height) :
    ∃ key addr child, t.key? i = some key ∧ t.child? i = some child ∧ t.itemFlat i = child.flatten ∧ store addr = some child ∧
      child.count ≠ 0 ∧ child.height + 1 = t.height ∧ lastKey child.flatten = some key ∧
      (∀ ps, curVal (⟨t, i⟩ :: ps) = some (.sub addr child)) := by
  cases t with
  | leaf kvs => simp [Tree.height] at hh
  | node cs =>
    simp only [Tree.count] at hi
    have hc : cs[i]? = some cs[i] := List.getElem?_eq_getElem hi
    simp only [Tree.WF] at hw
    simp only [Tree.KeysOK] at hk
    obtain ⟨h1, h2, h3, _⟩ := WFCs_get hw.2.2 hc
    obtain ⟨h5, _⟩ := KeysOKCs_get hk hc
    exact ⟨cs[i].1, cs[i].2.1, cs[i].2.2, by simp [Tree.key?, hi], by simp [Tree.child?, hi], by simp [Tree.itemFlat, hi], h1, h2,
      by simp [Tree.height, h3], h5, fun ps => by simp [curVal, hi]⟩

theorem leaf_item {t : Tree} {i : Nat} (hi : i < t.count) (hh : t.height = 0) :
    ∃ kv : KV, t.key? i = some kv.1 ∧ t.itemFlat i = [kv] ∧ (∀ ps, curVal (⟨t, i⟩ :: ps) = some (.val kv.2)) := by
  cases t with
  | node cs => simp [Tree.height] at hh
  | leaf kvs =>
    simp only [Tree.count] at hi
    exact ⟨kvs[i], by simp [Tree.key?, hi], by simp [Tree.itemFlat, hi], fun ps => by simp [curVal, hi]⟩

theorem apath_head {store : Addr → Option Tree} {x : Tree} (hx : x.WF store) (kx : x.KeysOK) :
    ∀ {ps : Cur} {f : Frame}, APath x (f :: ps) → f.nd.WF store ∧ f.nd.KeysOK ∧ f.idx < f.nd.count
  | [], f, ⟨h, hi⟩ => ⟨by rw [h]; exact hx, by rw [h]; exact kx, hi⟩
  | p :: ps, f, ⟨hch, hi, hp⟩ => by
    obtain ⟨wp, kp, _⟩ := apath_head hx kx hp
    exact ⟨(Tree.WF_child wp hch).2.2, KeysOK_child kp hch, hi⟩

theorem decomp {x : Tree} : ∀ {c : Cur}, APath x c → x.flatten = doneOf c ++ (curItemFlat c ++ remAbove c)
  | [], h => absurd h (by simp [APath])
  | [f], ⟨hx, hi⟩ => by
    simp only [doneOf, curItemFlat, remAbove, List.nil_append, List.append_nil]
    rw [← Tree.flatFrom_lt _ _ hi, Tree.flatTo_flatFrom, hx]
  | f :: p :: ps, ⟨hch, hi, hp⟩ => by
    have ih := decomp hp
    simp only [curItemFlat] at ih
    show x.flatten = (doneOf (p :: ps) ++ f.nd.flatTo f.idx) ++ (f.nd.itemFlat f.idx ++ (f.nd.flatFrom (f.idx + 1) ++ remAbove (p :: ps)))
    rw [ih, Tree.itemFlat_child hch, ← Tree.flatTo_flatFrom f.nd f.idx, Tree.flatFrom_lt _ _ hi]
    simp [List.append_assoc]

theorem next_cursor {x : Tree} : ∀ {c : Cur}, APath x c →
    (valid (advance (climb c)) = true ∧ APath x (advance (climb c)) ∧ doneOf (advance (climb c)) = doneOf c ++ curItemFlat c) ∨
    (valid (advance (climb c)) = false ∧ remAbove c = []) := by
  intro c
  fun_induction climb c with
  | case1 f p ps he ih =>
    -- last item of a node below the root: go on from the parent
    intro ⟨hch, hi, hp⟩
    have hcount : f.idx + 1 = f.nd.count := by simpa [atNodeEnd] using he
    rcases ih hp with ⟨v, ap, hd⟩ | ⟨v, hr⟩
    · left
      refine ⟨v, ap, ?_⟩
      rw [hd]
      show doneOf (p :: ps) ++ p.nd.itemFlat p.idx = (doneOf (p :: ps) ++ f.nd.flatTo f.idx) ++ f.nd.itemFlat f.idx
      rw [Tree.itemFlat_child hch, ← Tree.flatTo_count f.nd, ← hcount, Tree.flatTo_succ _ _ hi]
      simp
    · right
      refine ⟨v, ?_⟩
      show f.nd.flatFrom (f.idx + 1) ++ remAbove (p :: ps) = []
      rw [Tree.flatFrom_ge _ _ (by omega), hr]; rfl
  | case2 f p ps hne =>
    -- a next item in the same node
    intro ⟨hch, hi, hp⟩
    have h1 : f.idx + 1 < f.nd.count := by simp [atNodeEnd] at hne; omega
    left
    have : advance (f :: p :: ps) = ⟨f.nd, f.idx + 1⟩ :: p :: ps := by simp [advance, h1]
    rw [this]
    refine ⟨by simp [valid, Frame.valid, h1], ⟨hch, h1, hp⟩, ?_⟩
    simp [doneOf, curItemFlat, Tree.flatTo_succ _ _ hi]
  | case3 c hc =>
    -- no parent to climb to
    match c, hc with
    | [], _ => nofun
    | f :: p :: ps, hc => exact absurd rfl (hc f p ps)
    | [f], _ =>
      intro ⟨hx, hi⟩
      by_cases h1 : f.idx + 1 < f.nd.count
      · left
        have : advance [f] = [⟨f.nd, f.idx + 1⟩] := by simp [advance, h1]
        rw [this]
        refine ⟨by simp [valid, Frame.valid, h1], ⟨hx, h1⟩, ?_⟩
        simp [doneOf, curItemFlat, Tree.flatTo_succ _ _ hi]
      · right
        have : advance [f] = [⟨f.nd, f.nd.count⟩] := by simp [advance, h1]
        rw [this]
        refine ⟨by simp [valid, Frame.valid], ?_⟩
        simp only [remAbove, List.append_nil]
        exact Tree.flatFrom_ge _ _ (by omega)

theorem curKey_of_valid : ∀ {c : Cur}, valid c = true → ∃ key, curKey c = some key
  | [], h => by simp [valid] at h
  | f :: ps, h => by
    simp only [valid, Frame.valid, decide_eq_true_eq] at h
    cases hnd : f.nd with
    | leaf kvs => rw [hnd] at h; simp only [Tree.count] at h; exact ⟨kvs[f.idx].1, by simp [curKey, hnd, Tree.key?, h]⟩
    | node cs => rw [hnd] at h; simp only [Tree.count] at h; exact ⟨cs[f.idx].1, by simp [curKey, hnd, Tree.key?, h]⟩

theorem lastKey_mem {D : List KV} {a : Bytes} (ha : lastKey D = some a) : ∃ w ∈ D, w.1 = a :=
  let ⟨w, hw, e⟩ := Option.map_eq_some_iff.mp ha
  ⟨w, List.mem_of_getLast? hw, e⟩

structure ZFacts (cmp : Bytes → Bytes → Ordering) (D I A : List KV) (key : Bytes) : Prop where
  sX : Sorted cmp (D ++ (I ++ A))
  last : lastKey I = some key

namespace ZFacts
variable {D I A : List KV} {key : Bytes}

theorem sIA (Z : ZFacts cmp D I A key) : Sorted cmp (I ++ A) := sorted_append_right Z.sX
theorem sI (Z : ZFacts cmp D I A key) : Sorted cmp I := sorted_append_left Z.sIA

theorem lastMem (Z : ZFacts cmp D I A key) : ∃ z ∈ I, z.1 = key := lastKey_mem Z.last

theorem I_le (ol : OrdLaws cmp) (Z : ZFacts cmp D I A key) : ∀ x ∈ I, cmp x.1 key ≠ .gt := le_lastKey ol Z.sI Z.last

theorem lt_A (Z : ZFacts cmp D I A key) : ∀ y ∈ A, cmp key y.1 = .lt := by
  intro y hy
  obtain ⟨z, hz, hk⟩ := Z.lastMem
  rw [← hk]
  exact sorted_cross Z.sIA z hz y hy

theorem lastD_lt (Z : ZFacts cmp D I A key) : ∀ a, lastKey D = some a → ∀ y ∈ I ++ A, cmp a y.1 = .lt := by
  intro a ha y hy
  obtain ⟨w, hw, rfl⟩ := lastKey_mem ha
  exact sorted_cross Z.sX w hw y hy

theorem le_lastD (ol : OrdLaws cmp) (Z : ZFacts cmp D I A key) : ∀ x ∈ D, ∃ a, lastKey D = some a ∧ cmp x.1 a ≠ .gt := by
  intro x hx
  cases h : lastKey D with
  | none => rw [List.getLast?_eq_none_iff.mp (Option.map_eq_none_iff.mp h)] at hx; cases hx
  | some a => exact ⟨a, rfl, le_lastKey ol (sorted_append_left Z.sX) h x hx⟩

theorem D_lt (Z : ZFacts cmp D I A key) : ∀ x ∈ D, cmp x.1 key = .lt := by
  intro x hx
  obtain ⟨z, hz, hk⟩ := Z.lastMem
  rw [← hk]
  exact sorted_cross Z.sX x hx z (List.mem_append_left _ hz)

theorem last_DI (Z : ZFacts cmp D I A key) : lastKey (D ++ I) = some key := by
  have := Z.last
  unfold lastKey at this ⊢
  rw [List.getLast?_append]
  cases h : I.getLast? with
  | none => rw [h] at this; cases this
  | some z => rw [h] at this; exact this

theorem passed (ol : OrdLaws cmp) (Z : ZFacts cmp D I A key) {k : Bytes} (h : cmp key k = .lt) :
    ∀ y ∈ D ++ I, cmp y.1 k = .lt := fun y hy =>
  (List.mem_append.mp hy).elim (fun hy => ol.lt_trans _ _ _ (Z.D_lt y hy) h) (fun hy => le_lt_lt ol (Z.I_le ol y hy) h)

end ZFacts

/-- The patch `p` sent for the part `I` of a sorted content `D ++ I ++ A`, as seen from the keys.  The range patch
`(lastKey D, lastKey I] ↦ I` and the point patch of a single pair are the two instances (`cut_range`, `cut_point`); what
`GenSound` asks of the patches of a generator that only adds follows from these facts alone, whatever the level. -/
structure Cut (cmp : Bytes → Bytes → Ordering) (D I A : List KV) (p : Patch) : Prop extends ZFacts cmp D I A p.endKey where
  ok : PatchOK cmp p
  above : ∀ {k}, startsAfter cmp p k → ∀ y ∈ I ++ A, cmp k y.1 = .lt
  below : ∀ {k}, ¬ startsAfter cmp p k → ∀ y ∈ D, cmp y.1 k = .lt
  prev : ∀ a, lastKey D = some a → startsAfter cmp p a
  val : ∀ k, p.covers cmp k = true → p.valAt cmp k = lookupKV cmp k I

section
variable {D I A : List KV} {p : Patch}

theorem ZFacts.cut_range (ol : OrdLaws cmp) (Z : ZFacts cmp D I A p.endKey) (hl : p.level ≠ 0)
    (hpk : p.keyBelowStart = lastKey D) (hins : p.ins = I) : Cut cmp D I A p where
  toZFacts := Z
  ok := by
    refine ⟨fun _ a ha => ?_, fun _ z hz => ?_, fun _ => hins ▸ Z.sI⟩
    · obtain ⟨z, hz, hk⟩ := Z.lastMem
      rw [← hk, Z.lastD_lt a (hpk ▸ ha) z (List.mem_append_left _ hz)]; simp
    · rw [hins] at hz
      exact ⟨fun a ha => Z.lastD_lt a (hpk ▸ ha) z (List.mem_append_left _ hz), Z.I_le ol z hz⟩
  above {k} hs y hy := by
    obtain ⟨a, ha, hka⟩ := (startsAfter_range hl k).mp hs
    exact le_lt_lt ol hka (Z.lastD_lt a (hpk ▸ ha) y hy)
  below {k} hns y hy := by
    obtain ⟨a, ha, hya⟩ := Z.le_lastD ol y hy
    refine le_lt_lt ol hya ((ol.gt_iff _ _).mp (Decidable.by_contra fun h => hns ?_))
    exact (startsAfter_range hl k).mpr ⟨a, hpk ▸ ha, h⟩
  prev a ha := (startsAfter_range hl a).mpr ⟨a, hpk ▸ ha, by rw [ol.refl]; simp⟩
  val k _ := by rw [valAt_range hl, hins]

theorem ZFacts.cut_point (ol : OrdLaws cmp) {kv : KV} (Z : ZFacts cmp D [kv] A kv.1) :
    Cut cmp D [kv] A { endKey := kv.1, to? := some (.val kv.2) } where
  toZFacts := Z
  ok := .of_point rfl
  above {k} hs y hy := by
    have hs : cmp k kv.1 = .lt := (startsAfter_point rfl k).mp hs
    rcases List.mem_append.mp hy with hy | hy
    · rw [List.mem_singleton.mp hy]; exact hs
    · exact ol.lt_trans _ _ _ hs (Z.lt_A y hy)
  below {k} hns y hy :=
    lt_le_lt ol (Z.D_lt y hy) fun h => hns ((startsAfter_point rfl k).mpr ((ol.gt_iff _ _).mp h))
  prev a ha := by
    obtain ⟨w, hw, rfl⟩ := lastKey_mem ha
    exact (startsAfter_point rfl _).mpr (Z.D_lt w hw)
  val k hk := by
    have hk : cmp k kv.1 = .eq := (covers_iff_point rfl k).mp hk
    simp [Patch.valAt, pointEffect, lookupKV, hk]

theorem Cut.lookup (ol : OrdLaws cmp) (C : Cut cmp D I A p) {k : Bytes} (hc : p.covers cmp k = true) :
    lookupKV cmp k (D ++ (I ++ A)) = p.valAt cmp k := by
  have hpost : ∀ z ∈ A, cmp k z.1 = .lt := fun z hz => le_lt_lt ol (covers_le_end hc) (C.lt_A z hz)
  rw [C.val k hc, lookup_append, lookup_none_of_gt ol (C.below (not_startsAfter_of_covers ol hc)), lookup_append,
    lookup_none_of_lt hpost]
  cases lookupKV cmp k I <;> rfl

theorem Cut.gap (ol : OrdLaws cmp) (C : Cut cmp D I A p) {k : Bytes} (hD : ∀ y ∈ D, cmp y.1 k = .lt)
    (hs : startsAfter cmp p k) : lookupKV cmp k (D ++ (I ++ A)) = none := by
  rw [lookup_append, lookup_none_of_gt ol hD, lookup_none_of_lt (C.above hs)]; rfl

end

/-- the patch `sendAddedRange` / `sendAddedKey` sends at cursor `c`, and the state it leaves -/
def patchAt (c : Cur) (pk : Option Bytes) (key : Bytes) : Patch :=
  if 0 < level c then { keyBelowStart := pk, endKey := key, to? := curVal c, subtreeCount := subtreeSize c, level := level c }
  else { endKey := key, to? := curVal c }

def stateAt (c : Cur) (pk : Option Bytes) : PG := ⟨[], c, pk, level c, some .added⟩

theorem patchAt_endKey (c : Cur) (pk : Option Bytes) (key : Bytes) : (patchAt c pk key).endKey = key := by
  unfold patchAt; split <;> rfl

theorem patchAt_level (c : Cur) (pk : Option Bytes) (key : Bytes) : (patchAt c pk key).level = level c := by
  unfold patchAt; split
  · rfl
  · show 0 = level c; omega

structure CurFacts (cmp : Bytes → Bytes → Ordering) (store : Addr → Option Tree) (x : Tree) (c : Cur) (key : Bytes) : Prop where
  flat : x.flatten = doneOf c ++ (curItemFlat c ++ remAbove c)
  z : ZFacts cmp (doneOf c) (curItemFlat c) (remAbove c) key
  range : 0 < level c → ∃ addr child, curVal c = some (.sub addr child) ∧ store addr = some child ∧ child.flatten = curItemFlat c ∧
      pushChild c = .ok (⟨child, 0⟩ :: c) ∧ APath x (⟨child, 0⟩ :: c) ∧ level (⟨child, 0⟩ :: c) + 1 = level c
  point : level c = 0 → ∃ kv : KV, curItemFlat c = [kv] ∧ key = kv.1 ∧ curVal c = some (.val kv.2)
  vld : valid c = true

theorem curFacts {store : Addr → Option Tree} {x : Tree} (hx : x.WF store) (kx : x.KeysOK) (sx : Sorted cmp x.flatten)
    {c : Cur} (ap : APath x c) {key : Bytes} (hk : curKey c = some key) : CurFacts cmp store x c key := by
  cases c with
  | nil => exact absurd ap (by simp [APath])
  | cons f ps =>
    obtain ⟨t, i⟩ := f
    obtain ⟨wf, kf, hi⟩ := apath_head hx kx ap
    simp only at wf kf hi
    have hflat := decomp ap
    have hv : valid (⟨t, i⟩ :: ps) = true := by simp [valid, Frame.valid, hi]
    have hkey : t.key? i = some key := hk
    by_cases hh : 0 < t.height
    · obtain ⟨key0, addr, child, h1, h2, h3, h4, h5, h6, h7, h8⟩ := node_item wf kf hi hh
      have hk0 : key0 = key := by rw [h1] at hkey; simpa using hkey
      subst hk0
      have hI : curItemFlat (⟨t, i⟩ :: ps) = child.flatten := h3
      refine ⟨hflat, ⟨by rw [← hflat]; exact sx, by rw [hI]; exact h7⟩, ?_, ?_, hv⟩
      · intro _
        refine ⟨addr, child, h8 ps, h4, hI.symm, by simp [pushChild, h2, pure, Except.pure], ⟨h2, Nat.pos_of_ne_zero h5, ap⟩, h6⟩
      · intro h0
        have : t.height = 0 := h0
        omega
    · have hh0 : t.height = 0 := by omega
      obtain ⟨kv, h1, h2, h3⟩ := leaf_item hi hh0
      have hk0 : kv.1 = key := by rw [h1] at hkey; simpa using hkey
      have hI : curItemFlat (⟨t, i⟩ :: ps) = [kv] := h2
      refine ⟨hflat, ⟨by rw [← hflat]; exact sx, by rw [hI]; simp [lastKey, hk0]⟩, ?_, ?_, hv⟩
      · intro h0
        have : 0 < t.height := h0
        omega
      · intro _
        exact ⟨kv, hI, hk0.symm, h3 ps⟩

theorem CurFacts.cut (ol : OrdLaws cmp) {store : Addr → Option Tree} {x : Tree} {c : Cur} {key : Bytes}
    (F : CurFacts cmp store x c key) :
    Cut cmp (doneOf c) (curItemFlat c) (remAbove c) (patchAt c (lastKey (doneOf c)) key) := by
  unfold patchAt
  by_cases hl : 0 < level c
  · obtain ⟨addr, child, hcv, _, hfl, _⟩ := F.range hl
    rw [if_pos hl]
    refine ZFacts.cut_range ol F.z (Nat.ne_of_gt hl) rfl ?_
    show (match curVal c with | some (.sub _ t) => t.flatten | _ => []) = curItemFlat c
    rw [hcv]; exact hfl
  · obtain ⟨kv, hI, rfl, hcv⟩ := F.point (by omega)
    have Z := F.z
    rw [if_neg hl, hcv, hI] at *
    exact Z.cut_point ol

theorem fnp_added (sf n : Nat) (c : Cur) (hv : valid c = true) (key : Bytes) (hk : curKey c = some key)
    (pk : Option Bytes) (pl : Nat) (pt : Option DiffType) :
    findNextPatch cmp sf (n + 1) ⟨[], c, pk, pl, pt⟩ = .ok (stateAt c pk, some (patchAt c pk key, .added)) := by
  have hv0 : valid ([] : Cur) = false := rfl
  by_cases h : 0 < level c
  · simp [findNextPatch, hv0, hv, sendAddedRange, needKey, hk, stateAt, patchAt, h, bind, Except.bind, pure, Except.pure]
  · have h0 : level c = 0 := by omega
    simp [findNextPatch, hv0, hv, sendAddedKey, needKey, hk, stateAt, patchAt, h0, bind, Except.bind, pure, Except.pure]

theorem fnp_invalid (sf n : Nat) (c : Cur) (hv : valid c = false) (pk : Option Bytes) (pl : Nat) (pt : Option DiffType) :
    findNextPatch cmp sf (n + 1) ⟨[], c, pk, pl, pt⟩ = .ok (⟨[], c, pk, pl, pt⟩, none) := by
  have hv0 : valid ([] : Cur) = false := rfl
  simp [findNextPatch, hv0, hv, pure, Except.pure]

/-- `findNextPatch` with an exhausted `from` and `to` on a root slot: the slot's added range -/
theorem fnp_R (sf n : Nat) (pre : List Child) (c : Child) (post : List Child) (pk : Option Bytes) (pl : Nat) (pt : Option DiffType) :
    findNextPatch cmp sf (n + 1) ⟨[], [⟨.node (pre ++ c :: post), pre.length⟩], pk, pl, pt⟩ =
      .ok (⟨[], [⟨.node (pre ++ c :: post), pre.length⟩], pk, firstHeight (pre ++ c :: post) + 1, some .added⟩,
        some ({ keyBelowStart := pk, endKey := c.1, to? := some (.sub c.2.1 c.2.2), subtreeCount := c.2.2.size,
                level := firstHeight (pre ++ c :: post) + 1 }, .added)) := by
  simp [findNextPatch, valid, Frame.valid, Tree.count, level, Tree.height, sendAddedRange, needKey, curKey, Tree.key?,
    curVal, subtreeSize, bind, Except.bind, pure, Except.pure]

/-- … and `to` inside a leaf: the pair's added key -/
theorem fnp_P (sf n : Nat) (done : List KV) (kv : KV) (rest : List KV) (par : Cur) (pk : Option Bytes) (pl : Nat) (pt : Option DiffType) :
    findNextPatch cmp sf (n + 1) ⟨[], ⟨.leaf (done ++ kv :: rest), done.length⟩ :: par, pk, pl, pt⟩ =
      .ok (⟨[], ⟨.leaf (done ++ kv :: rest), done.length⟩ :: par, pk, 0, some .added⟩,
        some ({ endKey := kv.1, to? := some (.val kv.2) }, .added)) := by
  simp [findNextPatch, valid, Frame.valid, Tree.count, level, Tree.height, sendAddedKey, needKey, curKey, Tree.key?,
    curVal, bind, Except.bind, pure, Except.pure]

theorem pgNext_fresh (fuel : Nat) (f t : Cur) (pk : Option Bytes) (pl : Nat) :
    pgNext cmp fuel ⟨f, t, pk, pl, none⟩ = findNextPatch cmp fuel fuel ⟨f, t, pk, pl, none⟩ := by
  simp [pgNext, bind, Except.bind, pure, Except.pure]

theorem pgNext_added (fuel : Nat) (c : Cur) (pk : Option Bytes) :
    pgNext cmp fuel (stateAt c pk) =
      findNextPatch cmp fuel fuel ⟨[], advance (climb c), curKey c, level c, some .added⟩ := by
  have hv0 : valid ([] : Cur) = false := rfl
  by_cases h : 0 < level c <;> simp [stateAt, pgNext, advanceFromPreviousPatch, h, hv0, bind, Except.bind, pure, Except.pure]

theorem pgSplit_added (fuel : Nat) (c c' : Cur) (hp : pushChild c = .ok c') (key' : Bytes) (hk : curKey c' = some key')
    (pk : Option Bytes) (hl : level c ≠ 0) :
    pgSplit cmp fuel (stateAt c pk) = .ok (stateAt c' pk, some (patchAt c' pk key', .added)) := by
  by_cases h : 0 < level c'
  · simp [stateAt, pgSplit, hl, hp, sendAddedRange, needKey, hk, patchAt, h, bind, Except.bind, pure, Except.pure]
  · have h0 : level c' = 0 := by omega
    simp [stateAt, pgSplit, hl, hp, sendAddedKey, needKey, hk, patchAt, h0, bind, Except.bind, pure, Except.pure]

/-- the invariant of the generator for `empty → x`: it has just sent the patch at an in-bounds path of `x`, with
`previousKey` the last key before the path's current item -/
def AddInvN (x : Tree) (d : PG) : GenPos → Prop
  | .start => d = ⟨[], [⟨x, 0⟩], none, 0, none⟩
  | .at p t => ∃ c key, APath x c ∧ curKey c = some key ∧ d = stateAt c (lastKey (doneOf c)) ∧
      p = patchAt c (lastKey (doneOf c)) key ∧ t = .added
  | .done => True

theorem addN_genSound (ol : OrdLaws cmp) {store : Addr → Option Tree} {x : Tree} (hx : x.WF store) (kx : x.KeysOK)
    (sx : Sorted cmp x.flatten) (hcnt : 0 < x.count) (fuel : Nat) : GenSound cmp store fuel [] x.flatten (AddInvN x) where
  form d p t hi := by
    obtain ⟨c, key, ap, hk, -, rfl, -⟩ := hi
    have F := curFacts (store := store) hx kx sx ap hk
    unfold patchAt
    by_cases hl : 0 < level c
    · obtain ⟨addr, child, hcv, hst, hfl, _⟩ := F.range hl
      rw [if_pos hl]
      refine ⟨fun h => absurd h (by show level c ≠ 0; omega), fun _ => Or.inr ⟨addr, child, hcv⟩, ?_, ?_⟩
      · intro _ a T h
        have h' : curVal c = some (.sub a T) := h
        rw [hcv] at h'
        simp at h'
        obtain ⟨rfl, rfl⟩ := h'
        refine ⟨hst, ?_⟩
        have := F.z.last
        rw [← hfl] at this
        exact this
      · intro _ h
        have h' : curVal c = none := h
        rw [hcv] at h'; simp at h'
    · obtain ⟨kv, hI, hkey, hcv⟩ := F.point (by omega)
      rw [if_neg hl]
      refine ⟨fun _ => ?_, fun h => absurd rfl h, fun h => absurd rfl h, fun h => absurd rfl h⟩
      show curVal c = (pvalBytes (curVal c)).map PVal.val
      rw [hcv]; rfl
  cur d p t hi := by
    obtain ⟨c, key, ap, hk, rfl, rfl, rfl⟩ := hi
    have F := curFacts (store := store) hx kx sx ap hk
    have C := F.cut ol
    refine ⟨C.ok, by simp [stateAt, PG.getLevel, F.vld, patchAt_level], fun k hc => F.flat ▸ C.lookup ol hc, fun hl => ?_⟩
    rw [patchAt_level] at hl
    obtain ⟨kv, hI, rfl, hcv⟩ := F.point hl
    have hlk : lookupKV cmp kv.1 x.flatten = some kv :=
      (lookup_some_iff ol _ sx kv).mpr ⟨by rw [F.flat, hI]; simp, ol.refl _⟩
    rw [patchAt_endKey, hlk]
    simp [patchAt, hl, lookupKV, changeOf, Event.added, pvalBytes, hcv]
  next d pos d' c' hi hpos hn := by
    cases pos with
    | done => exact absurd rfl hpos
    | start =>
      have hd : d = ⟨[], [⟨x, 0⟩], none, 0, none⟩ := hi
      subst hd
      rw [pgNext_fresh] at hn
      cases fuel with
      | zero => simp [findNextPatch] at hn
      | succ m =>
        have ap : APath x [⟨x, 0⟩] := ⟨rfl, hcnt⟩
        have hv : valid [⟨x, 0⟩] = true := by simp [valid, Frame.valid, hcnt]
        obtain ⟨key, hk⟩ := curKey_of_valid hv
        have F := curFacts (store := store) hx kx sx ap hk
        have hD : doneOf [⟨x, 0⟩] = [] := by simp [doneOf, Tree.flatTo_zero]
        have hpk : lastKey (doneOf [⟨x, 0⟩]) = none := by rw [hD]; rfl
        rw [fnp_added (m + 1) m _ hv key hk, ← hpk] at hn
        cases hn
        refine ⟨⟨_, key, ap, hk, rfl, rfl, rfl⟩, fun p t p' t' h => (by cases h), fun k _ h2 => ?_⟩
        exact chg_none (F.flat ▸ (F.cut ol).gap ol (hD ▸ fun _ h => nomatch h) (h2 _ _ rfl))
    | «at» p t =>
      obtain ⟨c, key, ap, hk, rfl, rfl, rfl⟩ := hi
      have F := curFacts (store := store) hx kx sx ap hk
      rw [pgNext_added] at hn
      have C := F.cut ol
      cases fuel with
      | zero => simp [findNextPatch] at hn
      | succ m =>
        rcases next_cursor ap with ⟨v, ap2, hd2⟩ | ⟨v, hr⟩
        · obtain ⟨key2, hk2⟩ := curKey_of_valid v
          have F2 := curFacts (store := store) hx kx sx ap2 hk2
          have hlast : lastKey (doneOf (advance (climb c))) = some key := by rw [hd2]; exact F.z.last_DI
          rw [fnp_added (m + 1) m _ v key2 hk2, hk, ← hlast] at hn
          cases hn
          refine ⟨⟨_, key2, ap2, hk2, rfl, rfl, rfl⟩, fun p0 t0 p' t' h1 h2 => ?_, fun k h1 h2 => ?_⟩
          · cases h1; cases h2
            rw [before_iff, patchAt_endKey]
            exact (F2.cut ol).prev key hlast
          · exact chg_none (F2.flat ▸ (F2.cut ol).gap ol (hd2 ▸ C.passed ol (h1 _ _ rfl)) (h2 _ _ rfl))
        · rw [fnp_invalid (m + 1) m _ v] at hn
          cases hn
          refine ⟨trivial, fun p0 t0 p' t' _ h => (by cases h), fun k h1 _ => chg_none ?_⟩
          rw [F.flat, hr, List.append_nil]
          exact lookup_none_of_gt ol (C.passed ol (h1 _ _ rfl))
  split d p t d' c' hi hlev hs := by
    obtain ⟨c, key, ap, hk, rfl, rfl, rfl⟩ := hi
    have F := curFacts (store := store) hx kx sx ap hk
    have hrange := startsAfter_range (cmp := cmp) hlev
    rw [patchAt_level] at hlev
    obtain ⟨addr, child, hcv, hst, hfl, hpush, ap3, hlv3⟩ := F.range (Nat.pos_of_ne_zero hlev)
    have v3 : valid (⟨child, 0⟩ :: c) = true := by
      cases c with
      | nil => exact absurd ap (by simp [APath])
      | cons f ps => simp [valid, Frame.valid]; exact ap3.2.1
    obtain ⟨key3, hk3⟩ := curKey_of_valid v3
    have F3 := curFacts (store := store) hx kx sx ap3 hk3
    have hD3 : doneOf (⟨child, 0⟩ :: c) = doneOf c := by simp [doneOf, Tree.flatTo_zero]
    rw [pgSplit_added fuel c _ hpush key3 hk3 _ hlev, ← hD3] at hs
    cases hs
    refine ⟨⟨_, key3, ap3, hk3, rfl, rfl, rfl⟩, fun p' t' hp' k hk' => ?_, fun k hns hsa => ?_⟩
    · -- a key before the split range is `≤ lastKey D`, and `D` is the same for the child's first item
      cases hp'
      obtain ⟨a, ha, hka⟩ := (hrange k).mp hk'
      rw [patchAt, if_pos (Nat.pos_of_ne_zero hlev)] at ha
      exact startsAfter_down ol ((F3.cut ol).prev a (hD3 ▸ ha)) hka
    · exact chg_none (F3.flat ▸ (F3.cut ol).gap ol (hD3 ▸ (F.cut ol).below hns) (hsa _ _ rfl))

end DoltVerif.ProllyMerge
