import DoltVerif.Model.ProllyMerge
import DoltVerif.Lemmas.ProllyDiffSpec
/-!
C14: `lookupKV` is `List.find?` by key; content-level `upsert` / `erase` (what a leaf patch / a differ edit
does to a sorted map), the lookup of a key after folding updates with pairwise disjoint domains over a sorted map
(`foldl_lookup_find`), and its first instance, the fold of the three-way differ's edits over left.
-/
namespace DoltVerif.ProllyMerge
open DoltVerif.ProllyDiff

variable {cmp : Bytes → Bytes → Ordering}

theorem lookupKV_eq_find (k : Bytes) : ∀ l : List KV, lookupKV cmp k l = l.find? (fun x => cmp k x.1 == .eq)
  | [] => rfl
  | x :: xs => by rw [lookupKV, List.find?_cons, lookupKV_eq_find k xs]; cases cmp k x.1 == .eq <;> rfl

theorem lookup_none_of_ne {k : Bytes} {l : List KV} (h : ∀ x ∈ l, cmp k x.1 ≠ .eq) : lookupKV cmp k l = none := by
  rw [lookupKV_eq_find, List.find?_eq_none]
  exact fun x hx he => h x hx (eq_of_beq he)

theorem lookup_upsert (ol : OrdLaws cmp) (k v k' : Bytes) : ∀ l : List KV,
    lookupKV cmp k' (upsert cmp k v l) = if cmp k' k = .eq then some (k, v) else lookupKV cmp k' l
  | [] => by
    by_cases h : cmp k' k = .eq <;> simp [upsert, lookupKV, h]
  | x :: xs => by
    simp only [upsert]
    cases hc : cmp k x.1 with
    | lt => by_cases h : cmp k' k = .eq <;> simp [lookupKV, h]
    | eq =>
      by_cases h : cmp k' k = .eq
      · simp [lookupKV, h]
      · have : cmp k' x.1 ≠ .eq := ol.congr_right hc k' ▸ h
        simp [lookupKV, h, this]
    | gt =>
      have ih := lookup_upsert ol k v k' xs
      by_cases h : cmp k' k = .eq
      · have : cmp k' x.1 ≠ .eq := by rw [ol.congr_left h, hc]; nofun
        simp [lookupKV, h, this, ih]
      · simp [lookupKV, h, ih]

theorem lookup_none_of_lt {k : Bytes} {l : List KV} (h : ∀ x ∈ l, cmp k x.1 = .lt) : lookupKV cmp k l = none :=
  lookup_none_of_ne fun x hx => OrdLaws.ne_of_lt (h x hx)

theorem lookup_erase (ol : OrdLaws cmp) (k k' : Bytes) : ∀ l : List KV, Sorted cmp l →
    lookupKV cmp k' (erase cmp k l) = if cmp k' k = .eq then none else lookupKV cmp k' l
  | [], _ => by simp [erase, lookupKV]
  | x :: xs, hs => by
    have hx := sorted_head_lt hs
    simp only [erase]
    cases hc : cmp k x.1 with
    | lt =>
      by_cases h : cmp k' k = .eq
      · simp only [h, if_true]
        apply lookup_none_of_lt
        intro y hy
        simp at hy
        rcases hy with rfl | hy
        · exact ol.eq_lt _ _ _ h hc
        · exact ol.eq_lt _ _ _ h (ol.lt_trans _ _ _ hc (hx y hy))
      · simp [h]
    | eq =>
      by_cases h : cmp k' k = .eq
      · simp only [h, if_true]
        apply lookup_none_of_lt
        intro y hy
        exact ol.eq_lt _ _ _ (ol.eq_trans h hc) (hx y hy)
      · have : cmp k' x.1 ≠ .eq := ol.congr_right hc k' ▸ h
        simp [lookupKV, h, this]
    | gt =>
      have ih := lookup_erase ol k k' xs (sorted_tail hs)
      by_cases h : cmp k' k = .eq
      · have : cmp k' x.1 ≠ .eq := by rw [ol.congr_left h, hc]; nofun
        simp [lookupKV, h, this, ih]
      · simp [lookupKV, h, ih]

theorem upsert_mem {k v : Bytes} : ∀ {l : List KV} {y : KV}, y ∈ upsert cmp k v l → y = (k, v) ∨ y ∈ l
  | [], y, h => by simp [upsert] at h; exact Or.inl h
  | x :: xs, y, h => by
    simp only [upsert] at h
    cases hc : cmp k x.1 with
    | lt => rw [hc] at h; simp at h; rcases h with h | h | h <;> simp [h]
    | eq => rw [hc] at h; simp at h; rcases h with h | h <;> simp [h]
    | gt =>
      rw [hc] at h; simp at h
      rcases h with h | h
      · simp [h]
      · rcases upsert_mem h with h | h <;> simp [h]

theorem sorted_upsert (ol : OrdLaws cmp) (k v : Bytes) : ∀ {l : List KV}, Sorted cmp l → Sorted cmp (upsert cmp k v l)
  | [], _ => by simp [upsert, Sorted]
  | x :: xs, hs => by
    have hx := sorted_head_lt hs
    simp only [upsert]
    cases hc : cmp k x.1 with
    | lt =>
      refine List.pairwise_cons.mpr ⟨?_, hs⟩
      intro y hy
      simp at hy
      rcases hy with rfl | hy
      · exact hc
      · exact ol.lt_trans _ _ _ hc (hx y hy)
    | eq =>
      refine List.pairwise_cons.mpr ⟨?_, sorted_tail hs⟩
      intro y hy
      exact ol.eq_lt _ _ _ hc (hx y hy)
    | gt =>
      refine List.pairwise_cons.mpr ⟨?_, sorted_upsert ol k v (sorted_tail hs)⟩
      intro y hy
      rcases upsert_mem hy with rfl | hy
      · exact (ol.gt_iff _ _).mp hc
      · exact hx y hy

theorem erase_sublist (k : Bytes) : ∀ l : List KV, (erase cmp k l).Sublist l
  | [] => by simp [erase]
  | x :: xs => by
    simp only [erase]
    cases cmp k x.1 with
    | lt => exact List.Sublist.refl _
    | eq => exact List.sublist_cons_self x xs
    | gt => exact List.Sublist.cons_cons x (erase_sublist k xs)

theorem sorted_erase (k : Bytes) {l : List KV} (h : Sorted cmp l) : Sorted cmp (erase cmp k l) :=
  List.Pairwise.sublist (erase_sublist k l) h

/-- what one result of the three-way differ does to the left value of its key when applied as an edit; the last case is
left-only, convergent, every kind of conflict, and resolved deletes -/
def effect (d : TWDiff) (l : Option KV) : Option KV :=
  match d.op with
  | .rightAdd | .rightModify => match d.right with | some v => some (d.key, v) | none => l
  | .rightDelete => none
  | .divergentModifyResolved => match d.merged with | some v => some (d.key, v) | none => l
  | _ => l

theorem applyTW_sorted (ol : OrdLaws cmp) (d : TWDiff) {l : List KV} (h : Sorted cmp l) : Sorted cmp (applyTW cmp l d) := by
  fun_cases applyTW cmp l d with
  | case1 | case3 | case6 => exact sorted_upsert ol _ _ h  -- rightAdd, rightModify, divergentModifyResolved with a value
  | case5 => exact sorted_erase _ h  -- rightDelete
  | case2 | case4 | case7 | case8 => exact h  -- nothing written

theorem applyTW_lookup (ol : OrdLaws cmp) (d : TWDiff) (k : Bytes) {l : List KV} (h : Sorted cmp l) :
    lookupKV cmp k (applyTW cmp l d) = if cmp k d.key = .eq then effect d (lookupKV cmp k l) else lookupKV cmp k l := by
  obtain ⟨op, key, base, left, right, merged⟩ := d
  -- only the four writing verdicts do anything; for the others both sides are `lookupKV cmp k l`
  cases op <;> simp only [applyTW, effect, ite_self]
  · cases right <;> simp only [lookup_upsert ol, ite_self]
  · exact lookup_erase ol _ _ _ h
  · cases right <;> simp only [lookup_upsert ol, ite_self]
  · cases merged <;> simp only [lookup_upsert ol, ite_self]

/-- Folding updates with pairwise disjoint domains over a sorted map: the result is sorted, and a key maps to the effect
of the one update whose domain holds it, else to its old mapping.  The fold of the differ's edits
(`foldl_applyTW_lookup`) and `ApplyPatches` over a tiled stream (`apply_tiled`) are its instances. -/
theorem foldl_lookup_find {α} (f : List KV → α → List KV) (dom : α → Bytes → Bool) (eff : α → Bytes → Option KV → Option KV)
    (ok : α → Prop) (hs : ∀ a {l}, ok a → Sorted cmp l → Sorted cmp (f l a))
    (hl : ∀ a k {l}, ok a → Sorted cmp l →
      lookupKV cmp k (f l a) = if dom a k = true then eff a k (lookupKV cmp k l) else lookupKV cmp k l) :
    ∀ (as : List α) (l : List KV), Sorted cmp l → (∀ a ∈ as, ok a) →
    as.Pairwise (fun a b => ∀ k, dom a k = true → dom b k = false) →
    Sorted cmp (as.foldl f l) ∧ ∀ k, lookupKV cmp k (as.foldl f l) =
      match as.find? (fun a => dom a k) with
      | some a => eff a k (lookupKV cmp k l)
      | none => lookupKV cmp k l
  | [], l, sl, _, _ => ⟨sl, fun _ => rfl⟩
  | a :: as, l, sl, hok, ha => by
    have ha' := List.pairwise_cons.mp ha
    have oa := hok a List.mem_cons_self
    obtain ⟨ih1, ih2⟩ := foldl_lookup_find f dom eff ok hs hl as (f l a) (hs a oa sl)
      (fun b hb => hok b (List.mem_cons_of_mem _ hb)) ha'.2
    refine ⟨ih1, fun k => ?_⟩
    rw [List.foldl_cons, ih2 k, hl a k oa sl, List.find?_cons]
    cases hk : dom a k with
    | true =>
      have hnone : as.find? (fun b => dom b k) = none :=
        List.find?_eq_none.mpr fun b hb => by rw [ha'.1 b hb k hk]; simp
      simp only [hnone, if_true]
    | false => simp only [Bool.false_eq_true, if_false]

theorem disjoint_of_asc {α} (ol : OrdLaws cmp) {key : α → Bytes} {as : List α}
    (ha : as.Pairwise (fun a b => cmp (key a) (key b) = .lt)) :
    as.Pairwise (fun a b => ∀ k, (cmp k (key a) == .eq) = true → (cmp k (key b) == .eq) = false) :=
  ha.imp fun h k hk => by rw [ol.eq_lt _ _ _ (by simpa using hk) h]; rfl

theorem foldl_applyTW_lookup (ol : OrdLaws cmp) (k : Bytes) (ds : List TWDiff) (l : List KV) (hs : Sorted cmp l)
    (ha : ds.Pairwise (fun d1 d2 => cmp d1.key d2.key = .lt)) :
    lookupKV cmp k (ds.foldl (applyTW cmp) l) =
      match ds.find? (fun d => cmp k d.key == .eq) with
      | some d => effect d (lookupKV cmp k l)
      | none => lookupKV cmp k l := by
  have h := (foldl_lookup_find (applyTW cmp) (fun d k => cmp k d.key == .eq) (fun d _ => effect d) (fun _ => True)
    (fun d _ _ h => applyTW_sorted ol d h) (fun d k _ _ h => by simp only [beq_iff_eq]; exact applyTW_lookup ol d k h)
    ds l hs (fun _ _ => trivial) (disjoint_of_asc ol ha)).2 k
  revert h; cases ds.find? (fun d => cmp k d.key == .eq) <;> exact id

theorem effect_left (e : Event) (l : Option KV) : effect (newLeftEdit e) l = l := by
  cases ht : e.type <;> simp [effect, newLeftEdit, ht]

theorem effect_matchEdit_conflict (l r : Event) (x : Option KV) : effect (matchEdit (fun _ _ _ => none) l r) x = x := by
  fun_cases matchEdit (fun _ _ _ => none) l r with
  | case1 | case4 => cases ht : l.type <;> simp [effect, newConvergentEdit, ht]  -- convergent
  | case2 | case5 => rfl  -- conflict
  | case3 _ _ _ h | case6 _ _ _ _ h => cases h  -- resolved: not by this callback

theorem foldl_applyTW_sorted (ol : OrdLaws cmp) : ∀ (ds : List TWDiff) (l : List KV),
    Sorted cmp l → Sorted cmp (ds.foldl (applyTW cmp) l)
  | [], l, h => by simpa using h
  | d :: ds, l, h => by
    simp only [List.foldl_cons]
    exact foldl_applyTW_sorted ol ds _ (applyTW_sorted ol d h)

def pointEffect (p : Patch) : Option KV :=
  match p.to? with
  | some (.val v) => some (p.endKey, v)
  | _ => none

theorem optPValEq_map (a b : Option Bytes) : optPValEq (a.map PVal.val) (b.map PVal.val) = (a == b) := by
  cases a <;> cases b <;> simp [optPValEq, PVal.beq]

theorem pvalBytes_map (a : Option Bytes) : pvalBytes (a.map PVal.val) = a := by
  cases a <;> simp [pvalBytes]

theorem applyPatch_point_sorted (ol : OrdLaws cmp) (p : Patch) (hp : p.level = 0) {l : List KV} (h : Sorted cmp l) :
    Sorted cmp (applyPatch cmp l p) := by
  unfold applyPatch
  simp only [hp, beq_self_eq_true, if_true]
  split
  · exact sorted_upsert ol _ _ h
  · exact sorted_erase _ h

theorem applyPatch_point_lookup (ol : OrdLaws cmp) (p : Patch) (hp : p.level = 0) (k : Bytes) {l : List KV} (h : Sorted cmp l) :
    lookupKV cmp k (applyPatch cmp l p) = if cmp k p.endKey = .eq then pointEffect p else lookupKV cmp k l := by
  unfold applyPatch pointEffect
  simp only [hp, beq_self_eq_true, if_true]
  split
  · rename_i v hv; simp [hv, lookup_upsert ol]
  · rename_i hno
    rw [lookup_erase ol _ _ _ h]
    by_cases hk : cmp k p.endKey = .eq
    · simp only [hk, if_true]
    · simp [hk]

theorem applyPatches_points_sorted (ol : OrdLaws cmp) : ∀ (ps : List Patch) (l : List KV), Sorted cmp l →
    (∀ p ∈ ps, p.level = 0) → Sorted cmp (applyPatches cmp l ps)
  | [], l, h, _ => by simpa [applyPatches] using h
  | p :: ps, l, h, hl => by
    simp only [applyPatches, List.foldl_cons]
    exact applyPatches_points_sorted ol ps _ (applyPatch_point_sorted ol p (hl p (by simp)) h) (fun q hq => hl q (by simp [hq]))

end DoltVerif.ProllyMerge
