import DoltVerif.Lemmas.ProllyMergeTiles
/-!
C14: the content-level interface of a `PatchGenerator` (`GenSound`), the value a tiled stream gives
a key (`patchedValue`) and the target of R1 ∧ R2 (`StreamDenotesMerge`).
-/
namespace DoltVerif.ProllyMerge
open DoltVerif.ProllyDiff

/-- the mapping of a key after applying a tiled patch stream to `l`: what the covering patch says,
or `l`'s own mapping when no patch covers the key -/
def patchedValue (cmp : Bytes → Bytes → Ordering) (ps : List Patch) (l : List KV) (k : Bytes) : Option KV :=
  match ps.find? (fun p => p.covers cmp k) with
  | some p => p.valAt cmp k
  | none => lookupKV cmp k l

/-- what R1 ∧ R2 have to deliver about the stream `SendPatches` emits: it tiles, applied to left it
gives the key-wise merge at every key, and the collisions are the specification's, in key order -/
structure StreamDenotesMerge (cmp : Bytes → Bytes → Ordering) (collide : Collide) (B L R : List KV)
    (ps : List Patch) (cs : List Collision) : Prop where
  tiles : Tiles cmp ps
  value : ∀ k, patchedValue cmp ps L k = (mergeKey collide (lookupKV cmp k B) (lookupKV cmp k L) (lookupKV cmp k R)).1
  coll : ∀ c, c ∈ cs ↔ ∃ k, (mergeKey collide (lookupKV cmp k B) (lookupKV cmp k L) (lookupKV cmp k R)).2 = some c
  collAsc : cs.Pairwise (fun c1 c2 => cmp c1.left.key c2.left.key = .lt)

/-- keys strictly before the interval of a patch -/
def startsAfter (cmp : Bytes → Bytes → Ordering) (p : Patch) (k : Bytes) : Prop :=
  if p.level = 0 then cmp k p.endKey = .lt else ∃ a, p.keyBelowStart = some a ∧ cmp k a ≠ .gt

/-- where a generator stands: nothing produced yet, just produced a patch, or exhausted -/
inductive GenPos where
  | start
  | at (p : Patch) (t : DiffType)
  | done

def GenPos.ofResult : Option (Patch × DiffType) → GenPos
  | some (p, t) => .at p t
  | none => .done

/-- Content-level soundness of a `PatchGenerator` for the change `B → X`, as an invariant `Inv d pos`
over (generator state, position) that is closed under `Next` and `split`:
* the current patch is well formed, says what `X` maps the keys of its interval to, and — for a point
  patch — is the genuine change of its key;
* `Next` (from `start` or from a patch) produces a patch lying after the current one, and no key in
  between is changed from `B` to `X` (no change is lost; when nothing follows, nothing after the
  current patch is changed);
* `split` of a range patch produces a patch that does not start before the split one, and no key from
  the start of the split interval up to the new patch (or to the end of the map, when nothing follows —
  "split … could even return EOF") is changed. -/
structure GenSound (cmp : Bytes → Bytes → Ordering) (store : Addr → Option Tree) (fuel : Nat) (B X : List KV)
    (Inv : PG → GenPos → Prop) : Prop where
  /-- shape of the payloads: a point patch carries a value (or nothing), a range patch a subtree that
  the store resolves and whose last key is the patch's end key (or nothing — a removed range, which is
  only produced when `x` has no pairs from there on) -/
  form : ∀ d p t, Inv d (.at p t) →
    (p.level = 0 → p.to? = (pvalBytes p.to?).map PVal.val) ∧
    (p.level ≠ 0 → p.to? = none ∨ ∃ a T, p.to? = some (.sub a T)) ∧
    (p.level ≠ 0 → ∀ a T, p.to? = some (.sub a T) → store a = some T ∧ T.flatten.getLast?.map (·.1) = some p.endKey) ∧
    (p.level ≠ 0 → p.to? = none → ∀ k, ¬ startsAfter cmp p k → lookupKV cmp k X = none)
  cur : ∀ d p t, Inv d (.at p t) → PatchOK cmp p ∧ d.getLevel = p.level ∧
    (∀ k, p.covers cmp k = true → lookupKV cmp k X = p.valAt cmp k) ∧
    (p.level = 0 → changeOf (lookupKV cmp p.endKey B) (lookupKV cmp p.endKey X) =
      some ⟨t, p.endKey, pvalBytes p.from?, pvalBytes p.to?⟩)
  next : ∀ d pos d' c', Inv d pos → pos ≠ .done → pgNext cmp fuel d = .ok (d', c') → Inv d' (GenPos.ofResult c') ∧
    (∀ p t p' t', pos = .at p t → c' = some (p', t') → Patch.before cmp p p') ∧
    (∀ k, (∀ p t, pos = .at p t → cmp p.endKey k = .lt) → (∀ p' t', c' = some (p', t') → startsAfter cmp p' k) →
      changeOf (lookupKV cmp k B) (lookupKV cmp k X) = none)
  split : ∀ d p t d' c', Inv d (.at p t) → p.level ≠ 0 → pgSplit cmp fuel d = .ok (d', c') →
    Inv d' (GenPos.ofResult c') ∧
    (∀ p' t', c' = some (p', t') → ∀ k, startsAfter cmp p k → startsAfter cmp p' k) ∧
    (∀ k, ¬ startsAfter cmp p k → (∀ p' t', c' = some (p', t') → startsAfter cmp p' k) →
      changeOf (lookupKV cmp k B) (lookupKV cmp k X) = none)


end DoltVerif.ProllyMerge
