import DoltVerif.Lemmas.ProllyMergeGen
/-!
C14: where a key lies relative to the interval of a patch — before its start (`startsAfter`), inside (`Patch.covers`), beyond
its end (`covers_iff_between`) — and what the interval tests of `SendPatches` decide about it (`startsAfter_iff_le_start`).
Then what a tiled stream makes of a key: `patchedValue` when a patch is appended, and obligation R3, `apply_tiled`:
`ApplyPatches` over a tiled stream gives every key its `patchedValue` (`Tiles` is a hypothesis here; R1/R2 establish it).
-/
namespace DoltVerif.ProllyMerge
open DoltVerif.ProllyDiff

variable {cmp : Bytes → Bytes → Ordering}

theorem startsAfter_point {p : Patch} (hp : p.level = 0) (k : Bytes) : startsAfter cmp p k ↔ cmp k p.endKey = .lt := by
  simp [startsAfter, hp]

theorem startsAfter_range {p : Patch} (hp : p.level ≠ 0) (k : Bytes) :
    startsAfter cmp p k ↔ ∃ a, p.keyBelowStart = some a ∧ cmp k a ≠ .gt := by
  simp [startsAfter, hp]

theorem startsAfter_down (ol : OrdLaws cmp) {p : Patch} {k k' : Bytes} (h : startsAfter cmp p k) (hk : cmp k' k ≠ .gt) :
    startsAfter cmp p k' := by
  by_cases hl : p.level = 0
  · rw [startsAfter_point hl] at h ⊢; exact le_lt_lt ol hk h
  · rw [startsAfter_range hl] at h ⊢
    obtain ⟨a, ha, hle⟩ := h
    exact ⟨a, ha, le_trans' ol hk hle⟩

theorem before_iff (p q : Patch) : Patch.before cmp p q ↔ startsAfter cmp q p.endKey := by
  unfold Patch.before startsAfter; rfl

theorem covers_iff_between (ol : OrdLaws cmp) {p : Patch} {k : Bytes} :
    p.covers cmp k = true ↔ ¬ startsAfter cmp p k ∧ cmp k p.endKey ≠ .gt := by
  by_cases hl : p.level = 0
  · rw [covers_iff_point hl, startsAfter_point hl]
    cases cmp k p.endKey <;> simp
  · rw [covers_iff_range hl, startsAfter_range hl, not_exists]
    refine and_congr_left fun _ => forall_congr' fun a => ?_
    rw [not_and, Decidable.not_not, ol.gt_iff]

theorem not_startsAfter_of_covers (ol : OrdLaws cmp) {p : Patch} {k : Bytes} (h : p.covers cmp k = true) : ¬ startsAfter cmp p k :=
  ((covers_iff_between ol).mp h).1

theorem covers_of_between (ol : OrdLaws cmp) {p : Patch} {k : Bytes} (h1 : ¬ startsAfter cmp p k) (h2 : cmp k p.endKey ≠ .gt) :
    p.covers cmp k = true := (covers_iff_between ol).mpr ⟨h1, h2⟩

theorem not_covers_of_ends_before (ol : OrdLaws cmp) {p q : Patch} {k : Bytes} (hq : startsAfter cmp p q.endKey)
    (hk : ¬ startsAfter cmp p k) : q.covers cmp k = false := by
  cases h : q.covers cmp k with
  | false => rfl
  | true => exact absurd (startsAfter_down ol hq (covers_le_end h)) hk

theorem startsAfter_le_end (ol : OrdLaws cmp) {p : Patch} (hok : PatchOK cmp p) {k : Bytes} (hs : startsAfter cmp p k) :
    cmp k p.endKey ≠ .gt := by
  by_cases hl : p.level = 0
  · exact lt_ne_gt ((startsAfter_point hl k).mp hs)
  · obtain ⟨a, ha, hle⟩ := (startsAfter_range hl k).mp hs
    exact le_trans' ol hle (hok.lohi hl a ha)

theorem startsAfter_mono (ol : OrdLaws cmp) {p q : Patch} (hok : PatchOK cmp p) (hb : startsAfter cmp q p.endKey) {k : Bytes}
    (hs : startsAfter cmp p k) : startsAfter cmp q k :=
  startsAfter_down ol hb (startsAfter_le_end ol hok hs)

theorem patchedValue_nocover {ps : List Patch} {l : List KV} {k : Bytes} (h : ∀ q ∈ ps, q.covers cmp k = false) :
    patchedValue cmp ps l k = lookupKV cmp k l := by
  unfold patchedValue
  have : ps.find? (fun p => p.covers cmp k) = none := by
    rw [List.find?_eq_none]; intro q hq; simp [h q hq]
  rw [this]

theorem patchedValue_append_nocover {ps qs : List Patch} {l : List KV} {k : Bytes} (h : ∀ q ∈ qs, q.covers cmp k = false) :
    patchedValue cmp (ps ++ qs) l k = patchedValue cmp ps l k := by
  unfold patchedValue
  rw [List.find?_append]
  have : qs.find? (fun p => p.covers cmp k) = none := by
    rw [List.find?_eq_none]; intro q hq; simp [h q hq]
  cases hf : ps.find? (fun p => p.covers cmp k) <;> simp [this]

theorem patchedValue_snoc_nocover {ps : List Patch} {q : Patch} {l : List KV} {k : Bytes} (h : q.covers cmp k = false) :
    patchedValue cmp (ps ++ [q]) l k = patchedValue cmp ps l k :=
  patchedValue_append_nocover fun _ hq => List.mem_singleton.mp hq ▸ h

theorem patchedValue_snoc_cover {ps : List Patch} {q : Patch} {l : List KV} {k : Bytes}
    (hn : ∀ p ∈ ps, p.covers cmp k = false) (h : q.covers cmp k = true) :
    patchedValue cmp (ps ++ [q]) l k = q.valAt cmp k := by
  unfold patchedValue
  rw [List.find?_append]
  have : ps.find? (fun p => p.covers cmp k) = none := by
    rw [List.find?_eq_none]; intro p hp; simp [hn p hp]
  simp [this, h]

theorem lt_of_startsAfter_not (ol : OrdLaws cmp) {p : Patch} {a b : Bytes} (ha : startsAfter cmp p a) (hb : ¬ startsAfter cmp p b) :
    cmp a b = .lt := by
  cases h : cmp a b with
  | lt => rfl
  | eq => exact absurd (startsAfter_down ol ha (by rw [ol.eq_symm h]; simp)) hb
  | gt => exact absurd (startsAfter_down ol ha (by rw [(ol.gt_iff _ _).mp h]; simp)) hb

theorem not_covers_of_startsAfter (ol : OrdLaws cmp) {p : Patch} {k : Bytes} (hs : startsAfter cmp p k) : p.covers cmp k = false := by
  cases hc : p.covers cmp k with
  | false => rfl
  | true => exact absurd hs (not_startsAfter_of_covers ol hc)

theorem ordLE_iff (o : Ordering) : ordLE o = true ↔ o ≠ .gt := by cases o <;> simp [ordLE]

/-- the test `e ≤ KeyBelowStart` (nil as minimum) that `SendPatches` makes against a range patch -/
theorem startsAfter_iff_le_start {p : Patch} (hp : p.level ≠ 0) (e : Bytes) :
    startsAfter cmp p e ↔ ordLE (cmpNilMin cmp (some e) p.keyBelowStart) = true := by
  rw [startsAfter_range hp]
  cases p.keyBelowStart with
  | none => simp [cmpNilMin, ordLE]
  | some a => simp [cmpNilMin, ordLE_iff]

theorem startsAfter_of_end_le_start (ol : OrdLaws cmp) {p : Patch} (hp : p.level ≠ 0) {e k : Bytes}
    (h : ordLE (cmpNilMin cmp (some e) p.keyBelowStart) = true) (hk : cmp k e ≠ .gt) : startsAfter cmp p k :=
  startsAfter_down ol ((startsAfter_iff_le_start hp e).mpr h) hk

/-- range/range and point/range, first test `left.EndKey ≤ right.KeyBelowStart` (nil as minimum):
then no key of left's interval lies in right's interval ("left change is entirely before right change") -/
theorem disjoint_of_end_le_start (ol : OrdLaws cmp) {l r : Patch} (hr : r.level ≠ 0)
    (h : ordLE (cmpNilMin cmp (some l.endKey) r.keyBelowStart) = true) {k : Bytes}
    (hl : l.covers cmp k = true) : r.covers cmp k = false :=
  not_covers_of_startsAfter ol (startsAfter_of_end_le_start ol hr h (covers_le_end hl))

/-- point/range, the three-way decision of the `rightLevel > 0` branch (and, mirrored, of the
`leftLevel > 0` branch): a point patch with key `x` against a range patch `r` —
`x ≤ r.KeyBelowStart` ⇒ the point comes first; otherwise `x > r.EndKey` ⇒ the range comes first;
otherwise the point lies inside the range ("overlap, we need to split the range"). -/
theorem point_range_decision (ol : OrdLaws cmp) (x : Bytes) {r : Patch} (hr : r.level ≠ 0) :
    (ordLE (cmpNilMin cmp (some x) r.keyBelowStart) = true → r.covers cmp x = false) ∧
    (cmp x r.endKey = .gt → r.covers cmp x = false) ∧
    (ordLE (cmpNilMin cmp (some x) r.keyBelowStart) = false → cmp x r.endKey ≠ .gt → r.covers cmp x = true) :=
  ⟨fun h => not_covers_of_startsAfter ol ((startsAfter_iff_le_start hr x).mpr h),
   fun h => Bool.eq_false_iff.mpr fun hc => covers_le_end hc h,
   fun h1 h2 => covers_of_between ol (fun hs => by rw [(startsAfter_iff_le_start hr x).mp hs] at h1; cases h1) h2⟩

/-- the same-address shortcut of the range/range branch: patches whose `To` addresses are equal carry
the same pairs (content addressing) -/
theorem same_address_same_pairs {store : Addr → Option Tree} {a b : Addr} {ta tb : Tree}
    (ha : store a = some ta) (hb : store b = some tb) (h : (PVal.sub a ta).beq (PVal.sub b tb) = true) :
    ta.flatten = tb.flatten := by
  simp [PVal.beq] at h
  subst h
  rw [ha] at hb
  simp at hb
  rw [hb]

theorem tiles_snoc {ps : List Patch} {q : Patch} (ht : Tiles cmp ps) (hq : PatchOK cmp q)
    (hb : ∀ p ∈ ps, startsAfter cmp q p.endKey) : Tiles cmp (ps ++ [q]) := by
  refine ⟨?_, ?_⟩
  · intro p hp
    simp at hp
    rcases hp with hp | rfl
    · exact ht.ok p hp
    · exact hq
  · refine List.pairwise_append.mpr ⟨ht.asc, by simp, ?_⟩
    intro p hp x hx
    simp at hx; subst hx
    exact (before_iff p x).mpr (hb p hp)

/-- **R3**.  Patches of a tiled stream cover disjoint sets of keys, so this is `foldl_lookup_find`. -/
theorem apply_tiled (ol : OrdLaws cmp) (ps : List Patch) (l : List KV) (sl : Sorted cmp l) (ht : Tiles cmp ps) :
    Sorted cmp (applyPatches cmp l ps) ∧ ∀ k, lookupKV cmp k (applyPatches cmp l ps) = patchedValue cmp ps l k := by
  have hd : ps.Pairwise fun p q => ∀ k, p.covers cmp k = true → q.covers cmp k = false := ht.asc.imp fun hb k hc =>
    not_covers_of_startsAfter ol (startsAfter_down ol ((before_iff _ _).mp hb) (covers_le_end hc))
  have h := foldl_lookup_find (applyPatch cmp) (Patch.covers cmp) (fun p k _ => p.valAt cmp k) (PatchOK cmp)
    (fun p _ hok sl => applyPatch_sorted ol p hok sl) (fun p k _ hok sl => applyPatch_lookup ol p hok sl k) ps l sl ht.ok hd
  refine ⟨h.1, fun k => ?_⟩
  have := h.2 k
  revert this; unfold applyPatches patchedValue; cases ps.find? (fun p => p.covers cmp k) <;> exact id

theorem tiles_of_points {ps : List Patch} (hl : ∀ p ∈ ps, p.level = 0)
    (ha : ps.Pairwise (fun p q => cmp p.endKey q.endKey = .lt)) : Tiles cmp ps :=
  ⟨fun p hp => .of_point (hl p hp),
   ha.imp_of_mem fun {p q} _ hq h => (before_iff p q).mpr ((startsAfter_point (hl q hq) _).mpr h)⟩

theorem applyPatches_points_lookup (ol : OrdLaws cmp) (k : Bytes) (ps : List Patch) (l : List KV) (hs : Sorted cmp l)
    (hl : ∀ p ∈ ps, p.level = 0) (ha : ps.Pairwise (fun p q => cmp p.endKey q.endKey = .lt)) :
    lookupKV cmp k (applyPatches cmp l ps) =
      match ps.find? (fun p => cmp k p.endKey == .eq) with
      | some p => pointEffect p
      | none => lookupKV cmp k l := by
  have hf : ∀ {qs : List Patch}, (∀ p ∈ qs, p.level = 0) →
      qs.find? (fun p => p.covers cmp k) = qs.find? (fun p => cmp k p.endKey == .eq) := by
    intro qs hq
    induction qs with
    | nil => rfl
    | cons q qs ih =>
      have : q.covers cmp k = (cmp k q.endKey == .eq) := by simp [Patch.covers, hq q List.mem_cons_self]
      rw [List.find?_cons, List.find?_cons, this, ih fun p hp => hq p (List.mem_cons_of_mem _ hp)]
  rw [(apply_tiled ol ps l hs (tiles_of_points hl ha)).2 k, patchedValue, hf hl]
  cases h : ps.find? (fun p => cmp k p.endKey == .eq) with
  | none => rfl
  | some p => simp [Patch.valAt, hl p (List.mem_of_find?_eq_some h)]

end DoltVerif.ProllyMerge
