import DoltVerif.Lemmas.ProllyMergeApply
import DoltVerif.Lemmas.ProllyMergeWalk
/-!
C14: lookups in sorted maps; the differ's event at a key is the change between the two lookups
(`specDiff_at_key`); a sorted map is determined by its lookups.
-/
namespace DoltVerif.ProllyMerge
open DoltVerif.ProllyDiff

variable {cmp : Bytes → Bytes → Ordering}

theorem lookup_atKey (ol : OrdLaws cmp) (k : Bytes) {l : List KV} (hs : Sorted cmp l) :
    AtKey cmp (·.1) k l (lookupKV cmp k l) := lookupKV_eq_find k l ▸ atKey_find ol (fun x : KV => x.1) k hs

theorem lookup_some_iff (ol : OrdLaws cmp) (k : Bytes) {l : List KV} (hs : Sorted cmp l) (x : KV) :
    lookupKV cmp k l = some x ↔ x ∈ l ∧ cmp k x.1 = .eq := (lookup_atKey ol k hs x).symm

theorem lookup_none_iff (ol : OrdLaws cmp) (k : Bytes) {l : List KV} (hs : Sorted cmp l) :
    lookupKV cmp k l = none ↔ ∀ x ∈ l, cmp k x.1 ≠ .eq := (lookup_atKey ol k hs).none_iff

theorem lookup_congr (ol : OrdLaws cmp) {l : List KV} (sl : Sorted cmp l) {k k' : Bytes} (h : cmp k k' = .eq) :
    lookupKV cmp k l = lookupKV cmp k' l := by
  cases h1 : lookupKV cmp k' l with
  | none =>
    rw [lookup_none_iff ol k sl]
    intro x hx he
    exact (lookup_none_iff ol k' sl).mp h1 x hx (ol.eq_trans (ol.eq_symm h) he)
  | some x =>
    have := (lookup_some_iff ol k' sl x).mp h1
    exact (lookup_some_iff ol k sl x).mpr ⟨this.1, ol.eq_trans h this.2⟩

theorem unchanged_lookup_eq (ol : OrdLaws cmp) (hexact : ∀ a b, cmp a b = .eq → a = b) {B X : List KV}
    (sb : Sorted cmp B) (sx : Sorted cmp X) {k : Bytes} (h : changeOf (lookupKV cmp k B) (lookupKV cmp k X) = none) :
    lookupKV cmp k B = lookupKV cmp k X := by
  cases hb : lookupKV cmp k B with
  | none =>
    cases hx : lookupKV cmp k X with
    | none => rfl
    | some y => simp [changeOf, hb, hx] at h
  | some a =>
    cases hx : lookupKV cmp k X with
    | none => simp [changeOf, hb, hx] at h
    | some y =>
      simp only [changeOf, hb, hx] at h
      by_cases hv : a.2 = y.2
      · have ha := (lookup_some_iff ol k sb a).mp hb
        have hy := (lookup_some_iff ol k sx y).mp hx
        have hk : a.1 = y.1 := hexact _ _ (ol.eq_trans (ol.eq_symm ha.2) hy.2)
        exact congrArg some (Prod.ext hk hv)
      · simp [hv] at h

/-- the change of one key between two maps as the event the *differ* reports for it (key bytes of
the base side for modified/removed) -/
def changeD (b x : Option KV) : Option Event :=
  match b, x with
  | none, none => none
  | none, some y => some (Event.added y)
  | some a, none => some (Event.removed a)
  | some a, some y => if a.2 != y.2 then some (Event.modified a y) else none

theorem changeD_eq_tag (b x : Option KV) : changeD b x = (tagOf b x).bind (evOf false) := by
  cases b <;> cases x <;> simp [changeD, tagOf, evOf]

theorem specDiff_at_key (ol : OrdLaws cmp) {B X : List KV} (sb : Sorted cmp B) (sx : Sorted cmp X) (k : Bytes) :
    AtKey cmp Event.key k (specDiff cmp false B X) (changeD (lookupKV cmp k B) (lookupKV cmp k X)) := by
  rw [specDiff_eq_walk, changeD_eq_tag]
  exact filterMap_walk_at_key ol sb sx (lookup_atKey ol k sb) (lookup_atKey ol k sx) _ Event.key evOf_key

theorem sorted_nodup (ol : OrdLaws cmp) {l : List KV} (h : Sorted cmp l) : (l.map (·.1)).Nodup := by
  rw [List.Nodup, List.pairwise_map]
  exact h.imp (fun hlt he => by rw [he, ol.refl] at hlt; simp at hlt)

theorem changeD_none_iff (b x : Option KV) : changeD b x = none ↔ changeOf b x = none := by
  cases b <;> cases x <;> simp [changeD, changeOf]

/-- equal lookups give equal members, and two strictly ascending lists with the same members are equal -/
theorem sorted_ext (ol : OrdLaws cmp) {a b : List KV} (sa : Sorted cmp a) (sb : Sorted cmp b)
    (h : ∀ k, lookupKV cmp k a = lookupKV cmp k b) : a = b := by
  have mem : ∀ {a b : List KV}, Sorted cmp a → Sorted cmp b → (∀ k, lookupKV cmp k a = lookupKV cmp k b) → ∀ x ∈ a, x ∈ b :=
    fun sa sb h x hx => ((lookup_some_iff ol x.1 sb x).mp (h x.1 ▸ (lookup_some_iff ol x.1 sa x).mpr ⟨hx, ol.refl _⟩)).1
  have nd : ∀ {a : List KV}, Sorted cmp a → a.Nodup := fun sa =>
    List.Pairwise.imp (S := (· ≠ ·)) (fun hlt he => ol.lt_irrefl (he ▸ hlt)) sa
  refine List.Perm.eq_of_pairwise (fun x y _ _ hxy hyx => absurd (ol.lt_trans _ _ _ hxy hyx) ol.lt_irrefl) sa sb
    ((List.perm_ext_iff_of_nodup (nd sa) (nd sb)).mpr fun x => ⟨mem sa sb h x, mem sb sa (fun k => (h k).symm) x⟩)

end DoltVerif.ProllyMerge
