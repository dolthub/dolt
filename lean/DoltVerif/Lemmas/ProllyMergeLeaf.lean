import DoltVerif.Lemmas.ProllyDiffSpec
import DoltVerif.Lemmas.ProllyDiffTree
import DoltVerif.Lemmas.ProllyMergeSendStep
/-!
C14: the patch generator on single-leaf trees (every patch is a point patch).
Its stream is the merge walk of the two leaves in patch form (`specDiffP`): the state `PatchGeneratorFromRoots` builds has
all of it to come (`pgFromRoots_leaf`), and each `Next` emits its next event (`pgNext_leaf`).
-/
namespace DoltVerif.ProllyMerge
open DoltVerif.ProllyDiff

variable {cmp : Bytes → Bytes → Ordering}

/-- the event of a tag of the merge walk of two maps, in *patch* form: as `evOf false` (C13), but a modified pair
carries the key bytes of the `to` side (`sendModifiedKey` uses `to.CurrentKey()`) -/
def evP : Tag KV → Option Event
  | .left x => some (Event.removed x)
  | .right y => some (Event.added y)
  | .both x y => if x.2 != y.2 then some ⟨.modified, y.1, some x.2, some y.2⟩ else none

def specDiffP (cmp : Bytes → Bytes → Ordering) (a b : List KV) : List Event := (mergeWalk cmp (·.1) a b).filterMap evP

theorem specDiffP_nil_left (bs : List KV) : specDiffP cmp [] bs = bs.map Event.added := by
  rw [specDiffP, mergeWalk_nil_left, List.filterMap_map]; exact congrFun List.filterMap_eq_map bs

theorem specDiffP_nil_right (as : List KV) : specDiffP cmp as [] = as.map Event.removed := by
  rw [specDiffP, mergeWalk_nil_right, List.filterMap_map]; exact congrFun List.filterMap_eq_map as

theorem specDiffP_cons_cons (a : KV) (as : List KV) (b : KV) (bs : List KV) :
    specDiffP cmp (a :: as) (b :: bs) =
      match cmp a.1 b.1 with
      | .lt => Event.removed a :: specDiffP cmp as (b :: bs)
      | .gt => Event.added b :: specDiffP cmp (a :: as) bs
      | .eq => if a.2 != b.2 then ⟨.modified, b.1, some a.2, some b.2⟩ :: specDiffP cmp as bs
               else specDiffP cmp as bs := by
  simp only [specDiffP]
  rw [mergeWalk]
  cases cmp a.1 b.1
  · rfl
  · by_cases h : (a.2 != b.2) = true <;> simp only [List.filterMap_cons, evP, h, if_true, if_false, Bool.false_eq_true]
  · rfl

def patchOf (e : Event) : Patch × DiffType :=
  ({ from? := e.from?.map PVal.val, endKey := e.key, to? := e.to?.map PVal.val }, e.type)

def pointPatch (e : Event) : Patch := (patchOf e).1

theorem specDiffP_skip (hrefl : ∀ k, cmp k k = .eq) : ∀ (L X Y : List KV), specDiffP cmp (L ++ X) (L ++ Y) = specDiffP cmp X Y
  | [], _, _ => rfl
  | l :: L, X, Y => by
    simp only [List.cons_append]
    rw [specDiffP_cons_cons]
    simp only [hrefl, bne_self_eq_false, Bool.false_eq_true, if_false]
    exact specDiffP_skip hrefl L X Y

/-- a cursor of a single-leaf tree (or the nil cursor of an empty tree) -/
def IsLeafCur (c : Cur) : Prop := c = [] ∨ ∃ kvs i, c = [⟨.leaf kvs, i⟩]

theorem valid_leaf (kvs : List KV) (i : Nat) : valid [⟨.leaf kvs, i⟩] = true ↔ i < kvs.length := by
  simp only [valid, Frame.valid, Tree.count]
  exact ⟨of_decide_eq_true, decide_eq_true⟩

theorem valid_leaf_false (kvs : List KV) (i : Nat) : valid [⟨.leaf kvs, i⟩] = false ↔ kvs.length ≤ i := by
  simp only [valid, Frame.valid, Tree.count]
  exact ⟨fun h => Nat.not_lt.mp (of_decide_eq_false h), fun h => decide_eq_false (Nat.not_lt.mpr h)⟩

theorem IsLeafCur.level_eq {c : Cur} (h : IsLeafCur c) : ProllyMerge.level c = 0 := by
  rcases h with rfl | ⟨kvs, i, rfl⟩ <;> simp [ProllyMerge.level, Tree.height]

theorem IsLeafCur.adv {c : Cur} (h : IsLeafCur c) : IsLeafCur (advance c) := by
  rcases h with rfl | ⟨kvs, i, rfl⟩
  · exact Or.inl rfl
  · right
    unfold ProllyDiff.advance
    split
    · exact ⟨kvs, _, rfl⟩
    · exact ⟨kvs, _, rfl⟩

theorem IsLeafCur.climb_eq {c : Cur} (h : IsLeafCur c) : climb c = c := by
  rcases h with rfl | ⟨kvs, i, rfl⟩ <;> simp [ProllyMerge.climb]

theorem IsLeafCur.rem_nil {c : Cur} (h : IsLeafCur c) (hv : valid c = false) : rem c = [] := by
  rcases h with rfl | ⟨kvs, i, rfl⟩
  · rfl
  · rw [valid_leaf_false] at hv
    simp [rem, remAbove, Tree.flatFrom, List.drop_eq_nil_of_le hv]

theorem IsLeafCur.step {c : Cur} (h : IsLeafCur c) (hv : valid c = true) :
    ∃ kv, rem c = kv :: rem (ProllyDiff.advance c) ∧ curKey c = some kv.1 ∧ curVal c = some (.val kv.2) := by
  rcases h with rfl | ⟨kvs, i, rfl⟩
  · simp [valid] at hv
  · rw [valid_leaf] at hv
    refine ⟨kvs[i], ?_, by simp [curKey, Tree.key?, hv], by simp [curVal, hv]⟩
    unfold ProllyDiff.advance
    split
    · simp [rem, remAbove, Tree.flatFrom]
    · rename_i hn
      simp only [Tree.count] at hn
      have : i + 1 = kvs.length := by omega
      simp only [rem, remAbove, Tree.flatFrom, Tree.count, List.append_nil]
      rw [List.drop_eq_getElem_cons hv, this]

theorem equalParents_leaf {f t : Cur} (hf : IsLeafCur f) : equalParents f t = false := by
  rcases hf with rfl | ⟨kvs, i, rfl⟩ <;> simp [equalParents, equalItems]

theorem equalItems_leaf {f t : Cur} (hf : IsLeafCur f) (ht : IsLeafCur t) (hvf : valid f = true) (hvt : valid t = true)
    {a b : KV} (ha : curKey f = some a.1 ∧ curVal f = some (.val a.2)) (hb : curKey t = some b.1 ∧ curVal t = some (.val b.2)) :
    equalItems f t = true ↔ a = b := by
  rcases hf with rfl | ⟨ka, i, rfl⟩
  · simp [valid] at hvf
  rcases ht with rfl | ⟨kb, j, rfl⟩
  · simp [valid] at hvt
  rw [valid_leaf] at hvf hvt
  simp only [curKey, curVal, Tree.key?, List.getElem?_eq_getElem hvf, List.getElem?_eq_getElem hvt, Option.map_some,
    Option.some.injEq, PVal.val.injEq] at ha hb
  have ea : ka[i] = a := Prod.ext ha.1 ha.2
  have eb : kb[j] = b := Prod.ext hb.1 hb.2
  simp only [equalItems, Tree.sig?, List.getElem?_eq_getElem hvf, List.getElem?_eq_getElem hvt, Option.map_some, ea, eb,
    decide_eq_true_eq, Prod.mk.injEq, Sum.inl.injEq]
  constructor
  · rintro ⟨h1, h2⟩; exact Prod.ext h1 h2
  · rintro rfl; exact ⟨rfl, rfl⟩

theorem skipVP_leaf : ∀ (n : Nat) (f t : Cur) (pnew : Bool) (last : Option Bytes) (last' : Option Bytes) (f' t' : Cur),
    IsLeafCur f → IsLeafCur t → skipVP n f t pnew last = .ok (last', f', t') →
    IsLeafCur f' ∧ IsLeafCur t' ∧ ∃ L, rem f = L ++ rem f' ∧ rem t = L ++ rem t' := by
  intro n f t pnew last
  fun_induction skipVP n f t pnew last with
  | case1 => nofun  -- out of fuel
  | case2 | case3 =>
    -- a cursor is exhausted, or the items differ: nothing skipped
    intro last' f' t' hf ht h
    cases h
    exact ⟨hf, ht, [], rfl, rfl⟩
  | case4 n f t pnew last _ _ hp =>
    -- skipping in the parents: a leaf cursor has none
    intro _ _ _ hf
    simp [equalParents_leaf hf] at hp
  | case5 n f t pnew last hv he _ ih =>
    intro last' f' t' hf ht h
    simp at hv he
    obtain ⟨a, ra, ka⟩ := hf.step hv.1
    obtain ⟨b, rb, kb⟩ := ht.step hv.2
    have hab : a = b := (equalItems_leaf hf ht hv.1 hv.2 ka kb).mp he
    obtain ⟨g1, g2, L, h1, h2⟩ := ih last' f' t' hf.adv ht.adv h
    exact ⟨g1, g2, a :: L, by rw [ra, h1]; simp, by rw [rb, h2, hab]; simp⟩

theorem advanceToNextDiff_leaf (hrefl : ∀ k, cmp k k = .eq) (fuel : Nat) {d d2 : PG} (hf : IsLeafCur d.from_) (ht : IsLeafCur d.to)
    (h : advanceToNextDiff fuel d = .ok d2) :
    IsLeafCur d2.from_ ∧ IsLeafCur d2.to ∧
    specDiffP cmp (rem d2.from_) (rem d2.to) = specDiffP cmp (rem (ProllyDiff.advance d.from_)) (rem (ProllyDiff.advance d.to)) := by
  unfold advanceToNextDiff at h
  cases hsk : skipVP fuel (ProllyDiff.advance d.from_) (ProllyDiff.advance d.to) true none with
  | error e => simp [hsk, bind, Except.bind] at h
  | ok res =>
    obtain ⟨last, f2, t2⟩ := res
    simp [hsk, bind, Except.bind, pure, Except.pure] at h
    obtain ⟨g1, g2, L, h1, h2⟩ := skipVP_leaf fuel _ _ _ _ last f2 t2 hf.adv ht.adv hsk
    subst h
    exact ⟨g1, g2, by rw [h1, h2, specDiffP_skip hrefl]⟩

/-- what the generator will still emit, read off its state -/
def afterStream (cmp : Bytes → Bytes → Ordering) (d : PG) : List Event :=
  match d.prevType with
  | some .removed => specDiffP cmp (rem (ProllyDiff.advance d.from_)) (rem d.to)
  | some .added => specDiffP cmp (rem d.from_) (rem (ProllyDiff.advance d.to))
  | some .modified => specDiffP cmp (rem (ProllyDiff.advance d.from_)) (rem (ProllyDiff.advance d.to))
  | none => specDiffP cmp (rem d.from_) (rem d.to)

/-- a generator over two single-leaf trees whose remaining stream is `evs` -/
structure LeafStr (cmp : Bytes → Bytes → Ordering) (d : PG) (evs : List Event) : Prop where
  lf : IsLeafCur d.from_
  lt : IsLeafCur d.to
  lvl : d.prevLevel = 0
  str : afterStream cmp d = evs

theorem getLevel_leaf {d : PG} {evs} (h : LeafStr cmp d evs) : d.getLevel = 0 := by
  unfold PG.getLevel; split <;> simp [h.lt.level_eq, h.lf.level_eq]

def hd (E : List Event) : Option (Patch × DiffType) := E.head?.map patchOf

/-- the generator `d` with current result `r` stands at the head of the stream `evs` -/
structure AtHead (cmp : Bytes → Bytes → Ordering) (evs : List Event) (d : PG) (r : Option (Patch × DiffType)) : Prop where
  cur : r = hd evs
  rest : evs ≠ [] → LeafStr cmp d evs.tail

theorem needKey_of {c : Cur} {k : Bytes} (h : curKey c = some k) : needKey c = .ok k := by
  simp [needKey, h, pure, Except.pure]

theorem optPValEq_val (a b : Bytes) : optPValEq (some (.val a)) (some (.val b)) = (a == b) := rfl

theorem findNext_leaf (hrefl : ∀ k, cmp k k = .eq) (sf : Nat) : ∀ (n : Nat) (d d' : PG) (r : Option (Patch × DiffType)),
    IsLeafCur d.from_ → IsLeafCur d.to → findNextPatch cmp sf n d = .ok (d', r) →
    AtHead cmp (specDiffP cmp (rem d.from_) (rem d.to)) d' r := by
  intro n d
  fun_induction findNextPatch cmp sf n d with
  | case1 => exact fun _ _ _ _ h => nomatch h  -- out of fuel
  | case2 n d hv lvl ih =>
    -- both cursors valid: compare the keys
    intro d' r hf ht h
    simp only [Bool.and_eq_true] at hv
    obtain ⟨a, ra, ka⟩ := hf.step hv.1
    obtain ⟨b, rb, kb⟩ := ht.step hv.2
    simp only [needKey_of ka.1, needKey_of kb.1, bind, Except.bind, lvl, ht.level_eq] at h
    rw [ra, rb, specDiffP_cons_cons]
    cases hc : cmp a.1 b.1 with
    | lt =>
      simp [hc, sendRemovedKey, needKey_of ka.1, bind, Except.bind, pure, Except.pure] at h
      obtain ⟨rfl, rfl⟩ := h
      refine ⟨?_, fun _ => ⟨hf, ht, rfl, ?_⟩⟩
      · simp [hd, patchOf, Event.removed, ka.2]
      · simp [afterStream, rb]
    | gt =>
      simp [hc, sendAddedKey, needKey_of kb.1, bind, Except.bind, pure, Except.pure] at h
      obtain ⟨rfl, rfl⟩ := h
      refine ⟨?_, fun _ => ⟨hf, ht, rfl, ?_⟩⟩
      · simp [hd, patchOf, Event.added, kb.2]
      · simp [afterStream, ra]
    | eq =>
      simp only [hc, equalCursorValues, ka.2, kb.2, optPValEq_val] at h
      by_cases hv : a.2 = b.2
      · -- equal pair: advanceToNextDiff, loop
        have hbeq : (a.2 == b.2) = true := by simpa using hv
        have hbne : (a.2 != b.2) = false := by simp [hv]
        simp only [hbeq, Bool.not_true, Bool.false_eq_true, if_false] at h
        simp only [hbne, Bool.false_eq_true, if_false]
        cases hadv : advanceToNextDiff sf d with
        | error e => simp [hadv] at h
        | ok d2 =>
          simp only [hadv] at h
          obtain ⟨g1, g2, hsp⟩ := advanceToNextDiff_leaf (cmp := cmp) hrefl sf hf ht hadv
          rw [← hsp]
          exact ih d2 d' r g1 g2 h
      · have hbeq : (a.2 == b.2) = false := by simpa using hv
        have hbne : (a.2 != b.2) = true := by simp [hv]
        simp only [hbeq, Bool.not_false, if_true] at h
        simp [sendModifiedKey, needKey_of kb.1, bind, Except.bind, pure, Except.pure] at h
        obtain ⟨rfl, rfl⟩ := h
        simp only [hbne, if_true]
        refine ⟨?_, fun _ => ⟨hf, ht, rfl, ?_⟩⟩
        · simp [hd, patchOf, ka.2, kb.2]
        · simp [afterStream]
  | case3 n d _ _ hl | case5 n d _ _ _ hl =>
    -- range patches: a leaf cursor has level 0
    intro _ _ hf ht
    simp [hf.level_eq, ht.level_eq] at hl
  | case4 n d hv hvf =>
    -- only `from` valid: its entry is removed
    intro d' r hf ht h
    have hvt : valid d.to = false := by simpa [hvf] using hv
    obtain ⟨a, ra, ka⟩ := hf.step hvf
    simp [sendRemovedKey, needKey_of ka.1, bind, Except.bind, pure, Except.pure] at h
    obtain ⟨rfl, rfl⟩ := h
    rw [ra, ht.rem_nil hvt, specDiffP_nil_right]
    refine ⟨?_, fun _ => ⟨hf, ht, rfl, ?_⟩⟩
    · simp [hd, patchOf, Event.removed, ka.2]
    · simp [afterStream, ht.rem_nil hvt, specDiffP_nil_right]
  | case6 n d _ hvf hvt =>
    -- only `to` valid: its entry is added
    intro d' r hf ht h
    simp only [Bool.not_eq_true] at hvf
    obtain ⟨b, rb, kb⟩ := ht.step hvt
    simp [sendAddedKey, needKey_of kb.1, bind, Except.bind, pure, Except.pure] at h
    obtain ⟨rfl, rfl⟩ := h
    rw [rb, hf.rem_nil hvf, specDiffP_nil_left]
    refine ⟨?_, fun _ => ⟨hf, ht, rfl, ?_⟩⟩
    · simp [hd, patchOf, Event.added, kb.2]
    · simp [afterStream, hf.rem_nil hvf, specDiffP_nil_left]
  | case7 n d _ hvf hvt =>
    -- both exhausted
    intro d' r hf ht h
    simp only [Bool.not_eq_true] at hvf hvt
    cases h
    rw [hf.rem_nil hvf, ht.rem_nil hvt, specDiffP_nil_left]
    exact ⟨rfl, fun h0 => absurd rfl h0⟩

theorem advPrev_leaf (hrefl : ∀ k, cmp k k = .eq) (fuel : Nat) (d d1 : PG) (evs : List Event) (r1 : Option (Patch × DiffType))
    (hs : LeafStr cmp d evs) (h : advanceFromPreviousPatch cmp fuel d = .ok (d1, r1)) :
    r1 = none ∧ IsLeafCur d1.from_ ∧ IsLeafCur d1.to ∧ specDiffP cmp (rem d1.from_) (rem d1.to) = evs := by
  obtain ⟨hf, ht, hl, hstr⟩ := hs
  revert h
  fun_cases advanceFromPreviousPatch cmp fuel d with
  | case1 hp | case2 hp | case3 hp | case4 hp | case5 hp => omega  -- after a range patch: `prevLevel > 0`
  | case6 _ hp f' =>
    -- removed
    intro h; cases h
    simp only [afterStream, hp] at hstr
    have : f' = d.from_ := by simp only [f']; split <;> simp [hf.climb_eq]
    rw [this]
    exact ⟨rfl, hf.adv, ht, hstr⟩
  | case7 _ hp t' =>
    -- added
    intro h; cases h
    simp only [afterStream, hp] at hstr
    have : t' = d.to := by simp only [t']; split <;> simp [ht.climb_eq]
    rw [this]
    exact ⟨rfl, hf, ht.adv, hstr⟩
  | case8 _ hp =>
    -- modified
    intro h
    simp only [afterStream, hp] at hstr
    cases hadv : advanceToNextDiff fuel d with
    | error e => simp [hadv, bind, Except.bind] at h
    | ok d2 =>
      simp [hadv, bind, Except.bind, pure, Except.pure] at h
      obtain ⟨rfl, rfl⟩ := h
      obtain ⟨g1, g2, hsp⟩ := advanceToNextDiff_leaf (cmp := cmp) hrefl fuel hf ht hadv
      exact ⟨rfl, g1, g2, hsp.trans hstr⟩
  | case9 _ hp =>
    -- no previous patch
    intro h; cases h
    simp only [afterStream, hp] at hstr
    exact ⟨rfl, hf, ht, hstr⟩

theorem pgNext_leaf (hrefl : ∀ k, cmp k k = .eq) (fuel : Nat) (d d' : PG) (evs : List Event) (r : Option (Patch × DiffType))
    (hs : LeafStr cmp d evs) (h : pgNext cmp fuel d = .ok (d', r)) : AtHead cmp evs d' r := by
  unfold pgNext at h
  simp only [bind, Except.bind] at h
  by_cases hp : d.prevType.isSome = true
  · simp only [hp, if_true] at h
    cases ha : advanceFromPreviousPatch cmp fuel d with
    | error e => simp [ha] at h
    | ok res =>
      obtain ⟨d1, r1⟩ := res
      obtain ⟨rfl, g1, g2, hstr⟩ := advPrev_leaf hrefl fuel d d1 evs r1 hs ha
      simp only [ha] at h
      have := findNext_leaf hrefl fuel fuel d1 d' r g1 g2 h
      rw [hstr] at this
      exact this
  · have hn : d.prevType = none := by
      cases hd : d.prevType with
      | none => rfl
      | some t => simp [hd] at hp
    simp only [hn, Option.isSome_none, Bool.false_eq_true, if_false, pure, Except.pure] at h
    have := findNext_leaf hrefl fuel fuel d d' r hs.lf hs.lt h
    have hstr := hs.str
    simp only [afterStream, hn] at hstr
    rw [hstr] at this
    exact this

/-- at leaf level `getNextAndSplitIfAtEnd` is `Next` (a point patch is never split) -/
theorem getNext_leaf (hrefl : ∀ k, cmp k k = .eq) (fuel : Nat) (d d' : PG) (evs : List Event) (r : Option (Patch × DiffType))
    (hs : LeafStr cmp d evs) (h : getNextAndSplitIfAtEnd cmp fuel d = .ok (d', r)) : AtHead cmp evs d' r := by
  refine getNext_induction h (fun d1 c1 hn => pgNext_leaf hrefl fuel d d1 evs c1 hs hn) fun d1 p t d2 c2 h1 hlev _ => ?_
  have h1 := h1.cur
  cases evs with
  | nil => cases h1
  | cons e _ => cases h1; exact absurd rfl hlev

theorem rootCur_leaf (kvs : List KV) :
    IsLeafCur (if (Tree.leaf kvs).count = 0 then ([] : Cur) else [⟨.leaf kvs, 0⟩]) ∧
    rem (if (Tree.leaf kvs).count = 0 then ([] : Cur) else [⟨.leaf kvs, 0⟩]) = kvs := by
  by_cases h : (Tree.leaf kvs).count = 0
  · simp only [h, if_true]
    simp [Tree.count] at h
    exact ⟨Or.inl rfl, by simp [rem, h]⟩
  · simp only [h, if_false]
    exact ⟨Or.inr ⟨kvs, 0, rfl⟩, by simp [rem, remAbove, Tree.flatFrom]⟩

theorem pgFromRoots_leaf (ka kb : List KV) (d : PG) (h : pgFromRoots (.leaf ka) (.leaf kb) = .ok d) :
    LeafStr cmp d (specDiffP cmp ka kb) := by
  obtain ⟨lfa, ra⟩ := rootCur_leaf ka
  unfold pgFromRoots at h
  by_cases hb : (Tree.leaf kb).count = 0
  · simp only [hb, if_true, pure, Except.pure] at h
    simp at h
    subst h
    have hb' : kb = [] := by simpa [Tree.count] using hb
    refine ⟨lfa, Or.inl rfl, rfl, ?_⟩
    simp only [afterStream]
    rw [ra, hb']; rfl
  · simp only [hb, if_false, bind, Except.bind] at h
    have hlev : level (if (Tree.leaf ka).count = 0 then ([] : Cur) else [⟨.leaf ka, 0⟩]) = 0 := lfa.level_eq
    have : descendTo ((Tree.leaf ka).height + 2) (if (Tree.leaf ka).count = 0 then ([] : Cur) else [⟨.leaf ka, 0⟩]) (Tree.leaf kb).height
        = .ok (if (Tree.leaf ka).count = 0 then ([] : Cur) else [⟨.leaf ka, 0⟩]) := by
      simp [Tree.height, descendTo, hlev, pure, Except.pure]
    rw [this] at h
    simp [pure, Except.pure] at h
    subst h
    refine ⟨lfa, Or.inr ⟨kb, 0, rfl⟩, rfl, ?_⟩
    simp only [afterStream]
    rw [ra]
    simp [rem, remAbove, Tree.flatFrom]

end DoltVerif.ProllyMerge
