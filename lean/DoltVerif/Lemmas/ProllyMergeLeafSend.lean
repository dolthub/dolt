import DoltVerif.Lemmas.ProllyMergeLeaf
import DoltVerif.Lemmas.ProllyMergeApply
/-!
C14: `SendPatches` over two single-leaf generators is the merge walk `sendSpec` of the two point-patch streams
(`sendPatches_leaf`, `threeWayMerge_leaf`).  This says what the stream *is*, independently of the general R2
(`sendPatches_value`, which says what a stream denotes): `C14.patch_merge_refines_leaf` has content and collisions from R2
and takes from here only that every patch sent is a point patch (`sendSpec_level`).
-/
namespace DoltVerif.ProllyMerge
open DoltVerif.ProllyDiff

variable {cmp : Bytes → Bytes → Ordering}

/-- the patch `SendPatches` sends for one tag of the merge walk -/
def patchTag (collide : Collide) : Tag Event → Option Patch
  | .left _ => none
  | .right r => some (pointPatch r)
  | .both l r =>
    if l.to? == r.to? then none
    else match collide l r with
      | none => none
      | some to => some { from? := l.from?.map PVal.val, endKey := l.key, to? := to.map PVal.val }

def collTag : Tag Event → Option Collision
  | .both l r => if l.to? == r.to? then none else some ⟨l, r⟩
  | _ => none

/-- `SendPatches` on point-patch streams, as a merge walk: left-only patches are dropped (already in
left), right-only patches are sent, equal keys with equal results are dropped, equal keys with
different results go to the collision handler (its patch is sent when it resolves); when left is
exhausted the rest of right is sent, when right is exhausted nothing more -/
def sendSpec (cmp : Bytes → Bytes → Ordering) (collide : Collide) (EL ER : List Event) : List Patch × List Collision :=
  ((mergeWalk cmp Event.key EL ER).filterMap (patchTag collide), (mergeWalk cmp Event.key EL ER).filterMap collTag)

theorem sendSpec_nil_right (collide : Collide) (EL : List Event) : sendSpec cmp collide EL [] = ([], []) := by
  simp [sendSpec, mergeWalk_nil_right, List.filterMap_map, Function.comp_def, patchTag, collTag]

theorem sendSpec_cons (collide : Collide) (t : Tag Event) (EL ER EL' ER' : List Event)
    (h : mergeWalk cmp Event.key EL ER = t :: mergeWalk cmp Event.key EL' ER') :
    sendSpec cmp collide EL ER = ((patchTag collide t).toList ++ (sendSpec cmp collide EL' ER').1,
      (collTag t).toList ++ (sendSpec cmp collide EL' ER').2) := by
  simp only [sendSpec, h, List.filterMap_cons]
  cases patchTag collide t <;> cases collTag t <;> rfl

theorem patchTag_level {collide : Collide} {t : Tag Event} {p : Patch} (h : patchTag collide t = some p) : p.level = 0 := by
  revert h
  fun_cases patchTag collide t with
  | case1 | case3 | case4 => nofun  -- left only, same result, conflict: no patch
  | case2 | case5 => intro h; cases h; rfl  -- right's point patch, the resolved one

theorem sendSpec_level (collide : Collide) (EL ER : List Event) : ∀ p ∈ (sendSpec cmp collide EL ER).1, p.level = 0 :=
  fun _ hp => (List.mem_filterMap.mp hp).elim fun _ ht => patchTag_level ht.2

theorem hd_eq_none {E : List Event} (h : hd E = none) : E = [] := by
  cases E with
  | nil => rfl
  | cons e es => cases h

/-- invariant of `SendPatches` at leaf level, for the loop and for the trailing drain: what has been sent and handed out so
far, followed by `sendSpec` of what the streams still hold, is `T` -/
structure SPInv (cmp : Bytes → Bytes → Ordering) (collide : Collide) (T : List Patch × List Collision) (s : SP)
    (EL ER : List Event) : Prop where
  l : AtHead cmp EL s.l s.left
  r : AtHead cmp ER s.r s.right
  sent : (s.out.reverse ++ (sendSpec cmp collide EL ER).1, s.coll.reverse ++ (sendSpec cmp collide EL ER).2) = T

theorem SPInv.consume {collide : Collide} {T : List Patch × List Collision} {s s1 : SP} {EL ER EL' ER' : List Event}
    {t : Tag Event} (inv : SPInv cmp collide T s EL ER)
    (hw : mergeWalk cmp Event.key EL ER = t :: mergeWalk cmp Event.key EL' ER')
    (hl : AtHead cmp EL' s1.l s1.left) (hr : AtHead cmp ER' s1.r s1.right)
    (ho : s1.out = (patchTag collide t).toList ++ s.out) (hc : s1.coll = (collTag t).toList ++ s.coll) :
    SPInv cmp collide T s1 EL' ER' := by
  refine ⟨hl, hr, ?_⟩
  rw [← inv.sent, sendSpec_cons collide t _ _ _ _ hw, ho, hc]
  cases patchTag collide t <;> cases collTag t <;> simp

theorem SPInv.done {collide : Collide} {T : List Patch × List Collision} {s : SP} {EL ER : List Event}
    (inv : SPInv cmp collide T s EL ER) (h : s.right = none) : (s.out.reverse, s.coll.reverse) = T := by
  have hER : ER = [] := hd_eq_none (inv.r.cur ▸ h)
  rw [← inv.sent, hER, sendSpec_nil_right, List.append_nil, List.append_nil]

/-- one iteration of the loop consumes the first tag of the walk of the two streams -/
theorem SPInv.step (hrefl : ∀ k, cmp k k = .eq) {collide : Collide} {fuel : Nat} {T : List Patch × List Collision} {s s1 : SP}
    {EL ER : List Event} (inv : SPInv cmp collide T s EL ER) {pl pr : Patch} {tl tr : DiffType}
    (hleft : s.left = some (pl, tl)) (hright : s.right = some (pr, tr)) (st : SendStep cmp collide fuel s pl tl pr tr s1) :
    ∃ EL' ER', SPInv cmp collide T s1 EL' ER' := by
  cases EL with
  | nil => cases hleft.symm.trans inv.l.cur
  | cons l ls =>
  cases ER with
  | nil => cases hright.symm.trans inv.r.cur
  | cons r rs =>
  have sl := inv.l.rest (List.cons_ne_nil _ _)
  have sr := inv.r.rest (List.cons_ne_nil _ _)
  have hl0 := getLevel_leaf sl
  have hr0 := getLevel_leaf sr
  cases hleft.symm.trans inv.l.cur
  cases hright.symm.trans inv.r.cur
  have nolv : ∀ {d : PG}, d.getLevel = 0 → ¬ 0 < d.getLevel := fun h0 h1 => by rw [h0] at h1; exact Nat.lt_irrefl 0 h1
  cases st with
  | ppNextL v _ _ hc hn =>
    have hw : mergeWalk cmp Event.key (l :: ls) (r :: rs) = .left l :: mergeWalk cmp Event.key ls (r :: rs) := by
      rw [mergeWalk]; simp only [show cmp l.key r.key = .lt from hc]
    exact ⟨ls, r :: rs, inv.consume hw (pgNext_leaf hrefl fuel s.l v.1 ls v.2 sl hn) inv.r rfl rfl⟩
  | sendRAbove v _ hc hn =>
    have hw : mergeWalk cmp Event.key (l :: ls) (r :: rs) = .right r :: mergeWalk cmp Event.key (l :: ls) rs := by
      rw [mergeWalk]; simp only [show cmp l.key r.key = .gt from hc]
    exact ⟨l :: ls, rs, inv.consume hw inv.l (getNext_leaf hrefl fuel s.r v.1 rs v.2 sr hn) rfl rfl⟩
  | ppSame v w _ _ hc h3 hn hn2 =>
    have hw : mergeWalk cmp Event.key (l :: ls) (r :: rs) = .both l r :: mergeWalk cmp Event.key ls rs := by
      rw [mergeWalk]; simp only [show cmp l.key r.key = .eq from hc]
    have hto : (l.to? == r.to?) = true := by rw [← optPValEq_map]; exact h3
    exact ⟨ls, rs, inv.consume hw (pgNext_leaf hrefl fuel s.l v.1 ls v.2 sl hn) (getNext_leaf hrefl fuel s.r w.1 rs w.2 sr hn2)
      (by simp [SP.stepLR, patchTag, hto]) (by simp [SP.stepLR, collTag, hto])⟩
  | ppCollide v w _ _ hc h3 hn hn2 =>
    have hw : mergeWalk cmp Event.key (l :: ls) (r :: rs) = .both l r :: mergeWalk cmp Event.key ls rs := by
      rw [mergeWalk]; simp only [show cmp l.key r.key = .eq from hc]
    have hto : (l.to? == r.to?) = false := by rw [← optPValEq_map]; exact h3
    refine ⟨ls, rs, inv.consume hw (pgNext_leaf hrefl fuel s.l v.1 ls v.2 sl hn) (getNext_leaf hrefl fuel s.r w.1 rs w.2 sr hn2)
      ?_ (by simp [SP.stepLR, collTag, hto, pvalBytes_map])⟩
    simp only [SP.stepLR, resolveCollision, pvalBytes_map, patchTag, hto, Bool.false_eq_true, if_false]
    cases collide l r <;> rfl
  | sendRBefore _ hl | sameTo _ _ hl | splitL _ hl | splitLR _ _ hl | nextLAbove _ hl => exact absurd hl (nolv hl0)
  | nextLBefore _ hr | splitR _ hr => exact absurd hr (nolv hr0)

theorem sendPatches_leaf (hrefl : ∀ k, cmp k k = .eq) (collide : Collide) (fuel : Nat) (l r : PG) (EL ER : List Event)
    (hl : LeafStr cmp l EL) (hr : LeafStr cmp r ER) (ps : List Patch) (cs : List Collision)
    (h : sendPatches cmp collide fuel l r = .ok (ps, cs)) : (ps, cs) = sendSpec cmp collide EL ER := by
  obtain ⟨v, w, s, s2, hn, hn2, hloop, hdr, rfl, rfl⟩ := sendPatches_ok h
  have inv0 : SPInv cmp collide (sendSpec cmp collide EL ER) { l := v.1, r := w.1, left := v.2, right := w.2 } EL ER :=
    ⟨pgNext_leaf hrefl fuel l v.1 EL v.2 hl hn, getNext_leaf hrefl fuel r w.1 ER w.2 hr hn2, rfl⟩
  obtain ⟨⟨EL', ER', inv⟩, hor⟩ := sendLoop_induction (P := fun s => ∃ EL' ER', SPInv cmp collide _ s EL' ER') hloop
    ⟨EL, ER, inv0⟩ fun _ _ _ _ _ _ ⟨_, _, inv⟩ hleft hright st => inv.step hrefl hleft hright st
  rcases hdr with ⟨hsome, rfl⟩ | ⟨hleft, hdr⟩
  · -- left is not exhausted, so right is
    exact inv.done (hor.resolve_left fun h0 => by rw [h0] at hsome; cases hsome)
  · -- left is exhausted: the drain loop sends the rest of right, as `sendSpec [] ·` does
    have hEL : EL' = [] := hd_eq_none (inv.l.cur ▸ hleft)
    obtain ⟨⟨ER2, inv2⟩, hr2⟩ := drainRight_induction (P := fun s => ∃ ER2, SPInv cmp collide _ s [] ER2) hdr ⟨ER', hEL ▸ inv⟩
      fun s pr tr v ⟨ER2, inv⟩ hright hn => by
        cases ER2 with
        | nil => cases hright.symm.trans inv.r.cur
        | cons r rs =>
          cases hright.symm.trans inv.r.cur
          have hw : mergeWalk cmp Event.key [] (r :: rs) = .right r :: mergeWalk cmp Event.key [] rs := by rw [mergeWalk]
          exact ⟨rs, inv.consume hw inv.l
            (getNext_leaf hrefl fuel s.r v.1 rs v.2 (inv.r.rest (List.cons_ne_nil _ _)) hn) rfl rfl⟩
    exact inv2.done hr2

theorem threeWayMerge_leaf (hrefl : ∀ k, cmp k k = .eq) (collide : Collide) (kb kl kr : List KV)
    (content : List KV) (ps : List Patch) (cs : List Collision)
    (h : threeWayMerge cmp collide (.leaf kb) (.leaf kl) (.leaf kr) = .ok (content, ps, cs)) :
    (ps, cs) = sendSpec cmp collide (specDiffP cmp kb kl) (specDiffP cmp kb kr) ∧ content = applyPatches cmp kl ps := by
  obtain ⟨ld, rd, h1, h2, h3, hc⟩ := threeWayMerge_ok h
  exact ⟨sendPatches_leaf hrefl collide _ ld rd _ _ (pgFromRoots_leaf kb kl ld h1) (pgFromRoots_leaf kb kr rd h2) ps cs h3, hc⟩

end DoltVerif.ProllyMerge
