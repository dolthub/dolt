import DoltVerif.Lemmas.ProllyMergeKeywise
/-!
C14, obligation R3: content-level semantics of a *range* patch — `replaceRange` replaces exactly the pairs with
`lo < key ≤ hi`.
-/
namespace DoltVerif.ProllyMerge
open DoltVerif.ProllyDiff

variable {cmp : Bytes → Bytes → Ordering}

theorem lookup_append (k : Bytes) (A B : List KV) :
    lookupKV cmp k (A ++ B) = (lookupKV cmp k A).orElse (fun _ => lookupKV cmp k B) := by
  simp only [lookupKV_eq_find, List.find?_append, Option.or_eq_orElse]

def leKey (cmp : Bytes → Bytes → Ordering) (bound : Bytes) (x : KV) : Bool := cmp x.1 bound != .gt

theorem mem_takeWhile_p {p : KV → Bool} : ∀ {l : List KV} {x : KV}, x ∈ l.takeWhile p → p x = true ∧ x ∈ l
  | [], _, h => by simp at h
  | a :: l, x, h => by
    by_cases ha : p a = true
    · simp [ha] at h
      rcases h with rfl | h
      · exact ⟨ha, by simp⟩
      · exact ⟨(mem_takeWhile_p h).1, by simp [(mem_takeWhile_p h).2]⟩
    · simp [ha] at h

theorem mem_dropWhile_le (ol : OrdLaws cmp) (bound : Bytes) : ∀ {l : List KV}, Sorted cmp l → ∀ {x : KV},
    x ∈ l.dropWhile (leKey cmp bound) → cmp bound x.1 = .lt ∧ x ∈ l
  | [], _, _, h => by simp at h
  | a :: l, hs, x, h => by
    by_cases ha : leKey cmp bound a = true
    · simp only [List.dropWhile_cons, ha, if_true] at h
      have := mem_dropWhile_le ol bound (sorted_tail hs) h
      exact ⟨this.1, by simp [this.2]⟩
    · simp only [List.dropWhile_cons, ha, Bool.false_eq_true, if_false] at h
      have hgt : cmp a.1 bound = .gt := by
        simp only [leKey, bne_iff_ne, ne_eq, Decidable.not_not] at ha; exact ha
      have hlt : cmp bound a.1 = .lt := (ol.gt_iff _ _).mp hgt
      simp at h
      rcases h with rfl | h
      · exact ⟨hlt, by simp⟩
      · exact ⟨ol.lt_trans _ _ _ hlt (sorted_head_lt hs x h), by simp [h]⟩

theorem lookup_none_of_gt (ol : OrdLaws cmp) {k : Bytes} {l : List KV} (h : ∀ x ∈ l, cmp x.1 k = .lt) : lookupKV cmp k l = none := by
  apply lookup_none_of_ne
  intro x hx he
  have := h x hx
  rw [ol.eq_symm he] at this; simp at this

theorem orElse_none_right (o : Option KV) : (o.orElse fun _ => (none : Option KV)) = o := by cases o <;> rfl

theorem lookup_segments (ol : OrdLaws cmp) (before mid after ins : List KV) (inR : Bytes → Prop) [DecidablePred inR] (k : Bytes)
    (hR : ∀ a b, cmp a b = .eq → inR a → inR b)
    (hB : ∀ x ∈ before, ¬ inR x.1) (hM : ∀ x ∈ mid, inR x.1) (hA : ∀ x ∈ after, ¬ inR x.1) (hI : ∀ x ∈ ins, inR x.1) :
    lookupKV cmp k (before ++ ins ++ after) =
      if inR k then lookupKV cmp k ins else lookupKV cmp k (before ++ (mid ++ after)) := by
  have out : ∀ {l : List KV}, (∀ x ∈ l, ¬ inR x.1) → inR k → lookupKV cmp k l = none := fun h hk =>
    lookup_none_of_ne fun x hx he => h x hx (hR k x.1 he hk)
  have inn : ∀ {l : List KV}, (∀ x ∈ l, inR x.1) → ¬ inR k → lookupKV cmp k l = none := fun h hk =>
    lookup_none_of_ne fun x hx he => hk (hR x.1 k (ol.eq_symm he) (h x hx))
  rw [List.append_assoc]
  simp only [lookup_append]
  split
  · rename_i hk; simp [out hB hk, out hA hk]
  · rename_i hk; simp [inn hI hk, inn hM hk]

/-- `key ≤ lo`, with no lower bound below everything (`keyBelowStart = nil`: the range starts at the first key) -/
def leLo (cmp : Bytes → Bytes → Ordering) (lo : Option Bytes) (x : KV) : Bool :=
  match lo with | none => false | some k => cmp x.1 k != .gt

theorem replaceRange_eq (lo : Option Bytes) (hi : Bytes) (ins l : List KV) :
    replaceRange cmp lo hi ins l =
      l.takeWhile (leLo cmp lo) ++ ins ++ (l.dropWhile (leLo cmp lo)).dropWhile (leKey cmp hi) := rfl

theorem leLo_le {lo : Option Bytes} {x : KV} (h : leLo cmp lo x = true) : ∃ a, lo = some a ∧ cmp x.1 a ≠ .gt := by
  cases lo with
  | none => cases h
  | some a => exact ⟨a, rfl, by simpa [leLo] using h⟩

theorem mem_dropWhile_lo (ol : OrdLaws cmp) (lo : Option Bytes) {l : List KV} (sl : Sorted cmp l) {x : KV}
    (h : x ∈ l.dropWhile (leLo cmp lo)) : (∀ a, lo = some a → cmp a x.1 = .lt) ∧ x ∈ l := by
  cases lo with
  | none => exact ⟨fun _ h => (nomatch h), (List.dropWhile_sublist _).subset h⟩
  | some a => exact ⟨fun a' h' => by cases h'; exact (mem_dropWhile_le ol a sl h).1, (mem_dropWhile_le ol a sl h).2⟩

theorem lookup_replaceRange (ol : OrdLaws cmp) {l ins : List KV} (sl : Sorted cmp l) (lo : Option Bytes) (hi : Bytes)
    (hins : ∀ x ∈ ins, (∀ a, lo = some a → cmp a x.1 = .lt) ∧ cmp x.1 hi ≠ .gt) (k : Bytes) :
    lookupKV cmp k (replaceRange cmp lo hi ins l) =
      if (∀ a, lo = some a → cmp a k = .lt) ∧ cmp k hi ≠ .gt then lookupKV cmp k ins else lookupKV cmp k l := by
  have hrest : Sorted cmp (l.dropWhile (leLo cmp lo)) := List.Pairwise.sublist (List.dropWhile_sublist _) sl
  have el : l = l.takeWhile (leLo cmp lo) ++
      ((l.dropWhile (leLo cmp lo)).takeWhile (leKey cmp hi) ++ (l.dropWhile (leLo cmp lo)).dropWhile (leKey cmp hi)) := by
    rw [List.takeWhile_append_dropWhile, List.takeWhile_append_dropWhile]
  rw [replaceRange_eq]
  conv => rhs; rw [el]
  apply lookup_segments ol _ _ _ ins (fun k => (∀ a, lo = some a → cmp a k = .lt) ∧ cmp k hi ≠ .gt) k
  · exact fun a b he h => ⟨fun c hc => ol.lt_eq _ _ _ (h.1 c hc) he, le_trans' ol (by rw [ol.eq_symm he]; simp) h.2⟩
  · intro x hx h
    obtain ⟨a, ha, hxa⟩ := leLo_le (mem_takeWhile_p hx).1
    exact hxa ((ol.gt_iff _ _).mpr (h.1 a ha))
  · intro x hx
    have h1 := mem_takeWhile_p hx
    exact ⟨(mem_dropWhile_lo ol lo sl h1.2).1, by simpa [leKey] using h1.1⟩
  · intro x hx h
    exact h.2 ((ol.gt_iff _ _).mpr (mem_dropWhile_le ol hi hrest hx).1)
  · exact hins

/-- the pairs a range patch inserts -/
def Patch.ins (p : Patch) : List KV := match p.to? with | some (.sub _ t) => t.flatten | _ => []

theorem applyPatch_range_eq (p : Patch) (hp : p.level ≠ 0) (l : List KV) :
    applyPatch cmp l p = replaceRange cmp p.keyBelowStart p.endKey p.ins l := by
  have hb : (p.level == 0) = false := by simpa using hp
  unfold applyPatch Patch.ins
  simp only [hb, Bool.false_eq_true, if_false]
  cases p.to? with
  | none => rfl
  | some v => cases v <;> rfl

/-- `Lemmas`-level form of `C14.range_patch_lookup` -/
theorem range_patch_lookup' (ol : OrdLaws cmp) (p : Patch) (hp : p.level ≠ 0) {l : List KV} (sl : Sorted cmp l)
    (hins : ∀ x ∈ p.ins, (∀ a, p.keyBelowStart = some a → cmp a x.1 = .lt) ∧ cmp x.1 p.endKey ≠ .gt) (k : Bytes) :
    lookupKV cmp k (applyPatch cmp l p) =
      if (∀ a, p.keyBelowStart = some a → cmp a k = .lt) ∧ cmp k p.endKey ≠ .gt then lookupKV cmp k p.ins
      else lookupKV cmp k l := by
  rw [applyPatch_range_eq p hp]
  exact lookup_replaceRange ol sl p.keyBelowStart p.endKey hins k

theorem sorted_replaceRange (ol : OrdLaws cmp) {l ins : List KV} (sl : Sorted cmp l) (si : Sorted cmp ins) (lo : Option Bytes) (hi : Bytes)
    (hins : ∀ x ∈ ins, (∀ a, lo = some a → cmp a x.1 = .lt) ∧ cmp x.1 hi ≠ .gt) :
    Sorted cmp (replaceRange cmp lo hi ins l) := by
  have hrest : Sorted cmp (l.dropWhile (leLo cmp lo)) := List.Pairwise.sublist (List.dropWhile_sublist _) sl
  rw [replaceRange_eq, List.append_assoc]
  refine List.pairwise_append.mpr ⟨List.Pairwise.sublist (List.takeWhile_sublist _) sl, ?_, ?_⟩
  · refine List.pairwise_append.mpr ⟨si, List.Pairwise.sublist (List.dropWhile_sublist _) hrest, ?_⟩
    intro x hx y hy
    exact le_lt_lt ol (hins x hx).2 (mem_dropWhile_le ol hi hrest hy).1
  · intro x hx y hy
    obtain ⟨a, ha, hxa⟩ := leLo_le (mem_takeWhile_p hx).1
    rcases List.mem_append.mp hy with hy | hy
    · exact le_lt_lt ol hxa ((hins y hy).1 a ha)
    · exact le_lt_lt ol hxa ((mem_dropWhile_lo ol lo sl (mem_dropWhile_le ol hi hrest hy).2).1 a ha)

end DoltVerif.ProllyMerge
