import DoltVerif.Lemmas.ProllyMergeGen
import DoltVerif.Lemmas.ProllyDiffTree
/-!
C14: a concrete height-1 input on which the transliterated `PatchGenerator` emits a wrong patch —
base `[1,2,3,4 | 5,6,7,8]`, x `[1,2,3,4' | 5,6]`: `Next` ×3 gives `(_,4]`, `(4,6]`, `(6,8] removed`, and
`split` of the removed range yields `removed 5` although key 5 is unchanged.  Hence no `GenSound`
invariant exists for this pair (the real implementation behaves the same; design/C14.md, second defect).
-/
namespace DoltVerif.ProllyMerge.Refute
open DoltVerif.ProllyDiff DoltVerif.ProllyMerge

def cmpB (a b : Bytes) : Ordering := compare (a.headD 0).toNat (b.headD 0).toNat

def b1 : Tree := .leaf [([1], [1]), ([2], [2]), ([3], [3]), ([4], [4])]
def b2 : Tree := .leaf [([5], [5]), ([6], [6]), ([7], [7]), ([8], [8])]
def x1 : Tree := .leaf [([1], [1]), ([2], [2]), ([3], [3]), ([4], [99])]
def x2 : Tree := .leaf [([5], [5]), ([6], [6])]
def base : Tree := .node [([4], 1, b1), ([8], 2, b2)]
def xx : Tree := .node [([4], 3, x1), ([6], 4, x2)]
def store : Addr → Option Tree
  | 1 => some b1
  | 2 => some b2
  | 3 => some x1
  | 4 => some x2
  | _ => none
def d0 : PG := ⟨[⟨base, 0⟩], [⟨xx, 0⟩], none, 0, none⟩

theorem run : ∃ d1 p1 t1 d2 p2 t2 d3 p3 t3 d4 p4 t4,
    pgNext cmpB 6 d0 = .ok (d1, some (p1, t1)) ∧ pgNext cmpB 6 d1 = .ok (d2, some (p2, t2)) ∧
    pgNext cmpB 6 d2 = .ok (d3, some (p3, t3)) ∧ p3.level ≠ 0 ∧
    pgSplit cmpB 6 d3 = .ok (d4, some (p4, t4)) ∧ p4.level = 0 ∧ p4.endKey = [5] :=
  ⟨_, _, _, _, _, _, _, _, _, _, _, _, rfl, rfl, rfl, by decide, rfl, rfl, rfl⟩

theorem flat_base : base.flatten = [([1], [1]), ([2], [2]), ([3], [3]), ([4], [4]), ([5], [5]), ([6], [6]), ([7], [7]), ([8], [8])] := by
  simp [base, b1, b2, Tree.flatten, flattenCs]

theorem flat_xx : xx.flatten = [([1], [1]), ([2], [2]), ([3], [3]), ([4], [99]), ([5], [5]), ([6], [6])] := by
  simp [xx, x1, x2, Tree.flatten, flattenCs]

theorem key5_unchanged : changeOf (lookupKV cmpB [5] base.flatten) (lookupKV cmpB [5] xx.flatten) = none := by
  rw [flat_base, flat_xx]; decide

/-- for this pair of well-formed height-1 trees no invariant satisfies `GenSound` — the
generator's `split` of the removed range `(6, 8]` reports key 5 as removed -/
theorem no_genSound : ¬ ∃ Inv, GenSound cmpB store 6 base.flatten xx.flatten Inv ∧ Inv d0 .start := by
  rintro ⟨Inv, gs, h0⟩
  obtain ⟨d1, p1, t1, d2, p2, t2, d3, p3, t3, d4, p4, t4, e1, e2, e3, hl3, e4, hl4, hk4⟩ := run
  have i1 : Inv d1 (.at p1 t1) := (gs.next d0 .start d1 _ h0 (by intro h; cases h) e1).1
  have i2 : Inv d2 (.at p2 t2) := (gs.next d1 (.at p1 t1) d2 _ i1 (by intro h; cases h) e2).1
  have i3 : Inv d3 (.at p3 t3) := (gs.next d2 (.at p2 t2) d3 _ i2 (by intro h; cases h) e3).1
  have i4 : Inv d4 (.at p4 t4) := (gs.split d3 p3 t3 d4 _ i3 hl3 e4).1
  have c4 := (gs.cur d4 p4 t4 i4).2.2.2 hl4
  rw [hk4, key5_unchanged] at c4
  cases c4

theorem wf_base : base.WF store := by
  simp [base, b1, b2, Tree.WF, WFCs, firstHeight, store, Tree.count, Tree.height]
theorem wf_xx : xx.WF store := by
  simp [xx, x1, x2, Tree.WF, WFCs, firstHeight, store, Tree.count, Tree.height]
theorem keys_base : base.KeysOK := by
  simp [base, b1, b2, Tree.KeysOK, KeysOKCs, Tree.flatten]
theorem keys_xx : xx.KeysOK := by
  simp [xx, x1, x2, Tree.KeysOK, KeysOKCs, Tree.flatten]
theorem sorted_base : Sorted cmpB base.flatten := by
  rw [flat_base]; unfold Sorted; decide
theorem sorted_xx : Sorted cmpB xx.flatten := by
  rw [flat_xx]; unfold Sorted; decide
theorem height_base : base.height ≤ 1 := by simp [base, b1, Tree.height, firstHeight]
theorem height_xx : xx.height ≤ 1 := by simp [xx, x1, Tree.height, firstHeight]
theorem roots : pgFromRoots base xx = .ok d0 := rfl

end DoltVerif.ProllyMerge.Refute
