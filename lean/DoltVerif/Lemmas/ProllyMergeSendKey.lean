import DoltVerif.Lemmas.ProllyMergeInterval
import DoltVerif.Lemmas.ProllyMergeSendStep
/-!
C14, obligation R2, the layer under the loop invariant: what one step of a sound generator promises about the keys it passes
(`StepOK`), the key-wise merge at a key case by case (`R2Ctx.MK_*`), and the loop as seen from ONE key (`At`): the two generators
sweep the key line, and what must hold of a key depends only on which of them has passed it, so a move of a cursor is a lemma
about `At` alone.
-/
namespace DoltVerif.ProllyMerge
open DoltVerif.ProllyDiff

variable {cmp : Bytes → Bytes → Ordering}

/-- `k` is before the start of the generator's current patch (anything, when it is exhausted) -/
def belowP (cmp : Bytes → Bytes → Ordering) (c : Option (Patch × DiffType)) (k : Bytes) : Prop :=
  ∀ p t, c = some (p, t) → startsAfter cmp p k

theorem belowP_down (ol : OrdLaws cmp) {c : Option (Patch × DiffType)} {k k' : Bytes} (h : belowP cmp c k) (hk : cmp k' k ≠ .gt) :
    belowP cmp c k' := fun p t hc => startsAfter_down ol (h p t hc) hk

theorem belowP_some {p : Patch} {t : DiffType} {k : Bytes} : belowP cmp (some (p, t)) k ↔ startsAfter cmp p k :=
  ⟨fun h => h p t rfl, fun h p' t' hc => by cases hc; exact h⟩

theorem belowP_eq {o : Option (Patch × DiffType)} {p : Patch} {t : DiffType} (h : o = some (p, t)) (k : Bytes) :
    belowP cmp o k ↔ startsAfter cmp p k := h ▸ belowP_some

theorem belowP_none (k : Bytes) : belowP cmp none k := fun p t hc => by cases hc

theorem not_belowP {o : Option (Patch × DiffType)} {k : Bytes} (h : ¬ belowP cmp o k) :
    ∃ p t, o = some (p, t) ∧ ¬ startsAfter cmp p k := by
  cases o with
  | none => exact absurd (belowP_none k) h
  | some pt => exact ⟨pt.1, pt.2, rfl, fun hs => h (belowP_some.mpr hs)⟩

/-- what one step of a generator (Next, getNextAndSplitIfAtEnd) guarantees -/
structure StepOK (cmp : Bytes → Bytes → Ordering) (B X : List KV) (Inv : PG → GenPos → Prop)
    (pos : GenPos) (d' : PG) (c' : Option (Patch × DiffType)) : Prop where
  inv : Inv d' (GenPos.ofResult c')
  after : ∀ p t, pos = .at p t → belowP cmp c' p.endKey
  gap : ∀ k, (∀ p t, pos = .at p t → cmp p.endKey k = .lt) → belowP cmp c' k →
    changeOf (lookupKV cmp k B) (lookupKV cmp k X) = none

theorem next_stepOK {store : Addr → Option Tree} {fuel : Nat} {B X : List KV} {Inv : PG → GenPos → Prop} (gs : GenSound cmp store fuel B X Inv)
    {d d' : PG} {pos : GenPos} {c' : Option (Patch × DiffType)} (hi : Inv d pos) (hnd : pos ≠ .done)
    (h : pgNext cmp fuel d = .ok (d', c')) : StepOK cmp B X Inv pos d' c' := by
  obtain ⟨h1, h2, h3⟩ := gs.next d pos d' c' hi hnd h
  refine ⟨h1, ?_, ?_⟩
  · intro p t hp p' t' hc
    exact (before_iff p p').mp (h2 p t p' t' hp hc)
  · intro k hk hb
    exact h3 k hk hb

theorem getNext_stepOK {store : Addr → Option Tree} {fuel : Nat} {B X : List KV} {Inv : PG → GenPos → Prop} (gs : GenSound cmp store fuel B X Inv)
    {d d' : PG} {pos : GenPos} {c' : Option (Patch × DiffType)} (hi : Inv d pos) (hnd : pos ≠ .done)
    (h : getNextAndSplitIfAtEnd cmp fuel d = .ok (d', c')) : StepOK cmp B X Inv pos d' c' := by
  refine getNext_induction h (fun d1 c1 hn => next_stepOK gs hi hnd hn) fun d1 p t d2 c2 hs hlev hsp => ?_
  -- a `split` does not go back before the start of the split patch and loses no change from there on
  obtain ⟨i2, m2, g2⟩ := gs.split d1 p t d2 c2 hs.inv hlev hsp
  refine ⟨i2, fun p0 t0 hp p' t' hc => m2 p' t' hc _ (hs.after p0 t0 hp p t rfl), fun k hk hb => ?_⟩
  by_cases hsa : startsAfter cmp p k
  · exact hs.gap k hk (fun p1 t1 h1 => by cases h1; exact hsa)
  · exact g2 k hsa hb

theorem split_facts {store : Addr → Option Tree} {fuel : Nat} {B X : List KV} {Inv : PG → GenPos → Prop} (gs : GenSound cmp store fuel B X Inv)
    {d d' : PG} {p : Patch} {t : DiffType} {c' : Option (Patch × DiffType)} (hi : Inv d (.at p t)) (hl : p.level ≠ 0)
    (h : pgSplit cmp fuel d = .ok (d', c')) :
    Inv d' (GenPos.ofResult c') ∧ (∀ k, startsAfter cmp p k → belowP cmp c' k) ∧
    (∀ k, ¬ startsAfter cmp p k → belowP cmp c' k → changeOf (lookupKV cmp k B) (lookupKV cmp k X) = none) := by
  obtain ⟨i2, m2, g2⟩ := gs.split d p t d' c' hi hl h
  exact ⟨i2, fun k hk p' t' hc => m2 p' t' hc k hk, g2⟩

theorem StepOK.mono {B X : List KV} {Inv : PG → GenPos → Prop} {p : Patch} {t : DiffType} {d' : PG} {c' : Option (Patch × DiffType)}
    (st : StepOK cmp B X Inv (.at p t) d' c') (ol : OrdLaws cmp) (hok : PatchOK cmp p) {k : Bytes} (hk : startsAfter cmp p k) :
    belowP cmp c' k := fun p' t' hc => startsAfter_mono ol hok (st.after p t rfl p' t' hc) hk

theorem StepOK.gap' {B X : List KV} {Inv : PG → GenPos → Prop} {p : Patch} {t : DiffType} {d' : PG} {c' : Option (Patch × DiffType)}
    (st : StepOK cmp B X Inv (.at p t) d' c') (ol : OrdLaws cmp) {k : Bytes} (h1 : ¬ startsAfter cmp p k)
    (h2 : p.covers cmp k = false) (hb : belowP cmp c' k) : changeOf (lookupKV cmp k B) (lookupKV cmp k X) = none := by
  refine st.gap k (fun p0 t0 h0 => ?_) hb
  cases h0
  exact (ol.gt_iff _ _).mp (Decidable.by_contra fun h => by rw [covers_of_between ol h1 h] at h2; cases h2)

theorem spelled_of_exact (ol : OrdLaws cmp) (hexact : ∀ a b, cmp a b = .eq → a = b) {B L R : List KV}
    (sb : Sorted cmp B) (sl : Sorted cmp L) (sr : Sorted cmp R) {k : Bytes}
    (h1 : changeOf (lookupKV cmp k B) (lookupKV cmp k L) = none) (h2 : changeOf (lookupKV cmp k B) (lookupKV cmp k R) = none) :
    lookupKV cmp k L = lookupKV cmp k R := by
  rw [← unchanged_lookup_eq ol hexact sb sl h1, unchanged_lookup_eq ol hexact sb sr h2]

/-- a point patch is not sent for an unchanged key -/
theorem spelled_of_points (ol : OrdLaws cmp) {store : Addr → Option Tree} {fuel : Nat} {B L R : List KV} {InvR : PG → GenPos → Prop}
    (sb : Sorted cmp B) (sr : Sorted cmp R) (gr : GenSound cmp store fuel B R InvR) (hpts : ∀ d p t, InvR d (.at p t) → p.level = 0)
    {d : PG} {p : Patch} {t : DiffType} {k : Bytes} (hi : InvR d (.at p t)) (hc : p.covers cmp k = true)
    (h2 : changeOf (lookupKV cmp k B) (lookupKV cmp k R) = none) : lookupKV cmp k L = lookupKV cmp k R := by
  have hl := hpts d p t hi
  have hk := (covers_iff_point hl k).mp hc
  rw [lookup_congr ol sb hk, lookup_congr ol sr hk, (gr.cur d p t hi).2.2.2 hl] at h2
  cases h2

/-- everything fixed during one run of `SendPatches` -/
structure R2Ctx (cmp : Bytes → Bytes → Ordering) where
  ol : OrdLaws cmp
  collide : Collide
  store : Addr → Option Tree
  fuel : Nat
  B : List KV
  L : List KV
  R : List KV
  sb : Sorted cmp B
  sl : Sorted cmp L
  sr : Sorted cmp R
  InvL : PG → GenPos → Prop
  InvR : PG → GenPos → Prop
  gl : GenSound cmp store fuel B L InvL
  gr : GenSound cmp store fuel B R InvR
  /-- left and right spell alike every key that a patch of right covers and neither of them changed: a right *range* patch
  rewrites also such keys, with right's key bytes, while the merge keeps left's pair (`changeOf` compares values only).
  So it is under a byte-exact order (`spelled_of_exact`) and when right emits point patches only (`spelled_of_points`). -/
  spelled : ∀ d p t k, InvR d (.at p t) → p.covers cmp k = true → changeOf (lookupKV cmp k B) (lookupKV cmp k L) = none →
    changeOf (lookupKV cmp k B) (lookupKV cmp k R) = none → lookupKV cmp k L = lookupKV cmp k R

def R2Ctx.MK (c : R2Ctx cmp) (k : Bytes) : Option KV × Option Collision :=
  mergeKey c.collide (lookupKV cmp k c.B) (lookupKV cmp k c.L) (lookupKV cmp k c.R)
def R2Ctx.cl (c : R2Ctx cmp) (k : Bytes) : Option Event := changeOf (lookupKV cmp k c.B) (lookupKV cmp k c.L)
def R2Ctx.cr (c : R2Ctx cmp) (k : Bytes) : Option Event := changeOf (lookupKV cmp k c.B) (lookupKV cmp k c.R)

theorem R2Ctx.MK_of_cr_none (c : R2Ctx cmp) {k : Bytes} (h : c.cr k = none) : c.MK k = (lookupKV cmp k c.L, none) := by
  unfold R2Ctx.MK mergeKey
  unfold R2Ctx.cr at h
  rw [h]

theorem changeOf_some_to {b r : Option KV} {e : Event} (h : changeOf b r = some e) :
    (match r with | some y => some y | none => none) = r := by cases r <;> rfl

theorem R2Ctx.MK_of_cr_some (c : R2Ctx cmp) {k : Bytes} {er : Event} (h : c.cl k = none) (hr : c.cr k = some er) :
    c.MK k = (lookupKV cmp k c.R, none) := by
  unfold R2Ctx.MK mergeKey
  unfold R2Ctx.cl at h
  unfold R2Ctx.cr at hr
  rw [h, hr]
  simp only []
  cases lookupKV cmp k c.R <;> rfl

theorem R2Ctx.MK_at_collision (c : R2Ctx cmp) {k : Bytes} {el er : Event} (hl : c.cl k = some el) (hr : c.cr k = some er) :
    c.MK k = if el.to? == er.to? then (lookupKV cmp k c.L, none)
      else (match c.collide el er with
        | none => lookupKV cmp k c.L
        | some to => to.map (fun v => (el.key, v)), some ⟨el, er⟩) := by
  unfold R2Ctx.MK mergeKey
  unfold R2Ctx.cl at hl; unfold R2Ctx.cr at hr
  rw [hl, hr]
  simp only []
  split
  · rfl
  · cases c.collide el er <;> rfl

theorem R2Ctx.MK_of_same (c : R2Ctx cmp) {k : Bytes} (h : lookupKV cmp k c.L = lookupKV cmp k c.R) :
    c.MK k = (lookupKV cmp k c.L, none) := by
  cases hr : c.cr k with
  | none => exact c.MK_of_cr_none hr
  | some er =>
    cases hl : c.cl k with
    | none => rw [c.MK_of_cr_some hl hr, h]
    | some el =>
      have : el = er := by
        unfold R2Ctx.cl at hl; unfold R2Ctx.cr at hr
        rw [h] at hl; rw [hl] at hr; simpa using hr
      rw [c.MK_at_collision hl hr, this]
      simp

theorem R2Ctx.MK_onlyR (c : R2Ctx cmp) {k : Bytes} (h : c.cr k = none ∨ lookupKV cmp k c.L = lookupKV cmp k c.R) :
    c.MK k = (lookupKV cmp k c.L, none) := h.elim c.MK_of_cr_none c.MK_of_same

/-- `hx`: the two sides spell alike a key that neither changed; see `R2Ctx.spelled` -/
theorem R2Ctx.MK_onlyL (c : R2Ctx cmp) {k : Bytes} (h : c.cl k = none ∨ lookupKV cmp k c.L = lookupKV cmp k c.R)
    (hx : c.cl k = none → c.cr k = none → lookupKV cmp k c.L = lookupKV cmp k c.R) :
    c.MK k = (lookupKV cmp k c.R, none) := by
  rcases h with h | h
  · cases hr : c.cr k with
    | none => rw [c.MK_of_cr_none hr, hx h hr]
    | some er => exact c.MK_of_cr_some h hr
  · rw [c.MK_of_same h, h]

/-- The loop of `SendPatches` as seen from one key `k`.  `bl` / `br`: `k` lies before the start of left's / right's
current patch (the generator has passed `k`); `v`: what the patches sent so far make of `k` in left; `cs`: the
collisions handed out.  At and after left's start nothing sent has touched `k`; a key both have passed has the merge's
value, and its collision (if any) is out; a key only one side has passed was not changed by that side, or changed to
what the other side has (the form that survives two overlapping removed ranges).  `bl`, `br` are parameters, so a
move of one cursor is a lemma about `At` alone. -/
structure At (c : R2Ctx cmp) (k : Bytes) (bl br : Prop) (v : Option KV) (cs : List Collision) : Prop where
  ahead : ¬ bl → v = lookupKV cmp k c.L
  both : bl → br → v = (c.MK k).1 ∧ ∀ x, (c.MK k).2 = some x → x ∈ cs
  onlyL : bl → ¬ br → c.cl k = none ∨ lookupKV cmp k c.L = lookupKV cmp k c.R
  onlyR : br → ¬ bl → c.cr k = none ∨ lookupKV cmp k c.L = lookupKV cmp k c.R

section
variable {c : R2Ctx cmp} {k : Bytes} {bl br bl' br' : Prop} {v v' : Option KV} {cs cs' : List Collision}

theorem At.passL (h : At c k bl br v cs) (hm : bl → bl') (hg : ¬ bl → bl' → ¬ br → c.cl k = none) : At c k bl' br v cs where
  ahead n := h.ahead fun b => n (hm b)
  both b r := by
    by_cases b0 : bl
    · exact h.both b0 r
    · rw [c.MK_onlyR (h.onlyR r b0), h.ahead b0]; exact ⟨rfl, fun _ h => nomatch h⟩
  onlyL b r := by
    by_cases b0 : bl
    · exact h.onlyL b0 r
    · exact Or.inl (hg b0 b r)
  onlyR r n := h.onlyR r fun b => n (hm b)

theorem At.passR (h : At c k bl br v cs) (hm : br → br') (hg : ¬ br → br' → c.cr k = none)
    (hv : ¬ br → v = lookupKV cmp k c.L) : At c k bl br' v cs where
  ahead := h.ahead
  both b r := by
    by_cases r0 : br
    · exact h.both b r0
    · rw [c.MK_of_cr_none (hg r0 r), hv r0]; exact ⟨rfl, fun _ h => nomatch h⟩
  onlyL b n := h.onlyL b fun r => n (hm r)
  onlyR r n := by
    by_cases r0 : br
    · exact h.onlyR r0 n
    · exact Or.inl (hg r0 r)

theorem At.passLR (h : At c k bl br v cs) (hml : bl → bl') (hmr : br → br') (hgl : ¬ bl → bl' → ¬ br → c.cl k = none)
    (hgr : ¬ br → br' → c.cr k = none) (hv : ¬ br → v = lookupKV cmp k c.L) : At c k bl' br' v cs :=
  (h.passL hml hgl).passR hmr hgr hv

theorem At.cover (h : At c k bl br v cs) (hb : bl) (hr : ¬ br) (hv : v' = lookupKV cmp k c.R)
    (hx : c.cl k = none → c.cr k = none → lookupKV cmp k c.L = lookupKV cmp k c.R) : At c k bl br' v' cs where
  ahead n := absurd hb n
  both _ _ := by rw [c.MK_onlyL (h.onlyL hb hr) hx, hv]; exact ⟨rfl, fun _ h => nomatch h⟩
  onlyL _ _ := h.onlyL hb hr
  onlyR _ n := absurd hb n

theorem At.of_same (hLR : lookupKV cmp k c.L = lookupKV cmp k c.R) (hv : v = lookupKV cmp k c.L) : At c k bl br v cs where
  ahead _ := hv
  both _ _ := by rw [c.MK_of_same hLR, hv]; exact ⟨rfl, fun _ h => nomatch h⟩
  onlyL _ _ := Or.inr hLR
  onlyR _ _ := Or.inr hLR

theorem At.of_both (hb : bl) (hr : br) (hv : v = (c.MK k).1) (hc : ∀ x, (c.MK k).2 = some x → x ∈ cs) : At c k bl br v cs where
  ahead n := absurd hb n
  both _ _ := ⟨hv, hc⟩
  onlyL _ n := absurd hr n
  onlyR _ n := absurd hb n

theorem At.mono (h : At c k bl br v cs) (hs : ∀ x ∈ cs, x ∈ cs') : At c k bl br v cs' where
  ahead := h.ahead
  both b r := ⟨(h.both b r).1, fun x hx => hs x ((h.both b r).2 x hx)⟩
  onlyL := h.onlyL
  onlyR := h.onlyR

theorem At.done (h : At c k bl br v cs) (hr : br) : v = (c.MK k).1 ∧ ∀ x, (c.MK k).2 = some x → x ∈ cs := by
  by_cases b : bl
  · exact h.both b hr
  · rw [c.MK_onlyR (h.onlyR hr b), h.ahead b]; exact ⟨rfl, fun _ h => nomatch h⟩

end

end DoltVerif.ProllyMerge
