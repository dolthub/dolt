import DoltVerif.Lemmas.ProllyMergeSendKey
/-!
C14, obligation R2: the `SendPatches` loop over two generators with `GenSound` invariants emits a tiled stream whose
application to left is the key-wise merge at every key, and hands the handler exactly the merge's collisions in key order
(`sendPatches_value`).  The loop invariant `J` is `At` (`Lemmas/ProllyMergeSendKey`) at every key and five facts about the
lists sent and handed out; every kind of iteration (`SendStep`) keeps it (`J.step`).
-/
namespace DoltVerif.ProllyMerge
open DoltVerif.ProllyDiff

variable {cmp : Bytes → Bytes → Ordering}

/-- the invariant of the `SendPatches` loop -/
structure J (c : R2Ctx cmp) (s : SP) : Prop where
  il : c.InvL s.l (GenPos.ofResult s.left)
  ir : c.InvR s.r (GenPos.ofResult s.right)
  tiles : Tiles cmp s.out.reverse
  outR : ∀ q ∈ s.out, belowP cmp s.right q.endKey
  sound : ∀ x ∈ s.coll, (c.MK x.left.key).2 = some x
  below : ∀ x ∈ s.coll, belowP cmp s.left x.left.key
  asc : s.coll.reverse.Pairwise (fun a b => cmp a.left.key b.left.key = .lt)
  atKey : ∀ k, At c k (belowP cmp s.left k) (belowP cmp s.right k) (patchedValue cmp s.out.reverse c.L k) s.coll

variable {c : R2Ctx cmp} {s : SP} {p pl pr : Patch} {t tl tr : DiffType} {v w : PG × Option (Patch × DiffType)} {k : Bytes}

theorem J.curL (j : J c s) (h : s.left = some (p, t)) : c.InvL s.l (.at p t) := by have := j.il; rwa [h] at this

theorem J.curR (j : J c s) (h : s.right = some (p, t)) : c.InvR s.r (.at p t) := by have := j.ir; rwa [h] at this

theorem J.nocover (j : J c s) (h : ¬ belowP cmp s.right k) : ∀ q ∈ s.out.reverse, q.covers cmp k = false := by
  obtain ⟨p, t, hp, hns⟩ := not_belowP h
  exact fun q hq => not_covers_of_ends_before c.ol (j.outR q (List.mem_reverse.mp hq) p t hp) hns

theorem J.unsent (j : J c s) (h : ¬ belowP cmp s.right k) : patchedValue cmp s.out.reverse c.L k = lookupKV cmp k c.L :=
  patchedValue_nocover (j.nocover h)

/-- left moves on, by `Next` or by `split` -/
theorem J.stepL (j : J c s) (hleft : s.left = some (p, t)) (hinv : c.InvL v.1 (GenPos.ofResult v.2))
    (hm : ∀ k, startsAfter cmp p k → belowP cmp v.2 k)
    (hg : ∀ k, ¬ startsAfter cmp p k → belowP cmp v.2 k → ¬ belowP cmp s.right k → c.cl k = none) :
    J c (s.stepL v) where
  il := hinv
  ir := j.ir
  tiles := j.tiles
  outR := j.outR
  sound := j.sound
  below x hx := hm _ ((belowP_eq hleft _).mp (j.below x hx))
  asc := j.asc
  atKey k := (j.atKey k).passL (fun b => hm k ((belowP_eq hleft k).mp b))
    fun b b' r => hg k (fun h => b ((belowP_eq hleft k).mpr h)) b' r

/-- right moves on by `split` -/
theorem J.stepR (j : J c s) (hright : s.right = some (p, t)) (hinv : c.InvR w.1 (GenPos.ofResult w.2))
    (hm : ∀ k, startsAfter cmp p k → belowP cmp w.2 k)
    (hg : ∀ k, ¬ startsAfter cmp p k → belowP cmp w.2 k → c.cr k = none) :
    J c (s.stepR [] w) where
  il := j.il
  ir := hinv
  tiles := j.tiles
  outR q hq := hm _ ((belowP_eq hright _).mp (j.outR q hq))
  sound := j.sound
  below := j.below
  asc := j.asc
  atKey k := (j.atKey k).passR (fun b => hm k ((belowP_eq hright k).mp b))
    (fun b b' => hg k (fun h => b ((belowP_eq hright k).mpr h)) b') j.unsent

/-- `buf.SendPatch(right); right, … = getNextAndSplitIfAtEnd(&r)` -/
theorem J.sendR (j : J c s) (hright : s.right = some (p, t)) (hn : getNextAndSplitIfAtEnd cmp c.fuel s.r = .ok w)
    (hL : belowP cmp s.left p.endKey) : J c (s.stepR [p] w) := by
  have st := getNext_stepOK c.gr (j.curR hright) (by simp) hn
  obtain ⟨hok, _, hval, _⟩ := c.gr.cur s.r p t (j.curR hright)
  have hb := belowP_eq (cmp := cmp) hright
  have hrev : (s.stepR [p] w).out.reverse = s.out.reverse ++ [p] := by simp [SP.stepR]
  refine ⟨j.il, st.inv, ?_, ?_, j.sound, j.below, j.asc, fun k => ?_⟩
  · rw [hrev]; exact tiles_snoc j.tiles hok fun q hq => (hb _).mp (j.outR q (List.mem_reverse.mp hq))
  · intro q hq
    rcases List.mem_cons.mp hq with rfl | hq
    · exact st.after q t rfl
    · exact st.mono c.ol hok ((hb _).mp (j.outR q hq))
  · rw [hrev]
    cases hc : p.covers cmp k with
    | true =>
      have hnb : ¬ belowP cmp s.right k := fun h => not_startsAfter_of_covers c.ol hc ((hb k).mp h)
      rw [patchedValue_snoc_cover (j.nocover hnb) hc]
      exact (j.atKey k).cover (belowP_down c.ol hL (covers_le_end hc)) hnb (hval k hc).symm
        (c.spelled _ _ _ k (j.curR hright) hc)
    | false =>
      rw [patchedValue_snoc_nocover hc]
      exact (j.atKey k).passR (fun b => st.mono c.ol hok ((hb k).mp b))
        (fun b b' => st.gap' c.ol (fun h => b ((hb k).mpr h)) hc b') j.unsent

theorem J.nextL (j : J c s) (hleft : s.left = some (p, t)) (hn : pgNext cmp c.fuel s.l = .ok v)
    (hcovR : ∀ k, p.covers cmp k = true → belowP cmp s.right k) : J c (s.stepL v) := by
  have st := next_stepOK c.gl (j.curL hleft) (by simp) hn
  obtain ⟨hok, -⟩ := c.gl.cur s.l p t (j.curL hleft)
  refine j.stepL hleft st.inv (fun k => st.mono c.ol hok) fun k hs hb hnr => ?_
  cases hc : p.covers cmp k with
  | true => exact absurd (hcovR k hc) hnr
  | false => exact st.gap' c.ol hs hc hb

theorem J.splitL (j : J c s) (hleft : s.left = some (p, t)) (hlev : p.level ≠ 0) (hn : pgSplit cmp c.fuel s.l = .ok v) :
    J c (s.stepL v) := by
  obtain ⟨i2, m2, g2⟩ := split_facts c.gl (j.curL hleft) hlev hn
  exact j.stepL hleft i2 m2 fun k hs hb _ => g2 k hs hb

theorem J.splitR (j : J c s) (hright : s.right = some (p, t)) (hlev : p.level ≠ 0) (hn : pgSplit cmp c.fuel s.r = .ok w) :
    J c (s.stepR [] w) := by
  obtain ⟨i2, m2, g2⟩ := split_facts c.gr (j.curR hright) hlev hn
  exact j.stepR hright i2 m2 g2

/-- `Next` on both sides after sending `ps` and handing out `y`: the caller accounts for the keys the two current
patches cover; every other key is passed by both generators without a change and nothing is sent for it -/
theorem J.stepLR (j : J c s) (hleft : s.left = some (pl, tl)) (hright : s.right = some (pr, tr))
    (hnL : pgNext cmp c.fuel s.l = .ok v) (hnR : getNextAndSplitIfAtEnd cmp c.fuel s.r = .ok w)
    {ps : List Patch} {y : Option Collision}
    (htiles : Tiles cmp (ps ++ s.out).reverse) (houtR : ∀ q ∈ ps, belowP cmp w.2 q.endKey)
    (hps : ∀ q ∈ ps, ∀ k, q.covers cmp k = true → pl.covers cmp k = true ∨ pr.covers cmp k = true)
    (hy : ∀ x, y = some x → (c.MK x.left.key).2 = some x ∧ ¬ startsAfter cmp pl x.left.key ∧ belowP cmp v.2 x.left.key)
    (hcov : ∀ k, pl.covers cmp k = true ∨ pr.covers cmp k = true →
      At c k (belowP cmp v.2 k) (belowP cmp w.2 k) (patchedValue cmp (ps ++ s.out).reverse c.L k) (y.toList ++ s.coll)) :
    J c (s.stepLR ps y.toList v w) := by
  have stL := next_stepOK c.gl (j.curL hleft) (by simp) hnL
  have stR := getNext_stepOK c.gr (j.curR hright) (by simp) hnR
  obtain ⟨hokl, -⟩ := c.gl.cur s.l pl tl (j.curL hleft)
  obtain ⟨hokr, -⟩ := c.gr.cur s.r pr tr (j.curR hright)
  have hbl := belowP_eq (cmp := cmp) hleft
  have hbr := belowP_eq (cmp := cmp) hright
  have monoL : ∀ k, belowP cmp s.left k → belowP cmp v.2 k := fun k b => stL.mono c.ol hokl ((hbl k).mp b)
  have monoR : ∀ k, belowP cmp s.right k → belowP cmp w.2 k := fun k b => stR.mono c.ol hokr ((hbr k).mp b)
  refine ⟨stL.inv, stR.inv, htiles, fun q hq => ?_, fun x hx => ?_, fun x hx => ?_, ?_, fun k => ?_⟩
  · exact (List.mem_append.mp hq).elim (houtR q) fun hq => monoR _ (j.outR q hq)
  · exact (List.mem_append.mp hx).elim (fun hx => (hy x (Option.mem_toList.mp hx)).1) (j.sound x)
  · exact (List.mem_append.mp hx).elim (fun hx => (hy x (Option.mem_toList.mp hx)).2.2) fun hx => monoL _ (j.below x hx)
  · show (y.toList ++ s.coll).reverse.Pairwise _
    cases y with
    | none => exact j.asc
    | some x =>
      rw [Option.toList_some, List.singleton_append, List.reverse_cons]
      refine List.pairwise_append.mpr ⟨j.asc, List.pairwise_singleton _ _, fun a ha b hb => ?_⟩
      rw [List.mem_singleton.mp hb]
      exact lt_of_startsAfter_not c.ol ((hbl _).mp (j.below a (List.mem_reverse.mp ha))) (hy x rfl).2.1
  · by_cases hc : pl.covers cmp k = true ∨ pr.covers cmp k = true
    · exact hcov k hc
    · have hcl : pl.covers cmp k = false := Bool.eq_false_iff.mpr fun h => hc (Or.inl h)
      have hcr : pr.covers cmp k = false := Bool.eq_false_iff.mpr fun h => hc (Or.inr h)
      have hv : patchedValue cmp (ps ++ s.out).reverse c.L k = patchedValue cmp s.out.reverse c.L k := by
        rw [List.reverse_append]
        exact patchedValue_append_nocover fun q hq =>
          Bool.eq_false_iff.mpr fun h => hc (hps q (List.mem_reverse.mp hq) k h)
      show At c k _ _ (patchedValue cmp (ps ++ s.out).reverse c.L k) (y.toList ++ s.coll)
      rw [hv]
      exact ((j.atKey k).passLR (monoL k) (monoR k) (fun b b' _ => stL.gap' c.ol (fun h => b ((hbl k).mpr h)) hcl b')
        (fun b => stR.gap' c.ol (fun h => b ((hbr k).mpr h)) hcr) j.unsent).mono fun x hx => List.mem_append_right _ hx

/-- the point/point branch at equal keys, both arms (`ppSame`, `ppCollide`) at once: `o` is what is sent, `y` what is
handed to the collision handler -/
theorem J.pointEq (j : J c s) (hleft : s.left = some (pl, tl)) (hright : s.right = some (pr, tr))
    (hl0 : pl.level = 0) (hr0 : pr.level = 0) (hkeq : cmp pl.endKey pr.endKey = .eq)
    (hnL : pgNext cmp c.fuel s.l = .ok v) (hnR : getNextAndSplitIfAtEnd cmp c.fuel s.r = .ok w)
    {o : Option Patch} {y : Option Collision} (ho : ∀ q, o = some q → q.level = 0 ∧ q.endKey = pl.endKey)
    (hval : ∀ k, cmp k pl.endKey = .eq → patchedValue cmp (o.toList ++ s.out).reverse c.L k = (c.MK k).1)
    (hy : ∀ x, y = some x → (c.MK pl.endKey).2 = some x ∧ x.left.key = pl.endKey)
    (hC : ∀ k, cmp k pl.endKey = .eq → ∀ x, (c.MK k).2 = some x → y = some x) :
    J c (s.stepLR o.toList y.toList v w) := by
  have stL := next_stepOK c.gl (j.curL hleft) (by simp) hnL
  have stR := getNext_stepOK c.gr (j.curR hright) (by simp) hnR
  have hkey : ∀ k, pl.covers cmp k = true ∨ pr.covers cmp k = true → cmp k pl.endKey = .eq := fun k hc =>
    hc.elim (covers_iff_point hl0 k).mp fun h => c.ol.eq_trans ((covers_iff_point hr0 k).mp h) (c.ol.eq_symm hkeq)
  have hbL : belowP cmp v.2 pl.endKey := stL.after pl tl rfl
  have hbR : belowP cmp w.2 pl.endKey := belowP_down c.ol (stR.after pr tr rfl) (by rw [hkeq]; simp)
  refine j.stepLR hleft hright hnL hnR ?_ ?_ ?_ ?_ fun k hc => ?_
  · cases o with
    | none => exact j.tiles
    | some q =>
      obtain ⟨q0, qe⟩ := ho q rfl
      rw [Option.toList_some, List.singleton_append, List.reverse_cons]
      refine tiles_snoc j.tiles (.of_point q0) fun a ha => ?_
      have h1 := (belowP_eq hright _).mp (j.outR a (List.mem_reverse.mp ha))
      rw [startsAfter_point hr0] at h1
      rw [startsAfter_point q0, qe]
      exact c.ol.lt_eq _ _ _ h1 (c.ol.eq_symm hkeq)
  · intro q hq; rw [(ho q (Option.mem_toList.mp hq)).2]; exact hbR
  · intro q hq k hk
    obtain ⟨q0, qe⟩ := ho q (Option.mem_toList.mp hq)
    exact Or.inl ((covers_iff_point hl0 k).mpr (qe ▸ (covers_iff_point q0 k).mp hk))
  · intro x hx
    obtain ⟨h1, h2⟩ := hy x hx
    rw [h2]
    exact ⟨h1, fun h => c.ol.lt_irrefl ((startsAfter_point hl0 _).mp h), hbL⟩
  · have hk := hkey k hc
    have hle : cmp k pl.endKey ≠ .gt := by rw [hk]; simp
    exact At.of_both (belowP_down c.ol hbL hle) (belowP_down c.ol hbR hle) (hval k hk)
      fun x hx => List.mem_append_left _ (Option.mem_toList.mpr (hC k hk x hx))

/-- two overlapping range patches with equal `To` (the same subtree address, or both removed ranges):
inside the union of the two intervals, from the later of the two starts on, left and right map every
key alike -/
theorem same_to_same_values (j : J c s) (hleft : s.left = some (pl, tl)) (hright : s.right = some (pr, tr))
    (hl : pl.level ≠ 0) (hr : pr.level ≠ 0) (hsame : optPValEq pl.to? pr.to? = true)
    (h1 : ¬ startsAfter cmp pl k) (h2 : ¬ startsAfter cmp pr k) (h3 : cmp k pl.endKey ≠ .gt ∨ cmp k pr.endKey ≠ .gt) :
    lookupKV cmp k c.L = lookupKV cmp k c.R := by
  obtain ⟨_, fl2, fl3, fl4⟩ := c.gl.form s.l pl tl (j.curL hleft)
  obtain ⟨_, fr2, fr3, fr4⟩ := c.gr.form s.r pr tr (j.curR hright)
  obtain ⟨_, _, vl, _⟩ := c.gl.cur s.l pl tl (j.curL hleft)
  obtain ⟨_, _, vr, _⟩ := c.gr.cur s.r pr tr (j.curR hright)
  rcases fl2 hl with hln | ⟨a, Tl, hla⟩
  · rcases fr2 hr with hrn | ⟨b, Tr, hrb⟩
    · rw [fl4 hl hln k h1, fr4 hr hrn k h2]
    · rw [hln, hrb] at hsame; simp [optPValEq] at hsame
  · rcases fr2 hr with hrn | ⟨b, Tr, hrb⟩
    · rw [hla, hrn] at hsame; simp [optPValEq] at hsame
    · rw [hla, hrb] at hsame
      simp [optPValEq, PVal.beq] at hsame
      subst hsame
      obtain ⟨sa, ea⟩ := fl3 hl a Tl hla
      obtain ⟨sb', eb⟩ := fr3 hr a Tr hrb
      have hT : Tl = Tr := by rw [sa] at sb'; simpa using sb'
      subst hT
      have hend : pl.endKey = pr.endKey := by rw [ea] at eb; simpa using eb
      have hle : cmp k pl.endKey ≠ .gt := by
        rcases h3 with h | h
        · exact h
        · rw [hend]; exact h
      have cl' := covers_of_between c.ol h1 hle
      have cr' := covers_of_between c.ol h2 (by rw [← hend]; exact hle)
      rw [vl k cl', vr k cr', valAt_range hl, valAt_range hr]
      simp [Patch.ins, hla, hrb]

/-- the same-`To` arm of the range/range branch of `SendPatches` -/
theorem J.sameTo (j : J c s) (hleft : s.left = some (pl, tl)) (hright : s.right = some (pr, tr))
    (hl : pl.level ≠ 0) (hr : pr.level ≠ 0) (hsame : optPValEq pl.to? pr.to? = true)
    (hnL : pgNext cmp c.fuel s.l = .ok v) (hnR : getNextAndSplitIfAtEnd cmp c.fuel s.r = .ok w) :
    J c (s.stepLR (if cmpNilMin cmp pl.keyBelowStart pr.keyBelowStart == .gt then [pr] else []) [] v w) := by
  have stL := next_stepOK c.gl (j.curL hleft) (by simp) hnL
  have stR := getNext_stepOK c.gr (j.curR hright) (by simp) hnR
  obtain ⟨hokl, -⟩ := c.gl.cur s.l pl tl (j.curL hleft)
  obtain ⟨hokr, _, vr, _⟩ := c.gr.cur s.r pr tr (j.curR hright)
  have hbl := belowP_eq (cmp := cmp) hleft
  have hbr := belowP_eq (cmp := cmp) hright
  -- a key of the two intervals at or after both starts: both sides map it alike, so any output equal to left's will do
  have zone : ∀ {k u bl' br'}, ¬ startsAfter cmp pl k → ¬ startsAfter cmp pr k →
      (pl.covers cmp k = true ∨ pr.covers cmp k = true) → u = lookupKV cmp k c.L → At c k bl' br' u s.coll :=
    fun h1 h2 hc hu =>
      At.of_same (same_to_same_values j hleft hright hl hr hsame h1 h2 (hc.imp covers_le_end covers_le_end)) hu
  -- a key of left's interval before right's start: nothing is sent for it, right had passed it already
  have onlyPl : ∀ {k u}, ¬ startsAfter cmp pl k → startsAfter cmp pr k → u = patchedValue cmp s.out.reverse c.L k →
      At c k (belowP cmp v.2 k) (belowP cmp w.2 k) u s.coll := by
    intro k u h1 h2 hu
    have hr := (hbr k).mpr h2
    rw [hu]
    exact (j.atKey k).passLR (fun b => absurd ((hbl k).mp b) h1) (fun _ => stR.mono c.ol hokr h2)
      (fun _ _ r => absurd hr r) (fun r => absurd hr r) (fun r => absurd hr r)
  by_cases hsent : (cmpNilMin cmp pl.keyBelowStart pr.keyBelowStart == .gt) = true
  · rw [if_pos hsent]
    have hrev : ([pr] ++ s.out).reverse = s.out.reverse ++ [pr] := by simp
    refine j.stepLR hleft hright hnL hnR (y := none) ?_ ?_ ?_ (fun _ h => nomatch h) fun k hc => ?_
    · rw [hrev]; exact tiles_snoc j.tiles hokr fun q hq => (hbr _).mp (j.outR q (List.mem_reverse.mp hq))
    · intro q hq; rw [List.mem_singleton.mp hq]; exact stR.after pr tr rfl
    · intro q hq k hk; rw [List.mem_singleton.mp hq] at hk; exact Or.inr hk
    · rw [hrev]
      by_cases h2 : startsAfter cmp pr k
      · have h1 : ¬ startsAfter cmp pl k := fun h1 =>
          hc.elim (fun h => not_startsAfter_of_covers c.ol h h1) (fun h => not_startsAfter_of_covers c.ol h h2)
        exact onlyPl h1 h2 (patchedValue_snoc_nocover (not_covers_of_startsAfter c.ol h2))
      · have hnb : ¬ belowP cmp s.right k := fun h => h2 ((hbr k).mp h)
        cases hcr : pr.covers cmp k with
        | true =>
          rw [patchedValue_snoc_cover (j.nocover hnb) hcr, ← vr k hcr]
          by_cases h1 : startsAfter cmp pl k
          · exact ((j.atKey k).cover ((hbl k).mpr h1) hnb rfl (c.spelled _ _ _ k (j.curR hright) hcr)).passL
              (fun _ => stL.mono c.ol hokl h1) fun b => absurd ((hbl k).mpr h1) b
          · exact zone h1 h2 hc (same_to_same_values j hleft hright hl hr hsame h1 h2 (Or.inr (covers_le_end hcr))).symm
        | false =>
          have h1 : ¬ startsAfter cmp pl k := fun h1 =>
            hc.elim (fun h => not_startsAfter_of_covers c.ol h h1) (fun h => by rw [hcr] at h; cases h)
          rw [patchedValue_snoc_nocover hcr]
          exact zone h1 h2 hc ((j.atKey k).ahead fun b => h1 ((hbl k).mp b))
  · rw [if_neg hsent]
    refine j.stepLR hleft hright hnL hnR (y := none) j.tiles (fun _ h => nomatch h) (fun _ h => nomatch h)
      (fun _ h => nomatch h) fun k hc => ?_
    by_cases h1 : startsAfter cmp pl k
    · -- impossible: k ≤ keyBelowStart(left) ≤ keyBelowStart(right), yet right's patch covers k
      have hcr : pr.covers cmp k = true := hc.resolve_left fun h => not_startsAfter_of_covers c.ol h h1
      refine absurd ?_ (not_startsAfter_of_covers c.ol hcr)
      rw [startsAfter_range hr]
      obtain ⟨la, hla, hle⟩ := (startsAfter_range hl k).mp h1
      rw [hla] at hsent
      cases hkb : pr.keyBelowStart with
      | none => rw [hkb] at hsent; simp [cmpNilMin] at hsent
      | some ra =>
        rw [hkb] at hsent
        exact ⟨ra, rfl, le_trans' c.ol hle (fun h => by simp [cmpNilMin, h] at hsent)⟩
    · by_cases h2 : startsAfter cmp pr k
      · exact onlyPl h1 h2 rfl
      · exact zone h1 h2 hc ((j.atKey k).ahead fun b => h1 ((hbl k).mp b))

theorem gt_of_not_ordLE {o : Ordering} (h : ordLE o = false) : o = .gt := by cases o <;> simp [ordLE] at h ⊢

theorem J.point_facts (j : J c s) (hleft : s.left = some (pl, tl)) (hright : s.right = some (pr, tr))
    (hl0 : pl.level = 0) (hr0 : pr.level = 0) (hc : cmp pl.endKey pr.endKey = .eq) :
    (∀ k, cmp k pl.endKey = .eq → c.cl k = some ⟨tl, pl.endKey, pvalBytes pl.from?, pvalBytes pl.to?⟩) ∧
    (∀ k, cmp k pl.endKey = .eq → c.cr k = some ⟨tr, pr.endKey, pvalBytes pr.from?, pvalBytes pr.to?⟩) ∧
    optPValEq pl.to? pr.to? = (pvalBytes pl.to? == pvalBytes pr.to?) ∧
    (∀ k, cmp k pl.endKey = .eq → ¬ belowP cmp s.left k) ∧ (∀ k, cmp k pl.endKey = .eq → ¬ belowP cmp s.right k) := by
  obtain ⟨_, _, _, pcl⟩ := c.gl.cur s.l pl tl (j.curL hleft)
  obtain ⟨_, _, _, pcr⟩ := c.gr.cur s.r pr tr (j.curR hright)
  obtain ⟨fl1, _, _, _⟩ := c.gl.form s.l pl tl (j.curL hleft)
  obtain ⟨fr1, _, _, _⟩ := c.gr.form s.r pr tr (j.curR hright)
  refine ⟨fun k hk => ?_, fun k hk => ?_, ?_, fun k hk hb => ?_, fun k hk hb => ?_⟩
  · unfold R2Ctx.cl
    rw [lookup_congr c.ol c.sb hk, lookup_congr c.ol c.sl hk]; exact pcl hl0
  · have hk' := c.ol.eq_trans hk hc
    unfold R2Ctx.cr
    rw [lookup_congr c.ol c.sb hk', lookup_congr c.ol c.sr hk']; exact pcr hr0
  · rw [fl1 hl0, fr1 hr0, optPValEq_map, pvalBytes_map, pvalBytes_map]
  · have := (startsAfter_point hl0 k).mp ((hleft ▸ hb) pl tl rfl)
    rw [hk] at this; cases this
  · have := (startsAfter_point hr0 k).mp ((hright ▸ hb) pr tr rfl)
    rw [c.ol.eq_trans hk hc] at this; cases this

theorem J.step {s1 : SP} (j : J c s) (hleft : s.left = some (pl, tl)) (hright : s.right = some (pr, tr))
    (st : SendStep cmp c.collide c.fuel s pl tl pr tr s1) : J c s1 := by
  obtain ⟨hokl, hgl, vl, pcl⟩ := c.gl.cur s.l pl tl (j.curL hleft)
  obtain ⟨hokr, hgr, vr, pcr⟩ := c.gr.cur s.r pr tr (j.curR hright)
  have hbl := belowP_eq (cmp := cmp) hleft
  have hbr := belowP_eq (cmp := cmp) hright
  have pos_ne : ∀ {a : Nat}, 0 < a → a ≠ 0 := Nat.ne_of_gt
  cases st with
  | nextLBefore v hr h1 hn =>
    exact j.nextL hleft hn fun k hk => (hbr k).mpr
      (startsAfter_of_end_le_start c.ol (hgr ▸ pos_ne hr) h1 (covers_le_end hk))
  | sendRBefore v hl h1 hn =>
    exact j.sendR hright hn ((hbl _).mpr
      (startsAfter_of_end_le_start c.ol (hgl ▸ pos_ne hl) h1 (by rw [c.ol.refl]; simp)))
  | sameTo v w hl hr h3 hn hn2 => exact j.sameTo hleft hright (hgl ▸ pos_ne hl) (hgr ▸ pos_ne hr) h3 hn hn2
  | splitL v hl hs => exact j.splitL hleft (hgl ▸ pos_ne hl) hs
  | splitR w hr hs => exact j.splitR hright (hgr ▸ pos_ne hr) hs
  | splitLR v w hl hr hs hs2 =>
    exact (j.splitL hleft (hgl ▸ pos_ne hl) hs).splitR (s := s.stepL v) hright (hgr ▸ pos_ne hr) hs2
  | sendRAbove v hl hc hn =>
    have hl0 : pl.level = 0 := hgl ▸ hl
    exact j.sendR hright hn ((hbl _).mpr ((startsAfter_point hl0 _).mpr ((c.ol.gt_iff _ _).mp hc)))
  | nextLAbove v _ hr hc hn =>
    have hr0 : pr.level = 0 := hgr ▸ hr
    exact j.nextL hleft hn fun k hk => (hbr k).mpr
      ((startsAfter_point hr0 k).mpr (le_lt_lt c.ol (covers_le_end hk) ((c.ol.gt_iff _ _).mp hc)))
  | ppNextL v hl hr hc hn =>
    have hl0 : pl.level = 0 := hgl ▸ hl
    have hr0 : pr.level = 0 := hgr ▸ hr
    exact j.nextL hleft hn fun k hk => (hbr k).mpr
      ((startsAfter_point hr0 k).mpr (c.ol.eq_lt _ _ _ ((covers_iff_point hl0 k).mp hk) hc))
  | ppSame v w hl hr hc h3 hn hn2 =>
    obtain ⟨hcl, hcr, hopt, hnbL, -⟩ := j.point_facts hleft hright (hgl ▸ hl) (hgr ▸ hr) hc
    rw [hopt] at h3
    have hMK : ∀ k, cmp k pl.endKey = .eq → c.MK k = (lookupKV cmp k c.L, none) := fun k hk => by
      rw [c.MK_at_collision (hcl k hk) (hcr k hk), if_pos h3]
    refine j.pointEq hleft hright (hgl ▸ hl) (hgr ▸ hr) hc hn hn2 (o := none) (y := none) (fun _ h => nomatch h)
      (fun k hk => ?_) (fun _ h => nomatch h) fun k hk x hx => ?_
    · rw [hMK k hk]; exact (j.atKey k).ahead (hnbL k hk)
    · rw [hMK k hk] at hx; cases hx
  | ppCollide v w hl hr hc h3 hn hn2 =>
    obtain ⟨hcl, hcr, hopt, hnbL, hnbR⟩ := j.point_facts hleft hright (hgl ▸ hl) (hgr ▸ hr) hc
    rw [hopt] at h3
    have hMK : ∀ k, cmp k pl.endKey = .eq → c.MK k =
        (match c.collide ⟨tl, pl.endKey, pvalBytes pl.from?, pvalBytes pl.to?⟩ ⟨tr, pr.endKey, pvalBytes pr.from?, pvalBytes pr.to?⟩ with
          | none => lookupKV cmp k c.L
          | some to => to.map (fun v => (pl.endKey, v)),
         some ⟨⟨tl, pl.endKey, pvalBytes pl.from?, pvalBytes pl.to?⟩, ⟨tr, pr.endKey, pvalBytes pr.from?, pvalBytes pr.to?⟩⟩) :=
      fun k hk => by rw [c.MK_at_collision (hcl k hk) (hcr k hk), if_neg (by simp [h3])]; rfl
    refine j.pointEq hleft hright (hgl ▸ hl) (hgr ▸ hr) hc hn hn2 (o := resolveCollision c.collide pl tl pr tr)
      (y := some _) (fun q hq => ?_) (fun k hk => ?_) (fun x hx => ?_) fun k hk x hx => ?_
    · unfold resolveCollision at hq
      split at hq
      · cases hq
      · cases hq; exact ⟨rfl, rfl⟩
    · rw [hMK k hk]
      unfold resolveCollision
      cases c.collide ⟨tl, pl.endKey, pvalBytes pl.from?, pvalBytes pl.to?⟩ ⟨tr, pr.endKey, pvalBytes pr.from?, pvalBytes pr.to?⟩ with
      | none => exact (j.atKey k).ahead (hnbL k hk)
      | some to =>
        have hcov : Patch.covers cmp { from? := pl.from?, endKey := pl.endKey, to? := to.map PVal.val } k = true :=
          (covers_iff_point rfl k).mpr hk
        simp only [Option.toList_some, List.singleton_append, List.reverse_cons]
        rw [patchedValue_snoc_cover (j.nocover (hnbR k hk)) hcov]
        cases to <;> simp [Patch.valAt, pointEffect]
    · cases hx; exact ⟨by rw [hMK _ (c.ol.refl _)], rfl⟩
    · rw [hMK k hk] at hx; exact hx

/-- **R2**: over two generators with `GenSound` invariants, the stream `SendPatches` emits is tiled and gives every key
the value of the key-wise merge, and the collisions handed out are the merge's, in key order -/
theorem sendPatches_value (c : R2Ctx cmp) (ld rd : PG) (hil : c.InvL ld .start) (hir : c.InvR rd .start)
    (ps : List Patch) (cs : List Collision) (h : sendPatches cmp c.collide c.fuel ld rd = .ok (ps, cs)) :
    StreamDenotesMerge cmp c.collide c.B c.L c.R ps cs := by
  obtain ⟨v, w, s, s2, hn, hn2, hloop, hdr, rfl, rfl⟩ := sendPatches_ok h
  have stL := next_stepOK c.gl hil (by simp) hn
  have stR := getNext_stepOK c.gr hir (by simp) hn2
  -- before the first `Next` no key has been passed; the two first `Next`s pass keys that are unchanged
  have j0 : J c { l := v.1, r := w.1, left := v.2, right := w.2 } :=
    ⟨stL.inv, stR.inv, ⟨by simp, by simp⟩, by simp, by simp, by simp, by simp, fun k =>
      (At.mk (bl := False) (br := False) (fun _ => rfl) (fun b => b.elim) (fun b => b.elim) (fun b => b.elim)).passLR
        False.elim False.elim (fun _ b _ => stL.gap k (fun p t h0 => by cases h0) b)
        (fun _ b => stR.gap k (fun p t h0 => by cases h0) b) fun _ => rfl⟩
  obtain ⟨j1, hor⟩ := sendLoop_induction hloop j0 fun _ _ _ _ _ _ j hl hr st => j.step hl hr st
  -- right is exhausted at the end (the drain loop sends with left exhausted), so every key is settled
  have fin : J c s2 ∧ s2.right = none := by
    rcases hdr with ⟨hsome, rfl⟩ | ⟨hl, hdr⟩
    · exact ⟨j1, hor.resolve_left fun h0 => by rw [h0] at hsome; cases hsome⟩
    · obtain ⟨⟨j2, _⟩, hr⟩ := drainRight_induction (P := fun s => J c s ∧ s.left = none) hdr ⟨j1, hl⟩
        fun s pr tr v ⟨j, hl⟩ hright hn => ⟨j.sendR hright hn (hl ▸ belowP_none _), hl⟩
      exact ⟨j2, hr⟩
  obtain ⟨j2, hr⟩ := fin
  have hd := fun k => (j2.atKey k).done (hr ▸ belowP_none k)
  exact ⟨j2.tiles, fun k => (hd k).1, fun x => ⟨fun hx => ⟨_, j2.sound x (List.mem_reverse.mp hx)⟩,
    fun ⟨k, hk⟩ => List.mem_reverse.mpr ((hd k).2 x hk)⟩, j2.asc⟩

end DoltVerif.ProllyMerge
