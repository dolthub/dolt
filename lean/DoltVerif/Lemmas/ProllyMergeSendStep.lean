import DoltVerif.Lemmas.ExceptOk
import DoltVerif.Model.ProllyMerge
/-!
C14: one iteration of the `SendPatches` loop as a relation between states (`SendStep`), what a successful run of
`SendPatches` and of `ThreeWayMerge` consists of, and the induction principles for a successful run of the loop
(`sendLoop_induction`), of the drain loop (`drainRight_induction`) and of `getNextAndSplitIfAtEnd` (`getNext_induction`).
-/
namespace DoltVerif.ProllyMerge
open DoltVerif.ProllyDiff

variable {cmp : Bytes → Bytes → Ordering} {collide : Collide} {fuel : Nat}

theorem ite_ok {α} {c : Prop} [Decidable c] {a b : M α} {r : α} (h : (if c then a else b) = .ok r) :
    (c ∧ a = .ok r) ∨ (¬ c ∧ b = .ok r) := by
  by_cases hc : c
  · exact Or.inl ⟨hc, by rwa [if_pos hc] at h⟩
  · exact Or.inr ⟨hc, by rwa [if_neg hc] at h⟩

theorem step_ok {α β γ} {x : M α} {g : α → β} {k : β → M γ} {r : γ} (h : (x >>= fun v => pure (g v)) >>= k = .ok r) :
    ∃ v, x = .ok v ∧ k (g v) = .ok r := by
  cases x with
  | error e => cases h
  | ok v => exact ⟨v, rfl, h⟩

theorem map_bind_M {α β γ} (f : β → γ) (x : M α) (g : α → M β) :
    (x >>= g).map f = x >>= fun a => (g a).map f := by
  cases x <;> rfl

/-- `Next` / `split` on the left generator; `getNextAndSplitIfAtEnd` / `split` on the right one, which first sends the
patches `ps`; both `Next`s, sending `ps` and recording `cs` -/
def SP.stepL (s : SP) (v : PG × Option (Patch × DiffType)) : SP :=
  { l := v.1, r := s.r, left := v.2, right := s.right, out := s.out, coll := s.coll }
def SP.stepR (s : SP) (ps : List Patch) (v : PG × Option (Patch × DiffType)) : SP :=
  { l := s.l, r := v.1, left := s.left, right := v.2, out := ps ++ s.out, coll := s.coll }
def SP.stepLR (s : SP) (ps : List Patch) (cs : List Collision) (v w : PG × Option (Patch × DiffType)) : SP :=
  { l := v.1, r := w.1, left := v.2, right := w.2, out := ps ++ s.out, coll := cs ++ s.coll }

/-- One iteration of `sendLoop` from a state whose current patches are `(pl, tl)` and `(pr, tr)`: what is done, and
what the tests that led there say about the two patches (only what makes the step right: e.g. a `split` is right
whenever the patch is a range). -/
inductive SendStep (cmp : Bytes → Bytes → Ordering) (collide : Collide) (fuel : Nat) (s : SP)
    (pl : Patch) (tl : DiffType) (pr : Patch) (tr : DiffType) : SP → Prop
  | nextLBefore (v) (hr : 0 < s.r.getLevel) (h : ordLE (cmpNilMin cmp (some pl.endKey) pr.keyBelowStart) = true)
      (hn : pgNext cmp fuel s.l = .ok v) : SendStep cmp collide fuel s pl tl pr tr (s.stepL v)
  | sendRBefore (v) (hl : 0 < s.l.getLevel) (h : ordLE (cmpNilMin cmp (some pr.endKey) pl.keyBelowStart) = true)
      (hn : getNextAndSplitIfAtEnd cmp fuel s.r = .ok v) : SendStep cmp collide fuel s pl tl pr tr (s.stepR [pr] v)
  | sameTo (v w) (hl : 0 < s.l.getLevel) (hr : 0 < s.r.getLevel) (h3 : optPValEq pl.to? pr.to? = true)
      (hn : pgNext cmp fuel s.l = .ok v) (hn2 : getNextAndSplitIfAtEnd cmp fuel s.r = .ok w) :
      SendStep cmp collide fuel s pl tl pr tr
        (s.stepLR (if cmpNilMin cmp pl.keyBelowStart pr.keyBelowStart == .gt then [pr] else []) [] v w)
  | splitL (v) (hl : 0 < s.l.getLevel) (hs : pgSplit cmp fuel s.l = .ok v) : SendStep cmp collide fuel s pl tl pr tr (s.stepL v)
  | splitR (w) (hr : 0 < s.r.getLevel) (hs : pgSplit cmp fuel s.r = .ok w) : SendStep cmp collide fuel s pl tl pr tr (s.stepR [] w)
  | splitLR (v w) (hl : 0 < s.l.getLevel) (hr : 0 < s.r.getLevel)
      (hs : pgSplit cmp fuel s.l = .ok v) (hs2 : pgSplit cmp fuel s.r = .ok w) :
      SendStep cmp collide fuel s pl tl pr tr ((s.stepL v).stepR [] w)
  | sendRAbove (v) (hl : s.l.getLevel = 0) (hc : cmp pl.endKey pr.endKey = .gt)
      (hn : getNextAndSplitIfAtEnd cmp fuel s.r = .ok v) : SendStep cmp collide fuel s pl tl pr tr (s.stepR [pr] v)
  | nextLAbove (v) (hl : 0 < s.l.getLevel) (hr : s.r.getLevel = 0) (hc : cmp pr.endKey pl.endKey = .gt)
      (hn : pgNext cmp fuel s.l = .ok v) : SendStep cmp collide fuel s pl tl pr tr (s.stepL v)
  | ppNextL (v) (hl : s.l.getLevel = 0) (hr : s.r.getLevel = 0) (hc : cmp pl.endKey pr.endKey = .lt)
      (hn : pgNext cmp fuel s.l = .ok v) : SendStep cmp collide fuel s pl tl pr tr (s.stepL v)
  | ppSame (v w) (hl : s.l.getLevel = 0) (hr : s.r.getLevel = 0) (hc : cmp pl.endKey pr.endKey = .eq)
      (h3 : optPValEq pl.to? pr.to? = true)
      (hn : pgNext cmp fuel s.l = .ok v) (hn2 : getNextAndSplitIfAtEnd cmp fuel s.r = .ok w) :
      SendStep cmp collide fuel s pl tl pr tr (s.stepLR [] [] v w)
  | ppCollide (v w) (hl : s.l.getLevel = 0) (hr : s.r.getLevel = 0) (hc : cmp pl.endKey pr.endKey = .eq)
      (h3 : optPValEq pl.to? pr.to? = false)
      (hn : pgNext cmp fuel s.l = .ok v) (hn2 : getNextAndSplitIfAtEnd cmp fuel s.r = .ok w) :
      SendStep cmp collide fuel s pl tl pr tr
        (s.stepLR (resolveCollision collide pl tl pr tr).toList
          [⟨⟨tl, pl.endKey, pvalBytes pl.from?, pvalBytes pl.to?⟩, ⟨tr, pr.endKey, pvalBytes pr.from?, pvalBytes pr.to?⟩⟩] v w)

theorem not_ordLE_ordGE {o : Ordering} (h : ¬ ordLE o = true) : ordGE o = true := by cases o <;> simp [ordLE, ordGE] at h ⊢

/-- The body is taken apart from the outside in (`ite_ok`, `bind_eq_ok` look at the head of the term only), so no step
walks through the whole body. -/
theorem sendLoop_succ {n : Nat} {s s' : SP} (h : sendLoop cmp collide fuel (n + 1) s = .ok s') :
    (s' = s ∧ (s.left = none ∨ s.right = none)) ∨
    ∃ pl tl pr tr s1, s.left = some (pl, tl) ∧ s.right = some (pr, tr) ∧ SendStep cmp collide fuel s pl tl pr tr s1 ∧
      sendLoop cmp collide fuel n s1 = .ok s' := by
  unfold sendLoop at h
  rcases hleft : s.left with _ | ⟨pl, tl⟩
  · rw [hleft] at h; cases h; exact Or.inl ⟨rfl, Or.inl rfl⟩
  rcases hright : s.right with _ | ⟨pr, tr⟩
  · rw [hleft, hright] at h; cases h; exact Or.inl ⟨rfl, Or.inr rfl⟩
  rw [hleft, hright] at h
  refine Or.inr ⟨pl, tl, pr, tr, ?_⟩
  rcases ite_ok h with ⟨hlv, h⟩ | ⟨hlv, h⟩
  · obtain ⟨hl, hr⟩ : 0 < s.l.getLevel ∧ 0 < s.r.getLevel := by simpa using hlv
    rcases ite_ok h with ⟨h1, h⟩ | ⟨h1, h⟩
    · obtain ⟨v, hn, h⟩ := step_ok h
      exact ⟨_, rfl, rfl, .nextLBefore v hr h1 hn, h⟩
    rcases ite_ok h with ⟨h2, h⟩ | ⟨h2, h⟩
    · obtain ⟨v, hn, h⟩ := step_ok h
      exact ⟨_, rfl, rfl, .sendRBefore v hl h2 hn, h⟩
    rcases ite_ok h with ⟨h3, h⟩ | ⟨h3, h⟩
    · have st := fun v w => SendStep.sameTo (cmp := cmp) (collide := collide) (fuel := fuel) (s := s) (tl := tl) (tr := tr) v w hl hr h3
      by_cases hg : (cmpNilMin cmp pl.keyBelowStart pr.keyBelowStart == .gt) = true
      · simp only [if_pos hg] at h st
        obtain ⟨v, hn, h⟩ := step_ok h
        obtain ⟨w, hn2, h⟩ := step_ok h
        exact ⟨_, rfl, rfl, st v w hn hn2, h⟩
      · simp only [if_neg hg] at h st
        obtain ⟨v, hn, h⟩ := step_ok h
        obtain ⟨w, hn2, h⟩ := step_ok h
        exact ⟨_, rfl, rfl, st v w hn hn2, h⟩
    rcases ite_ok h with ⟨h4, h⟩ | ⟨h4, h⟩
    · obtain ⟨v, hs, h⟩ := step_ok h
      rcases ite_ok h with ⟨h5, h⟩ | ⟨h5, h⟩
      · obtain ⟨w, hs2, h⟩ := step_ok h
        exact ⟨_, rfl, rfl, .splitLR v w hl hr hs hs2, h⟩
      · obtain ⟨_, hx, h⟩ := bind_eq_ok h; cases hx
        exact ⟨_, rfl, rfl, .splitL v hl hs, h⟩
    · obtain ⟨_, hx, h⟩ := bind_eq_ok h; cases hx
      rcases ite_ok h with ⟨h5, h⟩ | ⟨h5, h⟩
      · obtain ⟨w, hs2, h⟩ := step_ok h
        exact ⟨_, rfl, rfl, .splitR w hr hs2, h⟩
      · exact absurd (not_ordLE_ordGE h4) h5
  rcases ite_ok h with ⟨hr, h⟩ | ⟨hr, h⟩
  · have hl : s.l.getLevel = 0 := by
      have : ¬ (0 < s.l.getLevel ∧ 0 < s.r.getLevel) := by simpa using hlv
      exact Nat.eq_zero_of_not_pos fun h0 => this ⟨h0, hr⟩
    rcases ite_ok h with ⟨h1, h⟩ | ⟨h1, h⟩
    · obtain ⟨v, hn, h⟩ := step_ok h
      exact ⟨_, rfl, rfl, .nextLBefore v hr h1 hn, h⟩
    rcases ite_ok h with ⟨h2, h⟩ | ⟨h2, h⟩
    · obtain ⟨v, hn, h⟩ := step_ok h
      exact ⟨_, rfl, rfl, .sendRAbove v hl (by simpa using h2) hn, h⟩
    · obtain ⟨w, hs, h⟩ := step_ok h
      exact ⟨_, rfl, rfl, .splitR w hr hs, h⟩
  have hr : s.r.getLevel = 0 := Nat.eq_zero_of_not_pos hr
  rcases ite_ok h with ⟨hl, h⟩ | ⟨hl, h⟩
  · rcases ite_ok h with ⟨h1, h⟩ | ⟨h1, h⟩
    · obtain ⟨v, hn, h⟩ := step_ok h
      exact ⟨_, rfl, rfl, .sendRBefore v hl h1 hn, h⟩
    rcases ite_ok h with ⟨h2, h⟩ | ⟨h2, h⟩
    · obtain ⟨v, hn, h⟩ := step_ok h
      exact ⟨_, rfl, rfl, .nextLAbove v hl hr (by simpa using h2) hn, h⟩
    · obtain ⟨v, hs, h⟩ := step_ok h
      exact ⟨_, rfl, rfl, .splitL v hl hs, h⟩
  have hl : s.l.getLevel = 0 := Nat.eq_zero_of_not_pos hl
  cases hc : cmp pl.endKey pr.endKey with
  | lt =>
    rw [hc] at h
    obtain ⟨v, hn, h⟩ := step_ok h
    exact ⟨_, rfl, rfl, .ppNextL v hl hr hc hn, h⟩
  | gt =>
    rw [hc] at h
    obtain ⟨v, hn, h⟩ := step_ok h
    exact ⟨_, rfl, rfl, .sendRAbove v hl hc hn, h⟩
  | eq =>
    rw [hc] at h
    cases h3 : optPValEq pl.to? pr.to? with
    | true =>
      simp only [h3, Bool.not_true, Bool.false_eq_true, if_false] at h
      obtain ⟨v, hn, h⟩ := step_ok h
      obtain ⟨w, hn2, h⟩ := step_ok h
      exact ⟨_, rfl, rfl, .ppSame v w hl hr hc h3 hn hn2, h⟩
    | false =>
      have st := fun v w => SendStep.ppCollide (collide := collide) (fuel := fuel) (s := s) (tl := tl) (tr := tr) v w hl hr hc h3
      simp only [h3, Bool.not_false, if_true] at h
      cases hres : resolveCollision collide pl tl pr tr with
      | none =>
        simp only [hres] at h st
        obtain ⟨v, hn, h⟩ := step_ok h
        obtain ⟨w, hn2, h⟩ := step_ok h
        exact ⟨_, rfl, rfl, st v w hn hn2, h⟩
      | some p =>
        simp only [hres] at h st
        obtain ⟨v, hn, h⟩ := step_ok h
        obtain ⟨w, hn2, h⟩ := step_ok h
        exact ⟨_, rfl, rfl, st v w hn hn2, h⟩

theorem sendLoop_induction {P : SP → Prop} : ∀ {n : Nat} {s s' : SP}, sendLoop cmp collide fuel n s = .ok s' → P s →
    (∀ s pl tl pr tr s1, P s → s.left = some (pl, tl) → s.right = some (pr, tr) →
      SendStep cmp collide fuel s pl tl pr tr s1 → P s1) →
    P s' ∧ (s'.left = none ∨ s'.right = none)
  | 0, _, _, h, _, _ => by simp [sendLoop] at h
  | n + 1, s, s', h, h0, step => by
    rcases sendLoop_succ h with ⟨rfl, hex⟩ | ⟨pl, tl, pr, tr, s1, hleft, hright, st, h⟩
    · exact ⟨h0, hex⟩
    · exact sendLoop_induction h (step s pl tl pr tr s1 h0 hleft hright st) step

theorem getNext_induction {d d' : PG} {c' : Option (Patch × DiffType)} {P : PG → Option (Patch × DiffType) → Prop}
    (h : getNextAndSplitIfAtEnd cmp fuel d = .ok (d', c'))
    (next : ∀ d1 c1, pgNext cmp fuel d = .ok (d1, c1) → P d1 c1)
    (split : ∀ d1 p t d2 c2, P d1 (some (p, t)) → p.level ≠ 0 → pgSplit cmp fuel d1 = .ok (d2, c2) → P d2 c2) : P d' c' := by
  obtain ⟨⟨d1, c1⟩, hn, h⟩ := bind_eq_ok h
  have loop : ∀ n x, P x.1 x.2 → splitWhileAtEnd cmp fuel n x = .ok (d', c') → P d' c' := by
    intro n x
    fun_induction splitWhileAtEnd cmp fuel n x with
    | case1 => intro _ h; cases h  -- out of fuel
    | case2 n d p t hcond ih =>
      -- a range patch at the end of `to`: split it
      intro h1 h
      obtain ⟨⟨d2, c2⟩, hsp, h⟩ := bind_eq_ok h
      have hlev : p.level ≠ 0 := by
        simp only [Bool.and_eq_true, decide_eq_true_eq] at hcond
        exact Nat.ne_of_gt hcond.1.2
      have h2 := split d p t d2 c2 h1 hlev hsp
      rcases c2 with _ | pt2
      · cases h; exact h2
      · exact ih d2 (some pt2) h2 h
    | case3 | case4 => intro h1 h; cases h; exact h1  -- nothing to split
  exact loop fuel (d1, c1) (next d1 c1 hn) h

theorem drainRight_induction {P : SP → Prop} : ∀ {n : Nat} {s s' : SP}, drainRight cmp fuel n s = .ok s' → P s →
    (∀ s pr tr v, P s → s.right = some (pr, tr) → getNextAndSplitIfAtEnd cmp fuel s.r = .ok v → P (s.stepR [pr] v)) →
    P s' ∧ s'.right = none := by
  intro n s
  fun_induction drainRight cmp fuel n s with
  | case1 => intro _ h; cases h  -- out of fuel
  | case2 n s hr => intro s' h h0 _; cases h; exact ⟨h0, hr⟩  -- right is exhausted
  | case3 n s pr tr hr ih =>
    -- right's patch is sent and its next one fetched
    intro s' h h0 step
    obtain ⟨v, hn, h⟩ := bind_eq_ok h
    exact ih v.1 v.2 h (step s pr tr v h0 hr hn) step

theorem sendPatches_ok {l r : PG} {ps : List Patch} {cs : List Collision} (h : sendPatches cmp collide fuel l r = .ok (ps, cs)) :
    ∃ v w s s2, pgNext cmp fuel l = .ok v ∧ getNextAndSplitIfAtEnd cmp fuel r = .ok w ∧
      sendLoop cmp collide fuel fuel { l := v.1, r := w.1, left := v.2, right := w.2 } = .ok s ∧
      ((s.left.isSome = true ∧ s2 = s) ∨ (s.left = none ∧ drainRight cmp fuel fuel s = .ok s2)) ∧
      ps = s2.out.reverse ∧ cs = s2.coll.reverse := by
  unfold sendPatches at h
  obtain ⟨v, hn, h⟩ := bind_eq_ok h
  obtain ⟨w, hn2, h⟩ := bind_eq_ok h
  obtain ⟨s, hloop, h⟩ := bind_eq_ok h
  rcases ite_ok h with ⟨hs, h⟩ | ⟨hs, h⟩
  · obtain ⟨s2, hd, h⟩ := bind_eq_ok h
    cases hd; cases h
    exact ⟨v, w, s, s, hn, hn2, hloop, Or.inl ⟨hs, rfl⟩, rfl, rfl⟩
  · obtain ⟨s2, hd, h⟩ := bind_eq_ok h
    cases h
    refine ⟨v, w, s, s2, hn, hn2, hloop, Or.inr ⟨?_, hd⟩, rfl, rfl⟩
    cases hl : s.left with
    | none => rfl
    | some x => rw [hl] at hs; exact absurd rfl hs

theorem threeWayMerge_ok {base left right : Tree} {content : List KV} {ps : List Patch} {cs : List Collision}
    (h : threeWayMerge cmp collide base left right = .ok (content, ps, cs)) :
    ∃ ld rd, pgFromRoots base left = .ok ld ∧ pgFromRoots base right = .ok rd ∧
      sendPatches cmp collide (mergeFuel base left right) ld rd = .ok (ps, cs) ∧
      content = applyPatches cmp left.flatten ps := by
  unfold threeWayMerge at h
  obtain ⟨ld, h1, h⟩ := bind_eq_ok h
  obtain ⟨rd, h2, h⟩ := bind_eq_ok h
  obtain ⟨⟨ps', cs'⟩, h3, h⟩ := bind_eq_ok h
  cases h
  exact ⟨ld, rd, h1, h2, h3, rfl⟩

end DoltVerif.ProllyMerge
