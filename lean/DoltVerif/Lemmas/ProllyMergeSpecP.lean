import DoltVerif.Lemmas.ProllyMergeLeaf
import DoltVerif.Lemmas.ProllyMergeTW
import DoltVerif.Lemmas.ProllyMergeInterval
/-!
C14, obligation R1 for single-leaf trees.  The patch-form diff `specDiffP` of two sorted leaves (a `filterMap` of their merge
walk) ascends, and its event at a key is the change `changeOf` between the two lookups; the generator emits that list one
point patch per `Next` (`pgNext_leaf`), so with the position in the list as invariant (`LeafInv`) it is `GenSound`.
-/
namespace DoltVerif.ProllyMerge
open DoltVerif.ProllyDiff

theorem evP_key (t : Tag KV) (e : Event) (h : evP t = some e) : ∃ p ∈ t.elems, e.key = p.1 := by
  revert h
  fun_cases evP t with
  | case1 x | case2 x => intro h; cases h; exact ⟨x, List.mem_singleton_self _, rfl⟩  -- left or right alone
  | case3 x y => intro h; cases h; exact ⟨y, by simp [Tag.elems], rfl⟩  -- both, values differ
  | case4 => nofun  -- both, same value

theorem specDiffP_ascending {cmp} (ol : OrdLaws cmp) (a b : List KV) (sa : Sorted cmp a) (sb : Sorted cmp b) :
    AscE cmp (specDiffP cmp a b) :=
  pairwise_filterMap_mergeWalk ol _ Event.key evP_key sa sb

theorem changeOf_eq_tag (b x : Option KV) : changeOf b x = (tagOf b x).bind evP := by
  cases b <;> cases x <;> simp [changeOf, tagOf, evP]

theorem specDiffP_at_key {cmp} (ol : OrdLaws cmp) {B X : List KV} (sb : Sorted cmp B) (sx : Sorted cmp X) (k : Bytes) :
    AtKey cmp Event.key k (specDiffP cmp B X) (changeOf (lookupKV cmp k B) (lookupKV cmp k X)) := by
  rw [changeOf_eq_tag]
  exact filterMap_walk_at_key ol sb sx (lookup_atKey ol k sb) (lookup_atKey ol k sx) _ Event.key evP_key

theorem changeOf_to {b r : Option KV} {er : Event} (h : changeOf b r = some er) :
    er.to?.map (fun v => (er.key, v)) = r := by
  cases b with
  | none =>
    cases r with
    | none => simp [changeOf] at h
    | some y => simp [changeOf] at h; subst h; simp [Event.added]
  | some a =>
    cases r with
    | none => simp [changeOf] at h; subst h; simp [Event.removed]
    | some y =>
      simp only [changeOf] at h
      by_cases hv : a.2 = y.2
      · simp [hv] at h
      · simp [hv] at h; subst h; simp

theorem pointEffect_pointPatch (e : Event) : pointEffect (pointPatch e) = e.to?.map (fun v => (e.key, v)) := by
  cases h : e.to? <;> simp [pointEffect, pointPatch, patchOf, h]

variable {cmp : Bytes → Bytes → Ordering}

/-- the invariant of the generator of two single-leaf trees: the stream `specDiffP kb kx` splits into what has been emitted
and what `d` will still emit, and the current patch is that of the last event emitted -/
def LeafInv (cmp : Bytes → Bytes → Ordering) (kb kx : List KV) (d : PG) : GenPos → Prop
  | .start => LeafStr cmp d (specDiffP cmp kb kx)
  | .at p t => ∃ pre e rest, specDiffP cmp kb kx = pre ++ e :: rest ∧ (p, t) = patchOf e ∧ LeafStr cmp d rest
  | .done => True

theorem LeafInv.level {kb kx : List KV} {d : PG} {p : Patch} {t : DiffType} (h : LeafInv cmp kb kx d (.at p t)) : p.level = 0 := by
  obtain ⟨_, e, _, _, hpt, _⟩ := h
  rw [show p = pointPatch e from congrArg Prod.fst hpt]; rfl

theorem leaf_genSound (ol : OrdLaws cmp) (store : Addr → Option Tree) (fuel : Nat) {kb kx : List KV}
    (sb : Sorted cmp kb) (sx : Sorted cmp kx) : GenSound cmp store fuel kb kx (LeafInv cmp kb kx) := by
  have hasc : AscE cmp (specDiffP cmp kb kx) := specDiffP_ascending ol kb kx sb sx
  -- with `pre` emitted and `rest` to come, `Next` emits the head of `rest`; a key beyond `pre` and before that head is no
  -- event's key, so it is unchanged
  have next : ∀ {pre rest d d' c'}, specDiffP cmp kb kx = pre ++ rest → LeafStr cmp d rest → pgNext cmp fuel d = .ok (d', c') →
      LeafInv cmp kb kx d' (GenPos.ofResult c') ∧ (∀ p' t', c' = some (p', t') → ∃ e' ∈ rest.head?, (p', t') = patchOf e') ∧
      ∀ k, (∀ ev ∈ pre, cmp ev.key k = .lt) → (∀ p' t', c' = some (p', t') → startsAfter cmp p' k) →
        changeOf (lookupKV cmp k kb) (lookupKV cmp k kx) = none := by
    intro pre rest d d' c' hs hstr hn
    have gap : ∀ k, (∀ ev ∈ pre, cmp ev.key k = .lt) → (∀ e ∈ rest.head?, cmp k e.key = .lt) →
        changeOf (lookupKV cmp k kb) (lookupKV cmp k kx) = none := fun k h1 h2 =>
      (specDiffP_at_key ol sb sx k).none_iff.mpr fun ev hev => no_event_between ol (hs ▸ hasc) h1 h2 ev (hs ▸ hev)
    obtain ⟨rfl, hs'⟩ := pgNext_leaf ol.refl fuel d d' rest c' hstr hn
    cases rest with
    | nil => exact ⟨trivial, fun _ _ h => (nomatch h), fun k h1 _ => gap k h1 fun _ h => nomatch h⟩
    | cons e' rest' =>
      refine ⟨⟨pre, e', rest', hs, rfl, hs' (List.cons_ne_nil _ _)⟩, fun p' t' h => ⟨e', rfl, (Option.some.inj h).symm⟩,
        fun k h1 h2 => gap k h1 ?_⟩
      exact fun e he => Option.some.inj he ▸ (startsAfter_point rfl k).mp (h2 (patchOf e').1 (patchOf e').2 rfl)
  refine ⟨fun d p t hinv => ?_, fun d p t hinv => ?_, fun d pos d' c' hinv hnd hn => ?_, fun d p t d' c' hinv hlv _ => ?_⟩
  · have hlev := hinv.level
    obtain ⟨_, e, _, _, hpt, _⟩ := hinv
    refine ⟨fun _ => ?_, fun h => absurd hlev h, fun h => absurd hlev h, fun h => absurd hlev h⟩
    rw [show p = pointPatch e from congrArg Prod.fst hpt]; simp [pointPatch, patchOf, pvalBytes_map]
  · have hlev := hinv.level
    obtain ⟨pre, e, rest, hs, hpt, hstr⟩ := hinv
    have hp : p = pointPatch e := congrArg Prod.fst hpt
    have ht : t = e.type := congrArg Prod.snd hpt
    have he : e ∈ specDiffP cmp kb kx := by rw [hs]; simp
    refine ⟨.of_point hlev, ?_, fun k hk => ?_, fun _ => ?_⟩
    · rw [hlev]; exact getLevel_leaf hstr
    · have hk' : cmp k e.key = .eq := by
        have := (covers_iff_point hlev k).mp hk; rw [hp] at this; exact this
      have hc := (specDiffP_at_key ol sb sx k e).mp ⟨he, hk'⟩
      simp only [Patch.valAt, hlev, beq_self_eq_true, if_true]
      rw [hp, pointEffect_pointPatch, changeOf_to hc]
    · have hc := (specDiffP_at_key ol sb sx e.key e).mp ⟨he, ol.refl _⟩
      rw [hp, ht]
      simp only [pointPatch, patchOf, pvalBytes_map]
      exact hc
  · cases pos with
    | done => exact absurd rfl hnd
    | start =>
      obtain ⟨h1, _, h3⟩ := next (pre := []) rfl hinv hn
      exact ⟨h1, fun _ _ _ _ h => (nomatch h), fun k _ h => h3 k (fun _ h => nomatch h) h⟩
    | «at» p t =>
      obtain ⟨pre, e, rest, hs, hpt, hstr⟩ := hinv
      have hp : p = pointPatch e := congrArg Prod.fst hpt
      have hs' : specDiffP cmp kb kx = (pre ++ [e]) ++ rest := by rw [hs]; simp
      obtain ⟨h1, h2, h3⟩ := next hs' hstr hn
      have hasc' := hs' ▸ hasc
      refine ⟨h1, fun p0 t0 p' t' h0 h' => ?_, fun k hk h => h3 k (fun ev hev => ?_) h⟩
      · cases h0
        obtain ⟨e', he', hpt'⟩ := h2 p' t' h'
        rw [hp, show p' = pointPatch e' from congrArg Prod.fst hpt', before_iff, startsAfter_point rfl]
        exact (List.pairwise_append.mp hasc').2.2 e (by simp) e' (List.mem_of_mem_head? he')
      · have hek : cmp e.key k = .lt := by have := hk p t rfl; rw [hp] at this; exact this
        rcases List.mem_append.mp hev with h0 | h0
        · exact ol.lt_trans _ _ _ ((List.pairwise_append.mp (List.pairwise_append.mp hasc').1).2.2 ev h0 e (by simp)) hek
        · rw [List.mem_singleton.mp h0]; exact hek
  · -- split: a point patch is never split
    exact absurd hinv.level hlv

end DoltVerif.ProllyMerge
