import DoltVerif.Model.ProllyMerge
import DoltVerif.Lemmas.ProllyMergeWalk
/-!
C14: `ThreeWayDiffer.Next` over two ascending diff streams classifies every key of either stream exactly once, ascending.
-/
namespace DoltVerif.ProllyMerge
open DoltVerif.ProllyDiff

def AscE (cmp : Bytes → Bytes → Ordering) (l : List Event) : Prop := l.Pairwise (fun e1 e2 => cmp e1.key e2.key = .lt)

/-- what the results of the three-way differ must be, stated per pair of diff events -/
def TWSpec (cmp : Bytes → Bytes → Ordering) (resolve : ResolveCb) (dl dr : List Event) (d : TWDiff) : Prop :=
  (∃ l ∈ dl, d = newLeftEdit l ∧ ∀ r ∈ dr, cmp l.key r.key ≠ .eq) ∨
  (∃ r ∈ dr, d = newRightEdit r ∧ ∀ l ∈ dl, cmp l.key r.key ≠ .eq) ∨
  (∃ l ∈ dl, ∃ r ∈ dr, d = matchEdit resolve l r ∧ cmp l.key r.key = .eq)

theorem newLeftEdit_key (e : Event) : (newLeftEdit e).key = e.key := rfl
theorem newRightEdit_key (e : Event) : (newRightEdit e).key = e.key := rfl
theorem matchEdit_key (resolve : ResolveCb) (l r : Event) : (matchEdit resolve l r).key = l.key := by
  fun_cases matchEdit resolve l r <;> rfl

def twOf (resolve : ResolveCb) : Tag Event → TWDiff
  | .left l => newLeftEdit l
  | .right r => newRightEdit r
  | .both l r => matchEdit resolve l r

theorem twOf_key (resolve : ResolveCb) (t : Tag Event) (d : TWDiff) (h : (some ∘ twOf resolve) t = some d) :
    ∃ p ∈ t.elems, d.key = p.key := by
  cases h
  cases t with
  | left l => exact ⟨l, List.mem_cons_self, rfl⟩
  | right r => exact ⟨r, List.mem_cons_self, rfl⟩
  | both l r => exact ⟨l, List.mem_cons_self, matchEdit_key _ _ _⟩

theorem twNext_eq_walk (cmp : Bytes → Bytes → Ordering) (resolve : ResolveCb) (a b : List Event) :
    twNext cmp resolve a b = (mergeWalk cmp Event.key a b).map (twOf resolve) := by
  induction a generalizing b with
  | nil =>
    induction b with
    | nil => rw [twNext, mergeWalk]; rfl
    | cons y bs ihb => rw [twNext, mergeWalk, ihb]; rfl
  | cons x as iha =>
    induction b with
    | nil => rw [twNext, mergeWalk, iha]; rfl
    | cons y bs ihb =>
      rw [twNext, mergeWalk]
      cases cmp x.key y.key
      · exact congrArg _ (iha _)
      · exact congrArg _ (iha _)
      · exact congrArg _ ihb

theorem twNext_mem {cmp} (ol : OrdLaws cmp) (resolve : ResolveCb) (a b : List Event) (sa : AscE cmp a) (sb : AscE cmp b)
    (d : TWDiff) : d ∈ twNext cmp resolve a b ↔ TWSpec cmp resolve a b d := by
  rw [twNext_eq_walk, List.mem_map]
  constructor
  · rintro ⟨t, ht, rfl⟩
    rcases (mergeWalk_mem ol Event.key a b sa sb t).mp ht with ⟨l, hl, rfl, hno⟩ | ⟨r, hr, rfl, hno⟩ | ⟨l, hl, r, hr, rfl, he⟩
    · exact Or.inl ⟨l, hl, rfl, hno⟩
    · exact Or.inr (Or.inl ⟨r, hr, rfl, hno⟩)
    · exact Or.inr (Or.inr ⟨l, hl, r, hr, rfl, he⟩)
  · intro h
    refine (?_ : ∃ t, WalkSpec cmp Event.key a b t ∧ twOf resolve t = d).imp
      fun t ht => ⟨(mergeWalk_mem ol Event.key a b sa sb t).mpr ht.1, ht.2⟩
    rcases h with ⟨l, hl, rfl, hno⟩ | ⟨r, hr, rfl, hno⟩ | ⟨l, hl, r, hr, rfl, he⟩
    · exact ⟨.left l, Or.inl ⟨l, hl, rfl, hno⟩, rfl⟩
    · exact ⟨.right r, Or.inr (Or.inl ⟨r, hr, rfl, hno⟩), rfl⟩
    · exact ⟨.both l r, Or.inr (Or.inr ⟨l, hl, r, hr, rfl, he⟩), rfl⟩

theorem twNext_ascending {cmp} (ol : OrdLaws cmp) (resolve : ResolveCb) (a b : List Event) (sa : AscE cmp a) (sb : AscE cmp b) :
    (twNext cmp resolve a b).Pairwise (fun d1 d2 => cmp d1.key d2.key = .lt) := by
  rw [twNext_eq_walk, ← List.filterMap_eq_map]
  exact pairwise_filterMap_mergeWalk ol _ TWDiff.key (twOf_key resolve) sa sb

theorem no_event_between {cmp : Bytes → Bytes → Ordering} (ol : OrdLaws cmp) {pre rest : List Event} {k : Bytes}
    (ha : AscE cmp (pre ++ rest)) (hpre : ∀ e ∈ pre, cmp e.key k = .lt) (hrest : ∀ e ∈ rest.head?, cmp k e.key = .lt) :
    ∀ ev ∈ pre ++ rest, cmp k ev.key ≠ .eq := by
  intro ev hev he
  rcases List.mem_append.mp hev with h | h
  · have := hpre ev h; rw [ol.eq_symm he] at this; simp at this
  · cases rest with
    | nil => simp at h
    | cons r rs =>
      have hr : cmp k r.key = .lt := hrest r (by simp)
      simp at h
      rcases h with rfl | h
      · rw [hr] at he; simp at he
      · have hasc := (List.pairwise_append.mp ha).2.1
        have := ol.lt_trans _ _ _ hr ((List.pairwise_cons.mp hasc).1 ev h)
        rw [this] at he; simp at he

end DoltVerif.ProllyMerge
