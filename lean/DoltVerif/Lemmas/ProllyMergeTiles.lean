import DoltVerif.Lemmas.ProllyMergeRange
/-!
C14, obligation R3, one patch: the interval a patch rewrites (`Patch.covers`) and what it makes of a key there (`Patch.valAt`),
well-formed patches (`PatchOK`), tiled streams (`Tiles`: ascending, non-overlapping, each patch well-formed), and what applying
ONE well-formed patch does to a sorted content (`applyPatch_lookup`, `applyPatch_sorted`).  The stream is in
`Lemmas/ProllyMergeInterval` (`apply_tiled`).
-/
namespace DoltVerif.ProllyMerge
open DoltVerif.ProllyDiff

variable {cmp : Bytes → Bytes → Ordering}

/-- `k` lies in the key interval the patch rewrites: the key itself for a point patch,
`(keyBelowStart, endKey]` for a range patch -/
def Patch.covers (cmp : Bytes → Bytes → Ordering) (p : Patch) (k : Bytes) : Bool :=
  if p.level == 0 then cmp k p.endKey == .eq
  else (match p.keyBelowStart with | none => true | some a => cmp a k == .lt) && cmp k p.endKey != .gt

/-- what the patch makes of a key it covers -/
def Patch.valAt (cmp : Bytes → Bytes → Ordering) (p : Patch) (k : Bytes) : Option KV :=
  if p.level == 0 then pointEffect p else lookupKV cmp k p.ins

structure PatchOK (cmp : Bytes → Bytes → Ordering) (p : Patch) : Prop where
  lohi : p.level ≠ 0 → ∀ a, p.keyBelowStart = some a → cmp a p.endKey ≠ .gt
  inside : p.level ≠ 0 → ∀ x ∈ p.ins, (∀ a, p.keyBelowStart = some a → cmp a x.1 = .lt) ∧ cmp x.1 p.endKey ≠ .gt
  sorted : p.level ≠ 0 → Sorted cmp p.ins

theorem PatchOK.of_point {p : Patch} (hp : p.level = 0) : PatchOK cmp p :=
  ⟨fun h => absurd hp h, fun h => absurd hp h, fun h => absurd hp h⟩

/-- `q` starts after `p` ends -/
def Patch.before (cmp : Bytes → Bytes → Ordering) (p q : Patch) : Prop :=
  if q.level = 0 then cmp p.endKey q.endKey = .lt
  else ∃ a, q.keyBelowStart = some a ∧ cmp p.endKey a ≠ .gt

structure Tiles (cmp : Bytes → Bytes → Ordering) (ps : List Patch) : Prop where
  ok : ∀ p ∈ ps, PatchOK cmp p
  asc : ps.Pairwise (Patch.before cmp)

theorem Tiles.tail {p : Patch} {ps : List Patch} (h : Tiles cmp (p :: ps)) : Tiles cmp ps :=
  ⟨fun q hq => h.ok q (by simp [hq]), (List.pairwise_cons.mp h.asc).2⟩

theorem covers_iff_point {p : Patch} (hp : p.level = 0) (k : Bytes) : p.covers cmp k = true ↔ cmp k p.endKey = .eq := by
  simp [Patch.covers, hp]

theorem covers_iff_range {p : Patch} (hp : p.level ≠ 0) (k : Bytes) :
    p.covers cmp k = true ↔ (∀ a, p.keyBelowStart = some a → cmp a k = .lt) ∧ cmp k p.endKey ≠ .gt := by
  have hb : (p.level == 0) = false := by simpa using hp
  simp only [Patch.covers, hb, Bool.false_eq_true, if_false, Bool.and_eq_true, bne_iff_ne, ne_eq]
  cases p.keyBelowStart with
  | none => simp
  | some a => simp

theorem valAt_range {p : Patch} (hp : p.level ≠ 0) (k : Bytes) : p.valAt cmp k = lookupKV cmp k p.ins := by
  have hb : (p.level == 0) = false := by simpa using hp
  simp [Patch.valAt, hb]

theorem applyPatch_lookup (ol : OrdLaws cmp) (p : Patch) (hok : PatchOK cmp p) {l : List KV} (sl : Sorted cmp l) (k : Bytes) :
    lookupKV cmp k (applyPatch cmp l p) = if p.covers cmp k = true then p.valAt cmp k else lookupKV cmp k l := by
  by_cases hp : p.level = 0
  · rw [applyPatch_point_lookup ol p hp k sl]
    by_cases hk : cmp k p.endKey = .eq
    · simp [hk, (covers_iff_point hp k).mpr hk, Patch.valAt, hp]
    · have : ¬ (p.covers cmp k = true) := fun h => hk ((covers_iff_point hp k).mp h)
      simp [hk, this]
  · have h := range_patch_lookup' ol p hp sl (hok.inside hp) k
    rw [h]
    have hb : (p.level == 0) = false := by simpa using hp
    by_cases hc : p.covers cmp k = true
    · rw [if_pos ((covers_iff_range hp k).mp hc), if_pos hc]
      simp [Patch.valAt, hb]
    · have : ¬ ((∀ a, p.keyBelowStart = some a → cmp a k = .lt) ∧ cmp k p.endKey ≠ .gt) :=
        fun h => hc ((covers_iff_range hp k).mpr h)
      rw [if_neg this, if_neg hc]

theorem applyPatch_sorted (ol : OrdLaws cmp) (p : Patch) (hok : PatchOK cmp p) {l : List KV} (sl : Sorted cmp l) :
    Sorted cmp (applyPatch cmp l p) := by
  by_cases hp : p.level = 0
  · exact applyPatch_point_sorted ol p hp sl
  · rw [applyPatch_range_eq p hp]
    exact sorted_replaceRange ol sl (hok.sorted hp) _ _ (hok.inside hp)

theorem covers_le_end {p : Patch} {k : Bytes} (h : p.covers cmp k = true) : cmp k p.endKey ≠ .gt := by
  by_cases hl : p.level = 0
  · rw [(covers_iff_point hl k).mp h]; simp
  · exact ((covers_iff_range hl k).mp h).2

end DoltVerif.ProllyMerge
