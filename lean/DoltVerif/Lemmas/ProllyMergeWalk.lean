import DoltVerif.Lemmas.MergeWalk
/-!
C14: the element of an ascending list at a key (`AtKey`), and the merge walk of `Lemmas/MergeWalk` at a key — its tag there
is `tagOf` of the two lists' elements there, so a `filterMap` of the walk has there the image of that tag.  `specDiff`,
`specDiffP` (walk of two sorted maps) and `twNext` (walk of two event streams) are read at a key through this one lemma.
-/
namespace DoltVerif.ProllyMerge
open DoltVerif.ProllyDiff

variable {α β : Type} {cmp : Bytes → Bytes → Ordering} {key : α → Bytes}

/-- `o` is the element of `l` at key `k`, if any (a list that ascends by key has at most one) -/
def AtKey (cmp : Bytes → Bytes → Ordering) (key : α → Bytes) (k : Bytes) (l : List α) (o : Option α) : Prop :=
  ∀ x, (x ∈ l ∧ cmp k (key x) = .eq) ↔ o = some x

theorem AtKey.none_iff {k : Bytes} {l : List α} {o : Option α} (h : AtKey cmp key k l o) :
    o = none ↔ ∀ x ∈ l, cmp k (key x) ≠ .eq := by
  constructor
  · intro ho x hx he
    exact nomatch ho ▸ (h x).mp ⟨hx, he⟩
  · intro hno
    cases o with
    | none => rfl
    | some x => exact absurd ((h x).mpr rfl).2 (hno x ((h x).mpr rfl).1)

theorem find_of_asc_mem (ol : OrdLaws cmp) (key : α → Bytes) (k : Bytes) : ∀ (l : List α),
    l.Pairwise (fun a b => cmp (key a) (key b) = .lt) → ∀ p ∈ l, cmp k (key p) = .eq →
    l.find? (fun q => cmp k (key q) == .eq) = some p
  | [], _, p, h, _ => by simp at h
  | p0 :: ps, ha, p, h, hk => by
    have ha' := List.pairwise_cons.mp ha
    rcases List.mem_cons.mp h with rfl | h
    · simp [hk]
    · have hb : (cmp k (key p0) == .eq) = false := by
        simp only [beq_eq_false_iff_ne, ne_eq]
        intro h0
        have := ol.eq_lt _ _ _ h0 (ha'.1 p h)
        rw [hk] at this; cases this
      simp only [List.find?_cons, hb]
      exact find_of_asc_mem ol key k ps ha'.2 p h hk

theorem atKey_find (ol : OrdLaws cmp) (key : α → Bytes) (k : Bytes) {l : List α}
    (hl : l.Pairwise (fun a b => cmp (key a) (key b) = .lt)) : AtKey cmp key k l (l.find? (fun q => cmp k (key q) == .eq)) :=
  fun x => ⟨fun h => find_of_asc_mem ol key k l hl x h.1 h.2,
    fun h => ⟨List.mem_of_find?_eq_some h, by simpa using List.find?_some h⟩⟩

theorem find_at_key (ol : OrdLaws cmp) (key : α → Bytes) (k : Bytes) {l : List α}
    (hl : l.Pairwise (fun a b => cmp (key a) (key b) = .lt)) {o : Option α} (h : AtKey cmp key k l o) :
    l.find? (fun q => cmp k (key q) == .eq) = o := by
  cases o with
  | none =>
    rw [List.find?_eq_none]
    intro x hx he
    exact nomatch (h x).mp ⟨hx, by simpa using he⟩
  | some x =>
    have hx := (h x).mpr rfl
    exact find_of_asc_mem ol key k l hl x hx.1 hx.2

/-- the tag of the walk at a key, from the element each list has at that key -/
def tagOf : Option α → Option α → Option (Tag α)
  | none, none => none
  | some l, none => some (.left l)
  | none, some r => some (.right r)
  | some l, some r => some (.both l r)

theorem mergeWalk_at_key (ol : OrdLaws cmp) {a b : List α}
    (sa : a.Pairwise (fun p q => cmp (key p) (key q) = .lt)) (sb : b.Pairwise (fun p q => cmp (key p) (key q) = .lt))
    {k : Bytes} {ca cb : Option α} (ha : AtKey cmp key k a ca) (hb : AtKey cmp key k b cb) (t : Tag α) :
    ((t ∈ mergeWalk cmp key a b ∧ ∃ p ∈ t.elems, cmp k (key p) = .eq) → tagOf ca cb = some t) ∧
    (tagOf ca cb = some t → t ∈ mergeWalk cmp key a b ∧ ∀ p ∈ t.elems, cmp k (key p) = .eq) := by
  rw [mergeWalk_mem ol key a b sa sb]
  have hnb : cb = none → ∀ r ∈ b, cmp k (key r) ≠ .eq := hb.none_iff.mp
  have hna : ca = none → ∀ l ∈ a, cmp k (key l) ≠ .eq := ha.none_iff.mp
  constructor
  · rintro ⟨⟨l, hl, rfl, hno⟩ | ⟨r, hr, rfl, hno⟩ | ⟨l, hl, r, hr, rfl, he⟩, p, hp, hk⟩
    · rw [List.mem_singleton.mp hp] at hk
      rw [(ha l).mp ⟨hl, hk⟩]
      cases hc : cb with
      | none => rfl
      | some r =>
        have hr := (hb r).mpr hc
        exact absurd (ol.eq_trans (ol.eq_symm hk) hr.2) (hno r hr.1)
    · rw [List.mem_singleton.mp hp] at hk
      rw [(hb r).mp ⟨hr, hk⟩]
      cases hc : ca with
      | none => rfl
      | some l =>
        have hl := (ha l).mpr hc
        exact absurd (ol.eq_trans (ol.eq_symm hl.2) hk) (hno l hl.1)
    · have hkl : cmp k (key l) = .eq := by
        simp only [Tag.elems, List.mem_cons, List.not_mem_nil, or_false] at hp
        rcases hp with rfl | rfl
        · exact hk
        · exact ol.eq_trans hk (ol.eq_symm he)
      rw [(ha l).mp ⟨hl, hkl⟩, (hb r).mp ⟨hr, ol.eq_trans hkl he⟩]; rfl
  · fun_cases tagOf ca cb with
    | case1 => nofun  -- the key is in neither list
    | case2 l =>
      intro h; cases h
      have hl := (ha l).mpr rfl
      exact ⟨Or.inl ⟨l, hl.1, rfl, fun r hr he => hnb rfl r hr (ol.eq_trans hl.2 he)⟩, List.forall_mem_singleton.mpr hl.2⟩
    | case3 r =>
      intro h; cases h
      have hr := (hb r).mpr rfl
      exact ⟨Or.inr (Or.inl ⟨r, hr.1, rfl, fun l hl he => hna rfl l hl (ol.eq_trans hr.2 (ol.eq_symm he))⟩),
        List.forall_mem_singleton.mpr hr.2⟩
    | case4 l r =>
      intro h; cases h
      have hl := (ha l).mpr rfl
      have hr := (hb r).mpr rfl
      exact ⟨Or.inr (Or.inr ⟨l, hl.1, r, hr.1, rfl, ol.eq_trans (ol.eq_symm hl.2) hr.2⟩),
        List.forall_mem_cons.mpr ⟨hl.2, List.forall_mem_singleton.mpr hr.2⟩⟩

theorem filterMap_walk_at_key (ol : OrdLaws cmp) {a b : List α}
    (sa : a.Pairwise (fun p q => cmp (key p) (key q) = .lt)) (sb : b.Pairwise (fun p q => cmp (key p) (key q) = .lt))
    {k : Bytes} {ca cb : Option α} (ha : AtKey cmp key k a ca) (hb : AtKey cmp key k b cb)
    (f : Tag α → Option β) (keyβ : β → Bytes) (hf : ∀ t y, f t = some y → ∃ p ∈ t.elems, keyβ y = key p) :
    AtKey cmp keyβ k ((mergeWalk cmp key a b).filterMap f) ((tagOf ca cb).bind f) := by
  intro y
  simp only [List.mem_filterMap, Option.bind_eq_some_iff]
  constructor
  · rintro ⟨⟨t, ht, hy⟩, hk⟩
    obtain ⟨p, hp, e⟩ := hf t y hy
    exact ⟨t, (mergeWalk_at_key ol sa sb ha hb t).1 ⟨ht, p, hp, e ▸ hk⟩, hy⟩
  · rintro ⟨t, ht, hy⟩
    obtain ⟨hm, hk⟩ := (mergeWalk_at_key ol sa sb ha hb t).2 ht
    obtain ⟨p, hp, e⟩ := hf t y hy
    exact ⟨⟨t, hm, hy⟩, e ▸ hk p hp⟩

end DoltVerif.ProllyMerge
