import DoltVerif.Model.Puller
import DoltVerif.Lemmas.AssocList
import DoltVerif.Lemmas.ExceptOk
/-! The hypotheses of the C35 theorems (`Agree`, `Closed`, `Reach`, `Anc`), lemmas about stores (`get`/`has` of an
append) and refs (`setRef`), and what a successful `pull` yields (`pull_spec`). -/
namespace DoltVerif.Puller

/-- two stores never disagree on the chunk stored under an address (content addressing). -/
def Agree (s t : Store) : Prop := ∀ a c c', get s a = some c → get t a = some c' → c = c'

/-- every address a stored chunk mentions is itself stored (C07's invariant). -/
def Closed (s : Store) : Prop := ∀ a c, get s a = some c → ∀ r ∈ c.refs, has s r = true

/-- `b` is reachable from `a` following the addresses of the chunks stored in `s`. -/
inductive Reach (s : Store) : Addr → Addr → Prop
  | refl (a : Addr) : Reach s a a
  | step {a r b : Addr} {c : Chunk} : get s a = some c → r ∈ c.refs → Reach s r b → Reach s a b

/-- `h` is an ancestor of (or equal to) `t` following the parent lists stored in `s`. -/
inductive Anc (s : Store) : Addr → Addr → Prop
  | refl (a : Addr) : Anc s a a
  | step {h p t : Addr} {c : Chunk} : get s t = some c → p ∈ c.parents → Anc s h p → Anc s h t

theorem get_append (s t : Store) (a : Addr) : get (s ++ t) a = (get s a).or (get t a) := by
  unfold get; exact List.lookup_append ..

theorem has_append (s t : Store) (a : Addr) : has (s ++ t) a = (has s a || has t a) := by
  unfold has; rw [get_append]; cases get s a <;> simp

theorem get_append_of_has {s t : Store} {a : Addr} (h : has s a = true) : get (s ++ t) a = get s a := by
  unfold has at h; rw [get_append]; cases hs : get s a <;> simp_all

theorem get_append_of_not_has {s t : Store} {a : Addr} (h : has s a = false) : get (s ++ t) a = get t a := by
  unfold has at h; rw [get_append]; cases hs : get s a <;> simp_all

theorem get_append_cases {s e : Store} {a : Addr} {c : Chunk} (h : get (s ++ e) a = some c) :
    get s a = some c ∨ (has s a = false ∧ get e a = some c) := by
  by_cases hs : has s a = true
  · exact .inl (get_append_of_has hs ▸ h)
  · have hs : has s a = false := by simpa using hs
    exact .inr ⟨hs, get_append_of_not_has hs ▸ h⟩

theorem get_mono_append {s e : Store} {a : Addr} {c : Chunk} (h : get s a = some c) :
    get (s ++ e) a = some c := by
  rw [get_append, h]; rfl

theorem has_mono_append {s e : Store} {a : Addr} (h : has s a = true) : has (s ++ e) a = true := by
  rw [has_append, h]; rfl

theorem mem_of_get {s : Store} {a : Addr} {c : Chunk} (h : get s a = some c) : (a, c) ∈ s :=
  mem_of_lookup h

theorem has_of_mem {s : Store} {a : Addr} {c : Chunk} (h : (a, c) ∈ s) : has s a = true :=
  List.lookup_isSome_iff.2 ⟨(a, c), h, beq_self_eq_true a⟩

theorem has_of_mem_keys {s : Store} {a : Addr} (h : a ∈ s.map (·.1)) : has s a = true := by
  obtain ⟨⟨_, c⟩, hp, rfl⟩ := List.mem_map.1 h
  exact has_of_mem hp

theorem has_iff_get {s : Store} {a : Addr} : has s a = true ↔ ∃ c, get s a = some c := by
  unfold has; cases get s a <;> simp

theorem fetchAll_spec {src : Store} : ∀ {as : List Addr} {cs : List (Addr × Chunk)},
    fetchAll src as = some cs → cs.map (·.1) = as ∧ ∀ p ∈ cs, get src p.1 = some p.2 := by
  intro as
  fun_induction fetchAll src as
  next => intro cs h; cases h; exact ⟨rfl, nofun⟩
  next a as c r hr hc ih => -- both the chunk and the rest are found
    intro cs h
    cases h
    obtain ⟨h1, h2⟩ := ih hr
    exact ⟨congrArg (a :: ·) h1, List.forall_mem_cons.2 ⟨hc, h2⟩⟩
  next => nofun

theorem mem_nextFrontier {cs : List (Addr × Chunk)} {seen : List Addr} {r : Addr} :
    r ∈ nextFrontier cs seen ↔ (∃ p ∈ cs, r ∈ p.2.refs) ∧ r ∉ seen := by
  simp only [nextFrontier, List.mem_eraseDups, List.contains_eq_mem, List.mem_filter, List.mem_flatMap,
    Bool.not_eq_eq_eq_not, Bool.not_true, decide_eq_false_iff_not]

theorem Anc.mono {s s' : Store} (hs : ∀ a c, get s a = some c → get s' a = some c) {h t : Addr}
    (ha : Anc s h t) : Anc s' h t := by
  induction ha with
  | refl => exact .refl _
  | step hg hp _ ih => exact .step (hs _ _ hg) hp ih

theorem Anc.trans {s : Store} {a b c : Addr} (h1 : Anc s a b) (h2 : Anc s b c) : Anc s a c := by
  induction h2 with
  | refl => exact h1
  | step hg hp _ ih => exact .step hg hp ih

theorem Anc.mono_append {s e : Store} {h t : Addr} (ha : Anc s h t) : Anc (s ++ e) h t :=
  Anc.mono (fun _ _ hg => get_mono_append hg) ha

theorem isAnc_sound {s : Store} (fuel : Nat) (h t : Addr) : isAnc s fuel h t = true → Anc s h t := by
  fun_induction isAnc s fuel h t
  next => intro hh; simp at hh; subst hh; exact .refl _ -- out of fuel
  next h t ih =>
    intro hh
    simp only [Bool.or_eq_true] at hh
    rcases hh with hh | hh
    · simp at hh; subst hh; exact .refl _
    · split at hh
      · rename_i c hc
        rw [List.any_eq_true] at hh
        obtain ⟨p, hp, hpa⟩ := hh
        exact .step hc hp (ih p hpa)
      · simp at hh

/-- the addresses of a frontier that `HasMany` reports absent -/
theorem mem_absent {dst : Store} {frontier : List Addr} {a : Addr} :
    a ∈ frontier.filter (fun a => !has dst a) ↔ a ∈ frontier ∧ has dst a = false := by
  simp only [List.mem_filter, Bool.not_eq_eq_eq_not, Bool.not_true]

/-- the invariant of the tracker/fetch rounds, and what it yields at the end -/
theorem pullLoop_spec (src dst : Store) : ∀ (fuel : Nat) (frontier seen : List Addr)
    (acc out : List (Addr × Chunk)),
    pullLoop src dst fuel frontier seen acc = .ok out →
    (∀ p ∈ acc, get src p.1 = some p.2 ∧ has dst p.1 = false) →
    (∀ p ∈ acc, ∀ r ∈ p.2.refs, r ∈ seen) →
    (∀ r ∈ seen, has (dst ++ acc) r = true ∨ r ∈ frontier) →
    (∀ p ∈ out, get src p.1 = some p.2 ∧ has dst p.1 = false) ∧
    (∀ p ∈ out, ∀ r ∈ p.2.refs, has (dst ++ out) r = true) ∧
    (∀ r ∈ seen, has (dst ++ out) r = true) := by
  intro fuel frontier seen acc out
  fun_induction pullLoop src dst fuel frontier seen acc
  next => nofun -- out of fuel
  next frontier seen _ _ hemp => -- no absent address left: the whole frontier is at the destination
    intro h i1 i2 i3
    cases h -- `acc` is `out`
    have hall : ∀ a ∈ frontier, has dst a = true := fun a ha =>
      (Bool.eq_false_or_eq_true _).resolve_right fun hf =>
        List.eq_nil_iff_forall_not_mem.1 (List.isEmpty_iff.1 hemp) a (mem_absent.2 ⟨ha, hf⟩)
    have hseen : ∀ r ∈ seen, has (dst ++ out) r = true := fun r hr =>
      (i3 r hr).elim id fun h => has_mono_append (hall r h)
    exact ⟨i1, fun p hp r hr => hseen r (i2 p hp r hr), hseen⟩
  next => nofun -- a chunk is missing at the source
  next frontier seen acc _ _ cs hf _ ih => -- the fetched batch `cs` is exactly the absent part of the frontier
    intro h i1 i2 i3
    obtain ⟨hk, hv⟩ := fetchAll_spec hf
    have hkeys : ∀ p ∈ cs, has dst p.1 = false := fun p hp =>
      (mem_absent.1 (hk ▸ List.mem_map_of_mem hp)).2
    have habs : ∀ a ∈ frontier, has (dst ++ (acc ++ cs)) a = true := fun a ha => by
      rw [has_append, has_append]
      cases hd : has dst a
      · have hc : has cs a = true := has_of_mem_keys (hk ▸ mem_absent.2 ⟨ha, hd⟩)
        rw [hc, Bool.or_true, Bool.or_true]
      · rfl
    obtain ⟨o1, o2, o3⟩ := ih h
      (fun p hp => (List.mem_append.1 hp).elim (i1 p) fun hp => ⟨hv p hp, hkeys p hp⟩)
      (by
        intro p hp r hr
        rcases List.mem_append.1 hp with hp | hp
        · exact List.mem_append_left _ (i2 p hp r hr)
        · by_cases hs : r ∈ seen
          · exact List.mem_append_left _ hs
          · exact List.mem_append_right _ (mem_nextFrontier.2 ⟨⟨p, hp, hr⟩, hs⟩))
      (by
        intro r hr
        rcases List.mem_append.1 hr with hr | hr
        · refine .inl ((i3 r hr).elim (fun h => ?_) (habs r))
          rw [← List.append_assoc]; exact has_mono_append h
        · exact .inr hr)
    exact ⟨o1, o2, fun r hr => o3 r (List.mem_append_left _ hr)⟩

theorem pull_spec {src dst : Store} {targets : List Addr} {out : List (Addr × Chunk)}
    (h : pull src dst targets = .ok out) :
    (∀ p ∈ out, get src p.1 = some p.2 ∧ has dst p.1 = false) ∧
    (∀ p ∈ out, ∀ r ∈ p.2.refs, has (dst ++ out) r = true) ∧
    (∀ t ∈ targets, has (dst ++ out) t = true) := by
  obtain ⟨_, h⟩ := ok_of_ite h
  split at h
  · rename_i hall
    cases h
    exact ⟨nofun, nofun, fun t ht =>
      has_mono_append (List.all_eq_true.1 hall t (List.mem_eraseDups.mpr ht))⟩
  · obtain ⟨o1, o2, o3⟩ := pullLoop_spec src dst _ _ _ _ _ h nofun nofun fun r hr => .inr hr
    exact ⟨o1, o2, fun t ht => o3 t (List.mem_eraseDups.mpr ht)⟩

theorem closed_append {dst out : Store} (hcl : Closed dst)
    (hout : ∀ p ∈ out, ∀ r ∈ p.2.refs, has (dst ++ out) r = true) : Closed (dst ++ out) := by
  intro a c hg r hr
  rcases get_append_cases hg with h | ⟨_, h⟩
  · exact has_mono_append (hcl a c h r hr)
  · exact hout _ (mem_of_get h) r hr

theorem closed_grow {d e y : Store} (h1 : Closed (d ++ e)) (h2 : Closed (d ++ y)) :
    Closed ((d ++ e) ++ y) := by
  intro a c hg r hr
  rcases get_append_cases hg with h | ⟨hde, h⟩
  · exact has_mono_append (h1 a c h r hr)
  · have hd : has d a = false := by rw [has_append, Bool.or_eq_false_iff] at hde; exact hde.1
    have := h2 a c (by rw [get_append_of_not_has hd]; exact h) r hr
    rw [has_append, Bool.or_eq_true] at this
    exact this.elim (fun h => has_mono_append (has_mono_append h)) fun h => by rw [has_append, h, Bool.or_true]

theorem reach_present {src s : Store} (hag : Agree src s) (hc : Closed s) {a b : Addr} (ha : has s a = true)
    (hr : Reach src a b) : has s b = true := by
  induction hr with
  | refl => exact ha
  | step hg hm _ ih =>
    obtain ⟨c', hc'⟩ := has_iff_get.1 ha
    exact ih (hc _ _ hc' _ (hag _ _ _ hg hc' ▸ hm))

theorem complete_of_closed {s : Store} (hc : Closed s) {h b : Addr} (hh : has s h = true)
    (hr : Reach s h b) : has s b = true :=
  reach_present (fun _ _ _ h1 h2 => Option.some.inj (h1.symm.trans h2)) hc hh hr

theorem lookup_setRef_same (refs : List (Name × Addr)) (n : Name) (h : Addr) :
    (setRef refs n h).lookup n = some h := List.lookup_cons_self

theorem lookup_setRef_other (refs : List (Name × Addr)) (n m : Name) (h : Addr) (hne : m ≠ n) :
    (setRef refs n h).lookup m = refs.lookup m := lookup_cons_filter_ne refs h hne

theorem mem_setRef {refs : List (Name × Addr)} {n : Name} {h : Addr} {p : Name × Addr}
    (hp : p ∈ setRef refs n h) : p = (n, h) ∨ p ∈ refs :=
  (List.mem_cons.1 hp).imp_right fun h => (List.mem_filter.1 h).1

/-- decidable sufficient tests, used for concrete examples -/
def closedB (s : Store) : Bool := s.all (fun p => p.2.refs.all (fun r => has s r))
def agreeB (s t : Store) : Bool :=
  s.all (fun p => match get t p.1 with | some c' => p.2 == c' | none => true)

theorem closedB_sound {s : Store} (h : closedB s = true) : Closed s := by
  intro a c hg r hr
  unfold closedB at h
  rw [List.all_eq_true] at h
  have := h _ (mem_of_get hg)
  rw [List.all_eq_true] at this
  exact this r hr

theorem agreeB_sound {s t : Store} (h : agreeB s t = true) : Agree s t := by
  intro a c c' hs ht
  unfold agreeB at h
  rw [List.all_eq_true] at h
  have := h _ (mem_of_get hs)
  simp only [ht] at this
  simpa using this

end DoltVerif.Puller
