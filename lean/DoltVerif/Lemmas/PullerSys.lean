import DoltVerif.Lemmas.Puller
/-! The interleaved transfer system of C35: the invariants `DInv`/`XInv`/`Inv`, what one step (`StepOK`, `xstep_ok`)
and a whole run (`Evolves`, `run_ok`) guarantee. -/
namespace DoltVerif.Puller

theorem cutFiles_flatten (n : Nat) : ∀ (fuel : Nat) (cs : List (Addr × Chunk)),
    cs.length ≤ fuel → (cutFiles n fuel cs).flatten = cs := by
  intro fuel
  induction fuel with
  | zero => intro cs h; cases cs with
    | nil => simp [cutFiles]
    | cons _ _ => simp at h
  | succ m ih =>
    intro cs h
    cases cs with
    | nil => simp [cutFiles]
    | cons c cs =>
      simp only [cutFiles, List.flatten_cons]
      rw [ih]
      · exact List.take_append_drop _ _
      · simp only [List.length_drop, List.length_cons] at *
        omega

theorem tableFiles_flatten (n : Nat) (cs : List (Addr × Chunk)) : (tableFiles n cs).flatten = cs :=
  cutFiles_flatten n cs.length cs (Nat.le_refl _)

/-- `s` is a partial view of the global address → chunk function `U` (content addressing). -/
def Sub (U : Addr → Chunk) (s : Store) : Prop := ∀ a c, get s a = some c → c = U a

theorem Sub.agree {U : Addr → Chunk} {s t : Store} (hs : Sub U s) (ht : Sub U t) : Agree s t := by
  intro a c c' h1 h2; rw [hs a c h1, ht a c' h2]

theorem Sub.append {U : Addr → Chunk} {s e : Store} (hs : Sub U s) (he : ∀ p ∈ e, p.2 = U p.1) :
    Sub U (s ++ e) := by
  intro a c hg
  rcases get_append_cases hg with h | ⟨_, h⟩
  · exact hs a c h
  · exact he _ (mem_of_get h)

structure DInv (U : Addr → Chunk) (d : Dest) : Prop where
  sub : Sub U d.chunks
  closed : Closed d.chunks
  refsOk : ∀ p ∈ d.refs, has d.chunks p.2 = true

/-- transfer `x`'s private data (source, plan, checked head, remaining updates) is consistent with `d` -/
structure XInv (U : Addr → Chunk) (d : Dest) (x : Xfer) : Prop where
  srcOk : Sub U x.src
  planOk : ∀ fs k, x.phase = .planned fs k →
    Closed (d.chunks ++ fs.flatten) ∧ ∀ p ∈ fs.flatten, p.2 = U p.1
  checkedOk : ∀ h0 n t rest, x.phase = .checked h0 ((n, t) :: rest) →
    has d.chunks t = true ∧ ∀ h, h0 = some h → Anc d.chunks h t
  restOk : ∀ rest, (x.phase = .added rest ∨ ∃ h0, x.phase = .checked h0 rest) → ∀ u ∈ rest, u ∈ x.updates

/-- what `XInv` demands of a transfer in phase `ph` against destination chunks `s` -/
def PhaseOk (U : Addr → Chunk) (s : Store) (upd : List (Name × Addr)) : Phase → Prop
  | .planned fs _ => Closed (s ++ fs.flatten) ∧ ∀ p ∈ fs.flatten, p.2 = U p.1
  | .added rest => ∀ u ∈ rest, u ∈ upd
  | .checked _ [] => True
  | .checked h0 ((n, t) :: rest) =>
    (∀ u ∈ (n, t) :: rest, u ∈ upd) ∧ has s t = true ∧ ∀ h, h0 = some h → Anc s h t
  | _ => True

theorem xinv_iff {U : Addr → Chunk} {d : Dest} {x : Xfer} :
    XInv U d x ↔ Sub U x.src ∧ PhaseOk U d.chunks x.updates x.phase := by
  obtain ⟨src, upd, force, sz, ph⟩ := x
  constructor
  · intro ⟨h1, h2, h3, h4⟩
    refine ⟨h1, ?_⟩
    cases ph with
    | planned fs k => exact h2 fs k rfl
    | added rest => exact h4 rest (.inl rfl)
    | checked h0 rest =>
      cases rest with
      | nil => trivial
      | cons u rest => exact ⟨h4 _ (.inr ⟨h0, rfl⟩), h3 h0 u.1 u.2 rest rfl⟩
    | init | prechecked | done | failed => trivial
  · intro ⟨h1, h2⟩
    refine ⟨h1, ?_, ?_, ?_⟩
    · rintro fs k rfl; exact h2
    · rintro h0 n t rest rfl; exact h2.2
    · rintro rest (rfl | ⟨h0, rfl⟩)
      · exact h2
      · cases rest with
        | nil => intro u hu; cases hu
        | cons u rest => exact h2.1

theorem PhaseOk.grow {U : Addr → Chunk} {s e : Store} {upd : List (Name × Addr)} {ph : Phase}
    (h : PhaseOk U s upd ph) (hc : Closed (s ++ e)) : PhaseOk U (s ++ e) upd ph := by
  cases ph with
  | planned fs k => exact ⟨closed_grow hc h.1, h.2⟩
  | added rest => exact h
  | checked h0 rest =>
    cases rest with
    | nil => trivial
    | cons u rest => exact ⟨h.1, has_mono_append h.2.1, fun a ha => (h.2.2 a ha).mono_append⟩
  | init | prechecked | done | failed => trivial

structure StepOK (U : Addr → Chunk) (d : Dest) (x : Xfer) (d' : Dest) (x' : Xfer) : Prop where
  dinv : DInv U d'
  xinv : XInv U d' x'
  grows : ∃ e, d'.chunks = d.chunks ++ e
  same : x'.updates = x.updates ∧ x'.force = x.force
  prov : ∀ p ∈ d'.refs, p ∈ d.refs ∨ p ∈ x.updates
  mono : x.force = false → ∀ n h, head d n = some h → ∃ h', head d' n = some h' ∧ Anc d'.chunks h h'
  /-- nothing becomes visible before the single AddTableFilesToManifest -/
  invisible : (∀ fs k, x.phase = .planned fs k → k < fs.length) → d'.chunks = d.chunks

section
variable {U : Addr → Chunk} {d : Dest} {x : Xfer}

theorem stepOK_quiet (hd : DInv U d) (hx : XInv U d x) (pend : List Store) {ph : Phase}
    (h : PhaseOk U d.chunks x.updates ph) :
    StepOK U d x { d with pending := pend } { x with phase := ph } :=
  ⟨⟨hd.sub, hd.closed, hd.refsOk⟩, xinv_iff.2 ⟨hx.srcOk, h⟩, ⟨[], (List.append_nil _).symm⟩, ⟨rfl, rfl⟩,
    fun _ hp => .inl hp, fun _ _ h hh => ⟨h, hh, .refl _⟩, fun _ => rfl⟩

theorem stepOK_refl (hd : DInv U d) (hx : XInv U d x) : StepOK U d x d x :=
  stepOK_quiet hd hx d.pending (xinv_iff.1 hx).2

theorem stepOK_setRef (hd : DInv U d) (hx : XInv U d x) {n : Name} {t : Addr} {rest : List (Name × Addr)}
    (hrest : ∀ u ∈ (n, t) :: rest, u ∈ x.updates) (ht : has d.chunks t = true)
    (hanc : x.force = false → ∀ h, head d n = some h → Anc d.chunks h t) :
    StepOK U d x { d with refs := setRef d.refs n t, rootSet := true } { x with phase := .added rest } := by
  refine ⟨⟨hd.sub, hd.closed, ?_⟩, xinv_iff.2 ⟨hx.srcOk, fun u hu => hrest u (List.mem_cons_of_mem _ hu)⟩,
    ⟨[], (List.append_nil _).symm⟩, ⟨rfl, rfl⟩, ?_, ?_, fun _ => rfl⟩
  · intro p hp
    rcases mem_setRef hp with rfl | hp
    · exact ht
    · exact hd.refsOk p hp
  · intro p hp
    rcases mem_setRef hp with rfl | hp
    · exact .inr (hrest _ (List.mem_cons_self ..))
    · exact .inl hp
  · intro hf m h hm
    by_cases hmn : m = n
    · subst hmn; exact ⟨t, lookup_setRef_same .., hanc hf h hm⟩
    · exact ⟨h, (lookup_setRef_other _ _ _ _ hmn).trans hm, .refl _⟩

end

theorem addFiles_ok {d d' : Dest} {fs : List Store} (h : addFiles d fs = .ok d') :
    d' = { d with chunks := d.chunks ++ fs.flatten } :=
  (Except.ok.inj (ok_of_ite h).2).symm

theorem setHead_ok {d d' : Dest} {n : Name} {t : Addr} (h : setHead d n t = .ok d') :
    has d.chunks t = true ∧ d' = { d with refs := setRef d.refs n t, rootSet := true } := by
  obtain ⟨ht, h⟩ := ok_of_ite h
  exact ⟨by simpa using ht, (Except.ok.inj h).symm⟩

theorem ffCheck_ok {d : Dest} {n : Name} {t : Addr} {h0 : Option Addr} (h : ffCheck d n t = .ok h0) :
    h0 = head d n ∧ has d.chunks t = true ∧ ∀ a, h0 = some a → Anc d.chunks a t := by
  revert h
  fun_cases ffCheck d n t <;> intro h <;> cases h
  next ht hn => exact ⟨hn.symm, by simpa using ht, nofun⟩
  next ht a hn hanc => exact ⟨hn.symm, by simpa using ht, fun b hb => Option.some.inj hb ▸ isAnc_sound _ _ _ hanc⟩

theorem ffCas_ok {d d' : Dest} {n : Name} {t : Addr} {h0 : Option Addr} (h : ffCas d n h0 t = .ok d') :
    head d n = h0 ∧ ((h0 = some t ∧ d' = d) ∨ (h0 ≠ some t ∧ d' = { d with refs := setRef d.refs n t, rootSet := true })) := by
  obtain ⟨hh, h⟩ := ok_of_ite h
  refine ⟨by simpa using hh, ?_⟩
  split at h
  · rename_i ht
    exact .inl ⟨by simpa using ht, (Except.ok.inj h).symm⟩
  · rename_i ht
    exact .inr ⟨by simpa using ht, (Except.ok.inj h).symm⟩

theorem pull_plan {U : Addr → Chunk} {src dst : Store} {ts : List Addr} {cs : List (Addr × Chunk)}
    (hsrc : Sub U src) (hcl : Closed dst) (h : pull src dst ts = .ok cs) (upd : List (Name × Addr)) (n k : Nat) :
    PhaseOk U dst upd (.planned (tableFiles n cs) k) := by
  obtain ⟨o1, o2, _⟩ := pull_spec h
  rw [PhaseOk, tableFiles_flatten]
  exact ⟨closed_append hcl o2, fun p hp => hsrc _ _ (o1 p hp).1⟩

theorem xstep_ok {U : Addr → Chunk} {d : Dest} {x : Xfer} (hd : DInv U d) (hx : XInv U d x) (f : Bool) :
    StepOK U d x (xstep d x f).1 (xstep d x f).2 := by
  have quiet {ph : Phase} (h : PhaseOk U d.chunks x.updates ph) : StepOK U d x d { x with phase := ph } :=
    stepOK_quiet hd hx d.pending h
  have hph := (xinv_iff.1 hx).2
  -- one goal per path through `xstep`, with the phase and the outcome of the destination's operation as hypotheses;
  -- most paths leave the destination alone and enter a phase of which `PhaseOk` asks nothing
  fun_cases xstep d x f
  all_goals try exact quiet trivial
  all_goals try exact stepOK_refl hd hx
  next => exact quiet fun _ hu => hu
  next hp => exact quiet (pull_plan hx.srcOk hd.closed hp ..)
  next fs k hk _ _ =>
    -- upload the next file
    rw [hk] at hph
    exact stepOK_quiet hd hx _ hph
  next fs k hk hnone d' hadd =>
    -- AddTableFilesToManifest once all are uploaded
    rw [hk] at hph
    cases addFiles_ok hadd
    refine ⟨⟨hd.sub.append hph.2, hph.1, fun p hp => has_mono_append (hd.refsOk p hp)⟩,
      xinv_iff.2 ⟨hx.srcOk, fun _ hu => hu⟩, ⟨_, rfl⟩, ⟨rfl, rfl⟩, fun _ hp => .inl hp,
      fun _ _ h hh => ⟨h, hh, .refl _⟩, fun hlt => ?_⟩
    have := hlt fs k hk
    rw [List.getElem?_eq_none_iff] at hnone
    omega
  next n t rest hk hforce d' hset =>
    -- SetHead when forced
    rw [hk] at hph
    obtain ⟨ht, rfl⟩ := setHead_ok hset
    exact stepOK_setRef hd hx hph ht fun hf => by rw [hforce] at hf; cases hf
  next n t rest hk _ h0 hchk =>
    -- else the first half of FastForward
    rw [hk] at hph
    exact quiet ⟨hph, (ffCheck_ok hchk).2⟩
  next h0 n t rest hk d' hcas =>
    -- the compare-and-swap
    rw [hk] at hph
    obtain ⟨hhead, ⟨_, rfl⟩ | ⟨_, rfl⟩⟩ := ffCas_ok hcas
    · exact quiet fun u hu => hph.1 u (List.mem_cons_of_mem _ hu)
    · exact stepOK_setRef hd hx hph.1 hph.2.1 fun _ h hh => hph.2.2 h (hhead ▸ hh)

theorem xinv_grow {U : Addr → Chunk} {d d' : Dest} {y : Xfer} (hy : XInv U d y)
    (hg : ∃ e, d'.chunks = d.chunks ++ e) (hc : Closed d'.chunks) : XInv U d' y := by
  obtain ⟨e, he⟩ := hg
  rw [he] at hc
  rw [xinv_iff, he]
  exact ⟨hy.srcOk, (xinv_iff.1 hy).2.grow hc⟩

structure Inv (U : Addr → Chunk) (s : System) : Prop where
  dinv : DInv U s.dest
  xinv : ∀ x ∈ s.xfers, XInv U s.dest x

structure Evolves (U : Addr → Chunk) (s s' : System) : Prop where
  inv : Inv U s'
  grows : ∃ e, s'.dest.chunks = s.dest.chunks ++ e
  upd : ∀ p, (∃ x ∈ s'.xfers, p ∈ x.updates) → ∃ x ∈ s.xfers, p ∈ x.updates
  force : (∀ x ∈ s.xfers, x.force = false) → ∀ x ∈ s'.xfers, x.force = false
  prov : ∀ p ∈ s'.dest.refs, p ∈ s.dest.refs ∨ ∃ x ∈ s.xfers, p ∈ x.updates
  mono : (∀ x ∈ s.xfers, x.force = false) → ∀ n h, head s.dest n = some h →
    ∃ h', head s'.dest n = some h' ∧ Anc s'.dest.chunks h h'

theorem Evolves.refl {U : Addr → Chunk} {s : System} (hi : Inv U s) : Evolves U s s :=
  ⟨hi, ⟨[], (List.append_nil _).symm⟩, fun _ h => h, fun h => h, fun _ hp => .inl hp,
    fun _ _ h hh => ⟨h, hh, .refl _⟩⟩

theorem Evolves.trans {U : Addr → Chunk} {s s' s'' : System} (h1 : Evolves U s s') (h2 : Evolves U s' s'') :
    Evolves U s s'' := by
  obtain ⟨e2, he2⟩ := h2.grows
  refine ⟨h2.inv, ?_, fun p hp => h1.upd p (h2.upd p hp), fun hall => h2.force (h1.force hall), ?_, ?_⟩
  · obtain ⟨e1, he1⟩ := h1.grows
    exact ⟨e1 ++ e2, by rw [he2, he1, List.append_assoc]⟩
  · intro p hp
    rcases h2.prov p hp with h | h
    · exact h1.prov p h
    · exact .inr (h1.upd p h)
  · intro hall n h hh
    obtain ⟨h', hh', ha⟩ := h1.mono hall n h hh
    obtain ⟨h'', hh'', ha'⟩ := h2.mono (h1.force hall) n h' hh'
    exact ⟨h'', hh'', (he2 ▸ ha.mono_append).trans ha'⟩

theorem sysStep_ok {U : Addr → Chunk} {s : System} (hi : Inv U s) (i : Nat) (f : Bool) :
    Evolves U s (sysStep s i f) := by
  fun_cases sysStep s i f
  next => exact .refl hi
  next x hx d' x' hxs =>
    have hxm : x ∈ s.xfers := List.mem_of_getElem? hx
    have hstep := xstep_ok hi.dinv (hi.xinv x hxm) f
    rw [hxs] at hstep
    refine ⟨⟨hstep.dinv, ?_⟩, hstep.grows, ?_, ?_, ?_, ?_⟩
    · intro y hy
      rcases List.mem_or_eq_of_mem_set hy with hy | rfl
      · exact xinv_grow (hi.xinv y hy) hstep.grows hstep.dinv.closed
      · exact hstep.xinv
    · intro p ⟨y, hy, hp⟩
      rcases List.mem_or_eq_of_mem_set hy with hy | rfl
      · exact ⟨y, hy, hp⟩
      · exact ⟨x, hxm, hstep.same.1 ▸ hp⟩
    · intro hall y hy
      rcases List.mem_or_eq_of_mem_set hy with hy | rfl
      · exact hall y hy
      · exact hstep.same.2.trans (hall x hxm)
    · intro p hp
      exact (hstep.prov p hp).imp_right fun h => ⟨x, hxm, h⟩
    · intro hall n h hh
      exact hstep.mono (hall x hxm) n h hh

theorem run_ok {U : Addr → Chunk} {s : System} (hi : Inv U s) (sched : List (Nat × Bool)) :
    Evolves U s (run s sched) := by
  induction sched generalizing s with
  | nil => exact .refl hi
  | cons a sched ih => exact (sysStep_ok hi a.1 a.2).trans (ih (sysStep_ok hi a.1 a.2).inv)

theorem run_append (s : System) (a b : List (Nat × Bool)) : run s (a ++ b) = run (run s a) b := by
  induction a generalizing s with
  | nil => rfl
  | cons x a ih => exact ih _

def subB (U : Addr → Chunk) (s : Store) : Bool := s.all (fun p => p.2 == U p.1)

theorem subB_sound {U : Addr → Chunk} {s : Store} (h : subB U s = true) : Sub U s := by
  intro a c hg
  unfold subB at h
  rw [List.all_eq_true] at h
  simpa using h _ (mem_of_get hg)

end DoltVerif.Puller
