import DoltVerif.Model.Query
/-! Helper lemmas for C26: cell order, per-field correctness of the SQL→prolly range conversion, the order of key
tuples (of any lengths), monotonicity of the partition predicates and what the two of them select (`contigPrefix`),
the post-filter and slice lemmas, the order of range cuts. -/
namespace DoltVerif.Query


theorem clt_irrefl (a : Cell) : clt a a = false := by cases a <;> simp [clt]
theorem clt_trans {a b c : Cell} (h1 : clt a b = true) (h2 : clt b c = true) : clt a c = true := by
  cases a <;> cases b <;> cases c <;> simp [clt] at * <;> omega
theorem clt_asymm {a b : Cell} (h : clt a b = true) : clt b a = false := by
  cases a <;> cases b <;> simp [clt] at * <;> omega
theorem clt_total (a b : Cell) : a = b ∨ clt a b = true ∨ clt b a = true := by
  cases a <;> cases b <;> simp [clt] <;> omega

theorem clt_of_lt_of_le {a b c : Cell} (h1 : clt a b = true) (h2 : clt c b = false) : clt a c = true := by
  rcases clt_total b c with e | e | e
  · subst e; exact h1
  · exact clt_trans h1 e
  · rw [e] at h2; cases h2

theorem clt_of_le_of_lt {a b c : Cell} (h1 : clt b a = false) (h2 : clt b c = true) : clt a c = true := by
  rcases clt_total a b with e | e | e
  · subst e; exact h2
  · exact clt_trans e h2
  · rw [e] at h1; cases h1

theorem ccmp_neg {a b : Cell} : ccmp a b < 0 ↔ clt a b = true := by
  unfold ccmp; by_cases h : clt a b = true
  · simp [h]
  · by_cases h2 : clt b a = true <;> simp [h, h2]
theorem ccmp_pos {a b : Cell} : ccmp a b > 0 ↔ clt b a = true := by
  unfold ccmp; by_cases h : clt a b = true
  · simp [h, clt_asymm h]
  · by_cases h2 : clt b a = true <;> simp [h, h2]
theorem ccmp_zero {a b : Cell} : ccmp a b = 0 ↔ a = b := by
  unfold ccmp
  rcases clt_total a b with h | h | h
  · subst h; simp [clt_irrefl]
  · have hne : a ≠ b := fun e => by subst e; simp [clt_irrefl] at h
    simp [h, hne]
  · have hne : a ≠ b := fun e => by subst e; simp [clt_irrefl] at h
    simp [h, clt_asymm h, hne]

theorem ccmp_beq_zero (a b : Cell) : (ccmp a b == 0) = decide (a = b) := by
  by_cases h : a = b
  · simp [h, ccmp_zero.mpr rfl]
  · have : ccmp a b ≠ 0 := fun e => h (ccmp_zero.mp e)
    simp [h, this]


/-- the lower-bound and the upper-bound test of `Range.Matches` -/
def aboveLo (b : Bound) (v : Cell) : Bool := !(b.binding && (ccmp v b.value < 0 || (ccmp v b.value == 0 && !b.inclusive)))
def belowHi (b : Bound) (v : Cell) : Bool := !(b.binding && (ccmp v b.value > 0 || (ccmp v b.value == 0 && !b.inclusive)))

/-- the per-field test of `Range.Matches` -/
def fieldMatches (f : RangeField) (v : Cell) : Bool :=
  if f.boundsAreEqual then ccmp v f.lo.value == 0 else aboveLo f.lo v && belowHi f.hi v

theorem rmatches_cons (f : RangeField) (fs : List RangeField) (t : Tuple) :
    rmatches (f :: fs) t = (fieldMatches f (headCell t) && rmatches fs t.tail) := by
  simp only [rmatches, fieldMatches, aboveLo, belowHi]
  by_cases h1 : f.boundsAreEqual = true
  · simp only [h1, if_true]
    by_cases h2 : (ccmp (headCell t) f.lo.value == 0) = true <;> simp [h2]
  · simp only [h1, Bool.false_eq_true, if_false]
    by_cases h2 : (f.lo.binding && (decide (ccmp (headCell t) f.lo.value < 0) || (ccmp (headCell t) f.lo.value == 0 && !f.lo.inclusive))) = true
    · simp [h2]
    · by_cases h3 : (f.hi.binding && (decide (ccmp (headCell t) f.hi.value > 0) || (ccmp (headCell t) f.hi.value == 0 && !f.hi.inclusive))) = true
      · simp [h2, h3]
      · simp [h2, h3]

/-- `AboveAll` gives no binding bound, hence the hypothesis; it only occurs as the lower cut of an empty column -/
theorem aboveLo_cut (c : Cut) (v : Cell) (hc : c ≠ .aboveAll) :
    aboveLo (if cutIsBinding c then ⟨cutValue c, true, lowerClosed c⟩ else ⟨none, false, false⟩) v = aboveCut c v := by
  cases c <;> cases v <;> simp [aboveLo, aboveCut, cutIsBinding, cutValue, lowerClosed, ccmp_neg, ccmp_beq_zero, clt] at hc ⊢
  all_goals (rw [Bool.eq_iff_iff]; simp <;> omega)

theorem belowHi_cut (c : Cut) (v : Cell) (hc : c ≠ .belowNull) :
    belowHi (if cutIsBinding c then ⟨cutValue c, true, upperClosed c⟩ else ⟨none, false, false⟩) v = !aboveCut c v := by
  cases c <;> cases v <;> simp [belowHi, aboveCut, cutIsBinding, cutValue, upperClosed, ccmp_pos, ccmp_beq_zero, clt] at hc ⊢
  all_goals (rw [Bool.eq_iff_iff]; simp <;> omega)

theorem toField_boundsAreEqual (e : ColExpr) (hne : colNonEmpty e = true) (h : (toField e).boundsAreEqual = true) :
    ∃ k, e = ⟨.below k, .above k⟩ := by
  obtain ⟨lo, hi⟩ := e
  have hb : cutIsBinding lo = true ∧ cutIsBinding hi = true ∧ cutValue hi = cutValue lo := by
    cases hl : cutIsBinding lo <;> cases hh : cutIsBinding hi <;> simp [toField, hl, hh, ccmp_beq_zero] at h ⊢
    exact h
  obtain ⟨hl, hh, hv⟩ := hb
  -- of the nine pairs of binding cuts with one value only `Below k < Above k` is in order
  cases lo <;> simp [cutIsBinding] at hl
  all_goals cases hi <;> simp [cutIsBinding] at hh
  all_goals simp [colNonEmpty, cutLt, cutPos, cutValue] at hne hv ⊢
  all_goals omega

theorem member_point (k : Int) (v : Cell) : member ⟨.below k, .above k⟩ v = decide (v = some k) := by
  cases v with
  | none => rfl
  | some x => simp only [member, aboveCut]; rw [Bool.eq_iff_iff]; simp; omega

/-- NULL included: `IS NULL` is (BelowNull, AboveNull], while `IS NOT NULL` and every `<`,`≤` range start above NULL. -/
theorem fieldMatches_toField (e : ColExpr) (v : Cell) (h : colNonEmpty e = true) :
    fieldMatches (toField e) v = member e v := by
  by_cases hbe : (toField e).boundsAreEqual = true
  · obtain ⟨k, rfl⟩ := toField_boundsAreEqual e h hbe
    rw [fieldMatches, if_pos hbe, ccmp_beq_zero, member_point]
    rfl
  · obtain ⟨lo, hi⟩ := e
    have hlo : lo ≠ .aboveAll := by rintro rfl; cases hi <;> simp [colNonEmpty, cutLt, cutPos] at h
    have hhi : hi ≠ .belowNull := by rintro rfl; cases lo <;> simp [colNonEmpty, cutLt, cutPos] at h
    rw [fieldMatches, if_neg hbe]
    exact congr (congrArg and (aboveLo_cut lo v hlo)) (belowHi_cut hi v hhi)
theorem rmatches_toProlly (r : List ColExpr) (hne : rangeNonEmpty r = true) : rmatches (toProlly r).fields = memberAll r := by
  funext t
  show rmatches (r.map toField) t = memberAll r t
  induction r generalizing t with
  | nil => rfl
  | cons e es ih =>
    simp only [rangeNonEmpty, List.all_cons, Bool.and_eq_true] at hne
    simp only [List.map_cons, rmatches_cons, memberAll, fieldMatches_toField e _ hne.1]
    rw [ih (by simpa [rangeNonEmpty] using hne.2) t.tail]


/-- what `toField` guarantees and the partition lemmas need -/
structure WFField (f : RangeField) : Prop where
  eqVals : f.boundsAreEqual = true → f.hi.value = f.lo.value ∧ f.hi.binding = true ∧ f.lo.binding = true

theorem wf_toField (e : ColExpr) : WFField (toField e) := by
  constructor
  intro h
  simp only [toField, Bool.and_eq_true, ccmp_beq_zero, decide_eq_true_eq] at h
  exact ⟨h.1.1, h.1.2, h.2⟩

theorem wf_fields (r : List ColExpr) : ∀ f ∈ r.map toField, WFField f := by
  intro f hf
  obtain ⟨e, _, rfl⟩ := List.mem_map.mp hf
  exact wf_toField e


theorem tle_cons (a b : Cell) (as bs : Tuple) : tle (a :: as) (b :: bs) = (clt a b || (a == b && tle as bs)) := rfl

theorem tle_nil (t : Tuple) : tle [] t = true := by cases t <;> rfl

theorem headCell_cons (a : Cell) (as : Tuple) : headCell (a :: as) = a := rfl

/-- lexicographic on the cells, a missing cell reads as NULL on either side -/
theorem tle_step : ∀ (t t' : Tuple), t ≠ [] →
    tle t t' = (clt (headCell t) (headCell t') || (headCell t == headCell t' && tle t.tail t'.tail))
  | [], _, h => absurd rfl h
  | a :: as, [], _ => by cases a <;> rfl
  | a :: as, b :: bs, _ => rfl

theorem tle_head_tail {t t' : Tuple} (h : tle t t' = true) :
    clt (headCell t) (headCell t') = true ∨ (headCell t = headCell t' ∧ tle t.tail t'.tail = true) := by
  cases t with
  | nil =>
    cases t' with
    | nil => exact Or.inr ⟨rfl, rfl⟩
    | cons b bs => cases b <;> simp [headCell, clt, tle]
  | cons a as => simpa [tle_step (a :: as) t' (by simp)] using h

theorem tle_trans : ∀ {a t t' : Tuple}, tle a t = true → tle t t' = true → tle a t' = true
  | [], _, t', _, _ => tle_nil t'
  | a0 :: as, t, t', h3, h4 => by
    rw [tle_step _ _ (by simp), Bool.or_eq_true, Bool.and_eq_true, beq_iff_eq] at h3 ⊢
    rcases h3 with h3 | ⟨e3, h3⟩
    · rcases tle_head_tail h4 with h4 | ⟨e4, _⟩
      · exact Or.inl (clt_trans h3 h4)
      · exact Or.inl (e4 ▸ h3)
    · rcases tle_head_tail h4 with h4 | ⟨e4, h4⟩
      · exact Or.inl (e3 ▸ h4)
      · exact Or.inr ⟨e3.trans e4, tle_trans h3 h4⟩

theorem aboveStart_of_gt {f : RangeField} (fs : List RangeField) {t : Tuple} (h : clt f.lo.value (headCell t) = true) :
    aboveStart (f :: fs) t = true := by
  have h0 := ccmp_pos.mpr h
  have h1 : ¬ ccmp (headCell t) f.lo.value < 0 := by omega
  have h2 : ¬ ccmp (headCell t) f.lo.value = 0 := by omega
  simp [aboveStart, h0, h1, h2]

theorem belowStop_of_lt {f : RangeField} (fs : List RangeField) {t : Tuple} (h : clt (headCell t) f.hi.value = true) :
    belowStop (f :: fs) t = true := by
  have h0 := ccmp_neg.mpr h
  have h1 : ¬ ccmp (headCell t) f.hi.value > 0 := by omega
  have h2 : ¬ ccmp (headCell t) f.hi.value = 0 := by omega
  simp [belowStop, h0, h1, h2]

/-- Branch by branch of `Range.aboveStart`: a strictly larger head cell is strictly above the bound value
(`aboveStart_of_gt`), an equal one takes the same branch. -/
theorem aboveStart_mono (fs : List RangeField) (t : Tuple) : ∀ t' : Tuple,
    tle t t' = true → aboveStart fs t = true → aboveStart fs t' = true := by
  fun_induction aboveStart fs t with
  | case1 => intros; rfl
  | case2 f fs t hb => intro t' _ _; simp [aboveStart, hb]
  | case3 => intro _ _ h; cases h
  | case4 f fs t hb c hc heq ih =>
    intro t' hle h
    rcases tle_head_tail hle with hlt | ⟨he, hle'⟩
    · exact aboveStart_of_gt fs (clt_of_le_of_lt (by simpa [c, ccmp_neg] using hc) hlt)
    · rw [aboveStart, ← he, if_neg hb, if_neg hc, if_pos heq]
      exact ih _ hle' h
  | case5 f fs t hb c hc heq =>
    intro t' hle h
    rcases tle_head_tail hle with hlt | ⟨he, _⟩
    · exact aboveStart_of_gt fs (clt_of_le_of_lt (by simpa [c, ccmp_neg] using hc) hlt)
    · rw [aboveStart, ← he, if_neg hb, if_neg hc, if_neg heq]
      exact h

theorem belowStop_anti (fs : List RangeField) (t t' : Tuple) :
    tle t t' = true → belowStop fs t' = true → belowStop fs t = true := by
  fun_induction belowStop fs t' generalizing t with
  | case1 => intros; rfl
  | case2 f fs t' hb => intro _ _; simp [belowStop, hb]
  | case3 => intro _ h; cases h
  | case4 f fs t' hb c hc heq ih =>
    intro hle h
    rcases tle_head_tail hle with hlt | ⟨he, hle'⟩
    · exact belowStop_of_lt fs (clt_of_lt_of_le hlt (by simpa [c, ccmp_pos] using hc))
    · rw [belowStop, he, if_neg hb, if_neg hc, if_pos heq]
      exact ih _ hle' h
  | case5 f fs t' hb c hc heq =>
    intro hle h
    rcases tle_head_tail hle with hlt | ⟨he, _⟩
    · exact belowStop_of_lt fs (clt_of_lt_of_le hlt (by simpa [c, ccmp_pos] using hc))
    · rw [belowStop, he, if_neg hb, if_neg hc, if_neg heq]
      exact h


theorem aboveStart_cons (f : RangeField) (fs : List RangeField) (t : Tuple) :
    aboveStart (f :: fs) t =
      if (f.lo.binding && f.boundsAreEqual && ccmp (headCell t) f.lo.value == 0) = true then aboveStart fs t.tail
      else aboveLo f.lo (headCell t) := by
  simp only [aboveStart, aboveLo]
  by_cases hb : f.lo.binding = true
  case neg => simp [hb]
  rcases Int.lt_trichotomy (ccmp (headCell t) f.lo.value) 0 with h | h | h
  · have : ¬ ccmp (headCell t) f.lo.value = 0 := by omega
    simp [hb, h, this]
  · simp [hb, h]
  · have h1 : ¬ ccmp (headCell t) f.lo.value < 0 := by omega
    have h2 : ¬ ccmp (headCell t) f.lo.value = 0 := by omega
    simp [hb, h, h1, h2]

theorem belowStop_cons (f : RangeField) (fs : List RangeField) (t : Tuple) :
    belowStop (f :: fs) t =
      if (f.hi.binding && f.boundsAreEqual && ccmp (headCell t) f.hi.value == 0) = true then belowStop fs t.tail
      else belowHi f.hi (headCell t) := by
  simp only [belowStop, belowHi]
  by_cases hb : f.hi.binding = true
  case neg => simp [hb]
  rcases Int.lt_trichotomy (ccmp (headCell t) f.hi.value) 0 with h | h | h
  · have h1 : ¬ ccmp (headCell t) f.hi.value > 0 := by omega
    have h2 : ¬ ccmp (headCell t) f.hi.value = 0 := by omega
    simp [hb, h, h1, h2]
  · simp [hb, h]
  · have : ¬ ccmp (headCell t) f.hi.value = 0 := by omega
    simp [hb, h, this]

/-- the fields the two searches look at: up to and including the first whose bounds differ -/
def contigPrefix : List RangeField → List RangeField
  | [] => []
  | f :: fs => if f.boundsAreEqual then f :: contigPrefix fs else [f]

theorem bounds_eq_rmatches : ∀ (fs : List RangeField) (t : Tuple), (∀ f ∈ fs, WFField f) →
    (aboveStart fs t && belowStop fs t) = rmatches (contigPrefix fs) t
  | [], _, _ => rfl
  | f :: fs, t, hw => by
    rw [aboveStart_cons, belowStop_cons, contigPrefix]
    by_cases he : f.boundsAreEqual = true
    · obtain ⟨hv, hhb, hlb⟩ := (hw f (by simp)).eqVals he
      rw [if_pos he, rmatches_cons, fieldMatches, if_pos he, hv]
      simp only [he, hlb, hhb, Bool.true_and, Bool.and_true]
      by_cases hz : (ccmp (headCell t) f.lo.value == 0) = true
      · simp only [hz, if_true, Bool.true_and]
        exact bounds_eq_rmatches fs t.tail (fun g hg => hw g (by simp [hg]))
      · -- a cell that differs from the one value both bounds bind is below the start or beyond the stop
        have hz' : ¬ ccmp (headCell t) f.lo.value = 0 := by simpa using hz
        simp [hz, aboveLo, belowHi, hlb, hhb, hv]
        omega
    · rw [if_neg he, rmatches_cons, fieldMatches, if_neg he]
      simp [he, rmatches]

theorem rmatches_contigPrefix : ∀ (fs : List RangeField) (t : Tuple), rmatches fs t = true → rmatches (contigPrefix fs) t = true
  | [], _, _ => rfl
  | f :: fs, t, h => by
    rw [rmatches_cons, Bool.and_eq_true] at h
    rw [contigPrefix]
    split
    · rw [rmatches_cons, h.1, rmatches_contigPrefix fs t.tail h.2]; rfl
    · rw [rmatches_cons, h.1]; rfl

theorem contigLoop_false (fs : List RangeField) : ∀ found, contigLoop fs found false = false := by
  induction fs with
  | nil => intro _; rfl
  | cons f fs ih => intro found; simp only [contigLoop]; split <;> exact ih _

theorem contigLoop_found : ∀ (fs : List RangeField), contigLoop fs true true = true → fs = [] := by
  intro fs
  cases fs with
  | nil => intro _; rfl
  | cons f fs => intro h; simp [contigLoop, contigLoop_false] at h

/-- a contiguous range: the partition needs no post-filter -/
theorem contigPrefix_of_contig : ∀ (fs : List RangeField), contigLoop fs false true = true → contigPrefix fs = fs
  | [], _ => rfl
  | f :: fs, hc => by
    have hc' : contigLoop fs (false || !f.boundsAreEqual || (f.lo.value == none && f.hi.value == none))
        (if (false || (f.lo.value == none && f.hi.value == none)) = true then false else true) = true := hc
    cases hnb : (f.lo.value == none && f.hi.value == none) with
    | true => rw [hnb] at hc'; simp [contigLoop_false] at hc'
    | false =>
      rw [hnb] at hc'
      rw [contigPrefix]
      by_cases he : f.boundsAreEqual = true
      · rw [if_pos he, contigPrefix_of_contig fs (by simpa [he] using hc')]
      · rw [if_neg he, contigLoop_found fs (by simpa [he] using hc')]

theorem postFilter_filter (r : PRange) (hskip : r.skipMatch = true) (idx : List Tuple) (P : Tuple → Bool)
    (hin : ∀ t, rmatches r.fields t = true → P t = true)
    (hex : r.isContiguous = true → ∀ t, P t = true → rmatches r.fields t = true) :
    postFilter r (idx.filter P) = idx.filter (rmatches r.fields) := by
  unfold postFilter
  by_cases hc : r.isContiguous = true
  · simp only [hskip, hc, Bool.not_true, Bool.or_self, Bool.false_eq_true, if_false]
    refine List.filter_congr (fun t _ => ?_)
    cases hm : rmatches r.fields t with
    | true => exact hin t hm
    | false =>
      cases hp : P t with
      | false => rfl
      | true => rw [hex hc t hp] at hm; cases hm
  · simp only [hc, Bool.not_false, Bool.or_true, if_true, List.filter_filter]
    refine List.filter_congr (fun t _ => ?_)
    cases hm : rmatches r.fields t with
    | true => rw [hin t hm]; rfl
    | false => rfl

theorem findFirst_all {α : Type} (p : α → Bool) : ∀ l : List α, (∀ a ∈ l, p a = true) → findFirst p l = 0
  | [], _ => rfl
  | a :: _, h => by simp [findFirst, h a (by simp)]

theorem slice_eq_filter {α : Type} (R : α → α → Prop) (p q : α → Bool)
    (hp : ∀ a b, R a b → p a = true → p b = true) (hq : ∀ a b, R a b → q b = true → q a = true) :
    ∀ l : List α, l.Pairwise R →
      slice l (findFirst p l) (findFirst (fun t => !q t) l) = l.filter (fun t => p t && q t) := by
  intro l
  induction l with
  | nil => intro _; rfl
  | cons a l ih =>
    intro hs
    rw [List.pairwise_cons] at hs
    obtain ⟨ha, hl⟩ := hs
    have ih' := ih hl
    by_cases hqa : q a = true
    · by_cases hpa : p a = true
      · have hall : ∀ b ∈ l, p b = true := fun b hb => hp a b (ha b hb) hpa
        simp only [findFirst, hqa, Bool.not_true, Bool.false_eq_true, if_false, hpa, if_true, slice, List.take_succ_cons,
          List.drop_zero, List.filter_cons, Bool.and_self]
        congr 1
        simp only [slice, findFirst_all p l hall, List.drop_zero] at ih'
        exact ih'
      · simp only [findFirst, hqa, Bool.not_true, Bool.false_eq_true, if_false, hpa, slice, List.take_succ_cons,
          List.drop_succ_cons, List.filter_cons, Bool.false_and]
        exact ih'
    · have hnone : ∀ b ∈ l, q b = false := by
        intro b hb
        cases hqb : q b with
        | false => rfl
        | true => exact absurd (hq a b (ha b hb) hqb) hqa
      have hqa' : q a = false := by simpa using hqa
      simp only [findFirst, hqa', Bool.not_false, if_true, slice, List.take_zero, List.drop_nil, List.filter_cons,
        Bool.and_false, Bool.false_eq_true, if_false]
      symm
      rw [List.filter_eq_nil_iff]
      intro b hb
      simp [hnone b hb]

theorem treePartition_eq_filter {idx : List Tuple} (hs : idx.Pairwise (fun a b => tle a b = true)) {fs : List RangeField}
    (hw : ∀ f ∈ fs, WFField f) : treePartition idx fs = idx.filter (rmatches (contigPrefix fs)) :=
  (slice_eq_filter _ (aboveStart fs) (belowStop fs) (aboveStart_mono fs) (belowStop_anti fs) idx hs).trans
    (List.filter_congr (fun t _ => bounds_eq_rmatches fs t hw))

/-- the lexicographic order `cutLt` decides, on positions -/
def posLt (p q : Int × Int × Int) : Prop :=
  p.1 < q.1 ∨ (p.1 = q.1 ∧ (p.2.1 < q.2.1 ∨ (p.2.1 = q.2.1 ∧ p.2.2 < q.2.2)))

/-- where a cell sits on the line of cuts: just above the cut `BelowNull` resp. `Below x` -/
def cellPos : Cell → Int × Int × Int
  | none => (0, 0, 0)
  | some x => (1, x, 0)

theorem cutLt_iff (a b : Cut) : cutLt a b = true ↔ posLt (cutPos a) (cutPos b) := by
  simp [cutLt, posLt]

theorem aboveCut_iff (c : Cut) (v : Cell) : aboveCut c v = true ↔ ¬ posLt (cellPos v) (cutPos c) := by
  cases c <;> cases v <;> simp [aboveCut, cutPos, cellPos, posLt] <;> omega

/-- all that is used of the order of cuts -/
theorem aboveCut_anti {a b : Cut} (h : ¬ posLt (cutPos b) (cutPos a)) (v : Cell) : aboveCut b v = true → aboveCut a v = true := by
  rw [aboveCut_iff, aboveCut_iff]
  unfold posLt at *
  omega

theorem cutLt_aboveCut {a b : Cut} (h : cutLt a b = true) (v : Cell) : aboveCut b v = true → aboveCut a v = true :=
  aboveCut_anti (by rw [cutLt_iff] at h; unfold posLt at *; omega) v

theorem aboveCut_of_not_cutLt {a b : Cut} (h : cutLt a b = false) (v : Cell) : aboveCut a v = true → aboveCut b v = true :=
  aboveCut_anti (fun hp => by rw [(cutLt_iff a b).mpr hp] at h; cases h) v

theorem member_of_empty (e : ColExpr) (v : Cell) (h : colNonEmpty e = false) : member e v = false := by
  simp only [member]
  cases ha : aboveCut e.lo v with
  | false => rfl
  | true => rw [aboveCut_of_not_cutLt h v ha]; rfl

theorem cutMin_cutMax (a b : Cut) :
    (cutMin a b = a ∧ cutMax a b = b ∧ ∀ v, aboveCut b v = true → aboveCut a v = true) ∨
    (cutMin a b = b ∧ cutMax a b = a ∧ ∀ v, aboveCut a v = true → aboveCut b v = true) := by
  unfold cutMin cutMax
  by_cases h : cutLt a b = true
  · exact .inl ⟨if_pos h, if_pos h, cutLt_aboveCut h⟩
  · exact .inr ⟨if_neg h, if_neg h, aboveCut_of_not_cutLt (by simpa using h)⟩

theorem aboveCut_max (a b : Cut) (v : Cell) : aboveCut (cutMax a b) v = (aboveCut a v && aboveCut b v) := by
  rcases cutMin_cutMax a b with ⟨_, e, h⟩ | ⟨_, e, h⟩ <;> rw [e]
  · cases hb : aboveCut b v with
    | false => rw [Bool.and_false]
    | true => rw [h v hb]; rfl
  · cases ha : aboveCut a v with
    | false => rfl
    | true => rw [h v ha]; rfl

theorem aboveCut_min (a b : Cut) (v : Cell) : aboveCut (cutMin a b) v = (aboveCut a v || aboveCut b v) := by
  rcases cutMin_cutMax a b with ⟨e, _, h⟩ | ⟨e, _, h⟩ <;> rw [e]
  · cases hb : aboveCut b v with
    | false => rw [Bool.or_false]
    | true => rw [h v hb]; rfl
  · cases ha : aboveCut a v with
    | false => rfl
    | true => rw [h v ha]; rfl

end DoltVerif.Query
