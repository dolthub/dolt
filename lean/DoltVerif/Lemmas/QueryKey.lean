import DoltVerif.Lemmas.Query
/-! C26: the key-range path of `IterRange` (`KeyRangeLookup` + `IncrementTuple` + `IterKeyRange`). -/
namespace DoltVerif.Query

def prefixEq : List Int → Tuple → Bool
  | [], _ => true
  | v :: vs, t => headCell t == some v && prefixEq vs t.tail

/-- the start key of the key range -/
def loKey (vs : List Int) (pad : Nat) : Tuple := vs.map some ++ List.replicate pad none

/-- the stop key, as `IncrementTuple` builds it from the start key -/
def hiKey (vs : List Int) (vn : Int) : Tuple := vs.map some ++ [some (vn + 1)]

theorem tle_replicate_none (k : Nat) (t : Tuple) : tle (List.replicate k none) t = true := by
  induction k generalizing t with
  | zero => exact tle_nil t
  | succ k ih =>
    cases t with
    | nil => simp [List.replicate_succ, tle, ih]
    | cons x xs =>
      rw [List.replicate_succ, tle_cons]
      cases x with
      | none => simp [clt, ih]
      | some _ => simp [clt]

theorem between_keys (vn : Int) (pad : Nat) : ∀ (vs : List Int) (t : Tuple),
    (tle (loKey (vs ++ [vn]) pad) t && !tle (hiKey vs vn) t) = prefixEq (vs ++ [vn]) t
  | [], t => by
    simp only [loKey, hiKey, List.nil_append, List.map_cons, List.map_nil, List.cons_append, prefixEq,
      tle_step _ t (List.cons_ne_nil _ _), headCell_cons, List.tail_cons, tle_nil, tle_replicate_none, Bool.and_true]
    cases headCell t with
    | none => rfl
    | some y => simp only [clt]; rw [Bool.eq_iff_iff]; simp; omega
  | v :: vs, t => by
    have ih := between_keys vn pad vs t.tail
    simp only [loKey, hiKey, List.cons_append, List.map_cons, prefixEq, tle_step _ t (List.cons_ne_nil _ _), headCell_cons,
      List.tail_cons] at ih ⊢
    rw [← ih]
    cases headCell t with
    | none => rfl
    | some y =>
      by_cases hy : y = v
      · subst hy; simp [clt]
      · have h2 : (some v == some y) = false := by simp [Ne.symm hy]
        simp only [clt, h2, Bool.false_and, Bool.or_false]
        by_cases hlt : v < y <;> simp [hlt, hy]


/-- the shape `KeyRangeLookup` accepts: exactly-bound integer fields `vs`, then fields without bound values -/
structure KeyShape (fields : List RangeField) (vs : List Int) (tr : List RangeField) : Prop where
  split : ∃ eqs, fields = eqs ++ tr ∧ eqs.length = vs.length ∧
    (∀ j (h : j < eqs.length) (h' : j < vs.length), eqs[j].boundsAreEqual = true ∧ eqs[j].lo.value = some vs[j])
  trailing : ∀ g ∈ tr, g.lo.value = none ∧ g.hi.value = none

theorem KeyShape.nil {tr : List RangeField} (h : ∀ g ∈ tr, g.lo.value = none ∧ g.hi.value = none) : KeyShape tr [] tr :=
  ⟨⟨[], rfl, rfl, fun j hj => absurd hj (by simp)⟩, h⟩

theorem KeyShape.cons {f : RangeField} {fs : List RangeField} {v : Int} {vs : List Int} {tr : List RangeField}
    (he : f.boundsAreEqual = true) (hv : f.lo.value = some v) (h : KeyShape fs vs tr) : KeyShape (f :: fs) (v :: vs) tr := by
  obtain ⟨⟨eqs, hsp, hlen, hj⟩, htr⟩ := h
  refine ⟨⟨f :: eqs, by rw [hsp]; rfl, by simp [hlen], fun j h1 h2 => ?_⟩, htr⟩
  cases j with
  | zero => exact ⟨he, hv⟩
  | succ j => exact hj j (by simpa using h1) (by simpa using h2)

theorem KeyShape.nil_inv {fs tr : List RangeField} (h : KeyShape fs [] tr) : fs = tr := by
  obtain ⟨⟨eqs, hsp, hlen, _⟩, _⟩ := h
  rw [hsp, List.length_eq_zero_iff.mp hlen, List.nil_append]

theorem KeyShape.cons_inv {fs : List RangeField} {v : Int} {vs : List Int} {tr : List RangeField} (h : KeyShape fs (v :: vs) tr) :
    ∃ f fs', fs = f :: fs' ∧ f.boundsAreEqual = true ∧ f.lo.value = some v ∧ KeyShape fs' vs tr := by
  obtain ⟨⟨eqs, hsp, hlen, hj⟩, htr⟩ := h
  cases eqs with
  | nil => simp at hlen
  | cons f eqs =>
    obtain ⟨he, hv⟩ := hj 0 (by simp) (by simp)
    exact ⟨f, eqs ++ tr, hsp, he, hv, ⟨eqs, rfl, by simpa using hlen, fun j h1 h2 => by
      have := hj (j + 1) (by simpa using h1) (by simpa using h2)
      simpa using this⟩, htr⟩

theorem go_shape (fs : List RangeField) (i n : Nat) : keyRangeN.go fs i = some (some n) →
    ∃ vs tr, KeyShape fs vs tr ∧ vs.length + i = n + 1 := by
  -- where the loop stops it answers `i - 1`, and only for `i ≠ 0`
  have hstop : ∀ i, some (if (i == 0) = true then none else some (i - 1)) = some (some n) → i = n + 1 := by
    intro i h
    by_cases hi : i = 0
    · simp [hi] at h
    · simp only [beq_iff_eq, hi, if_false, Option.some.injEq] at h; omega
  fun_induction keyRangeN.go fs i with
  | case1 i => exact fun h => ⟨[], [], .nil (by simp), by simpa using hstop i h⟩
  | case3 f fs i _ _ hall =>
    exact fun h => ⟨[], f :: fs, .nil (fun g hg => by simpa using List.all_eq_true.mp hall g hg), by simpa using hstop i h⟩
  | case6 f fs i hlo heq ih =>
    intro h
    obtain ⟨vs, tr, hsh, hn⟩ := ih h
    cases hv : f.lo.value with
    | none => simp [hv] at hlo
    | some v => exact ⟨v :: vs, tr, .cons (by simpa using heq) hv hsh, by simp; omega⟩
  | case2 | case4 | case5 => intro h; cases h

theorem rmatches_shape : ∀ (vs : List Int) {fs tr : List RangeField} (t : Tuple), KeyShape fs vs tr →
    rmatches fs t = (prefixEq vs t && rmatches tr (t.drop vs.length))
  | [], _, _, t, h => by rw [h.nil_inv]; simp [prefixEq]
  | v :: vs, _, _, t, h => by
    obtain ⟨f, fs', rfl, he, hv, h'⟩ := h.cons_inv
    rw [rmatches_cons, prefixEq, rmatches_shape vs t.tail h']
    simp only [fieldMatches, he, if_true, hv, ccmp_beq_zero, List.length_cons]
    have : t.tail.drop vs.length = t.drop (vs.length + 1) := by
      cases t <;> simp
    rw [this]
    cases headCell t with
    | none => simp
    | some x => by_cases hx : x = v <;> simp [hx]

theorem contig_shape : ∀ (vs : List Int) {fs tr : List RangeField}, KeyShape fs vs tr →
    contigLoop fs false true = true → tr = []
  | [], _, tr, h, hc => by
    rw [h.nil_inv] at hc
    cases tr with
    | nil => rfl
    | cons g gs =>
      obtain ⟨h1, h2⟩ := h.trailing g (by simp)
      simp [contigLoop, h1, h2, contigLoop_false] at hc
  | v :: vs, _, _, h, hc => by
    obtain ⟨f, fs', rfl, he, hv, h'⟩ := h.cons_inv
    simp only [contigLoop, hv, he] at hc
    simp at hc
    exact contig_shape vs h' hc

/-- `Range.Tup` of this shape is the start key -/
theorem tup_shape : ∀ (vs : List Int) {fs tr : List RangeField}, KeyShape fs vs tr → (∀ g ∈ fs, WFField g) →
    fs.map (·.hi.value) = loKey vs tr.length
  | [], _, tr, h, _ => by
    rw [h.nil_inv, loKey, List.map_nil, List.nil_append, List.map_eq_replicate_iff]
    exact fun g hg => (h.trailing g hg).2
  | v :: vs, _, _, h, hw => by
    obtain ⟨f, fs', rfl, he, hv, h'⟩ := h.cons_inv
    have hhi : f.hi.value = some v := by rw [((hw f (by simp)).eqVals he).1, hv]
    have ih := tup_shape vs h' (fun g hg => hw g (by simp [hg]))
    simp only [List.map_cons, hhi, loKey, List.cons_append] at ih ⊢
    rw [ih]

theorem keyRangeN_go {fields : List RangeField} {nullable : List Bool} {n : Nat}
    (h : keyRangeN fields nullable = some n) : keyRangeN.go fields 0 = some (some n) := by
  unfold keyRangeN at h
  cases hg : keyRangeN.go fields 0 with
  | none => simp [hg] at h
  | some o =>
    cases o with
    | none => simp [hg] at h
    | some m =>
      simp only [hg] at h
      by_cases hnl : ((nullable.drop (m + 1)).all id) = true
      · simp only [hnl, if_true, Option.some.injEq] at h; rw [h]
      · simp [hnl] at h

theorem incrementTuple_loKey {maxInt : Int} {vs : List Int} {vn : Int} {pad : Nat} {stop : Tuple}
    (h : incrementTuple maxInt (loKey (vs ++ [vn]) pad) vs.length = some stop) : stop = hiKey vs vn := by
  have hget : (loKey (vs ++ [vn]) pad)[vs.length]? = some (some vn) := by simp [loKey]
  simp only [incrementTuple, hget] at h
  by_cases hov : vn ≥ maxInt
  · simp [hov] at h
  · simp only [hov, if_false, Option.some.injEq] at h
    rw [← h]
    simp [loKey, hiKey]

theorem keyPartition_eq_filter {idx : List Tuple} (hsorted : idx.Pairwise (fun a b => tle a b = true)) (vs : List Int) (vn : Int)
    (pad : Nat) : keyPartition idx (loKey (vs ++ [vn]) pad) (hiKey vs vn) = idx.filter (prefixEq (vs ++ [vn])) := by
  have hfun : (fun t => tle (hiKey vs vn) t) = (fun t => !(fun t => !tle (hiKey vs vn) t) t) := by
    funext t; simp
  rw [keyPartition, hfun,
    slice_eq_filter _ (fun t => tle (loKey (vs ++ [vn]) pad) t) (fun t => !tle (hiKey vs vn) t)
      (fun a b hab hpa => tle_trans hpa hab)
      (fun a b hab hqb => by
        cases hta : tle (hiKey vs vn) a with
        | false => rfl
        | true => simp [tle_trans hta hab] at hqb)
      idx hsorted]
  exact List.filter_congr (fun t _ => between_keys vn pad vs t)

/-- **the key-range path is exact**: when `KeyRangeLookup` succeeds, `IterKeyRange [Tup, stop)` followed by
the (possibly skipped) post-filter returns exactly the entries between the cuts. -/
theorem keyscan_eq_filter (maxInt : Int) (nullable : List Bool) (idx : List Tuple)
    (hsorted : idx.Pairwise (fun a b => tle a b = true)) (r : List ColExpr) (hne : rangeNonEmpty r = true) (stop : Tuple)
    (hk : keyRangeStop maxInt nullable (toProlly r) = some stop) :
    postFilter (toProlly r) (keyPartition idx (toProlly r).tup stop) = idx.filter (memberAll r) := by
  simp only [keyRangeStop, toProlly] at hk
  cases hkn : keyRangeN (r.map toField) nullable with
  | none => simp [hkn] at hk
  | some n =>
    simp only [hkn, Option.bind_some] at hk
    obtain ⟨vs, tr, hsh, hvn⟩ := go_shape _ 0 n (keyRangeN_go hkn)
    have htup : (r.map toField).map (·.hi.value) = loKey vs tr.length := tup_shape vs hsh (wf_fields r)
    -- `vs` has n + 1 entries; name the last, at which the tuple is incremented
    obtain ⟨vs', vn, rfl⟩ : ∃ vs' vn, vs = vs' ++ [vn] := by
      cases hd : vs.reverse with
      | nil => rw [List.reverse_eq_nil_iff.mp hd] at hvn; simp at hvn
      | cons x xs => exact ⟨xs.reverse, x, by rw [← List.reverse_reverse vs, hd]; simp⟩
    have hn' : vs'.length = n := by simp at hvn; omega
    rw [htup, ← hn'] at hk
    have hslice := keyPartition_eq_filter hsorted vs' vn tr.length
    show postFilter (toProlly r) (keyPartition idx ((r.map toField).map (·.hi.value)) stop) = _
    rw [htup, incrementTuple_loKey hk, hslice, ← rmatches_toProlly r hne]
    refine postFilter_filter (toProlly r) rfl idx _ (fun t hm => ?_) (fun hc t hp => ?_)
    · rw [show (toProlly r).fields = r.map toField from rfl, rmatches_shape _ t hsh, Bool.and_eq_true] at hm
      exact hm.1
    · rw [show (toProlly r).fields = r.map toField from rfl, rmatches_shape _ t hsh, hp, contig_shape _ hsh hc]
      rfl

end DoltVerif.Query
