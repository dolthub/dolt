import DoltVerif.Lemmas.QueryMerge
import DoltVerif.Model.QueryLeft
/-! C26: the LEFT OUTER merge join state machine, for left inputs with pairwise different join keys: an invariant
over `Next` calls shows that it returns the rows of a functional specification (`leftSpec`), a permutation of the
left outer nested-loop join.  `Runs`/`Yields` speak of all the rows still to come (the first `n` calls give the
first `n` of them, for every `n`), so no lemma needs to know how many calls suffice. -/
namespace DoltVerif.Query

variable (lk rk : Tuple → Cell) (ok : Tuple → Tuple → Bool)

/-- functional specification (one left row at a time; `g` = recursion fuel) -/
def leftSpec : Nat → List Tuple → List Tuple → List LRow
  | 0, _, _ => []
  | _, [], _ => []
  | _, L, [] => L.map (fun a => (a, none))
  | g + 1, l :: ls, r :: rs =>
    let c := ccmp (lk l) (rk r)
    if c < 0 then (l, none) :: leftSpec g ls (r :: rs)
    else if c == 0 then
      let fm := fillMatch lk rk l rs
      let grp := fm.1 ++ [r]
      let ms := grp.filter (ok l)
      (if ms.isEmpty then [(l, none)] else ms.map (fun b => (l, some b))) ++ leftSpec g ls (fm.2.1.toList ++ fm.2.2)
    else leftSpec g (l :: ls) rs

theorem fillMatch_eq (l : Tuple) : ∀ rs : List Tuple, fillMatch lk rk l rs =
    ((fillBuf rk (lk l) rs).1, (fillBuf rk (lk l) rs).2.head?, (fillBuf rk (lk l) rs).2.tail)
  | [] => rfl
  | r :: rs => by
    by_cases hc : (ccmp (lk l) (rk r) == 0) = true
    · simp only [fillMatch, fillBuf, hc, if_true, fillMatch_eq l rs]
    · simp only [fillMatch, fillBuf, hc, Bool.false_eq_true, if_false, List.head?_cons, List.tail_cons]

theorem fillMatch_rest (l : Tuple) (rs : List Tuple) :
    (fillMatch lk rk l rs).2.1.toList ++ (fillMatch lk rk l rs).2.2 = (fillBuf rk (lk l) rs).2 := by
  rw [fillMatch_eq]; cases (fillBuf rk (lk l) rs).2 <;> rfl

theorem leftSpec_nil_left (g : Nat) (R : List Tuple) : leftSpec lk rk ok g [] R = [] := by
  cases g <;> rfl

theorem leftSpec_nil_right (g : Nat) (L : List Tuple) : leftSpec lk rk ok (g + 1) L [] = L.map (fun a => (a, none)) := by
  cases L <;> rfl

section
variable (g : Nat) (l : Tuple) (ls : List Tuple) (r : Tuple) (rs : List Tuple)

theorem leftSpec_lt (h : ccmp (lk l) (rk r) < 0) :
    leftSpec lk rk ok (g + 1) (l :: ls) (r :: rs) = (l, none) :: leftSpec lk rk ok g ls (r :: rs) := by
  simp only [leftSpec, h, if_true]

theorem leftSpec_gt (h : ccmp (lk l) (rk r) > 0) :
    leftSpec lk rk ok (g + 1) (l :: ls) (r :: rs) = leftSpec lk rk ok g (l :: ls) rs := by
  have h1 : ¬ ccmp (lk l) (rk r) < 0 := by omega
  have h2 : (ccmp (lk l) (rk r) == 0) = false := by simp; omega
  simp only [leftSpec, h1, h2, if_false, Bool.false_eq_true]

theorem leftSpec_eq (h : ccmp (lk l) (rk r) = 0) :
    leftSpec lk rk ok (g + 1) (l :: ls) (r :: rs) =
      (if (((fillBuf rk (lk l) rs).1 ++ [r]).filter (ok l)).isEmpty then [(l, none)]
        else (((fillBuf rk (lk l) rs).1 ++ [r]).filter (ok l)).map (fun b => (l, some b))) ++
      leftSpec lk rk ok g ls (fillBuf rk (lk l) rs).2 := by
  simp only [leftSpec, h, Int.lt_irrefl, if_false, beq_self_eq_true, if_true, fillMatch_rest]
  rw [fillMatch_eq]
end


/-- compare-ready state -/
def stC (l : Tuple) (ls : List Tuple) (r : Tuple) (rs : List Tuple) : LSt := ⟨ls, rs, some l, some r, none, [], 0, false, false⟩
/-- match state -/
def stM (l : Tuple) (ls : List Tuple) (r : Tuple) (R : List Tuple) (nR : Option Tuple) (buf : List Tuple) (p : Nat) (m : Bool) : LSt :=
  ⟨ls, R, some l, some r, nR, buf, p, m, false⟩
/-- exhaust state with a left row that has not been emitted yet -/
def stE (l : Tuple) (ls : List Tuple) : LSt := ⟨ls, [], some l, none, none, [], 0, false, true⟩
/-- exhaust state whose left row `l` has been emitted -/
def stD (l : Tuple) (ls : List Tuple) (rr : Option Tuple) : LSt := ⟨ls, [], some l, rr, none, [], 0, true, true⟩

def cont (n : Nat) (x : Option (LRow × LSt)) : List LRow :=
  match x with
  | none => []
  | some (row, s') => row :: lrun lk rk ok n s'

theorem lrun_succ (n : Nat) (s : LSt) :
    lrun lk rk ok (n + 1) s = cont lk rk ok n (lnext lk rk ok (s.L.length + s.R.length + s.buf.length + 4) s) := by
  simp only [lrun, cont]
  cases lnext lk rk ok (s.L.length + s.R.length + s.buf.length + 4) s with
  | none => rfl
  | some x => rfl

/-- from `s` on, `Next` returns `rows`, one per call, and then EOF -/
def Runs (s : LSt) (rows : List LRow) : Prop := ∀ n, lrun lk rk ok n s = rows.take n

/-- the outcome `x` of a call is the first of `rows` (EOF when there is none) and leaves a state that returns the others -/
def Yields (x : Option (LRow × LSt)) (rows : List LRow) : Prop := ∀ n, cont lk rk ok n x = rows.take (n + 1)

theorem Yields.none : Yields lk rk ok none [] := fun _ => rfl

theorem Yields.eq_nil {A : List LRow} (h : Yields lk rk ok Option.none A) : A = [] := by
  have := h 0
  cases A <;> simp_all [cont]

theorem Yields.some {row : LRow} {s : LSt} {rows : List LRow} (h : Runs lk rk ok s rows) :
    Yields lk rk ok (some (row, s)) (row :: rows) := fun n => congrArg _ (h n)

theorem Runs.of_next {s : LSt} {rows : List LRow}
    (h : Yields lk rk ok (lnext lk rk ok (s.L.length + s.R.length + s.buf.length + 4) s) rows) : Runs lk rk ok s rows
  | 0 => rfl
  | n + 1 => (lrun_succ lk rk ok n s).trans (h n)

theorem lnext_exhaust (f : Nat) (ls : List Tuple) (l : Tuple) (rr : Option Tuple) :
    lnext lk rk ok f (stD l ls rr) =
      match ls with
      | [] => none
      | l' :: ls' => some ((l', none), stD l' ls' rr) := by
  cases ls <;> rfl

theorem runs_exhaust : ∀ (ls : List Tuple) (l : Tuple) (rr : Option Tuple),
    Runs lk rk ok (stD l ls rr) (ls.map (fun a => (a, none)))
  | [], _, _ => Runs.of_next lk rk ok (by rw [lnext_exhaust]; exact Yields.none lk rk ok)
  | l' :: ls, _, rr => Runs.of_next lk rk ok (by rw [lnext_exhaust]; exact Yields.some lk rk ok (runs_exhaust ls l' rr))

theorem yields_exhaust (l : Tuple) (ls : List Tuple) :
    Yields lk rk ok (exhaustLeftReturn (stE l ls)) ((l :: ls).map (fun a => (a, none))) :=
  Yields.some lk rk ok (runs_exhaust lk rk ok ls l none)

theorem runs_eof (R : List Tuple) (rt nR : Option Tuple) (buf : List Tuple) (p : Nat) (m e : Bool) :
    Runs lk rk ok ⟨[], R, none, rt, nR, buf, p, m, e⟩ [] := fun n => by cases n <;> rfl

/-- the state in which the next left row `l'` is taken up -/
def succSt (l' : Tuple) (ls' : List Tuple) (rest : List Tuple) : LSt :=
  match rest with
  | [] => stE l' ls'
  | x :: R1 => stC l' ls' x R1

/-- the call that takes up the left rows `L` with the right rows `rest` still to come -/
def succCall (f : Nat) (L rest : List Tuple) : Option (LRow × LSt) :=
  match L, rest with
  | [], _ => none
  | l' :: ls', [] => exhaustLeftReturn (stE l' ls')
  | l' :: ls', x :: R1 => cmpLoop lk rk ok f (stC l' ls' x R1)

theorem runs_succSt (l' : Tuple) (ls' rest : List Tuple) {rows : List LRow}
    (h : Yields lk rk ok (succCall lk rk ok (ls'.length + rest.length + 3) (l' :: ls') rest) rows) :
    Runs lk rk ok (succSt l' ls' rest) rows :=
  Runs.of_next lk rk ok (by cases rest <;> exact h)

/-- the rows contributed after the candidates of the current left row: `t` = it was matched, `A` = the rows of the
left rows after it -/
def tailM (l : Tuple) (A : List LRow) (t : Bool) : List LRow := (if t then [] else [(l, none)]) ++ A

section matchStage
variable (l : Tuple) (ls : List Tuple) (r : Tuple) (R : List Tuple) (nR : Option Tuple) (A : List LRow)

/-- what the match-stage lemmas assume of the left rows after `l` -/
def SuccOK : Prop :=
  (∀ l' ls', ls = l' :: ls' → ccmp (lk l) (lk l') ≠ 0) ∧
    ∀ f, ls.length + (nR.toList ++ R).length + 2 ≤ f → Yields lk rk ok (succCall lk rk ok f ls (nR.toList ++ R)) A

theorem runs_stM (buf : List Tuple) (p : Nat) (m : Bool) (hp : 0 < p) {rows : List LRow}
    (h : Yields lk rk ok (matchLoop lk rk ok (ls.length + R.length + buf.length + 4) (stM l ls r R nR buf p m)) rows) :
    Runs lk rk ok (stM l ls r R nR buf p m) rows :=
  Runs.of_next lk rk ok (by simpa [stM, lnext, hp] using h)

/-- exhaustion step (`matchPos > len(lookaheadBuf)`) -/
theorem match_exhausted (hs : SuccOK lk rk ok l ls R nR A) (buf : List Tuple) (m : Bool) (f : Nat)
    (hf : 1 + (if m then ls.length + (nR.toList ++ R).length + 2 else 0) ≤ f) :
    Yields lk rk ok (matchLoop lk rk ok f (stM l ls r R nR buf (buf.length + 1) m)) (tailM l A m) := by
  obtain ⟨f, rfl⟩ : ∃ g, f = g + 1 := ⟨f - 1, by omega⟩
  have hp1 : ¬ (buf.length + 1 < buf.length) := by omega
  have hp2 : (buf.length + 1 == buf.length) = false := by simp
  cases ls with
  | nil =>
    have := Yields.eq_nil lk rk ok (hs.2 _ (Nat.le_refl _))
    subst this
    cases m with
    | true => simp only [matchLoop, stM, hp1, hp2, if_false, Bool.false_eq_true, Bool.not_true]; exact Yields.none lk rk ok
    | false =>
      simp only [matchLoop, stM, hp1, hp2, if_false, Bool.false_eq_true, Bool.not_false, if_true]
      exact Yields.some lk rk ok (runs_eof lk rk ok _ _ _ _ _ _ _)
  | cons l' ls' =>
    have hne := hs.1 l' ls' rfl
    have hA := hs.2
    have hc : (ccmp (lk l) (lk l') != 0) = true := by simpa using hne
    have hc0 : (ccmp (lk l) (lk l') == 0) = false := by simpa using hne
    have hstep : matchLoop lk rk ok (f + 1) (stM l (l' :: ls') r R nR buf (buf.length + 1) m) =
        if m then succCall lk rk ok f (l' :: ls') (nR.toList ++ R) else some ((l, none), succSt l' ls' (nR.toList ++ R)) := by
      simp only [matchLoop, stM, hp1, hp2, hc, hc0, if_false, if_true, Bool.false_eq_true]
      cases nR with
      | some x => cases m <;> rfl
      | none => cases R <;> cases m <;> rfl
    rw [hstep]
    cases m with
    | false => exact Yields.some lk rk ok (runs_succSt lk rk ok l' ls' _ (hA _ (by simp only [List.length_cons]; omega)))
    | true => exact hA f (by simp only [if_true, List.length_cons] at hf ⊢; omega)

theorem matchLoop_cand (buf : List Tuple) (p : Nat) (m : Bool) (f : Nat) (c : Tuple) (hc : (buf ++ [r])[p]? = some c) :
    matchLoop lk rk ok (f + 1) (stM l ls r R nR buf p m) =
      if ok l c then some ((l, some c), stM l ls r R nR buf (p + 1) true)
      else matchLoop lk rk ok f (stM l ls r R nR buf (p + 1) m) := by
  by_cases hp : p < buf.length
  · rw [List.getElem?_append_left hp] at hc
    obtain ⟨_, rfl⟩ := List.getElem?_eq_some_iff.mp hc
    cases hok : ok l buf[p] <;> simp [matchLoop, stM, hp, hok]
  · have hpe : p = buf.length := by
      have := (List.getElem?_eq_some_iff.mp hc).1
      simp at this; omega
    subst hpe
    simp at hc
    subst hc
    cases hok : ok l r <;> simp [matchLoop, stM, hok]

theorem match_cands (hs : SuccOK lk rk ok l ls R nR A) (buf : List Tuple) : ∀ (suf pre : List Tuple) (m : Bool) (f : Nat),
    pre ++ suf = buf ++ [r] →
    suf.length + 1 + (if m then ls.length + (nR.toList ++ R).length + 2 else 0) ≤ f →
    Yields lk rk ok (matchLoop lk rk ok f (stM l ls r R nR buf pre.length m))
      ((suf.filter (ok l)).map (fun b => (l, some b)) ++ tailM l A (m || suf.any (ok l)))
  | [], pre, m, f, hpre, hf => by
    have : pre.length = buf.length + 1 := by rw [List.append_nil] at hpre; rw [hpre]; simp
    rw [this]
    simpa using match_exhausted lk rk ok l ls r R nR A hs buf m f (by simpa using hf)
  | c :: suf, pre, m, f, hpre, hf => by
    obtain ⟨f, rfl⟩ : ∃ g, f = g + 1 := ⟨f - 1, by simp at hf; omega⟩
    have hlen : (pre ++ [c]).length = pre.length + 1 := by simp
    have hpre' : (pre ++ [c]) ++ suf = buf ++ [r] := by simpa using hpre
    have hsl : suf.length ≤ buf.length := by
      have := congrArg List.length hpre
      simp at this; omega
    rw [matchLoop_cand lk rk ok l ls r R nR buf pre.length m f c (by rw [← hpre]; simp), ← hlen]
    cases hok : ok l c with
    | true =>
      simp only [if_true, List.filter_cons, hok, List.map_cons, List.any_cons, Bool.true_or, Bool.or_true, List.cons_append]
      refine Yields.some lk rk ok (runs_stM lk rk ok l ls r R nR buf _ true (by simp) ?_)
      have ih := match_cands hs buf suf (pre ++ [c]) true (ls.length + R.length + buf.length + 4) hpre' (by
        simp only [if_true, List.length_append]
        cases nR <;> simp <;> omega)
      simpa using ih
    | false =>
      simp only [Bool.false_eq_true, if_false, List.filter_cons, hok, List.any_cons, Bool.false_or]
      exact match_cands hs buf suf (pre ++ [c]) m f hpre' (by simp at hf ⊢; omega)

end matchStage

theorem filter_tail {α β : Type} (p : α → Bool) (g : α → β) (x : β) (G : List α) :
    (G.filter p).map g ++ (if G.any p then [] else [x]) = if (G.filter p).isEmpty then [x] else (G.filter p).map g := by
  induction G with
  | nil => simp
  | cons a as ih =>
    by_cases ha : p a = true
    · simp [ha]
    · simp only [List.filter_cons, ha, Bool.false_eq_true, if_false, List.any_cons, Bool.false_or]; exact ih

/-- consecutive (indeed all) left rows differ in their join key -/
def DistinctKeys (L : List Tuple) : Prop := L.Pairwise (fun a b => ccmp (lk a) (lk b) ≠ 0)

section cmpStep
variable (l : Tuple) (ls : List Tuple) (r : Tuple) (rs : List Tuple) (f : Nat)

theorem cmpLoop_lt (h : ccmp (lk l) (rk r) < 0) :
    cmpLoop lk rk ok (f + 1) (stC l ls r rs) = some ((l, none),
      match ls with
      | [] => ⟨[], rs, none, some r, none, [], 0, false, true⟩
      | l' :: ls' => stC l' ls' r rs) := by
  cases ls <;> simp [cmpLoop, stC, h]

theorem cmpLoop_eq (h : ccmp (lk l) (rk r) = 0) :
    cmpLoop lk rk ok (f + 1) (stC l ls r rs) =
      matchLoop lk rk ok f
        (stM l ls r (fillMatch lk rk l rs).2.2 (fillMatch lk rk l rs).2.1 (fillMatch lk rk l rs).1 0 false) := by
  simp [cmpLoop, stC, h, stM]

theorem cmpLoop_gt (h : ccmp (lk l) (rk r) > 0) :
    cmpLoop lk rk ok (f + 1) (stC l ls r rs) =
      match rs with
      | [] => some ((l, none), stD l ls none)
      | r' :: rs' => cmpLoop lk rk ok f (stC l ls r' rs') := by
  have hlt : ¬ ccmp (lk l) (rk r) < 0 := by omega
  have hne : ¬ ccmp (lk l) (rk r) = 0 := by omega
  cases rs <;> simp [cmpLoop, stC, stD, hlt, hne, advanceRight, exhaustLeftReturn]

end cmpStep

theorem fillMatch_length (l : Tuple) (rs : List Tuple) :
    (fillMatch lk rk l rs).1.length + ((fillMatch lk rk l rs).2.1.toList ++ (fillMatch lk rk l rs).2.2).length = rs.length := by
  rw [fillMatch_rest, fillMatch_eq, ← List.length_append, fillBuf_eq_span, List.takeWhile_append_dropWhile]

/-- the invariant over `Next` calls -/
theorem cmp_ready (g : Nat) (L R : List Tuple) : ∀ f, DistinctKeys lk L → L.length + R.length ≤ g → L.length + R.length + 2 ≤ f →
    Yields lk rk ok (succCall lk rk ok f L R) (leftSpec lk rk ok g L R) := by
  fun_induction leftSpec lk rk ok g L R with
  | case1 L R =>
    intro f _ hg _
    cases L with
    | nil => exact Yields.none lk rk ok
    | cons _ _ => simp at hg
  | case2 => intro f _ _ _; exact Yields.none lk rk ok
  | case3 g L hL =>
    intro f _ _ _
    cases L with
    | nil => exact absurd rfl hL
    | cons l ls => exact yields_exhaust lk rk ok l ls
  | case4 g l ls r rs c hlt ih =>
    -- the left row is smaller than every remaining right row: NULL-extended
    intro f hd hg hf
    obtain ⟨f, rfl⟩ : ∃ x, f = x + 1 := ⟨f - 1, by simp at hf; omega⟩
    rw [succCall, cmpLoop_lt lk rk ok l ls r rs f hlt]
    refine Yields.some lk rk ok ?_
    cases ls with
    | nil => rw [leftSpec_nil_left]; exact runs_eof lk rk ok _ _ _ _ _ _ _
    | cons l' ls' =>
      exact runs_succSt lk rk ok l' ls' (r :: rs)
        (ih _ (List.pairwise_cons.mp hd).2 (by simp at hg ⊢; omega) (by simp only [List.length_cons]; omega))
  | case5 g l ls r rs c _ heq fm grp ms ih =>
    -- equal keys: fill the look-ahead buffer and enter the match stage
    intro f hd hg hf
    obtain ⟨f, rfl⟩ : ∃ x, f = x + 1 := ⟨f - 1, by simp at hf; omega⟩
    have hdt := List.pairwise_cons.mp hd
    have hfl := fillMatch_length lk rk l rs
    rw [succCall, cmpLoop_eq lk rk ok l ls r rs f (by simpa [c] using heq)]
    simp only [fm, ms, grp] at ih ⊢
    generalize fillMatch lk rk l rs = fm' at *
    obtain ⟨b, nR, rest⟩ := fm'
    simp only [List.length_cons] at hfl hg hf ih
    have hs : SuccOK lk rk ok l ls rest nR (leftSpec lk rk ok g ls (nR.toList ++ rest)) :=
      ⟨fun l' ls' hls => hdt.1 l' (by simp [hls]), fun f' hf' => ih f' hdt.2 (by omega) hf'⟩
    have hm := match_cands lk rk ok l ls r rest nR _ hs b (b ++ [r]) [] false f rfl (by
      simp only [Bool.false_eq_true, if_false, List.length_append, List.length_cons, List.length_nil]; omega)
    rw [← filter_tail (ok l) (fun b => (l, some b)) (l, none) (b ++ [r]), List.append_assoc]
    simpa [tailM] using hm
  | case6 g l ls r rs c hlt hne ih =>
    -- the right row is smaller: advance the right side
    intro f hd hg hf
    obtain ⟨f, rfl⟩ : ∃ x, f = x + 1 := ⟨f - 1, by simp at hf; omega⟩
    rw [succCall, cmpLoop_gt lk rk ok l ls r rs f (by simp only [c, beq_iff_eq] at hlt hne; omega)]
    cases rs <;> exact ih f hd (by simp at hg ⊢; omega) (by simp at hf ⊢; omega)

theorem runs_init_nil_right (L : List Tuple) : Runs lk rk ok (LSt.init L []) (L.map (fun a => (a, none))) :=
  Runs.of_next lk rk ok (by
    cases L with
    | nil => exact Yields.none lk rk ok
    | cons l ls => exact yields_exhaust lk rk ok l ls)

theorem left_machine_eq_spec (L R : List Tuple) (hd : DistinctKeys lk L) (g : Nat) (hg : L.length + R.length + 1 ≤ g) :
    Runs lk rk ok (LSt.init L R) (leftSpec lk rk ok g L R) := by
  refine Runs.of_next lk rk ok ?_
  have h := cmp_ready lk rk ok g L R ((LSt.init L R).L.length + (LSt.init L R).R.length + (LSt.init L R).buf.length + 4) hd
    (by omega) (by simp [LSt.init])
  cases L <;> cases R <;> exact h

def pairsOrNull (a : Tuple) (ms : List Tuple) : List LRow := if ms.isEmpty then [(a, none)] else ms.map (fun b => (a, some b))

theorem leftNlj_eq (L R : List Tuple) : leftNlj ok L R = groupJoin pairsOrNull ok L R := rfl

theorem leftNlj_cons (a : Tuple) (L R : List Tuple) :
    leftNlj ok (a :: L) R = (if (R.filter (ok a)).isEmpty then [(a, none)] else (R.filter (ok a)).map (fun b => (a, some b))) ++ leftNlj ok L R :=
  groupJoin_cons pairsOrNull ok a L R

theorem leftNlj_nil_right (L : List Tuple) : leftNlj ok L [] = L.map (fun a => (a, none)) :=
  List.map_eq_flatMap.symm

theorem pairsOrNull_perm (a : Tuple) {ms ms' : List Tuple} (h : ms.Perm ms') : (pairsOrNull a ms).Perm (pairsOrNull a ms') := by
  unfold pairsOrNull
  cases ms' with
  | nil => have := h.eq_nil; subst this; exact List.Perm.refl _
  | cons b bs =>
    cases ms with
    | nil => have := h.symm.eq_nil; cases this
    | cons c cs => simpa using h.map (fun b => (a, some b))

def StrictBy (key : Tuple → Cell) (L : List Tuple) : Prop := L.Pairwise (fun a b => clt (key a) (key b) = true)

theorem leftSpec_perm (hok : ∀ a b, ok a b = true → lk a = rk b) :
    ∀ (g : Nat) (L R : List Tuple), L.length + R.length + 1 ≤ g → StrictBy lk L → SortedBy rk R →
      (leftSpec lk rk ok g L R).Perm (groupJoin pairsOrNull ok L R) := by
  intro g
  induction g with
  | zero => intro L R h; omega
  | succ g ih =>
    intro L R hg hL hR
    cases L with
    | nil => rw [leftSpec_nil_left]; exact List.Perm.refl _
    | cons l ls =>
      cases R with
      | nil => rw [← leftNlj_eq, leftNlj_nil_right, leftSpec_nil_right]
      | cons r rs =>
        have hLt := List.pairwise_cons.mp hL
        have hRt := List.pairwise_cons.mp hR
        simp only [List.length_cons] at hg
        rcases Int.lt_trichotomy (ccmp (lk l) (rk r)) 0 with hlt | heq | hgt
        · have hl : clt (lk l) (rk r) = true := ccmp_neg.mp hlt
          rw [leftSpec_lt lk rk ok g l ls r rs hlt, groupJoin_cons,
            filter_none _ (r :: rs) (fun b hb => ok_false_of_clt hok (Or.inl (clt_all_of_clt_head hR hl b hb)))]
          exact List.Perm.cons _ (ih ls (r :: rs) (by simp; omega) hLt.2 hR)
        · -- the right rows with this key are joined with `l` alone, the rest with the other left rows
          have hz : lk l = rk r := ccmp_zero.mp heq
          rw [leftSpec_eq lk rk ok g l ls r rs heq, fillBuf_eq_span]
          obtain ⟨hbK, hRR, hrestGt⟩ := keyBlock_sorted rk (lk l) rs hRt.2 (by rw [hz]; exact hRt.1)
          have hrs := List.takeWhile_append_dropWhile (p := fun r => ccmp (lk l) (rk r) == 0) (l := rs)
          generalize rs.takeWhile (fun r => ccmp (lk l) (rk r) == 0) = b at *
          generalize rs.dropWhile (fun r => ccmp (lk l) (rk r) == 0) = rest at *
          subst hrs
          have hbK' : ∀ x ∈ r :: b, rk x = lk l := List.forall_mem_cons.mpr ⟨hz.symm, hbK⟩
          rw [show l :: ls = [l] ++ ls from rfl, show r :: (b ++ rest) = (r :: b) ++ rest from rfl,
            groupJoin_blocks pairsOrNull ok
              (fun a ha x hx => by rw [List.mem_singleton.mp ha]; exact ok_false_of_clt hok (Or.inl (hrestGt x hx)))
              (fun a ha x hx => ok_false_of_clt hok (Or.inr (by rw [hbK' x hx]; exact hLt.1 a ha)))]
          rw [groupJoin_singleton]
          exact (pairsOrNull_perm l ((List.perm_append_singleton r b).filter _)).append
            (ih ls rest (by simp only [List.length_append] at hg; omega) hLt.2 hRR)
        · have hr : clt (rk r) (lk l) = true := ccmp_pos.mp hgt
          rw [leftSpec_gt lk rk ok g l ls r rs hgt, show r :: rs = [r] ++ rs from rfl,
            groupJoin_drop_right pairsOrNull ok rs (fun a ha x hx => by
              rw [List.mem_singleton.mp hx]
              rcases List.mem_cons.mp ha with rfl | ha
              · exact ok_false_of_clt hok (Or.inr hr)
              · exact ok_false_of_clt hok (Or.inr (clt_trans hr (hLt.1 a ha))))]
          exact ih (l :: ls) rs (by simp; omega) hL hRt.2

theorem distinct_of_strict (L : List Tuple) (h : StrictBy lk L) : DistinctKeys lk L :=
  List.Pairwise.imp (fun {a b} hab e => by rw [ccmp_zero.mp e, clt_irrefl] at hab; cases hab) h

theorem length_leftNlj_le : ∀ (L R : List Tuple), (leftNlj ok L R).length ≤ L.length * (R.length + 1)
  | [], _ => by simp [leftNlj]
  | a :: L, R => by
    rw [leftNlj_cons, List.length_append, List.length_cons, Nat.succ_mul]
    have ih := length_leftNlj_le L R
    have h1 : (if (R.filter (ok a)).isEmpty then [(a, none)] else (R.filter (ok a)).map (fun b => (a, some b))).length ≤ R.length + 1 := by
      split
      · simp
      · simp only [List.length_map]; have := List.length_filter_le (ok a) R; omega
    omega

theorem left_machine_perm (hok : ∀ a b, ok a b = true → lk a = rk b) (L R : List Tuple) (hL : StrictBy lk L) (hR : SortedBy rk R) :
    (leftMergeJoin lk rk ok L R).Perm (leftNlj ok L R) := by
  have hp : (leftSpec lk rk ok (L.length + R.length + 1) L R).Perm (leftNlj ok L R) :=
    leftSpec_perm lk rk ok hok _ L R (Nat.le_refl _) hL hR
  have hlen := hp.length_eq
  have hb := length_leftNlj_le ok L R
  have hm : L.length * (R.length + 1) ≤ (L.length + 1) * (R.length + 1) := Nat.mul_le_mul_right _ (Nat.le_succ _)
  unfold leftMergeJoin
  rw [left_machine_eq_spec lk rk ok L R (distinct_of_strict lk L hL) _ (Nat.le_refl _), List.take_of_length_le (by omega)]
  exact hp

end DoltVerif.Query
