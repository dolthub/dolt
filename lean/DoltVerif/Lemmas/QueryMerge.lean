import DoltVerif.Lemmas.Query
/-! C26: the reference joins as one notion (`groupJoin`), the block of equal keys at the head of a sorted list
(`keyBlock_sorted`), and: the inner merge join state machine returns a permutation of the nested-loop join. -/
namespace DoltVerif.Query

/-- Both reference joins are of this form: every left row with what `emit` makes of the right rows the filter accepts
for it (`nlj`: a pair for each of them; `leftNlj`: the same, or the NULL-extended row when there is none). -/
def groupJoin {α β γ : Type} (emit : α → List β → List γ) (on : α → β → Bool) (l : List α) (r : List β) : List γ :=
  l.flatMap (fun a => emit a (r.filter (on a)))

def pairs {α β : Type} (a : α) (ms : List β) : List (α × β) := ms.map (fun b => (a, b))

theorem nlj_eq {α β : Type} (on : α → β → Bool) (l : List α) (r : List β) : nlj on l r = groupJoin pairs on l r := rfl

theorem keyEq_true {a b : Cell} (h : keyEq a b = true) : a = b := by
  cases a <;> cases b <;> simp [keyEq] at h ⊢; exact h

theorem keyEq_false_of_clt {a b : Cell} (h : clt a b = true ∨ clt b a = true) : keyEq a b = false := by
  cases hk : keyEq a b with
  | false => rfl
  | true => rw [keyEq_true hk, clt_irrefl] at h; simp at h

theorem filter_none {β : Type} (p : β → Bool) (l : List β) (h : ∀ b ∈ l, p b = false) : l.filter p = [] := by
  rw [List.filter_eq_nil_iff]; intro b hb; simp [h b hb]

section
variable {α β γ : Type} (emit : α → List β → List γ) (on : α → β → Bool)

theorem groupJoin_cons (a : α) (l : List α) (r : List β) :
    groupJoin emit on (a :: l) r = emit a (r.filter (on a)) ++ groupJoin emit on l r := List.flatMap_cons

theorem groupJoin_singleton (a : α) (r : List β) : groupJoin emit on [a] r = emit a (r.filter (on a)) :=
  List.flatMap_singleton _ a

theorem groupJoin_append (l1 l2 : List α) (r : List β) :
    groupJoin emit on (l1 ++ l2) r = groupJoin emit on l1 r ++ groupJoin emit on l2 r := List.flatMap_append

theorem groupJoin_congr : ∀ {l : List α} {r r' : List β}, (∀ a ∈ l, r.filter (on a) = r'.filter (on a)) →
    groupJoin emit on l r = groupJoin emit on l r'
  | [], _, _, _ => rfl
  | a :: l, _, _, h => by
    rw [groupJoin_cons, groupJoin_cons, h a (by simp), groupJoin_congr (fun x hx => h x (by simp [hx]))]

theorem groupJoin_drop_right {l : List α} {r1 : List β} (r2 : List β) (h : ∀ a ∈ l, ∀ b ∈ r1, on a b = false) :
    groupJoin emit on l (r1 ++ r2) = groupJoin emit on l r2 :=
  groupJoin_congr emit on (fun a ha => by rw [List.filter_append, filter_none _ r1 (h a ha), List.nil_append])

theorem groupJoin_drop_right_tail {l : List α} (r1 : List β) {r2 : List β} (h : ∀ a ∈ l, ∀ b ∈ r2, on a b = false) :
    groupJoin emit on l (r1 ++ r2) = groupJoin emit on l r1 :=
  groupJoin_congr emit on (fun a ha => by rw [List.filter_append, filter_none _ r2 (h a ha), List.append_nil])

theorem groupJoin_blocks {l1 l2 : List α} {r1 r2 : List β} (h12 : ∀ a ∈ l1, ∀ b ∈ r2, on a b = false)
    (h21 : ∀ a ∈ l2, ∀ b ∈ r1, on a b = false) :
    groupJoin emit on (l1 ++ l2) (r1 ++ r2) = groupJoin emit on l1 r1 ++ groupJoin emit on l2 r2 := by
  rw [groupJoin_append, groupJoin_drop_right_tail emit on r1 h12, groupJoin_drop_right emit on r2 h21]

theorem groupJoin_perm (hemit : ∀ a {ms ms'}, ms.Perm ms' → (emit a ms).Perm (emit a ms')) {r r' : List β} (h : r.Perm r') :
    ∀ l : List α, (groupJoin emit on l r).Perm (groupJoin emit on l r')
  | [] => .refl _
  | a :: l => by
    rw [groupJoin_cons, groupJoin_cons]
    exact (hemit a (h.filter _)).append (groupJoin_perm hemit h l)

end

theorem nlj_nil_right {α β : Type} (on : α → β → Bool) (l : List α) : nlj on l ([] : List β) = [] :=
  List.flatMap_eq_nil_iff.mpr (fun _ _ => rfl)

theorem nlj_cons_left {α β : Type} (on : α → β → Bool) (a : α) (l : List α) (r : List β) :
    nlj on (a :: l) r = (r.filter (on a)).map (fun b => (a, b)) ++ nlj on l r := groupJoin_cons pairs on a l r

theorem nlj_append_left {α β : Type} (on : α → β → Bool) (l1 l2 : List α) (r : List β) :
    nlj on (l1 ++ l2) r = nlj on l1 r ++ nlj on l2 r := groupJoin_append pairs on l1 l2 r

theorem nlj_no_match {α β : Type} (on : α → β → Bool) : ∀ (l : List α) (r : List β),
    (∀ a ∈ l, ∀ b ∈ r, on a b = false) → nlj on l r = []
  | l, r, h => by
    rw [← List.append_nil r, nlj_eq, groupJoin_drop_right pairs on [] h]
    exact nlj_nil_right on l

def SortedBy (key : Tuple → Cell) (l : List Tuple) : Prop := l.Pairwise (fun a b => clt (key b) (key a) = false)

theorem clt_all_of_clt_head {key : Tuple → Cell} {x : Tuple} {xs : List Tuple} (hs : SortedBy key (x :: xs)) {k : Cell}
    (hk : clt k (key x) = true) : ∀ b ∈ x :: xs, clt k (key b) = true := by
  intro b hb
  rcases List.mem_cons.mp hb with rfl | hb
  · exact hk
  · exact clt_of_lt_of_le hk ((List.pairwise_cons.mp hs).1 b hb)

theorem sorted_all_gt (key : Tuple → Cell) (k : Cell) : ∀ l : List Tuple, SortedBy key l →
    (∀ b ∈ l, clt (key b) k = false) → (∀ b, l.head? = some b → key b ≠ k) → ∀ b ∈ l, clt k (key b) = true
  | [], _, _, _ => by simp
  | x :: xs, hs, hge, hne => by
    refine clt_all_of_clt_head hs ?_
    rcases clt_total k (key x) with e | e | e
    · exact absurd e.symm (hne x rfl)
    · exact e
    · rw [hge x (by simp)] at e; cases e

theorem ok_false_of_clt {lk rk : Tuple → Cell} {ok : Tuple → Tuple → Bool} (hok : ∀ a b, ok a b = true → lk a = rk b)
    {a b : Tuple} (h : clt (lk a) (rk b) = true ∨ clt (rk b) (lk a) = true) : ok a b = false := by
  cases hk : ok a b with
  | false => rfl
  | true => rw [hok a b hk, clt_irrefl] at h; simp at h

theorem fillBuf_eq_span (rk : Tuple → Cell) (k : Cell) : ∀ rs : List Tuple,
    fillBuf rk k rs = (rs.takeWhile (fun r => ccmp k (rk r) == 0), rs.dropWhile (fun r => ccmp k (rk r) == 0))
  | [] => rfl
  | r :: rs => by
    by_cases hc : (ccmp k (rk r) == 0) = true
    · simp only [fillBuf, hc, if_true, fillBuf_eq_span rk k rs, List.takeWhile_cons, List.dropWhile_cons]
    · simp only [fillBuf, hc, Bool.false_eq_true, if_false, List.takeWhile_cons, List.dropWhile_cons]

/-- used on both sides: for the look-ahead buffer on the right, for the left rows that re-use it on the left -/
theorem keyBlock_sorted (key : Tuple → Cell) (k : Cell) (l : List Tuple) (hs : SortedBy key l)
    (hge : ∀ b ∈ l, clt (key b) k = false) :
    (∀ b ∈ l.takeWhile (fun x => ccmp k (key x) == 0), key b = k) ∧
    SortedBy key (l.dropWhile (fun x => ccmp k (key x) == 0)) ∧
    ∀ b ∈ l.dropWhile (fun x => ccmp k (key x) == 0), clt k (key b) = true := by
  have hsub := List.dropWhile_sublist (fun x => ccmp k (key x) == 0) (l := l)
  refine ⟨fun b hb => (ccmp_zero.mp (by simpa using List.all_eq_true.mp List.all_takeWhile b hb)).symm, hs.sublist hsub,
    sorted_all_gt key k _ (hs.sublist hsub) (fun b hb => hge b (hsub.subset hb)) (fun b hb e => ?_)⟩
  have := List.head?_dropWhile_not (fun x => ccmp k (key x) == 0) l
  rw [hb] at this
  simp [ccmp_zero.mpr e.symm] at this

theorem mergeJoinFuel_perm (lk rk : Tuple → Cell) (ok : Tuple → Tuple → Bool) (hok : ∀ a b, ok a b = true → lk a = rk b)
    (fuel : Nat) (L R : List Tuple) : L.length + R.length < fuel → SortedBy lk L → SortedBy rk R →
      (mergeJoinFuel lk rk ok fuel L R).Perm (groupJoin pairs ok L R) := by
  fun_induction mergeJoinFuel lk rk ok fuel L R with
  | case1 => intro h; omega
  | case2 => intro _ _ _; exact .refl _
  | case3 L _ _ => intro _ _ _; rw [← nlj_eq, nlj_nil_right]
  | case4 fuel l ls r rs c hlt ih =>
    -- left key smaller: l matches nothing
    intro hf hL hR
    have hl : clt (lk l) (rk r) = true := ccmp_neg.mp hlt
    rw [groupJoin_cons, filter_none _ (r :: rs) (fun b hb => ok_false_of_clt hok (Or.inl (clt_all_of_clt_head hR hl b hb)))]
    exact ih (by simp only [List.length_cons] at hf ⊢; omega) (List.pairwise_cons.mp hL).2 hR
  | case5 fuel l ls r rs c _ hgt ih =>
    -- right key smaller: r matches nothing
    intro hf hL hR
    have hr : clt (rk r) (lk l) = true := ccmp_pos.mp hgt
    rw [show r :: rs = [r] ++ rs from rfl, groupJoin_drop_right pairs ok rs (fun a ha b hb => by
      rw [List.mem_singleton.mp hb]
      exact ok_false_of_clt hok (Or.inr (clt_all_of_clt_head hL hr a ha)))]
    exact ih (by simp only [List.length_cons] at hf ⊢; omega) hL (List.pairwise_cons.mp hR).2
  | case6 fuel l ls r rs c hlt hgt fb same lsRest ih =>
    -- equal keys: the two blocks with this key are joined with each other, the rest with the rest
    intro hf hL hR
    have hLt := List.pairwise_cons.mp hL
    have hRt := List.pairwise_cons.mp hR
    have hz : lk l = rk r := ccmp_zero.mp (by omega)
    obtain ⟨hbufK, hRR, hrestGt⟩ := keyBlock_sorted rk (lk l) rs hRt.2 (by rw [hz]; exact hRt.1)
    obtain ⟨hsameK, hLR, hlsrGt⟩ := keyBlock_sorted lk (lk l) ls hLt.2 hLt.1
    have hrs := List.takeWhile_append_dropWhile (p := fun r => ccmp (lk l) (rk r) == 0) (l := rs)
    have hls := List.takeWhile_append_dropWhile (p := fun l' => ccmp (lk l) (lk l') == 0) (l := ls)
    simp only [fb, same, lsRest, fillBuf_eq_span] at ih ⊢
    clear fb same lsRest
    generalize rs.takeWhile (fun r => ccmp (lk l) (rk r) == 0) = buf at *
    generalize rs.dropWhile (fun r => ccmp (lk l) (rk r) == 0) = rest at *
    generalize ls.takeWhile (fun l' => ccmp (lk l) (lk l') == 0) = same at *
    generalize ls.dropWhile (fun l' => ccmp (lk l) (lk l') == 0) = lsRest at *
    subst hrs hls
    have hsameK' : ∀ a ∈ l :: same, lk a = lk l := List.forall_mem_cons.mpr ⟨rfl, hsameK⟩
    have hbufK' : ∀ b ∈ r :: buf, rk b = lk l := List.forall_mem_cons.mpr ⟨hz.symm, hbufK⟩
    rw [show l :: (same ++ lsRest) = (l :: same) ++ lsRest from rfl, show r :: (buf ++ rest) = (r :: buf) ++ rest from rfl,
      groupJoin_blocks pairs ok
        (fun a ha b hb => ok_false_of_clt hok (Or.inl (by rw [hsameK' a ha]; exact hrestGt b hb)))
        (fun a ha b hb => ok_false_of_clt hok (Or.inr (by rw [hbufK' b hb]; exact hlsrGt a ha)))]
    refine List.Perm.append ?_ (ih (by simp only [List.length_cons, List.length_append] at hf; omega) hLR hRR)
    -- the look-ahead buffer is emitted before the current right row
    exact groupJoin_perm pairs ok (fun a _ _ h => h.map _) (List.perm_append_singleton r buf) (l :: same)
theorem mergeJoin_perm (lk rk : Tuple → Cell) (ok : Tuple → Tuple → Bool) (hok : ∀ a b, ok a b = true → lk a = rk b)
    (left right : List Tuple) (hL : SortedBy lk left) (hR : SortedBy rk right) :
    (mergeJoin lk rk ok left right).Perm (nlj ok left right) :=
  mergeJoinFuel_perm lk rk ok hok _ left right (by omega) hL hR

end DoltVerif.Query
