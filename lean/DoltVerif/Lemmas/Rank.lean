/-
The rank of a key predicate in a sorted association list (`rankP`), the position a predicate
search lands on: lookup reads the entry at the probe's rank, a range window holds every match (C11).
Also the list lemmas (`sorted_append_*`, `takeWhile`/`dropWhile`) the tree files use.
-/
import DoltVerif.Lemmas.Search
import DoltVerif.Spec.SortedDict
namespace DoltVerif.Prolly
open DoltVerif.SortedDict

variable {κ ν α : Type}

theorem sorted_append_left {cmp : κ → κ → Ordering} {a b : List (κ × ν)} (h : Sorted cmp (a ++ b)) : Sorted cmp a :=
  (List.pairwise_append.mp h).1
theorem sorted_append_right {cmp : κ → κ → Ordering} {a b : List (κ × ν)} (h : Sorted cmp (a ++ b)) : Sorted cmp b :=
  (List.pairwise_append.mp h).2.1
theorem sorted_append_lt {cmp : κ → κ → Ordering} {a b : List (κ × ν)} (h : Sorted cmp (a ++ b)) :
    ∀ x ∈ a, ∀ y ∈ b, cmp x.1 y.1 = .lt :=
  (List.pairwise_append.mp h).2.2

theorem sorted_of_mem_flatten {cmp : κ → κ → Ordering} (ls : List (List (κ × ν))) (l : List (κ × ν)) (h : l ∈ ls)
    (hs : Sorted cmp ls.flatten) : Sorted cmp l :=
  (List.pairwise_flatten.mp hs).1 l h

theorem mem_takeWhile_true (p : α → Bool) (l : List α) (x : α) (h : x ∈ l.takeWhile p) : p x = true :=
  List.all_eq_true.mp List.all_takeWhile x h

theorem dropWhile_head (p : α → Bool) (l : List α) (x : α) (rest : List α)
    (h : l.dropWhile p = x :: rest) : p x = false := by
  have := List.head_dropWhile_not p (l := l) (by rw [h]; exact List.cons_ne_nil _ _)
  simpa only [h, List.head_cons] using this

theorem take_takeWhile_length (q : α → Bool) (l : List α) :
    l.take (l.takeWhile q).length = l.takeWhile q ∧ l.drop (l.takeWhile q).length = l.dropWhile q := by
  rw [length_takeWhile]
  exact ⟨List.takeWhile_eq_take_findIdx_not.symm, List.dropWhile_eq_drop_findIdx_not.symm⟩

/-- number of entries before the first one whose key satisfies `p` -/
def rankP (p : κ → Bool) (kvs : List (κ × ν)) : Nat := (kvs.takeWhile (fun kv => !p kv.1)).length

theorem rankP_le (p : κ → Bool) (l : List (κ × ν)) : rankP p l ≤ l.length :=
  (List.takeWhile_sublist _).length_le

theorem rankP_lt {p : κ → Bool} {l : List (κ × ν)} {x : κ × ν} (hx : x ∈ l) (hp : p x.1 = true) :
    rankP p l < l.length := by
  refine Nat.lt_of_le_of_ne (rankP_le p l) (fun h => ?_)
  have := mem_takeWhile_true _ l x (((List.takeWhile_sublist _).eq_of_length h).symm ▸ hx)
  simp [hp] at this

theorem rankP_append (p : κ → Bool) (a b c : List (κ × ν)) (ha : ∀ x ∈ a, p x.1 = false)
    (hc : ∀ x ∈ c, p x.1 = true) : rankP p (a ++ (b ++ c)) = a.length + rankP p b := by
  -- the scan passes all of `a` and stops at the head of `c` at the latest
  have hc' : c.takeWhile (fun kv => !p kv.1) = [] := by
    cases c with
    | nil => rfl
    | cons x c => simp [hc x List.mem_cons_self]
  unfold rankP
  rw [List.takeWhile_append_of_pos (fun x hx => by simp [ha x hx]), List.length_append, List.takeWhile_append, hc',
    List.append_nil]
  split
  · next h => rw [h]
  · rfl

theorem lookup_eq_at_rank {cmp : κ → κ → Ordering} (hc : TotalPreorder cmp) : ∀ (l : List (κ × ν)),
    Sorted cmp l → ∀ (k : κ),
    lookup cmp l k = match l[rankP (fun x => cmp k x != .gt) l]? with
      | some kv => if cmp k kv.1 == .eq then some kv else none
      | none => none
  | [], _, _ => rfl
  | kv :: l, hs, k => by
    have hs' := List.pairwise_cons.mp hs
    have ih := lookup_eq_at_rank hc l hs'.2 k
    unfold lookup rankP at ih ⊢
    rw [List.find?_cons, List.takeWhile_cons]
    cases hk : cmp k kv.1 with
    | gt => simpa [hk] using ih
    | eq => simp [hk]
    | lt =>
      -- `kv` is above the probe, and so is everything after it
      have : l.find? (fun kv => cmp k kv.1 == .eq) = none := List.find?_eq_none.mpr (fun x hx => by
        simp [hc.lt_trans k kv.1 x.1 hk (hs'.1 x hx)])
      simp [hk, this]

theorem dropWhile_all {cmp : κ → κ → Ordering} {p : κ → Bool} (hp : Mono cmp p) :
    ∀ (l : List (κ × ν)), Sorted cmp l → ∀ x ∈ l.dropWhile (fun kv => !p kv.1), p x.1 = true := by
  intro l
  fun_induction List.dropWhile (fun kv : κ × ν => !p kv.1) l with
  | case1 => simp
  | case2 _ _ _ ih => exact fun hs => ih (List.pairwise_cons.mp hs).2  -- `y` is dropped
  | case3 y l hy => -- the scan stops at `y`; what follows is above it
    intro hs x h
    have hy : p y.1 = true := by simpa using hy
    rcases List.mem_cons.mp h with rfl | hx
    · exact hy
    · exact hp y.1 x.1 (by rw [(List.pairwise_cons.mp hs).1 x hx]; simp) hy

theorem filter_window (m : α → Bool) (l : List α) (a b : Nat) (hpre : (l.take a).filter m = [])
    (hpost : (l.drop b).filter m = []) :
    (if a < b then (l.drop a).take (b - a) else []).filter m = l.filter m := by
  have h1 : l.filter m = (l.take b).filter m := by
    conv => lhs; rw [← List.take_append_drop b l]
    rw [List.filter_append, hpost, List.append_nil]
  by_cases hab : a < b
  · have h2 : l.take b = l.take a ++ (l.drop a).take (b - a) := by
      have : l.take b = (l.take b).take a ++ (l.take b).drop a := (List.take_append_drop a _).symm
      rw [this, List.take_take, List.drop_take, Nat.min_eq_left (Nat.le_of_lt hab)]
    rw [if_pos hab, h1, h2, List.filter_append, hpre, List.nil_append]
  · -- b ≤ a: the first b entries are among the first a entries
    have h2 : l.take b = (l.take a).take b := by
      rw [List.take_take, Nat.min_eq_left (Nat.le_of_not_lt hab)]
    rw [if_neg hab, h1, h2, List.filter_nil]
    exact (List.filter_eq_nil_iff.mpr (fun x hx =>
      List.filter_eq_nil_iff.mp hpre x ((List.take_sublist _ _).subset hx))).symm

/-- holds also when the window is empty or inverted (`rankP pHi l ≤ rankP pLo l`): then nothing matches -/
theorem window_filter {cmp : κ → κ → Ordering} {pLo pHi : κ → Bool} (hHi : Mono cmp pHi)
    (l : List (κ × ν)) (hs : Sorted cmp l) (m : κ × ν → Bool)
    (hm : ∀ x, m x = true → pLo x.1 = true ∧ pHi x.1 = false) :
    ((if rankP pLo l < rankP pHi l then (l.drop (rankP pLo l)).take (rankP pHi l - rankP pLo l) else []).filter m)
      = l.filter m := by
  apply filter_window
  · rw [List.filter_eq_nil_iff]
    intro x hx hmx
    unfold rankP at hx
    rw [(take_takeWhile_length _ l).1] at hx
    have := mem_takeWhile_true _ _ x hx
    rw [(hm x hmx).1] at this; simp at this
  · rw [List.filter_eq_nil_iff]
    intro x hx hmx
    unfold rankP at hx
    rw [(take_takeWhile_length _ l).2] at hx
    have := dropWhile_all hHi l hs x hx
    rw [(hm x hmx).2] at this; cases this

end DoltVerif.Prolly
