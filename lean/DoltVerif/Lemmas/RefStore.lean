import DoltVerif.Model.RefStore
/-! The ref store model (family RefStore, C20/C21): the event log read as a sequential program (`Valid`,
`final`, `roots`, and how they split where a log is cut in two), what an enabled `attempt` does
(`step_attempt`), and the invariant `Good` that ties the log to the root register along every schedule. -/
namespace DoltVerif.RefStore

theorem get_put_same {m : DMap} {n : Name} {v : Nat} (h : n < m.length) : get (put m n v) n = v := by
  simp [get, put, List.getD_eq_getElem?_getD, h]

theorem get_put_other {m : DMap} {n k : Name} {v : Nat} (h : k ≠ n) : get (put m n v) k = get m k := by
  simp [get, put, List.getD_eq_getElem?_getD, Ne.symm h]

theorem length_put (m : DMap) (n : Name) (v : Nat) : (put m n v).length = m.length := by
  simp [put]

/-- sequential validity of an event list from the state `cur`; a failed event need only be an error
of its edit on the map its thread had read, whatever the state is by then -/
def Valid (os : Objs) : DMap → List Event → Prop
  | _, [] => True
  | cur, .applied _ op loc pre post :: rest =>
      pre = cur ∧ (edit os op loc pre).2 = .ok post ∧ Valid os post rest
  | cur, .failed _ op loc seen _ _ e :: rest =>
      (edit os op loc seen).2 = .error e ∧ Valid os cur rest

/-- the state after the successful events, applied one at a time in CAS order -/
def final : DMap → List Event → DMap
  | cur, [] => cur
  | _, .applied _ _ _ _ post :: rest => final post rest
  | cur, .failed _ _ _ _ _ _ _ :: rest => final cur rest

/-- every value the root held -/
def roots : DMap → List Event → List DMap
  | cur, [] => [cur]
  | cur, .applied _ _ _ _ post :: rest => cur :: roots post rest
  | cur, .failed _ _ _ _ _ _ _ :: rest => roots cur rest

theorem final_append {evs' : List Event} : ∀ {cur : DMap} {evs : List Event},
    final cur (evs ++ evs') = final (final cur evs) evs'
  | _, [] => rfl
  | _, .applied .. :: rest => final_append (evs := rest)
  | _, .failed .. :: rest => final_append (evs := rest)

theorem valid_append {os : Objs} {evs' : List Event} : ∀ {cur : DMap} {evs : List Event},
    Valid os cur (evs ++ evs') ↔ Valid os cur evs ∧ Valid os (final cur evs) evs'
  | _, [] => ⟨fun h => ⟨trivial, h⟩, fun h => h.2⟩
  | _, .applied .. :: rest => by
    simp only [List.cons_append, Valid, final, valid_append (evs := rest), and_assoc]
  | _, .failed .. :: rest => by
    simp only [List.cons_append, Valid, final, valid_append (evs := rest), and_assoc]

theorem roots_head : ∀ {cur : DMap} {evs : List Event}, roots cur evs = cur :: (roots cur evs).tail
  | _, [] => rfl
  | _, .applied .. :: _ => rfl
  | _, .failed .. :: rest => roots_head (evs := rest)

theorem roots_append {evs' : List Event} : ∀ {cur : DMap} {evs : List Event},
    roots cur (evs ++ evs') = roots cur evs ++ (roots (final cur evs) evs').tail
  | _, [] => roots_head
  | _, .applied .. :: rest => by
    simp only [List.cons_append, roots, final, roots_append (evs := rest)]
  | _, .failed .. :: rest => by
    simp only [List.cons_append, roots, final, roots_append (evs := rest)]

theorem valid_applied {os : Objs} {cur : DMap} {evs : List Event} (hv : Valid os cur evs)
    {t : Nat} {op : Op} {loc : Nat} {pre post : DMap} (hm : Event.applied t op loc pre post ∈ evs) :
    (edit os op loc pre).2 = .ok post := by
  obtain ⟨l1, l2, rfl⟩ := List.append_of_mem hm
  exact (valid_append.1 hv).2.2.1

/-- the three outcomes of an `attempt` on the map `r` the thread read: the edit fails (logged); the CAS
succeeds, the root still being `r` (new root, logged); the CAS loses to a root that has moved (retry:
nothing visible changes) -/
theorem step_attempt {os : Objs} {s s' : State} {t : Nat} (hs : step os s (.attempt t) = some s') :
    ∃ th r k, thread s t = some th ∧ th.pc = some (r, k) ∧
      ((∃ e, (edit os th.op th.loc r).2 = .error e ∧
          s' = { s with threads := s.threads.set t none,
                        events := s.events ++ [.failed t th.op th.loc r k th.since e] }) ∨
       (∃ m', (edit os th.op th.loc r).2 = .ok m' ∧ s.root = r ∧
          s' = { root := m', hist := s.hist ++ [m'], threads := s.threads.set t none,
                 events := s.events ++ [.applied t th.op th.loc r m'] }) ∨
       (s'.root = s.root ∧ s'.hist = s.hist ∧ s'.events = s.events)) := by
  -- the paths of `step` for every label, of which `hl` dismisses those of the other labels
  generalize hl : Label.attempt t = l at hs
  revert hl hs
  fun_cases step os s l <;> intro hl hs <;> cases hl <;> cases hs
  next th r k hpc _ e hed hth => exact ⟨th, r, k, hth, hpc, .inl ⟨e, by rw [hed], rfl⟩⟩
  next th k _ m' hpc hed hth => exact ⟨th, _, k, hth, hpc, .inr (.inl ⟨m', by rw [hed], rfl, rfl⟩)⟩
  next th r k hpc _ _ _ _ hth => exact ⟨th, r, k, hth, hpc, .inr (.inr ⟨rfl, rfl, rfl⟩)⟩

structure Good (os : Objs) (init : DMap) (s : State) : Prop where
  valid : Valid os init s.events
  root_eq : final init s.events = s.root
  hist_eq : s.hist = roots init s.events

theorem good_init (os : Objs) (init : DMap) (n : Nat) : Good os init (State.init init n) :=
  ⟨trivial, rfl, rfl⟩

theorem good_step {os : Objs} {init : DMap} {s s' : State} {l : Label} (hg : Good os init s)
    (hs : step os s l = some s') : Good os init s' := by
  revert hs
  fun_cases step os s l <;> intro hs <;> cases hs
  -- `invoke`, `read`, `crash` and an `attempt` whose CAS loses leave root, history and log alone
  all_goals try exact ⟨hg.valid, hg.root_eq, hg.hist_eq⟩
  next hed =>
    -- the edit fails
    exact ⟨valid_append.2 ⟨hg.valid, by rw [hed], trivial⟩, final_append.trans hg.root_eq,
      hg.hist_eq.trans (by rw [roots_append]; exact (List.append_nil _).symm)⟩
  next hed =>
    -- the CAS succeeds: the root is still the map the thread read
    exact ⟨valid_append.2 ⟨hg.valid, hg.root_eq.symm, by rw [hed], trivial⟩, final_append,
      by rw [roots_append, ← hg.hist_eq]; rfl⟩

theorem good_exec {os : Objs} {init : DMap} : ∀ {sched : List Label} {s s' : State}, Good os init s →
    exec os s sched = some s' → Good os init s'
  | [], s, s', hg, h => by simp only [exec] at h; cases h; exact hg
  | l :: ls, s, s', hg, h => by
    simp only [exec] at h
    split at h
    · rename_i s1 hs1
      exact good_exec (good_step hg hs1) h
    · cases h

end DoltVerif.RefStore
