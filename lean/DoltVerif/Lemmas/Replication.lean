import DoltVerif.Model.Replication
import DoltVerif.Lemmas.AssocList
/-! The few elementary updates the hook and the replicate thread of the cluster commit-hook machine of `Model/Replication`
(A) perform (`newRoot` … `toStandby`): what an enabled step of `cstep` does is, by `rfl`, a composition of them, so that an
invariant is shown per update and read off per step.  At the end: the branch maps of (B) after `setB`, `delB`. -/
namespace DoltVerif.Replication

/-- a commit lands in the primary's store: a root never seen before -/
def newRoot (s : CState) : CState := { s with proot := s.fresh, hist := s.fresh :: s.hist, fresh := s.fresh + 1 }

/-- `nextHead := proot` (hook `Execute`, `primaryNeedsInit`) -/
def setNext (s : CState) : CState := { s with nextHead := s.proot }

/-- the commit whose hook runs registers with the ProgressNotifier -/
def addWaiter (s : CState) : CState := { s with waiters := s.proot :: s.waiters }

/-- the quiesce branch of the replicate thread: every outstanding waiter is released as a success -/
def ackWaiters (s : CState) : CState := { s with acked := s.waiters ++ s.acked, waiters := [] }

/-- `attemptReplicate` starts: `toPush := nextHead`, `BeginAttempt` takes over the registered waiters -/
def beginAttempt (s : CState) : CState :=
  { s with inflight := some s.nextHead, attemptWaiters := s.waiters, waiters := [] }

/-- the standby commits root `r` -/
def land (s : CState) (r : Nat) : CState := { s with sroot := r, shist := r :: s.shist }

/-- the attempt for `r` returns success: `lastPushedHead := r`, the attempt's waiters are released -/
def learn (s : CState) (r : Nat) : CState :=
  { s with inflight := none, lastPushed := r, acked := s.attemptWaiters ++ s.acked, attemptWaiters := [] }

/-- the attempt ends with an error: its waiters wait again -/
def requeue (s : CState) : CState :=
  { s with inflight := none, waiters := s.attemptWaiters ++ s.waiters, attemptWaiters := [] }

/-- `setRole(standby)`: the heads are zeroed, a running attempt is cancelled, and the quiesce branch of a hook that is
no longer primary releases every outstanding waiter -/
def toStandby (s : CState) : CState :=
  { s with role := .standby, nextHead := 0, lastPushed := 0, inflight := none,
           acked := s.waiters ++ (s.attemptWaiters ++ s.acked), waiters := [], attemptWaiters := [] }

theorem setNext_of_eq {s : CState} (h : s.proot = s.nextHead) : setNext s = s := by
  cases s; simp only [setNext] at h ⊢; rw [h]

/-- `Execute` leaves `nextHead = proot` whether or not it had to assign it -/
theorem ite_setNext (s : CState) :
    (if s.proot != s.nextHead then { s with nextHead := s.proot } else s) = setNext s := by
  by_cases hne : s.proot = s.nextHead
  · rw [if_neg (by simpa using hne), setNext_of_eq hne]
  · exact if_pos (by simpa using hne)

theorem mem_setB {m : List (Branch × Nat)} {b : Branch} {v : Nat} {p : Branch × Nat}
    (h : p ∈ setB m b v) : p = (b, v) ∨ p ∈ m :=
  (List.mem_cons.1 h).imp_right fun h => (List.mem_filter.1 h).1

theorem lookup_setB (m : List (Branch × Nat)) (b : Branch) (v : Nat) : (setB m b v).lookup b = some v :=
  List.lookup_cons_self

theorem lookup_setB_other (m : List (Branch × Nat)) (b c : Branch) (v : Nat) (h : c ≠ b) :
    (setB m b v).lookup c = m.lookup c := lookup_cons_filter_ne m v h

theorem lookup_delB_other (m : List (Branch × Nat)) (b c : Branch) (h : c ≠ b) :
    (delB m b).lookup c = m.lookup c := lookup_filter_ne m h

theorem lookup_delB_same (m : List (Branch × Nat)) (b : Branch) : (delB m b).lookup b = none :=
  lookup_filter_self m b

theorem setB_subset_cons {m hist : List (Branch × Nat)} (h : ∀ p ∈ m, p ∈ hist) (b : Branch) (v : Nat) :
    ∀ p ∈ setB m b v, p ∈ (b, v) :: hist := by
  intro p hp
  rcases mem_setB hp with rfl | hp
  · exact List.mem_cons_self ..
  · exact List.mem_cons_of_mem _ (h p hp)

theorem prun_append (s : PState) (a b : List PStep) : prun s (a ++ b) = prun (prun s a) b := by
  induction a generalizing s with
  | nil => rfl
  | cons x a ih => exact ih _

end DoltVerif.Replication
