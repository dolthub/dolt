import DoltVerif.Lemmas.Replication
/-! The inductive invariants of the two machines of `Model/Replication`.  (A) `CInv`: shown to survive each of the updates
of `Lemmas/Replication` (`cinv_newRoot` … `cinv_toStandby`), so that `cstep_inv` reads the steps off; every
`cinv_*` names exactly the clauses that mention a field its update writes, the others carry over unchanged.
(B) `PInv`, along the paths of `pstep` (`pstep_inv`). -/
namespace DoltVerif.C45
open DoltVerif.Replication

theorem getD_inv {σ : Type} {I : σ → Prop} {s : σ} (hi : I s) {o : Option σ} (h : ∀ s', o = some s' → I s') :
    I (o.getD s) := by
  cases o with
  | none => exact hi
  | some s' => exact h s' rfl


structure CInv (s : CState) : Prop where
  fresh_pos : s.proot < s.fresh
  proot_mem : s.proot ∈ s.hist
  hist_le : ∀ r ∈ s.hist, r ≤ s.proot ∧ 0 < r
  next_ok : s.nextHead = 0 ∨ (s.nextHead ∈ s.hist)
  last_ok : s.lastPushed = 0 ∨ (s.lastPushed ∈ s.hist ∧ s.lastPushed ≤ s.sroot)
  sroot_ok : s.sroot = 0 ∨ s.sroot ∈ s.hist
  sroot_le : s.role = .primary → s.sroot ≤ s.nextHead ∨ s.nextHead = 0
  last_le : s.lastPushed ≤ s.nextHead ∨ s.nextHead = 0
  shist_ok : ∀ r ∈ s.shist, r ∈ s.hist ∧ r ≤ s.sroot
  infl_ok : ∀ t, s.inflight = some t → t ∈ s.hist ∧ t ≤ s.nextHead ∧ s.sroot ≤ t ∧ s.role = .primary
  wait_ok : ∀ w ∈ s.waiters, w ≤ s.nextHead
  await_ok : ∀ w ∈ s.attemptWaiters, ∃ t, s.inflight = some t ∧ w ≤ t
  acked_ok : ∀ r ∈ s.acked, ∃ t ∈ s.shist, r ≤ t
  standby_zero : s.role = .standby → s.nextHead = 0 ∧ s.lastPushed = 0 ∧ s.inflight = none
  sroot_shown : s.sroot = 0 ∨ s.sroot ∈ s.shist

theorem cinv_init : CInv cinit :=
  ⟨by decide, by decide, by decide, .inl rfl, .inl rfl, .inl rfl, fun _ => .inr rfl, .inr rfl,
    nofun, nofun, nofun, nofun, nofun, nofun, .inl rfl⟩

theorem le_proot {s : CState} (hi : CInv s) {x : Nat} (h : x = 0 ∨ x ∈ s.hist) : x ≤ s.proot := by
  rcases h with h | h
  · omega
  · exact (hi.hist_le x h).1

theorem CInv.last_le_sroot {s : CState} (hi : CInv s) : s.lastPushed ≤ s.sroot := by
  rcases hi.last_ok with h | h
  · omega
  · exact h.2

theorem CInv.await_le {s : CState} (hi : CInv s) {r : Nat} (hr : s.inflight = some r) : ∀ w ∈ s.attemptWaiters, w ≤ r := by
  intro w hw
  obtain ⟨t, ht, hwt⟩ := hi.await_ok w hw
  cases hr.symm.trans ht
  exact hwt

theorem caughtUp_of_eq {s : CState} (hn : 0 < s.nextHead) (hl : s.nextHead = s.lastPushed) : caughtUp s = true := by
  rw [caughtUp, Bool.or_eq_true, Bool.and_eq_true]
  exact .inr ⟨bne_iff_ne.2 (Nat.pos_iff_ne_zero.1 hn), beq_iff_eq.2 hl⟩

theorem CInv.caughtUp_sroot {s : CState} (hi : CInv s) (hp : s.role = .primary) (hc : caughtUp s = true) :
    s.nextHead = s.lastPushed ∧ s.sroot = s.nextHead ∧ s.sroot ∈ s.shist := by
  simp only [caughtUp, hp, bne_self_eq_false, Bool.false_or, Bool.and_eq_true, bne_iff_ne, ne_eq, beq_iff_eq] at hc
  have h1 := hi.last_le_sroot
  have h2 : s.sroot ≤ s.nextHead := (hi.sroot_le hp).resolve_right hc.1
  have h3 : s.sroot = s.nextHead := by omega
  exact ⟨hc.2, h3, hi.sroot_shown.resolve_left (by omega)⟩

theorem acked_append {shist l acked : List Nat} {t : Nat} (ht : t ∈ shist) (hl : ∀ x ∈ l, x ≤ t)
    (ha : ∀ r ∈ acked, ∃ t ∈ shist, r ≤ t) : ∀ r ∈ l ++ acked, ∃ t ∈ shist, r ≤ t :=
  fun r hr => (List.mem_append.1 hr).elim (fun h => ⟨t, ht, hl r h⟩) (ha r)

theorem cinv_newRoot {s : CState} (hi : CInv s) : CInv (newRoot s) := by
  have hf := hi.fresh_pos
  have hp0 : 0 < s.proot := (hi.hist_le _ hi.proot_mem).2
  exact { hi with
    fresh_pos := Nat.lt_succ_self _
    proot_mem := List.mem_cons_self ..
    hist_le := List.forall_mem_cons.2 ⟨⟨Nat.le_refl _, Nat.lt_trans hp0 hf⟩,
      fun r hr => ⟨Nat.le_trans (hi.hist_le r hr).1 (Nat.le_of_lt hf), (hi.hist_le r hr).2⟩⟩
    next_ok := hi.next_ok.imp_right (List.mem_cons_of_mem _)
    last_ok := hi.last_ok.imp_right fun h => ⟨List.mem_cons_of_mem _ h.1, h.2⟩
    sroot_ok := hi.sroot_ok.imp_right (List.mem_cons_of_mem _)
    shist_ok := fun r hr => ⟨List.mem_cons_of_mem _ (hi.shist_ok r hr).1, (hi.shist_ok r hr).2⟩
    infl_ok := fun t ht => ⟨List.mem_cons_of_mem _ (hi.infl_ok t ht).1, (hi.infl_ok t ht).2⟩ }

theorem cinv_setNext {s : CState} (hi : CInv s) (hp : s.role = .primary) : CInv (setNext s) :=
  { hi with
    next_ok := .inr hi.proot_mem
    sroot_le := fun _ => .inl (le_proot hi hi.sroot_ok)
    last_le := .inl (le_proot hi (hi.last_ok.imp_right (·.1)))
    infl_ok := fun t ht => ⟨(hi.infl_ok t ht).1, (hi.hist_le t (hi.infl_ok t ht).1).1, (hi.infl_ok t ht).2.2⟩
    wait_ok := fun w hw => Nat.le_trans (hi.wait_ok w hw) (le_proot hi hi.next_ok)
    standby_zero := fun h => nomatch hp.symm.trans h }

theorem cinv_addWaiter {s : CState} (hi : CInv s) (hw : s.proot ≤ s.nextHead) : CInv (addWaiter s) :=
  { hi with wait_ok := List.forall_mem_cons.2 ⟨hw, hi.wait_ok⟩ }

theorem cinv_ackWaiters {s : CState} (hi : CInv s) (hp : s.role = .primary) (hc : caughtUp s = true) :
    CInv (ackWaiters s) := by
  obtain ⟨_, hs, hsh⟩ := hi.caughtUp_sroot hp hc
  exact { hi with
    wait_ok := fun _ hw => nomatch hw
    acked_ok := acked_append hsh (fun x hx => hs ▸ hi.wait_ok x hx) hi.acked_ok }

theorem cinv_beginAttempt {s : CState} (hi : CInv s) (hp : s.role = .primary) (hn0 : s.nextHead ≠ 0) :
    CInv (beginAttempt s) :=
  { hi with
    infl_ok := fun _ ht => Option.some.inj ht ▸
      ⟨hi.next_ok.resolve_left hn0, Nat.le_refl _, (hi.sroot_le hp).resolve_right hn0, hp⟩
    wait_ok := fun _ hw => nomatch hw
    await_ok := fun w hw => ⟨s.nextHead, rfl, hi.wait_ok w hw⟩
    standby_zero := fun h => nomatch hp.symm.trans h }

theorem cinv_land {s : CState} (hi : CInv s) {r : Nat} (hr : s.inflight = some r) : CInv (land s r) := by
  obtain ⟨hmem, hle, hsr, hp⟩ := hi.infl_ok r hr
  exact { hi with
    last_ok := hi.last_ok.imp_right fun h => ⟨h.1, Nat.le_trans h.2 hsr⟩
    sroot_ok := .inr hmem
    sroot_le := fun _ => .inl hle
    shist_ok := List.forall_mem_cons.2 ⟨⟨hmem, Nat.le_refl _⟩,
      fun x hx => ⟨(hi.shist_ok x hx).1, Nat.le_trans (hi.shist_ok x hx).2 hsr⟩⟩
    infl_ok := fun t ht => ⟨(hi.infl_ok t ht).1, (hi.infl_ok t ht).2.1,
      Nat.le_of_eq (Option.some.inj (hr.symm.trans ht)), hp⟩
    acked_ok := fun x hx => (hi.acked_ok x hx).imp fun _ ht => ⟨List.mem_cons_of_mem _ ht.1, ht.2⟩
    sroot_shown := .inr (List.mem_cons_self ..) }

theorem cinv_learn {s : CState} (hi : CInv s) {r : Nat} (hr : s.inflight = some r) (hs : s.sroot = r) :
    CInv (learn s r) := by
  obtain ⟨hmem, hle, _, hp⟩ := hi.infl_ok r hr
  have hsh : r ∈ s.shist := hs ▸ hi.sroot_shown.resolve_left (by have := (hi.hist_le r hmem).2; omega)
  exact { hi with
    last_ok := .inr ⟨hmem, Nat.le_of_eq hs.symm⟩
    last_le := .inl hle
    infl_ok := fun _ ht => nomatch ht
    await_ok := fun _ hw => nomatch hw
    acked_ok := acked_append hsh (hi.await_le hr) hi.acked_ok
    standby_zero := fun h => nomatch hp.symm.trans h }

theorem cinv_requeue {s : CState} (hi : CInv s) {r : Nat} (hr : s.inflight = some r) : CInv (requeue s) := by
  obtain ⟨_, hle, _, hp⟩ := hi.infl_ok r hr
  exact { hi with
    infl_ok := fun _ ht => nomatch ht
    wait_ok := fun w hw => (List.mem_append.1 hw).elim
      (fun hw => Nat.le_trans (hi.await_le hr w hw) hle) (hi.wait_ok w)
    await_ok := fun _ hw => nomatch hw
    standby_zero := fun h => nomatch hp.symm.trans h }

/-- sound on a caught-up primary: what the waiters wait for the standby already shows -/
theorem cinv_toStandby {s : CState} (hi : CInv s) (hp : s.role = .primary) (hcu : caughtUp s = true) :
    CInv (toStandby s) := by
  obtain ⟨_, hs, hsh⟩ := hi.caughtUp_sroot hp hcu
  -- a cancelled attempt's root is at most `nextHead`, which the standby shows
  have haw : ∀ x ∈ s.attemptWaiters, x ≤ s.sroot := by
    intro x hx
    obtain ⟨t, ht, hxt⟩ := hi.await_ok x hx
    have := (hi.infl_ok t ht).2.1
    omega
  exact { hi with
    next_ok := .inl rfl
    last_ok := .inl rfl
    sroot_le := fun h => nomatch h
    last_le := .inr rfl
    infl_ok := fun _ ht => nomatch ht
    wait_ok := fun _ hw => nomatch hw
    await_ok := fun _ hw => nomatch hw
    acked_ok := acked_append hsh (fun x hx => hs ▸ hi.wait_ok x hx) (acked_append hsh haw hi.acked_ok)
    standby_zero := fun _ => ⟨rfl, rfl, rfl⟩ }

theorem cstep_inv {s s' : CState} (hi : CInv s) (a : CStep) (h : cstep s a = some s') : CInv s' := by
  revert h
  -- one goal per path through `cstep`, in the order of its text, with the tests on the way as hypotheses; what a path
  -- returns is, by `rfl`, the composition of updates whose `cinv_*` lemmas close it
  fun_cases cstep s a <;> intro h <;> cases h
  all_goals try exact hi  -- `exec` on a standby, `standbyRestart` with no attempt running
  next => exact cinv_newRoot hi  -- `write`
  next hp s1 hc =>
    -- `exec`, not caught up
    have hp : s.role = .primary := by simpa using hp
    rw [show s1 = setNext s from ite_setNext s]
    exact cinv_addWaiter (cinv_setNext hi hp) (Nat.le_refl _)
  next hp s1 hc =>
    -- `exec`, caught up
    have hp : s.role = .primary := by simpa using hp
    rw [show s1 = setNext s from ite_setNext s] at hc ⊢
    exact cinv_ackWaiters (cinv_setNext hi hp) hp (by simpa using hc)
  next hc =>
    -- `init`
    simp only [Bool.and_eq_true, beq_iff_eq] at hc
    exact cinv_setNext hi hc.1
  next hc =>
    -- `begin`
    simp only [Bool.and_eq_true, bne_iff_ne, ne_eq, beq_iff_eq] at hc
    exact cinv_beginAttempt hi hc.1.1.2 hc.1.2
  next r hr s1 hp hn =>
    -- `finishOk`, and `nextHead` did not move during the attempt: the hook is caught up and also releases the later waiters
    have hn := beq_iff_eq.1 hn
    have h0 := (hi.hist_le _ (hi.infl_ok _ hr).1).2
    exact cinv_ackWaiters (cinv_learn (cinv_land hi hr) hr rfl) (beq_iff_eq.1 hp) (caughtUp_of_eq (hn ▸ h0) hn)
  next r hr s1 hp hn => exact cinv_learn (cinv_land hi hr) hr rfl
  next r hr s1 hp => exact absurd (hi.infl_ok _ hr).2.2.2 (by simpa using hp)  -- an attempt runs only on a primary
  next r hr => exact cinv_requeue hi hr  -- `finishFail`
  next r hr => exact cinv_requeue (cinv_land hi hr) hr  -- `finishLostAck`
  next => exact { hi with }  -- `beginGraceful`
  next hc =>
    -- `completeGraceful`
    simp only [Bool.and_eq_true, beq_iff_eq] at hc
    exact cinv_toStandby hi hc.1.1 hc.2
  next r hr => exact cinv_requeue hi hr  -- `standbyRestart` during an attempt

theorem crun_inv {s : CState} (hi : CInv s) (sched : List CStep) : CInv (crun s sched) := by
  induction sched generalizing s with
  | nil => exact hi
  | cons a as ih => exact ih (getD_inv hi fun _ => cstep_inv hi a)

structure PInv (s : PState) : Prop where
  jobs_ok : ∀ p ∈ s.jobs, p ∈ s.phist
  rhist_ok : ∀ p ∈ s.rhist, p ∈ s.phist
  rhead_ok : ∀ p ∈ s.rhead, p ∈ s.rhist
  qhist_ok : ∀ p ∈ s.qhist, p ∈ s.rhist
  qhead_ok : ∀ p ∈ s.qhead, p ∈ s.qhist
  phead_ok : ∀ p ∈ s.phead, p ∈ s.phist
  /-- a pending hook pushes the branch's CURRENT head (the TxLock keeps later commits out) -/
  job_cur : ∀ b h, s.jobs.lookup b = some h → s.phead.lookup b = some h
  /-- per branch: a hook is pending, or its last hook failed, or the remote is at the primary's head -/
  sync : ∀ b, (s.jobs.lookup b).isSome = true ∨ b ∈ s.stale ∨ s.rhead.lookup b = s.phead.lookup b
  stale_warn : s.stale ≠ [] → 0 < s.warnings

theorem pinv_init : PInv pinit := by
  refine ⟨?_, ?_, ?_, ?_, ?_, ?_, ?_, ?_, ?_⟩ <;> simp [pinit]

theorem pstep_inv {s s' : PState} (hi : PInv s) (a : PStep) (h : pstep s a = some s') : PInv s' := by
  have hjobs : ∀ b, ∀ p ∈ delB s.jobs b, p ∈ s.phist := fun b p hp => hi.jobs_ok p (List.mem_filter.mp hp).1
  have hjc : ∀ b c h, (delB s.jobs b).lookup c = some h → s.phead.lookup c = some h := by
    intro b c h hc
    by_cases hcb : c = b
    · subst hcb; rw [lookup_delB_same] at hc; cases hc
    · rw [lookup_delB_other _ _ _ hcb] at hc; exact hi.job_cur c h hc
  revert h
  fun_cases pstep s a <;> intro h <;> cases h
  next b _ =>
    -- `commit b`
    exact { hi with
      jobs_ok := setB_subset_cons hi.jobs_ok _ _
      rhist_ok := fun p hp => List.mem_cons_of_mem _ (hi.rhist_ok p hp)
      phead_ok := setB_subset_cons hi.phead_ok _ _
      job_cur := fun c h hc => by
        by_cases hcb : c = b
        · subst hcb; rw [lookup_setB] at hc ⊢; exact hc
        · rw [lookup_setB_other _ _ _ _ hcb] at hc ⊢; exact hi.job_cur c h hc
      sync := fun c => by
        by_cases hcb : c = b
        · subst hcb; left; rw [lookup_setB]; rfl
        · rw [lookup_setB_other _ _ _ _ hcb, lookup_setB_other _ _ _ _ hcb]; exact hi.sync c }
  next b hd hj s1 =>
    -- `hook b true`
    exact { hi with
      jobs_ok := hjobs b
      rhist_ok := List.forall_mem_cons.2 ⟨hi.jobs_ok _ (mem_of_lookup hj), hi.rhist_ok⟩
      rhead_ok := setB_subset_cons hi.rhead_ok _ _
      qhist_ok := fun p hp => List.mem_cons_of_mem _ (hi.qhist_ok p hp)
      job_cur := hjc b
      sync := fun c => by
        by_cases hcb : c = b
        · subst hcb; right; right; rw [lookup_setB, hi.job_cur c hd hj]
        · rw [lookup_delB_other _ _ _ hcb, lookup_setB_other _ _ _ _ hcb]
          rcases hi.sync c with h | h | h
          · exact .inl h
          · exact .inr (.inl (List.mem_filter.mpr ⟨h, by simpa using hcb⟩))
          · exact .inr (.inr h)
      stale_warn := fun hne => hi.stale_warn fun hnil => hne (by rw [hnil]; rfl) }
  next b ok hd hj s1 _ =>
    -- `hook b false`
    exact { hi with
      jobs_ok := hjobs b
      job_cur := hjc b
      sync := fun c => by
        by_cases hcb : c = b
        · subst hcb; exact .inr (.inl (List.mem_cons_self ..))
        · rw [lookup_delB_other _ _ _ hcb]
          rcases hi.sync c with h | h | h
          · exact .inl h
          · exact .inr (.inl (List.mem_cons_of_mem _ h))
          · exact .inr (.inr h)
      stale_warn := fun _ => Nat.succ_pos _ }
  next =>
    exact { hi with
      qhist_ok := fun p hp => (List.mem_append.1 hp).elim (hi.rhead_ok p) (hi.qhist_ok p)
      qhead_ok := fun p hp => List.mem_append_left _ hp }

theorem prun_inv {s : PState} (hi : PInv s) (sched : List PStep) : PInv (prun s sched) := by
  induction sched generalizing s with
  | nil => exact hi
  | cons a as ih => exact ih (getD_inv hi fun _ => pstep_inv hi a)

end DoltVerif.C45
