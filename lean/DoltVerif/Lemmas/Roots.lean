/-
Bulk build (`build`, `rootOf`; C12): the levels of the tree over a content (`lvl`, `levelItems`); what a successful
`rootOf` consists of (`Roots`, fuel-free); what it returns: the single node of the first level that has one
(`Roots.top`), found again above every level (`Roots.up`, given `SingleOk`), a well-formed tree holding the content
(`Roots.good`, `build_good`: the part C11 uses, hence the import of `TreeWF`).
-/
import DoltVerif.Lemmas.Chunker
import DoltVerif.Lemmas.TreeWF
namespace DoltVerif.Prolly

variable {σ κ ν : Type} [Inhabited κ]

/-- the nodes of level `n` of the canonical tree over the content `X` -/
def lvl (C : Cfg σ κ ν) : (n : Nat) → List (κ × ν) → List (NodeH κ ν n)
  | 0, X => (C 0).chunk X
  | n+1, X => (C (n+1)).chunk ((lvl C n X).map (summary n))

/-- the items the level-`n` chunker receives -/
def levelItems (C : Cfg σ κ ν) : (n : Nat) → List (κ × ν) → List (ItemH κ ν n)
  | 0, X => X
  | n+1, X => (lvl C n X).map (summary n)

theorem lvl_eq_chunk (C : Cfg σ κ ν) (n : Nat) (X : List (κ × ν)) :
    lvl C n X = (C n).chunk (levelItems C n X) := by
  cases n <;> rfl

theorem childOf_summary (n : Nat) (c : NodeH κ ν n) : childOf (summary n c) = c := rfl

theorem lvl_flatten (C : Cfg σ κ ν) (n : Nat) (X : List (κ × ν)) :
    (lvl C n X).flatten = levelItems C n X := by
  rw [lvl_eq_chunk]; exact (C n).chunk_flatten _

theorem lvl_ne_nil (C : Cfg σ κ ν) {X : List (κ × ν)} (hX : X ≠ []) : ∀ (n : Nat), lvl C n X ≠ []
  | 0 => fun h => hX (by have := lvl_flatten C 0 X; rw [h] at this; exact this.symm)
  | n+1 => fun h => lvl_ne_nil C hX n (by
      have := lvl_flatten C (n+1) X
      rw [h] at this
      exact List.map_eq_nil_iff.mp this.symm)

theorem rootOf_nil (C : Cfg σ κ ν) (f n : Nat) : rootOf C f n ([] : List (NodeH κ ν n)) = .ok ⟨0, []⟩ := by
  cases f <;> rfl

theorem rootOf_single (C : Cfg σ κ ν) (f n : Nat) (c : NodeH κ ν n) :
    rootOf C f n [c] = .ok (canonical n c) := by
  cases f <;> rfl

theorem rootOf_step (C : Cfg σ κ ν) (f n : Nat) (c₁ c₂ : NodeH κ ν n) (cs : List (NodeH κ ν n)) (t : Tree κ ν)
    (h : rootOf C f n (c₁ :: c₂ :: cs) = .ok t) :
    ∃ f', f = f' + 1 ∧ (C (n+1)).chunkOk ((c₁ :: c₂ :: cs).map (summary n)) = true ∧
      rootOf C f' (n+1) ((C (n+1)).chunk ((c₁ :: c₂ :: cs).map (summary n))) = .ok t := by
  cases f with
  | zero => cases h
  | succ f =>
    have h' : (if !(C (n+1)).chunkOk ((c₁ :: c₂ :: cs).map (summary n)) then Except.error BuildErr.panic
        else rootOf C f (n+1) ((C (n+1)).chunk ((c₁ :: c₂ :: cs).map (summary n)))) = .ok t := h
    cases hok : (C (n+1)).chunkOk ((c₁ :: c₂ :: cs).map (summary n)) with
    | false => rw [hok] at h'; cases h'
    | true => rw [hok] at h'; exact ⟨f, rfl, rfl, h'⟩

/-- what a successful `rootOf` consists of: no node gives the empty leaf, one node its canonical
root, more nodes are summarised and chunked one level up (without panic) -/
inductive Roots (C : Cfg σ κ ν) : (n : Nat) → List (NodeH κ ν n) → Tree κ ν → Prop
  | nil (n : Nat) : Roots C n [] ⟨0, []⟩
  | single (n : Nat) (c : NodeH κ ν n) : Roots C n [c] (canonical n c)
  | step {n : Nat} {c₁ c₂ : NodeH κ ν n} {cs : List (NodeH κ ν n)} {t : Tree κ ν} :
      (C (n+1)).chunkOk ((c₁ :: c₂ :: cs).map (summary n)) = true →
      Roots C (n+1) ((C (n+1)).chunk ((c₁ :: c₂ :: cs).map (summary n))) t → Roots C n (c₁ :: c₂ :: cs) t

theorem rootOf_roots (C : Cfg σ κ ν) : ∀ (f n : Nat) (cs : List (NodeH κ ν n)) (t : Tree κ ν),
    rootOf C f n cs = .ok t → Roots C n cs t := by
  intro f
  induction f using Nat.strongRecOn with
  | _ f ih =>
    intro n cs t h
    match cs, h with
    | [], h => rw [rootOf_nil] at h; cases h; exact .nil n
    | [c], h => rw [rootOf_single] at h; cases h; exact .single n c
    | c₁ :: c₂ :: cs, h =>
      obtain ⟨f', rfl, hok, h⟩ := rootOf_step C f n c₁ c₂ cs t h
      exact .step hok (ih f' (Nat.lt_succ_self f') (n+1) _ t h)

/-- in particular the result of a successful `rootOf` does not depend on the fuel -/
theorem Roots.unique {C : Cfg σ κ ν} {n : Nat} {cs : List (NodeH κ ν n)} {a b : Tree κ ν}
    (ha : Roots C n cs a) (hb : Roots C n cs b) : a = b := by
  induction ha with
  | nil => cases hb; rfl
  | single => cases hb; rfl
  | step _ _ ih => cases hb with
    | step _ hb => exact ih hb

theorem build_nil (C : Cfg σ κ ν) : build C ([] : List (κ × ν)) = .ok ⟨0, []⟩ := rfl

theorem build_roots (C : Cfg σ κ ν) (X : List (κ × ν)) (t : Tree κ ν) (h : build C X = .ok t) :
    (C 0).chunkOk X = true ∧ Roots C 0 (lvl C 0 X) t := by
  unfold build at h
  split at h
  · cases h
  · rename_i hok
    exact ⟨by simpa using hok, rootOf_roots C _ 0 _ t h⟩

/-- a single item at an internal level is one node (true when the level is not a leaf level and
the item fits the capacity, see `singleOk_of`) -/
def SingleOk (C : Cfg σ κ ν) : Prop := ∀ (n : Nat) (x : ItemH κ ν (n+1)), (C (n+1)).chunk [x] = [[x]]

theorem singleOk_of (C : Cfg σ κ ν) (hleaf : ∀ n, (C (n+1)).leaf = false)
    (hfit : ∀ n (x : ItemH κ ν (n+1)), (C (n+1)).weight x ≤ (C (n+1)).cap) : SingleOk C := by
  intro n x
  have hov : (C (n+1)).overflow [] x = false := by
    simp [LevelCfg.overflow, LevelCfg.size]; exact hfit n x
  simp [LevelCfg.chunk, LevelCfg.feed, LevelCfg.stepItem, LevelCfg.fresh, hov, LevelCfg.degenerate, hleaf n,
    St.flush]

theorem Roots.top {C : Cfg σ κ ν} {X : List (κ × ν)} (hX : X ≠ []) {n : Nat} {cs : List (NodeH κ ν n)} {t : Tree κ ν}
    (h : Roots C n cs t) (hcs : cs = lvl C n X) (hn : n = 0 ∨ 2 ≤ (levelItems C n X).length) :
    lvl C t.height X = [t.root] := by
  induction h with
  | nil n => exact absurd hcs.symm (lvl_ne_nil C hX n)
  | single n c =>
    have hc : c = levelItems C n X := by
      have := lvl_flatten C n X; rw [← hcs] at this; simpa using this
    cases n with
    | zero => exact hcs.symm
    | succ k =>
      -- at least two items: `getCanonicalRoot` strips nothing
      have hlen : 2 ≤ c.length := by rw [hc]; exact hn.resolve_left (Nat.succ_ne_zero k)
      match c, hlen, hcs with
      | a :: b :: r, _, hcs => exact hcs.symm
  | @step n c₁ c₂ cs t _ _ ih =>
    have hitems : (c₁ :: c₂ :: cs).map (summary n) = levelItems C (n+1) X := by rw [hcs]; rfl
    exact ih (by rw [hitems, ← lvl_eq_chunk]) (Or.inr (by rw [← hitems]; simp))

/-- a lone node's summary is one node (`SingleOk`), which `getCanonicalRoot` strips again -/
theorem Roots.up {C : Cfg σ κ ν} (hs : SingleOk C) (X : List (κ × ν)) (b : Tree κ ν) : ∀ (n : Nat),
    Roots C 0 (lvl C 0 X) b → Roots C n (lvl C n X) b
  | 0, h => h
  | n+1, h => by
    have ih := Roots.up hs X b n h
    have hup : lvl C (n+1) X = (C (n+1)).chunk ((lvl C n X).map (summary n)) := rfl
    rw [hup]
    generalize lvl C n X = cs at ih ⊢
    cases ih with
    | nil => exact .nil (n+1)
    | single _ c => rw [List.map_cons, List.map_nil, hs n (summary n c)]; exact .single (n+1) [summary n c]
    | step _ h' => exact h'

theorem canonical_good : ∀ (n : Nat) (c : NodeH κ ν n), WFNode n c → c ≠ [] →
    (canonical n c).flatten = flatten n c ∧ WFNode (canonical n c).height (canonical n c).root ∧
      ((canonical n c).height = 0 ∨ (canonical n c).root ≠ [])
  | 0, _, _, _ => ⟨rfl, trivial, Or.inl rfl⟩
  | n+1, c, hwf, hne => by
    match c, hwf, hne with
    | [], _, hne => exact absurd rfl hne
    | [it], hwf, _ =>
      obtain ⟨hch, _, _, hwc⟩ := hwf it (by simp)
      obtain ⟨h1, h2, h3⟩ := canonical_good n (childOf it) hwc hch
      refine ⟨?_, h2, h3⟩
      show (canonical n (childOf it)).flatten = _
      rw [h1]; simp [flatten]
    | a :: b :: r, hwf, _ => exact ⟨rfl, hwf, Or.inr (List.cons_ne_nil _ _)⟩

theorem Roots.good {C : Cfg σ κ ν} {n : Nat} {cs : List (NodeH κ ν n)} {t : Tree κ ν} (h : Roots C n cs t)
    (hc : ∀ c ∈ cs, WFNode n c ∧ c ≠ []) :
    t.flatten = cs.flatMap (flatten n) ∧ WFNode t.height t.root ∧ (t.height = 0 ∨ t.root ≠ []) := by
  induction h with
  | nil => exact ⟨rfl, trivial, Or.inl rfl⟩
  | single n c =>
    obtain ⟨h1, h2⟩ := canonical_good n c (hc c (by simp)).1 (hc c (by simp)).2
    exact ⟨by rw [h1]; simp, h2⟩
  | @step n c₁ c₂ cs t hok _ ih =>
    -- the next level's nodes are chunks of summaries of this level's nodes
    have hnext : ∀ nd ∈ (C (n+1)).chunk ((c₁ :: c₂ :: cs).map (summary n)), WFNode (n+1) nd ∧ nd ≠ [] :=
      fun nd hnd => ⟨wf_of_summaries hc (LevelCfg.chunk_flatten _ _) nd hnd, (C (n+1)).chunk_nonempty _ hok nd hnd⟩
    obtain ⟨h1, h2⟩ := ih hnext
    refine ⟨?_, h2⟩
    rw [h1, flatten_of_summaries (LevelCfg.chunk_flatten _ _)]

theorem build_good (C : Cfg σ κ ν) (X : List (κ × ν)) (t : Tree κ ν) (hb : build C X = .ok t) :
    t.flatten = X ∧ WFNode t.height t.root := by
  obtain ⟨hok, hr⟩ := build_roots C X t hb
  obtain ⟨h1, h2, _⟩ := hr.good (fun c hc => ⟨trivial, (C 0).chunk_nonempty X hok c hc⟩)
  exact ⟨by rw [h1, flatMap_flatten0]; exact (C 0).chunk_flatten X, h2⟩

end DoltVerif.Prolly
