import DoltVerif.Model.RowMerge
/-! The table level of the row merger, independent of cells and schemas (C29, C30, C43): tables as
association lists, row diffs, the one-sided branches of the row path at one key, the per-key fold `mergeKeys`
and `MergeTable` around it. -/
namespace DoltVerif.RowMerge

def IsOk {α} (e : Except Err α) : Prop := ∃ a, e = .ok a

theorem isOk_ok {α} (a : α) : IsOk (Except.ok a : Except Err α) := ⟨a, rfl⟩

theorem isOk_ite {α} (c : Prop) [Decidable c] (a b : Except Err α) (ha : IsOk a) (hb : IsOk b) :
    IsOk (if c then a else b) := by split <;> assumption

theorem get_put (k k2 : Key) (r : Row) (rows : Rows) :
    get (put k r rows) k2 = if k2 = k then some r else get rows k2 := by
  fun_induction put k r rows with
  | case1 => simp [get, eq_comm]
  | case2 k' r' rest hlt => simp [get, eq_comm]
  | case3 r' rest hlt =>
    by_cases h : k2 = k
    · simp [get, h]
    · simp [get, h, Ne.symm h]
  | case4 k' r' rest hlt hne ih =>
    simp only [get, ih]
    by_cases h : k' = k2
    · subst h; simp [Ne.symm hne]
    · simp [h]

theorem get_del (k k2 : Key) (rows : Rows) :
    get (del k rows) k2 = if k2 = k then none else get rows k2 := by
  fun_induction del k rows with
  | case1 => simp [get]
  | case2 r' rest ih =>
    by_cases h2 : k2 = k
    · subst h2; simpa using ih
    · simp [get, ih, h2, Ne.symm h2]
  | case3 k' r' rest hne ih =>
    simp only [get, ih]
    by_cases h2 : k' = k2
    · subst h2; simp [Ne.symm hne]
    · simp [h2]

theorem get_applyTheirs (right : Rows) (confs : List Key) (rows : Rows) (k : Key) :
    get (applyTheirs right confs rows) k = if k ∈ confs then get right k else get rows k := by
  induction confs generalizing rows with
  | nil => simp [applyTheirs]
  | cons c cs ih =>
    simp only [applyTheirs, ih, List.mem_cons]
    by_cases hk : k ∈ cs
    · simp [hk]
    · cases hr : get right c <;> by_cases hc : k = c <;> simp [hk, hc, hr, get_put, get_del]

theorem rowDiff_removed (sc : Bool) (b x : Option Row) (h : rowDiff sc b x = .removed) : x = none := by
  cases x with
  | none => rfl
  | some s => cases b <;> simp only [rowDiff] at h <;> (try split at h) <;> cases h

theorem rowDiff_modified (sc : Bool) (bb x : Row) (h : rowDiff sc (some bb) (some x) ≠ .none) :
    rowDiff sc (some bb) (some x) = .modified := by
  simp only [rowDiff] at h ⊢
  split
  · rfl
  · rename_i hn; exact absurd (if_neg hn) h

theorem rowDiff_removed_base (sc : Bool) (b : Option Row) (h : rowDiff sc b none ≠ .none) : b.isSome = true := by
  cases b with
  | none => exact absurd rfl h
  | some _ => rfl

/-- the shapes in which the differ hands a key to TryMerge -/
theorem tryMerge_shape (sl sr : Bool) (b l r : Option Row) (hl : rowDiff sl b l ≠ .none)
    (hr : rowDiff sr b r ≠ .none) (hn : ¬ (l = none ∧ r = none)) :
    (l.isSome ∧ r.isSome) ∨ (b.isSome ∧ (l.isSome ∨ r.isSome)) := by
  cases l with
  | none =>
    cases r with
    | none => exact absurd ⟨rfl, rfl⟩ hn
    | some rr => exact Or.inr ⟨rowDiff_removed_base _ b hl, Or.inr rfl⟩
  | some ll =>
    cases r with
    | none => exact Or.inr ⟨rowDiff_removed_base _ b hr, Or.inl rfl⟩
    | some rr => exact Or.inl ⟨rfl, rfl⟩

/-- the (row, conflict) part of a key outcome — what is observable of a merge -/
def KeyOut.obs (o : KeyOut) : Option Row × Bool := (o.row, o.conflict)

/-- the row path at one key as far as only ONE side has a diff; with a diff on both sides the decision is `matchBoth`'s -/
theorem mergeKeySlow_obs (pick : VM → Schema) (c : Cfg) (b l r : Option Row) :
    (mergeKeySlowG pick c b l r).map KeyOut.obs =
      if rowDiff c.flags.rightSchemaChange b r = .none then
        (if rowDiff c.flags.leftSchemaChange b l = .none then .ok (l, false)
         else (keepLeft c l).map fun x => (x, false))
      else if rowDiff c.flags.leftSchemaChange b l = .none then
        (match r with
         | some rr => (takeRight c rr).map fun x => (x, false)
         | none => .ok (none, false))
      else (matchBoth pick c (rowDiff c.flags.leftSchemaChange b l) (rowDiff c.flags.rightSchemaChange b r) b l r).map
        KeyOut.obs := by
  unfold mergeKeySlowG
  by_cases hrd : rowDiff c.flags.rightSchemaChange b r = .none
  · simp only [hrd, if_true]
    cases hld : rowDiff c.flags.leftSchemaChange b l
    -- ours removed the row: `keepLeft` of no row is no row
    case removed => cases rowDiff_removed _ _ _ hld; rfl
    case none => rfl
    all_goals cases keepLeft c l <;> rfl
  · simp only [hrd, if_false]
    by_cases hld : rowDiff c.flags.leftSchemaChange b l = .none
    · simp only [hld, if_true]
      cases r with
      | none => rfl
      | some rr => dsimp only; cases takeRight c rr <;> rfl
    · simp only [hld, if_false]

theorem mergeKeys_congr
    (f g : Option Row → Option Row → Option Row → Except Err KeyOut) (sf sg : Bool)
    (base left right : Rows)
    (h : ∀ b l r, (f b l r).map KeyOut.obs = (g b l r).map KeyOut.obs) (keys : List Key) :
    (mergeKeys f sf base left right keys).map (fun x => (x.1, x.2.1)) =
    (mergeKeys g sg base left right keys).map (fun x => (x.1, x.2.1)) := by
  induction keys with
  | nil => rfl
  | cons k ks ih =>
    have hk := h (get base k) (get left k) (get right k)
    simp only [mergeKeys, bind, Except.bind]
    generalize f (get base k) (get left k) (get right k) = x at hk ⊢
    generalize g (get base k) (get left k) (get right k) = y at hk ⊢
    generalize mergeKeys f sf base left right ks = X at ih ⊢
    generalize mergeKeys g sg base left right ks = Y at ih ⊢
    rcases x with e | ⟨op, row, cf⟩ <;> rcases y with e' | ⟨op', row', cf'⟩ <;> cases hk
    · rfl
    · rcases X with e | ⟨rows, confs, st⟩ <;> rcases Y with e' | ⟨rows', confs', st'⟩ <;> cases ih <;> rfl

theorem get_mem (rows : Rows) (k : Key) (r : Row) (h : get rows k = some r) : (k, r) ∈ rows := by
  fun_induction get rows k with
  | case1 => cases h
  | case2 k' r' rest => cases h; exact List.mem_cons_self
  | case3 k' r' rest k hne ih => exact List.mem_cons_of_mem _ (ih h)

theorem mem_insertKey (k x : Key) (xs : List Key) : x ∈ insertKey k xs ↔ x = k ∨ x ∈ xs := by
  fun_induction insertKey k xs with
  | case1 => simp
  | case2 y ys hlt => simp
  | case3 ys hlt => simp
  | case4 y ys hlt hne ih => rw [List.mem_cons, ih, List.mem_cons, or_left_comm]

theorem mem_foldr_insertKey (ps : Rows) (x : Key) :
    x ∈ ps.foldr (fun p acc => insertKey p.1 acc) [] ↔ ∃ r, (x, r) ∈ ps := by
  induction ps with
  | nil => simp
  | cons p rest ih =>
    obtain ⟨k, r⟩ := p
    simp only [List.foldr_cons, mem_insertKey, ih, List.mem_cons, Prod.mk.injEq]
    constructor
    · rintro (h | ⟨r', h⟩)
      · exact ⟨r, Or.inl ⟨h, rfl⟩⟩
      · exact ⟨r', Or.inr h⟩
    · rintro ⟨r', (⟨h, _⟩ | h)⟩
      · exact Or.inl h
      · exact Or.inr ⟨r', h⟩

theorem get_none_of_not_allKeys (a b c : Rows) (k : Key) (h : k ∉ allKeys a b c) :
    get a k = none ∧ get b k = none ∧ get c k = none := by
  have hn : ∀ rows : Rows, (∀ r, (k, r) ∉ rows) → get rows k = none := by
    intro rows hr
    cases hg : get rows k with
    | none => rfl
    | some r => exact absurd (get_mem rows k r hg) (hr r)
  simp only [allKeys, mem_foldr_insertKey, List.mem_append, not_exists, not_or] at h
  exact ⟨hn a (fun r => (h r).1.1), hn b (fun r => (h r).1.2), hn c (fun r => (h r).2)⟩

theorem get_filterMap (v : Key → Option Row) (keys : List Key) (k : Key) :
    get (keys.filterMap fun k => (v k).map (k, ·)) k = if k ∈ keys then v k else none := by
  induction keys with
  | nil => rfl
  | cons k0 ks ih =>
    rw [List.filterMap_cons]
    by_cases hk : k0 = k
    · subst hk
      cases hv : v k0 with
      | none => rw [Option.map_none, ih, hv, if_pos List.mem_cons_self, ite_self]
      | some r => rw [Option.map_some, get, if_pos rfl, if_pos List.mem_cons_self]
    · have e : (if k ∈ k0 :: ks then v k else none) = if k ∈ ks then v k else none := by
        simp only [List.mem_cons, Ne.symm hk, false_or]
      rw [e, ← ih]
      cases v k0 with
      | none => rfl
      | some r => rw [Option.map_some, get, if_neg hk]

theorem mergeKeys_spec
    (f : Option Row → Option Row → Option Row → Except Err KeyOut)
    (g : Option Row → Option Row → Option Row → Option Row × Bool) (slow : Bool)
    (base left right : Rows) (keys : List Key)
    (h : ∀ k, (f (get base k) (get left k) (get right k)).map KeyOut.obs =
        .ok (g (get base k) (get left k) (get right k))) :
    ∃ st, mergeKeys f slow base left right keys = .ok
      (keys.filterMap (fun k => (g (get base k) (get left k) (get right k)).1.map (k, ·)),
       keys.filter (fun k => (g (get base k) (get left k) (get right k)).2), st) := by
  induction keys with
  | nil => exact ⟨{}, rfl⟩
  | cons k0 ks ih =>
    obtain ⟨st, hm⟩ := ih
    have hk := h k0
    cases hf : f (get base k0) (get left k0) (get right k0) with
    | error e => rw [hf] at hk; cases hk
    | ok o =>
      rw [hf] at hk
      obtain ⟨hrow, hconf⟩ := Prod.mk.inj (Except.ok.inj hk)
      refine ⟨if slow then statOf o.op st else st, ?_⟩
      simp only [mergeKeys, hf, hm, bind, Except.bind, pure, Except.pure, List.filterMap_cons, List.filter_cons,
        ← hrow, ← hconf]
      cases o.row <;> cases o.conflict <;> rfl

theorem mergeKeys_allKeys_spec
    (f : Option Row → Option Row → Option Row → Except Err KeyOut)
    (g : Option Row → Option Row → Option Row → Option Row × Bool) (slow : Bool)
    (base left right : Rows) (hg : g none none none = (none, false))
    (h : ∀ k, (f (get base k) (get left k) (get right k)).map KeyOut.obs =
        .ok (g (get base k) (get left k) (get right k))) :
    ∃ rows confs st, mergeKeys f slow base left right (allKeys base left right) = .ok (rows, confs, st) ∧
      ∀ k, (get rows k, decide (k ∈ confs)) = g (get base k) (get left k) (get right k) := by
  obtain ⟨st, hm⟩ := mergeKeys_spec f g slow base left right (allKeys base left right) h
  refine ⟨_, _, st, hm, fun k => ?_⟩
  rw [get_filterMap fun k => (g (get base k) (get left k) (get right k)).1]
  simp only [List.mem_filter]
  by_cases hk : k ∈ allKeys base left right
  · simp only [hk, if_true, true_and, Bool.decide_eq_true]
  · -- a key of none of the three tables
    obtain ⟨g1, g2, g3⟩ := get_none_of_not_allKeys base left right k hk
    simp only [hk, if_false, false_and, decide_false, g1, g2, g3, hg]

def mkMerged (sch : Schema) (path : String) (x : Rows × List Key × Stats) : Merged :=
  ⟨sch, x.1, x.2.1, { x.2.2 with dataConflicts := x.2.1.length }, path⟩

theorem mergeTableG_eq (pick : VM → Schema) (forceSlow : Bool) (base left right : Table)
    (h1 : left ≠ right) (h2 : right ≠ base) (h3 : left ≠ base) :
    mergeTableG pick forceSlow base left right =
      schemaMerge base.sch left.sch right.sch >>= fun p =>
        let c : Cfg := ⟨⟨base.sch, left.sch, right.sch, p.1, false⟩, p.2⟩
        let keys := allKeys base.rows left.rows right.rows
        if canFast c && !forceSlow then
          (mergeKeys (mergeKeyFastG pick c) false base.rows left.rows right.rows keys).map (mkMerged p.1 "fast")
        else
          (mergeKeys (mergeKeySlowG pick c) true base.rows left.rows right.rows keys).map (mkMerged p.1 "slow") := by
  unfold mergeTableG
  simp only [h1, h2, h3, if_false, bind, Except.bind]
  cases schemaMerge base.sch left.sch right.sch with
  | error e => rfl
  | ok p =>
    simp only []
    split <;> (generalize mergeKeys _ _ _ _ _ _ = x; rcases x with e | ⟨r, c, s⟩ <;> rfl)

theorem mergeTableG_short (pick : VM → Schema) (forceSlow : Bool) (base left right : Table) :
    (left = right ∨ right = base →
      mergeTableG pick forceSlow base left right = .ok ⟨left.sch, left.rows, [], {}, "short"⟩) ∧
    (left ≠ right → left = base →
      mergeTableG pick forceSlow base left right = .ok ⟨right.sch, right.rows, [], {}, "short"⟩) := by
  unfold mergeTableG
  refine ⟨fun h => ?_, fun h1 h3 => ?_⟩
  · rcases h with h | h
    · rw [if_pos h]; rfl
    · by_cases h1 : left = right
      · rw [if_pos h1]; rfl
      · rw [if_neg h1, if_pos h]; rfl
  · by_cases h2 : right = base
    · exact absurd (h3.trans h2.symm) h1
    · rw [if_neg h1, if_neg h2, if_pos h3]; rfl

end DoltVerif.RowMerge
