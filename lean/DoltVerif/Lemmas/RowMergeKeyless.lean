import DoltVerif.Model.RowMergeKeyless
/-! Keyless storage (C27): the cardinality of a row after `setCard`, the storage invariant `WF` (one
entry per distinct row) and its preservation, and the fold of `mergeKeyless` over a list of row
identities. -/
namespace DoltVerif.C27
open DoltVerif.RowMerge DoltVerif.RowMerge.Keyless

theorem card_filter (t : KRows) (r r2 : Row) :
    card (t.filter (fun e => e.1 != r)) r2 = if r2 = r then 0 else card t r2 := by
  induction t with
  | nil => simp [card]
  | cons e rest ih =>
    obtain ⟨r', c⟩ := e
    by_cases h1 : r' = r
    · subst h1
      by_cases h : r2 = r'
      · subst h; simpa using ih
      · simp [card, ih, h, Ne.symm h]
    · by_cases h : r' = r2
      · subst h; simp [card, h1]
      · simp [card, ih, h1, h]

theorem card_setCard_self (t : KRows) (r : Row) (c : Nat) : card (setCard r c t) r = c := by
  unfold setCard
  by_cases h : c = 0 <;> simp [h, card, card_filter]

theorem card_setCard_other (t : KRows) (r r2 : Row) (c : Nat) (h : r2 ≠ r) :
    card (setCard r c t) r2 = card t r2 := by
  unfold setCard
  by_cases hc : c = 0 <;> simp [hc, card, card_filter, h, Ne.symm h]

/-- storage invariant: one entry per distinct row -/
def WF (t : KRows) : Prop := (t.map (·.1)).Nodup

theorem card_eq_zero_of_not_mem (t : KRows) (r : Row) (h : r ∉ t.map (·.1)) : card t r = 0 := by
  induction t with
  | nil => rfl
  | cons e rest ih =>
    obtain ⟨r', c⟩ := e
    simp only [List.map_cons, List.mem_cons, not_or] at h
    have : ¬ r' = r := fun e => h.1 e.symm
    simp [card, this, ih h.2]

theorem wf_setCard (t : KRows) (h : WF t) (r : Row) (c : Nat) : WF (setCard r c t) := by
  unfold WF setCard at *
  have hf : ((t.filter (fun e => e.1 != r)).map (·.1)).Nodup := by
    have := h.filter (fun x => x != r)
    rwa [List.filter_map] at this
  by_cases hc : c = 0
  · simpa [hc] using hf
  · simp only [hc, if_false, List.singleton_append, List.map_cons, List.nodup_cons]
    refine ⟨?_, hf⟩
    simp [List.mem_map, List.mem_filter]

/-- the fold of `mergeKeyless` over any list of row identities -/
def foldMerge (base left right : KRows) (rs : List Row) : KMerged :=
  rs.foldr (fun (row : Row) (acc : KMerged) =>
    let b := card base row
    let l := card left row
    let r := card right row
    let (c, conf, op) := mergeCard b l r
    { rows := if c = 0 then acc.rows else (row, c) :: acc.rows
      conflicts := if conf then ⟨row, b, l, r⟩ :: acc.conflicts else acc.conflicts
      stats := statOf op acc.stats }) ⟨[], [], {}⟩

theorem foldMerge_card (base left right : KRows) (rs : List Row) (row : Row) :
    card (foldMerge base left right rs).rows row =
      if row ∈ rs then (mergeCard (card base row) (card left row) (card right row)).1 else 0 := by
  induction rs with
  | nil => simp [foldMerge, card]
  | cons x xs ih =>
    simp only [foldMerge, List.foldr_cons] at ih ⊢
    by_cases hx : x = row
    · subst hx
      by_cases hc : (mergeCard (card base x) (card left x) (card right x)).1 = 0
      · simp only [hc, if_true, ih, List.mem_cons, true_or]
        split <;> simp
      · simp [hc, card]
    · have hx' : ¬ row = x := fun e => hx e.symm
      by_cases hc : (mergeCard (card base x) (card left x) (card right x)).1 = 0
      · simp [hc, ih, hx']
      · simp [hc, card, hx, ih, hx']

theorem mem_allRows (a b c : KRows) (row : Row) :
    row ∈ allRows a b c ↔ row ∈ a.map (·.1) ∨ row ∈ b.map (·.1) ∨ row ∈ c.map (·.1) := by
  simp only [allRows, List.mem_eraseDups, List.map_append, List.mem_append, or_assoc]

end DoltVerif.C27
