import DoltVerif.Lemmas.RowMergeSchema
/-! The merger on ONE schema (C29 rowmerge_spec): with distinct column ids the by-column-id
specification of `RowMergeSchema` reads as the cell-wise one of `RowMergeSpec` (`rowMergeSpec`), and
the row path's reading of a key `rowPathKey` as `specKey`. -/
namespace DoltVerif.RowMerge

theorem cellOf_self (s : Schema) (hd : idsDistinct s = true) (row : Row) (i : Nat) (hi : i < s.length) :
    cellOf s row (s[i]).id = some (cellAt row i) := by
  simp only [cellOf, findCol_self s hd i s[i] (List.getElem?_eq_getElem hi), Option.map]

theorem cons_of_idsDistinct (s : Schema) (hd : idsDistinct s = true) : Cons s s := by
  intro c hc d hdm e
  obtain ⟨i, hi, rfl⟩ := List.getElem_of_mem hc
  obtain ⟨j, hj, rfl⟩ := List.getElem_of_mem hdm
  have h1 := findCol_self s hd i _ (List.getElem?_eq_getElem hi)
  have h2 := findCol_self s hd j _ (List.getElem?_eq_getElem hj)
  rw [e, h2] at h1; cases h1; rfl

theorem tryMergeSpec_same_both (s : Schema) (hd : idsDistinct s = true) (b : Option Row) (ll rr : Row) :
    tryMergeSpec (sameVM s) (some ll) (some rr) b =
      match rowMergeSpec s b ll rr with | none => (none, false) | some row => (some row, true) := by
  have hdrop : dropSpec (sameVM s) (some ll) (some rr) b = false := by
    cases b with
    | none => rfl
    | some bb =>
      simp only [dropSpec]
      rw [anySpec_congr _ (fun _ => false) _ _ (fun j _ hj => ?_), anySpec_false]
      have hj' : j < s.length := by simpa [sameVM] using hj
      simp only [sameVM, List.getElem?_eq_getElem hj', dropConflict, cellOf_self s hd _ j hj']
  have hrow : rowSpecSchema (sameVM s) ll rr b = rowMergeSpec s b ll rr := by
    cases b <;>
    · simp only [rowSpecSchema, rowMergeSpec]
      refine colsSpec_congr _ _ _ _ (fun j _ hj => ?_)
      have hj' : j < s.length := by simpa [sameVM] using hj
      simp only [sameVM, List.getElem?_eq_getElem hj', cellSpec, Option.bind, cellOf_self s hd _ j hj']
  simp only [tryMergeSpec, hdrop, hrow]
  cases rowMergeSpec s b ll rr <;> rfl

theorem tryMergeSpec_same_deleted (s : Schema) (hd : idsDistinct s = true) (bb x : Row)
    (hb : rowOk s bb = true) (hx : rowOk s x = true) :
    tryMergeSpec (sameVM s) none (some x) (some bb) = (none, decide (x = bb)) ∧
    tryMergeSpec (sameVM s) (some x) none (some bb) = (none, decide (x = bb)) := by
  have hdrop : ∀ l r : Option Row, (l = none ∧ r = some x) ∨ (l = some x ∧ r = none) →
      dropSpec (sameVM s) l r (some bb) = !decide (x = bb) := by
    intro l r hlr
    rw [← anySpec_diff s bb x hb hx]
    refine anySpec_congr _ _ _ _ (fun j _ hj => ?_)
    have hj' : j < s.length := by simpa [sameVM] using hj
    rcases hlr with ⟨rfl, rfl⟩ | ⟨rfl, rfl⟩ <;>
      simp only [sameVM, List.getElem?_eq_getElem hj', dropConflict, cellOf_self s hd _ j hj']
  refine ⟨?_, ?_⟩
  · simp only [tryMergeSpec, hdrop none (some x) (.inl ⟨rfl, rfl⟩)]
    by_cases h : x = bb <;> simp [h]
  · simp only [tryMergeSpec, hdrop (some x) none (.inr ⟨rfl, rfl⟩)]
    by_cases h : x = bb <;> simp [h]

theorem rowPathKey_same (s : Schema) (hd : idsDistinct s = true) (b l r : Option Row)
    (hb : okOpt s b) (hl : okOpt s l) (hr : okOpt s r) :
    rowPathKey ⟨sameVM s, {}⟩ b l r = specKey s b l r := by
  have hrd := rowDiff_none_iff s b r hb hr
  have hld := rowDiff_none_iff s b l hb hl
  have hraw := rawEqOpt_iff s l r hl hr
  unfold rowPathKey specKey
  -- the differ's three byte comparisons decide equality of the rows, and nothing is rewritten
  simp only [keepAs, Bool.false_eq_true, if_false, hrd, hld, hraw, ite_self]
  by_cases h1 : r = b
  · rw [if_pos h1, if_pos h1]
  rw [if_neg h1, if_neg h1]
  by_cases h2 : l = b
  · rw [if_pos h2, if_pos h2]
  rw [if_neg h2, if_neg h2]
  by_cases h3 : l = r
  · subst h3
    cases l <;> simp
  · have hnn : ¬ (l = none ∧ r = none) := fun h => h3 (h.1.trans h.2.symm)
    simp only [hnn, h3, and_false, if_false]
    cases l with
    | none =>
      cases r with
      | none => exact absurd rfl h3
      | some rr =>
        cases b with
        | none => exact absurd rfl h2
        | some bb =>
          have hne : ¬ rr = bb := fun e => h1 (by rw [e])
          rw [(tryMergeSpec_same_deleted s hd bb rr (hb bb rfl) (hr rr rfl)).1, decide_eq_false hne]; rfl
    | some ll =>
      cases r with
      | none =>
        cases b with
        | none => exact absurd rfl h1
        | some bb =>
          have hne : ¬ ll = bb := fun e => h2 (by rw [e])
          rw [(tryMergeSpec_same_deleted s hd bb ll (hb bb rfl) (hl ll rfl)).2, decide_eq_false hne]; rfl
      | some rr =>
        rw [tryMergeSpec_same_both s hd b ll rr]
        cases hm : rowMergeSpec s b ll rr <;> simp only [hm, verdict]

end DoltVerif.RowMerge
