import DoltVerif.Lemmas.RowMergeSpec
/-! The cell-wise merger under schema mappings (C29 rowmerge_schema): TryMerge equals a specification written
by COLUMN ID for arbitrary type-consistent base / left / right / result schemas; the row path at one key equals
its reading by column id `rowPathKey`, which is the specification `specSchemaKey` wherever the differ's
comparisons of stored bytes do not alias. -/
namespace DoltVerif.RowMerge

/-- two schemas give a column id the same type -/
def Cons (X Y : Schema) : Prop := ∀ c, c ∈ X → ∀ d, d ∈ Y → c.id = d.id → c.ty = d.ty

/-- the cell of column `id` in a stored row of schema `sch`; outer `none` = the schema has no such column -/
def cellOf (sch : Schema) (row : Row) (id : Nat) : Option Val := (findCol sch id).map (cellAt row)

theorem getColumn_mapping_eq (dst src : Schema) (row : Row) (i : Nat) (c : Col) (hc : dst[i]? = some c) :
    getColumn row (mapping dst src) i = .ok ((cellOf src row c.id).join, findCol src c.id) := by
  cases hf : findCol src c.id with
  | none => simp [getColumn, mapping_get, hc, hf, cellOf]
  | some j => cases hr : row[j]? <;> simp [getColumn, mapping_get, hc, hf, hr, cellOf, cellAt]

theorem convertField_cellAt (side : Schema) (row : Row) (hrow : rowOk side row = true) (j : Nat) (d : Col)
    (hd : side[j]? = some d) :
    convertField d.ty row j = .ok (cellAt row j) ∧ Val.hasTy (cellAt row j) d.ty = true := by
  obtain ⟨hj, rfl⟩ := List.getElem?_eq_some_iff.1 hd
  obtain ⟨v, hv, ht⟩ := rowOk_get side row hrow j hj
  simp [convertField, cellAt, hv, ht, convert_of_hasTy _ _ ht]

theorem colTy_of_get (sch : Schema) (j : Nat) (d : Col) (h : sch[j]? = some d) : colTy sch j = .ok d.ty := by
  simp [colTy, h]

/-- the merged cell of result column `id` (reachable cases only: a result column that exists in
the base exists on both sides; otherwise it exists on at least one side) -/
def cellSpec (m : VM) (id : Nat) (l r : Row) (b : Option Row) : Val × Bool :=
  match b.bind (fun bb => cellOf m.baseSch bb id), cellOf m.leftSch l id, cellOf m.rightSch r id with
  | some bv, some lv, some rv => cellMerge bv lv rv
  | none, some lv, some rv => cellMergeNoBase lv rv
  | _, some lv, none => (lv, false)
  | _, none, some rv => (rv, false)
  | _, none, none => (none, false)

structure ColOk (m : VM) (c : Col) : Prop where
  s1 : findCol m.leftSch c.id = none → findCol m.rightSch c.id = none → False
  s2 : findCol m.baseSch c.id ≠ none → findCol m.leftSch c.id ≠ none ∧ findCol m.rightSch c.id ≠ none

theorem convertField_findCol (dst side : Schema) (hcons : Cons dst side) (c : Col) (hc : c ∈ dst)
    (row : Row) (hrow : rowOk side row = true) (j : Nat) (hf : findCol side c.id = some j) :
    convertField c.ty row j = .ok (cellAt row j) ∧ Val.hasTy (cellAt row j) c.ty = true := by
  obtain ⟨d, hd, hid⟩ := findCol_some side c.id j hf
  have hdt : d.ty = c.ty := (hcons c hc d (List.mem_of_getElem? hd) hid.symm).symm
  exact hdt ▸ convertField_cellAt side row hrow j d hd

/-- `processColumn`'s comparison cascade on well-typed values is the property's cell rule; which of
two equal values is returned (`g`) does not matter -/
theorem cellMerge_eq (t : Ty) (vb vl vr : Val) (tb : Val.hasTy vb t = true) (tl : Val.hasTy vl t = true)
    (tr : Val.hasTy vr t = true) (g : Bool) :
    (if eqUnder t vl vr = true then Except.ok (if g = true then vl else vr, false)
      else if (!eqUnder t vl vb && !eqUnder t vr vb) = true then (Except.ok (none, true) : Except Err (Val × Bool))
        else if (!eqUnder t vl vb) = true then Except.ok (vl, false) else Except.ok (vr, false)) =
      .ok (cellMerge vb vl vr) := by
  rw [eqUnder_of_hasTy _ _ _ tl tr, eqUnder_of_hasTy _ _ _ tl tb, eqUnder_of_hasTy _ _ _ tr tb]
  unfold cellMerge
  by_cases h1 : vl = vr
  · subst h1; simp
  · by_cases h2 : vl = vb <;> by_cases h3 : vr = vb <;> simp_all

theorem cellMergeNoBase_eq (t : Ty) (vl vr : Val) (tl : Val.hasTy vl t = true) (tr : Val.hasTy vr t = true)
    (g : Bool) :
    (if eqUnder t vl vr = true then Except.ok (if g = true then vl else vr, false)
      else (Except.ok (none, true) : Except Err (Val × Bool))) = .ok (cellMergeNoBase vl vr) := by
  rw [eqUnder_of_hasTy _ _ _ tl tr]
  unfold cellMergeNoBase
  by_cases h1 : vl = vr
  · subst h1; simp
  · simp [h1]

theorem processColumn_schema (m : VM) (i : Nat) (c : Col) (hc : m.resultSch[i]? = some c)
    (hrb : Cons m.resultSch m.baseSch) (hrl : Cons m.resultSch m.leftSch) (hrr : Cons m.resultSch m.rightSch)
    (hok : ColOk m c)
    (l r : Row) (b : Option Row) (hl : rowOk m.leftSch l = true) (hr : rowOk m.rightSch r = true)
    (hb : okOpt m.baseSch b) :
    processColumn m i l r b = .ok (cellSpec m c.id l r b) := by
  have hty := colTy_of_get _ _ _ hc
  have hcm := List.mem_of_getElem? hc
  have gl := getColumn_mapping_eq m.resultSch m.leftSch l i c hc
  have gr := getColumn_mapping_eq m.resultSch m.rightSch r i c hc
  have gb := fun bb => getColumn_mapping_eq m.resultSch m.baseSch bb i c hc
  unfold processColumn cellSpec
  simp only [hty, gl, gr, gb, VM.leftMapping, VM.rightMapping, VM.baseMapping, cellOf, bind, Except.bind, pure, Except.pure]
  cases hfl : findCol m.leftSch c.id with
  | none =>
    cases hfr : findCol m.rightSch c.id with
    | none => exact absurd hfr (hok.s1 hfl)
    | some jr =>
      have hfb : findCol m.baseSch c.id = none := Classical.not_not.1 fun h => (hok.s2 h).1 hfl
      obtain ⟨cr, _⟩ := convertField_findCol _ _ hrr c hcm r hr jr hfr
      cases b <;> simp [hfb, cr]
  | some jl =>
    obtain ⟨cl, tl⟩ := convertField_findCol _ _ hrl c hcm l hl jl hfl
    cases hfr : findCol m.rightSch c.id with
    | none =>
      have hfb : findCol m.baseSch c.id = none := Classical.not_not.1 fun h => (hok.s2 h).2 hfr
      cases b <;> simp [hfb, cl]
    | some jr =>
      obtain ⟨cr, tr⟩ := convertField_findCol _ _ hrr c hcm r hr jr hfr
      cases b with
      | none =>
        simp only [cl, cr, Option.map, Option.join, Option.bind]
        exact cellMergeNoBase_eq c.ty _ _ tl tr _
      | some bb =>
        cases hfb : findCol m.baseSch c.id with
        | none =>
          simp only [cl, cr, Option.map, Option.join, Option.bind]
          exact cellMergeNoBase_eq c.ty _ _ tl tr _
        | some jb =>
          obtain ⟨cb, tb⟩ := convertField_findCol _ _ hrb c hcm bb (hb bb rfl) jb hfb
          simp only [cl, cr, cb, Option.map, Option.join, Option.bind]
          -- the base column's NULL is compared like any other value
          have := cellMerge_eq c.ty (cellAt bb jb) _ _ tb tl tr (rawGt (cellAt l jl) (cellAt r jr))
          cases hv : cellAt bb jb <;> rw [hv] at this <;> exact this

/-- base cell `bv` of base column `id`: was the column dropped by one side and the cell changed by
the other — or, when one side deleted the row, changed by the surviving side -/
def dropConflict (m : VM) (id : Nat) (bv : Val) (l r : Option Row) : Bool :=
  match l, r with
  | none, none => false
  | none, some rr => (match cellOf m.rightSch rr id with | some rv => !decide (bv = rv) | none => false)
  | some ll, none => (match cellOf m.leftSch ll id with | some lv => !decide (bv = lv) | none => false)
  | some ll, some rr =>
    (match cellOf m.leftSch ll id, cellOf m.rightSch rr id with
     | none, some rv => !decide (rv = bv)
     | some lv, none => !decide (lv = bv)
     | _, _ => false)

theorem baseColumn_side (B S : Schema) (hcons : Cons B S) (i : Nat) (hi : i < B.length) (bb : Row)
    (hbb : rowOk B bb = true) (x : Row) (hx : rowOk S x = true) :
    (cellOf S x (B[i]).id = none ∧ getColumn x (mapping B S) i = .ok (none, none)) ∨
    ∃ j ty, cellOf S x (B[i]).id = some (cellAt x j) ∧ getColumn x (mapping B S) i = .ok (cellAt x j, some j) ∧
      colTy S j = .ok ty ∧ convertField ty bb i = .ok (cellAt bb i) ∧
      eqUnder ty (cellAt bb i) (cellAt x j) = decide (cellAt bb i = cellAt x j) ∧
      eqUnder ty (cellAt x j) (cellAt bb i) = decide (cellAt x j = cellAt bb i) := by
  have hc : B[i]? = some B[i] := List.getElem?_eq_getElem hi
  rw [getColumn_mapping_eq B S x i _ hc, cellOf]
  cases hf : findCol S (B[i]).id with
  | none => exact .inl ⟨rfl, rfl⟩
  | some j =>
    obtain ⟨d, hd, hid⟩ := findCol_some S _ j hf
    have hdt : (B[i]).ty = d.ty := hcons _ (List.mem_of_getElem? hc) d (List.mem_of_getElem? hd) hid.symm
    obtain ⟨cv, tb⟩ := hdt ▸ convertField_cellAt B bb hbb i _ hc
    have tx := (convertField_cellAt S x hx j d hd).2
    exact .inr ⟨j, d.ty, rfl, rfl, colTy_of_get S j d hd, cv, eqUnder_of_hasTy _ _ _ tb tx, eqUnder_of_hasTy _ _ _ tx tb⟩

theorem processBaseColumn_schema (m : VM) (i : Nat) (hi : i < m.baseSch.length)
    (hbl : Cons m.baseSch m.leftSch) (hbr : Cons m.baseSch m.rightSch)
    (l r : Option Row) (bb : Row) (hbb : rowOk m.baseSch bb = true)
    (hl : okOpt m.leftSch l) (hr : okOpt m.rightSch r) :
    processBaseColumnG leftTypeSchemaInRightDeleteBranch m i l r (some bb) =
      .ok (dropConflict m (m.baseSch[i]'hi).id (cellAt bb i) l r) := by
  have e : ∀ (x : Row) (j : Nat), (x[j]?).join = cellAt x j := fun _ _ => rfl
  -- every present side contributes its `baseColumn_side` facts; with them both sides unfold to the same test
  cases l with
  | none =>
    cases r with
    | none => simp [processBaseColumnG, dropConflict]
    | some rr =>
      rcases baseColumn_side _ _ hbr i hi bb hbb rr (hr rr rfl) with ⟨cr, gr⟩ | ⟨j, ty, cr, gr, ht, cv, eq, _⟩ <;>
        simp [processBaseColumnG, VM.baseToRight, dropConflict, bind, Except.bind, pure, Except.pure, *]
  | some ll =>
    cases r with
    | none =>
      rcases baseColumn_side _ _ hbl i hi bb hbb ll (hl ll rfl) with ⟨cl, gl⟩ | ⟨j, ty, cl, gl, ht, cv, eq, _⟩ <;>
        simp [processBaseColumnG, VM.baseToLeft, leftTypeSchemaInRightDeleteBranch, dropConflict, bind, Except.bind,
          pure, Except.pure, *]
    | some rr =>
      rcases baseColumn_side _ _ hbr i hi bb hbb rr (hr rr rfl) with ⟨cr, gr⟩ | ⟨j, ty, cr, gr, ht, cv, _, eq⟩ <;>
      rcases baseColumn_side _ _ hbl i hi bb hbb ll (hl ll rfl) with ⟨cl, gl⟩ | ⟨j', ty', cl, gl, ht', cv', _, eq'⟩ <;>
        simp [processBaseColumnG, VM.baseToLeft, VM.baseToRight, dropConflict, bind, Except.bind, pure, Except.pure, *]
/-- schemas of a value merger as the schema merge produces them -/
structure VM.WellFormed (m : VM) : Prop where
  bl : Cons m.baseSch m.leftSch
  br : Cons m.baseSch m.rightSch
  rb : Cons m.resultSch m.baseSch
  rl : Cons m.resultSch m.leftSch
  rr : Cons m.resultSch m.rightSch
  cols : ∀ c, c ∈ m.resultSch → ColOk m c
  nk : m.keyless = false

/-- does some base column make the merge a conflict before any result cell is looked at -/
def dropSpec (m : VM) (l r b : Option Row) : Bool :=
  match b with
  | some bb => anySpec (fun i => match m.baseSch[i]? with
      | some c => dropConflict m c.id (cellAt bb i) l r
      | none => false) m.baseSch.length 0
  | none => false

/-- the merged row of two present rows, result column by result column; `none` = a cell conflicts -/
def rowSpecSchema (m : VM) (ll rr : Row) (b : Option Row) : Option Row :=
  colsSpec (fun i => match m.resultSch[i]? with
    | some c => cellSpec m c.id ll rr b
    | none => (none, false)) m.resultSch.length 0

/-- **TryMerge by column id.** -/
def tryMergeSpec (m : VM) (l r b : Option Row) : Option Row × Bool :=
  if dropSpec m l r b then (none, false) else
  match l, r with
  | some ll, some rr =>
    (match rowSpecSchema m ll rr b with
     | some row => (some row, true)
     | none => (none, false))
  | _, _ => (none, true)

theorem tryMerge_schema (m : VM) (h : VM.WellFormed m) (l r b : Option Row)
    (hl : okOpt m.leftSch l) (hr : okOpt m.rightSch r) (hb : okOpt m.baseSch b)
    (hshape : (l.isSome ∧ r.isSome) ∨ (b.isSome ∧ (l.isSome ∨ r.isSome))) :
    tryMergeG leftTypeSchemaInRightDeleteBranch m l r b = .ok (tryMergeSpec m l r b) := by
  have hany : anyConflict (fun i => processBaseColumnG leftTypeSchemaInRightDeleteBranch m i l r b)
      m.baseSch.length 0 = .ok (dropSpec m l r b) := by
    cases b with
    | none =>
      rw [anyConflict_eq _ (fun _ => false) _ 0 (fun j _ _ => by simp [processBaseColumnG])]
      simp [dropSpec, anySpec_false]
    | some bb =>
      simp only [dropSpec]
      apply anyConflict_eq
      intro j _ hj
      have hj' : j < m.baseSch.length := by omega
      rw [processBaseColumn_schema m j hj' h.bl h.br l r bb (hb bb rfl) hl hr]
      simp [List.getElem?_eq_getElem hj']
  unfold tryMergeG tryMergeSpec
  simp only [h.nk, hany, bind, Except.bind, pure, Except.pure]
  cases hd : dropSpec m l r b with
  | true => rfl
  | false =>
    cases l with
    | none =>
      cases r with
      | none => simp at hshape
      | some rr => cases b with
        | none => simp at hshape
        | some bb => rfl
    | some ll =>
      cases r with
      | none => cases b with
        | none => simp at hshape
        | some bb => rfl
      | some rr =>
        have hm := mergeCols_eq (fun i => processColumn m i ll rr b)
          (fun i => match m.resultSch[i]? with
            | some c => cellSpec m c.id ll rr b
            | none => (none, false)) m.resultSch.length 0
          (fun j _ hj => by
            have hj' : j < m.resultSch.length := by omega
            have hc := List.getElem?_eq_getElem hj'
            rw [processColumn_schema m j _ hc h.rb h.rl h.rr (h.cols _ (List.mem_of_getElem? hc)) ll rr b
              (hl ll rfl) (hr rr rfl) hb]
            simp [hc])
        cases b <;> simp only [hm, rowSpecSchema, Bool.false_eq_true, if_false] <;>
          cases colsSpec _ m.resultSch.length 0 <;> rfl

/-- a stored row mapped into the result schema by column id (a column the side lacks reads NULL) -/
def projRow (result side : Schema) (row : Row) : Row :=
  result.map (fun c => ((cellOf side row c.id)).join)

theorem remapAux_eq (merged side : Schema) (row : Row) (hrow : rowOk side row = true) (cs : Schema)
    (hcons : Cons cs side) : remapAux merged row (mapping cs side) cs = .ok (projRow cs side row) := by
  induction cs with
  | nil => rfl
  | cons c cs ih =>
    have hcons' : Cons cs side := fun x hx d hd e => hcons x (List.mem_cons_of_mem _ hx) d hd e
    have hrest := ih hcons'
    simp only [mapping] at hrest
    cases hf : findCol side c.id with
    | none =>
      simp [mapping, hf, remapAux, hrest, bind, Except.bind, pure, Except.pure, projRow, cellOf]
    | some j =>
      have hcv := (convertField_findCol _ side hcons c (List.mem_cons_self ..) row hrow j hf).1
      simp [mapping, hf, remapAux, hcv, hrest, bind, Except.bind, pure, Except.pure, projRow, cellOf]

theorem remap_eq (merged side : Schema) (row : Row) (hrow : rowOk side row = true)
    (hcons : Cons merged side) : remap merged side row = .ok (projRow merged side row) :=
  remapAux_eq merged side row hrow merged hcons

/-- a side's row as the row path leaves it in the merged table: the stored bytes when the side needs no
rewrite, else the row mapped into the result schema by column id -/
def keepAs (rewrite : Bool) (result side : Schema) (x : Option Row) : Option Row :=
  if rewrite then x.map (projRow result side) else x

theorem keepAs_none (rewrite : Bool) (result side : Schema) : keepAs rewrite result side none = none := by
  cases rewrite <;> rfl

/-- `hid`: a side that needs no rewrite already has the result schema's layout, which `schemaMerge` guarantees -/
theorem keepAs_eq_proj (rewrite : Bool) (result side : Schema)
    (hid : rewrite = false → ∀ row, rowOk side row = true → projRow result side row = row)
    (x : Option Row) (hx : okOpt side x) : keepAs rewrite result side x = x.map (projRow result side) := by
  cases rewrite with
  | true => rfl
  | false =>
    cases x with
    | none => rfl
    | some row => exact congrArg some (hid rfl row (hx row rfl)).symm

theorem keepLeft_eq (c : Cfg) (h : VM.WellFormed c.vm) (l : Option Row) (hl : okOpt c.vm.leftSch l) :
    keepLeft c l = .ok (keepAs c.flags.leftNeedsRewrite c.vm.resultSch c.vm.leftSch l) := by
  cases l with
  | none => rw [keepAs_none]; rfl
  | some row =>
    cases hf : c.flags.leftNeedsRewrite
    · simp [keepLeft, keepAs, hf]
    · simp [keepLeft, keepAs, hf, h.nk, remap_eq _ _ row (hl row rfl) h.rl, bind, Except.bind, pure, Except.pure]

theorem takeRight_eq (c : Cfg) (h : VM.WellFormed c.vm) (row : Row) (hr : rowOk c.vm.rightSch row = true) :
    takeRight c row = .ok (keepAs c.flags.rightNeedsRewrite c.vm.resultSch c.vm.rightSch (some row)) := by
  cases hf : c.flags.rightNeedsRewrite
  · simp [takeRight, keepAs, hf, h.nk]
  · simp [takeRight, keepAs, hf, h.nk, remap_eq _ _ row hr h.rr, bind, Except.bind, pure, Except.pure]

/-- what the row path makes of TryMerge's answer `t`: the merged row, or a conflict that keeps `ours` -/
def verdict (t : Option Row × Bool) (ours : Option Row) : Option Row × Bool :=
  match t with
  | (mrg, true) => (mrg, false)
  | (_, false) => (ours, true)

/-- **the by-column-id specification of one key** (pure cell-wise, no byte comparison): a key absent
on both sides is absent; a row only one side has (no base row) is taken, mapped into the result
schema; one side deleted the row: conflict iff the other side changed a base cell it kept; both
present: conflict iff a dropped column's cell was changed by the other side or some result cell was
changed differently by both, else the cell-wise combination.  A conflicted key keeps ours. -/
def specSchemaKey (c : Cfg) (b l r : Option Row) : Option Row × Bool :=
  let pl := l.map (projRow c.vm.resultSch c.vm.leftSch)
  let pr := r.map (projRow c.vm.resultSch c.vm.rightSch)
  match b, l, r with
  | _, none, none => (none, false)
  | none, some _, none => (pl, false)
  | none, none, some _ => (pr, false)
  | _, _, _ =>
    match tryMergeSpec c.vm l r b with
    | (mrg, true) => (mrg, false)
    | (_, false) => (pl, true)

theorem tryMergeSpec_deleted (m : VM) (l r b : Option Row) (h : l = none ∨ r = none) :
    (tryMergeSpec m l r b).1 = none := by
  unfold tryMergeSpec
  split
  · rfl
  · rcases h with rfl | rfl
    · rfl
    · cases l <;> rfl

/-- **the row path at one key, read by column id** — what `mergeKeySlowG` computes (row and conflict
flag) for well-typed rows under a well-formed value merger, the differ's comparisons of stored tuple
BYTES included: theirs untouched → ours' row; ours untouched → theirs' row; both deleted → deleted;
byte-equal rows with the same kind of diff → ours' row; else TryMerge's verdict, a conflict keeping
ours.  It is the specification `specSchemaKey` wherever the byte comparisons do not alias
(`rowPathKey_eq_spec`). -/
def rowPathKey (c : Cfg) (b l r : Option Row) : Option Row × Bool :=
  let ld := rowDiff c.flags.leftSchemaChange b l
  let rd := rowDiff c.flags.rightSchemaChange b r
  let kl := keepAs c.flags.leftNeedsRewrite c.vm.resultSch c.vm.leftSch l
  if rd = .none then (if ld = .none then l else kl, false)
  else if ld = .none then (keepAs c.flags.rightNeedsRewrite c.vm.resultSch c.vm.rightSch r, false)
  else if l = none ∧ r = none then (none, false)
  else if ld = rd ∧ rawEqOpt l r = true then (l, false)
  else verdict (tryMergeSpec c.vm l r b) kl

/-- the one walk through `mergeKeySlowG` / `matchBoth` / `divergentDelete`; no hypothesis about byte
equality of tuples is needed to say what they return -/
theorem mergeKeySlow_eq (c : Cfg) (h : VM.WellFormed c.vm) (b l r : Option Row)
    (hb : okOpt c.vm.baseSch b) (hl : okOpt c.vm.leftSch l) (hr : okOpt c.vm.rightSch r) :
    (mergeKeySlowG leftTypeSchemaInRightDeleteBranch c b l r).map KeyOut.obs = .ok (rowPathKey c b l r) := by
  have hkl := keepLeft_eq c h l hl
  rw [mergeKeySlow_obs, rowPathKey]
  by_cases hrd : rowDiff c.flags.rightSchemaChange b r = .none
  · rw [if_pos hrd, if_pos hrd, hkl]
    split <;> rfl
  rw [if_neg hrd, if_neg hrd]
  by_cases hld : rowDiff c.flags.leftSchemaChange b l = .none
  · rw [if_pos hld, if_pos hld]
    cases r with
    | none => rw [keepAs_none]
    | some rr => dsimp only; rw [takeRight_eq c h rr (hr rr rfl)]; rfl
  rw [if_neg hld, if_neg hld]
  by_cases hnn : l = none ∧ r = none
  · obtain ⟨rfl, rfl⟩ := hnn
    simp [matchBoth, h.nk, Except.map, KeyOut.obs]
  · -- both sides changed the key and a row is left: TryMerge is called in one of its three shapes
    have htm := tryMerge_schema c.vm h l r b hl hr hb (tryMerge_shape _ _ b l r hld hrd hnn)
    have hdel := tryMergeSpec_deleted c.vm l r b
    simp only [hnn, if_false]
    unfold matchBoth divergentDelete
    generalize tryMergeSpec c.vm l r b = v at htm hdel
    obtain ⟨mrg, ok⟩ := v
    cases l with
    | none =>
      cases r with
      | none => exact absurd ⟨rfl, rfl⟩ hnn
      | some rr =>
        cases hdel (.inl rfl)
        cases ok <;> simp [htm, hkl, rawEqOpt, verdict, bind, Except.bind, pure, Except.pure, Except.map, KeyOut.obs]
    | some ll =>
      cases r with
      | none =>
        cases hdel (.inr rfl)
        cases ok <;> simp [htm, hkl, rawEqOpt, verdict, bind, Except.bind, pure, Except.pure, Except.map, KeyOut.obs]
      | some rr =>
        simp only [rawEqOpt]
        by_cases hconv : rowDiff c.flags.leftSchemaChange b (some ll) = rowDiff c.flags.rightSchemaChange b (some rr) ∧
            rawEq ll rr = true
        · simp only [hconv, and_self, if_true, h.nk]; rfl
        · simp only [hconv, if_false]
          cases ok <;> simp [htm, hkl, verdict, bind, Except.bind, pure, Except.pure, Except.map, KeyOut.obs]

/-- **NoRawByteAlias at one key**: wherever the differ decides by comparing stored tuple BYTES —
"theirs did not touch the row", "ours did not touch the row", "both made the same change" — the
by-column-id specification agrees (the row that is kept is the specified row).  This is exactly
what the shapes of known finding merge-reorder-rawbytes violate (byte-equal tuples under different
schemas that are different logical rows). -/
structure NoRawByteAliasKey (c : Cfg) (b l r : Option Row) : Prop where
  theirsUntouched : rowDiff c.flags.rightSchemaChange b r = .none →
    specSchemaKey c b l r = (l.map (projRow c.vm.resultSch c.vm.leftSch), false) ∧
    (rowDiff c.flags.leftSchemaChange b l = .none → l.map (projRow c.vm.resultSch c.vm.leftSch) = l)
  oursUntouched : rowDiff c.flags.rightSchemaChange b r ≠ .none →
    rowDiff c.flags.leftSchemaChange b l = .none →
    specSchemaKey c b l r = (r.map (projRow c.vm.resultSch c.vm.rightSch), false)
  convergent : ∀ ll rr, l = some ll → r = some rr →
    rowDiff c.flags.leftSchemaChange b l = rowDiff c.flags.rightSchemaChange b r → rawEq ll rr = true →
    specSchemaKey c b l r = (l, false)

/-- `hidL`/`hidR`: a side that needs no rewrite already has the result schema's layout -/
theorem rowPathKey_eq_spec (c : Cfg)
    (hidL : c.flags.leftNeedsRewrite = false → ∀ row, rowOk c.vm.leftSch row = true →
      projRow c.vm.resultSch c.vm.leftSch row = row)
    (hidR : c.flags.rightNeedsRewrite = false → ∀ row, rowOk c.vm.rightSch row = true →
      projRow c.vm.resultSch c.vm.rightSch row = row)
    (b l r : Option Row) (hl : okOpt c.vm.leftSch l) (hr : okOpt c.vm.rightSch r)
    (na : NoRawByteAliasKey c b l r) : rowPathKey c b l r = specSchemaKey c b l r := by
  unfold rowPathKey
  rw [keepAs_eq_proj _ _ _ hidL l hl, keepAs_eq_proj _ _ _ hidR r hr]
  by_cases hrd : rowDiff c.flags.rightSchemaChange b r = .none
  · obtain ⟨hs, hs2⟩ := na.theirsUntouched hrd
    rw [if_pos hrd, hs]
    by_cases hld : rowDiff c.flags.leftSchemaChange b l = .none
    · rw [if_pos hld, hs2 hld]
    · rw [if_neg hld]
  · rw [if_neg hrd]
    by_cases hld : rowDiff c.flags.leftSchemaChange b l = .none
    · rw [if_pos hld, na.oursUntouched hrd hld]
    · -- both sides have a diff: the specification's first three cases are the first test or excluded
      rw [if_neg hld]
      cases l with
      | none =>
        cases r with
        | none => cases b <;> rfl
        | some rr =>
          cases b with
          | none => exact absurd rfl hld
          | some bb => simp only [rawEqOpt, reduceCtorEq, and_false, if_false, Bool.false_eq_true]; rfl
      | some ll =>
        cases r with
        | none =>
          cases b with
          | none => exact absurd rfl hrd
          | some bb => simp only [rawEqOpt, reduceCtorEq, and_false, false_and, if_false, Bool.false_eq_true]; rfl
        | some rr =>
          by_cases hconv : rowDiff c.flags.leftSchemaChange b (some ll) = rowDiff c.flags.rightSchemaChange b (some rr) ∧
              rawEq ll rr = true
          · rw [na.convergent ll rr rfl rfl hconv.1 hconv.2]
            simp [rawEqOpt, hconv]
          · simp only [rawEqOpt, hconv, reduceCtorEq, false_and, if_false]; cases b <;> rfl

end DoltVerif.RowMerge
