import DoltVerif.Lemmas.RowMergeSchema
/-! What `schemaMerge` does on type-consistent schemas (C29): it cannot fail, the merged columns are ours' (without
the base columns theirs dropped) followed by those only theirs added (`mergeColumns_eq`), hence a surviving base
column exists on both sides (`schemaMerge_wellFormed`); a side that needs no rewrite already has the merged
layout, and the merged column set does not depend on the merge direction. -/
namespace DoltVerif.RowMerge

theorem lookupCol_some (sch : Schema) (id : Nat) (c : Col) (h : lookupCol sch id = some c) :
    c ∈ sch ∧ c.id = id := by
  unfold lookupCol at h
  exact ⟨List.mem_of_find?_eq_some h, by simpa using List.find?_some h⟩

theorem lookupCol_none (sch : Schema) (id : Nat) (h : lookupCol sch id = none) :
    ∀ c, c ∈ sch → c.id ≠ id := by
  unfold lookupCol at h
  intro c hc
  have := List.find?_eq_none.1 h c hc
  simpa using this

theorem findCol_none_iff_lookupCol (sch : Schema) (id : Nat) : findCol sch id = none ↔ lookupCol sch id = none := by
  simp [findCol_eq_findIdx?, lookupCol]

theorem mergeOneColumn_some (a o t : Option Col) (x : Col)
    (h : (mergeOneColumn a o t).map Prod.fst = .ok (some x)) :
    (o = some x ∧ (a ≠ none → t ≠ none)) ∨ (o = none ∧ a = none ∧ t = some x) := by
  cases a <;> cases o <;> cases t <;> simp only [mergeOneColumn] at h <;> (try split at h) <;>
    simp_all [Except.map]

theorem mergeOneColumn_ours (a t : Option Col) (x : Col) (ha : ∀ c, a = some c → c = x)
    (ht : ∀ c, t = some c → c = x) (hat : a ≠ none → t ≠ none) :
    (mergeOneColumn a (some x) t).map Prod.fst = .ok (some x) := by
  cases a with
  | none =>
    cases t with
    | none => rfl
    | some c => cases ht c rfl; simp [mergeOneColumn, Except.map]
  | some a =>
    cases ha a rfl
    cases t with
    | none => exact absurd rfl (hat (by simp))
    | some c => cases ht c rfl; simp [mergeOneColumn, Except.map]

theorem mergeColumnsAux_eq (anc : Schema) (f : Col → Option Col × Option Col) (p : Col → Bool) (cols : Schema)
    (h : ∀ c, c ∈ cols → (mergeOneColumn (lookupCol anc c.id) (f c).1 (f c).2).map Prod.fst =
      .ok (if p c then some c else none)) :
    ∃ fl, mergeColumnsAux anc f cols = .ok (cols.filter p, fl) := by
  induction cols with
  | nil => exact ⟨_, rfl⟩
  | cons c cs ih =>
    obtain ⟨fl, hcs⟩ := ih fun d hd => h d (List.mem_cons_of_mem _ hd)
    have hc := h c (List.mem_cons_self ..)
    cases hm : mergeOneColumn (lookupCol anc c.id) (f c).1 (f c).2 with
    | error e => rw [hm] at hc; cases hc
    | ok q =>
      obtain ⟨mc, f1⟩ := q
      rw [hm] at hc
      refine ⟨f1.or fl, ?_⟩
      cases hp : p c <;> simp only [hp, Except.map, Except.ok.injEq] at hc <;> cases hc <;>
        simp [mergeColumnsAux, hm, hcs, hp, bind, Except.bind, pure, Except.pure]

/-- one column id has one type across the three schemas -/
structure TypeConsistent (base ours theirs : Schema) : Prop where
  bb : Cons base base
  bo : Cons base ours
  bt : Cons base theirs
  oo : Cons ours ours
  ot : Cons ours theirs
  tt : Cons theirs theirs

theorem Cons.symm {X Y : Schema} (h : Cons X Y) : Cons Y X :=
  fun c hc d hd e => (h d hd c hc e.symm).symm

theorem TypeConsistent.swap {b o t : Schema} (tc : TypeConsistent b o t) : TypeConsistent b t o :=
  ⟨tc.bb, tc.bt, tc.bo, tc.tt, tc.ot.symm, tc.oo⟩

theorem col_ext (a b : Col) (h1 : a.id = b.id) (h2 : a.ty = b.ty) : a = b := by
  cases a; cases b; simp_all

theorem mergeColumns_eq (anc ours theirs : Schema) (tc : TypeConsistent anc ours theirs) :
    ∃ fl, mergeColumns anc ours theirs = .ok
      (ours.filter (fun c => (lookupCol anc c.id).isNone || (lookupCol theirs c.id).isSome) ++
        (theirs.filter (fun c => (lookupCol ours c.id).isNone)).filter (fun c => (lookupCol anc c.id).isNone), fl) := by
  obtain ⟨f1, h1⟩ := mergeColumnsAux_eq anc (fun c => (some c, lookupCol theirs c.id))
    (fun c => (lookupCol anc c.id).isNone || (lookupCol theirs c.id).isSome) ours fun c hc => by
      by_cases hat : lookupCol anc c.id ≠ none → lookupCol theirs c.id ≠ none
      · -- where base or theirs have the id they have this very column
        rw [mergeOneColumn_ours (lookupCol anc c.id) (lookupCol theirs c.id) c
          (fun a ha => by
            obtain ⟨hm, hid⟩ := lookupCol_some anc c.id a ha
            exact col_ext a c hid (tc.bo a hm c hc hid))
          (fun t ht => by
            obtain ⟨hm, hid⟩ := lookupCol_some theirs c.id t ht
            exact col_ext t c hid (tc.ot c hc t hm hid.symm).symm) hat]
        cases ha : lookupCol anc c.id <;> cases ht : lookupCol theirs c.id <;> simp_all
      · -- a base column theirs dropped
        obtain ⟨ha, ht⟩ := Classical.not_imp.1 hat
        rw [Classical.not_not.1 ht]
        cases hanc : lookupCol anc c.id with
        | none => exact absurd hanc ha
        | some a => rfl
  obtain ⟨f2, h2⟩ := mergeColumnsAux_eq anc (fun c => (none, some c)) (fun c => (lookupCol anc c.id).isNone)
    (theirs.filter (fun c => (lookupCol ours c.id).isNone)) fun c _ => by
      cases lookupCol anc c.id <;> rfl
  exact ⟨f1.or f2, by simp only [mergeColumns, h1, h2, bind, Except.bind, pure, Except.pure]⟩

theorem schemaMerge_total (anc ours theirs : Schema) (tc : TypeConsistent anc ours theirs) :
    IsOk (schemaMerge anc ours theirs) := by
  unfold schemaMerge
  by_cases he : anc = ours ∧ anc = theirs
  · rw [if_pos he]; exact isOk_ok _
  · obtain ⟨fl, hm⟩ := mergeColumns_eq anc ours theirs tc
    simp only [he, if_false, hm, bind, Except.bind, pure, Except.pure]
    exact isOk_ok _

theorem schemaMerge_mem_iff (anc ours theirs merged : Schema) (fl : Flags)
    (tc : TypeConsistent anc ours theirs)
    (h : schemaMerge anc ours theirs = .ok (merged, fl)) (x : Col) :
    x ∈ merged ↔
      (x ∈ ours ∧ (findCol anc x.id ≠ none → findCol theirs x.id ≠ none)) ∨
      (x ∈ theirs ∧ findCol anc x.id = none ∧ findCol ours x.id = none) := by
  unfold schemaMerge at h
  by_cases he : anc = ours ∧ anc = theirs
  · rw [if_pos he] at h
    cases h
    obtain ⟨rfl, rfl⟩ := he
    exact ⟨fun hx => .inl ⟨hx, id⟩, fun hx => hx.elim (·.1) (·.1)⟩
  · obtain ⟨fl', hm⟩ := mergeColumns_eq anc ours theirs tc
    simp only [he, if_false, hm, bind, Except.bind, pure, Except.pure, Except.ok.injEq, Prod.mk.injEq] at h
    obtain ⟨rfl, _⟩ := h
    simp only [List.mem_append, List.mem_filter, findCol_none_iff_lookupCol, ne_eq, Bool.or_eq_true,
      Option.isNone_iff_eq_none, Option.isSome_iff_ne_none, and_assoc]
    refine or_congr (and_congr_right fun _ => ?_) (and_congr_right fun _ => and_comm)
    cases lookupCol anc x.id <;> simp

theorem schemaMerge_wellFormed (anc ours theirs merged : Schema) (fl : Flags)
    (tc : TypeConsistent anc ours theirs)
    (h : schemaMerge anc ours theirs = .ok (merged, fl)) : VM.WellFormed ⟨anc, ours, theirs, merged, false⟩ := by
  have mem := fun c => (schemaMerge_mem_iff anc ours theirs merged fl tc h c).1
  have consM : ∀ (Y : Schema), Cons ours Y → Cons theirs Y → Cons merged Y := by
    intro Y h1 h2 c hc d hd e
    rcases mem c hc with ⟨hco, _⟩ | ⟨hct, _⟩
    · exact h1 c hco d hd e
    · exact h2 c hct d hd e
  refine ⟨tc.bo, tc.bt, consM anc tc.bo.symm tc.bt.symm, consM ours tc.oo tc.ot.symm,
    consM theirs tc.ot tc.tt, fun c hc => ?_, rfl⟩
  rcases mem c hc with ⟨hco, hbt⟩ | ⟨hct, hb, _⟩
  · exact ⟨fun hl _ => findCol_ne_none_of_mem ours c hco hl,
      fun hb => ⟨findCol_ne_none_of_mem ours c hco, hbt hb⟩⟩
  · exact ⟨fun _ hr => findCol_ne_none_of_mem theirs c hct hr, fun hb' => absurd hb hb'⟩

theorem isIdentityAux_get (k : Nat) (m : List (Option Nat)) (h : isIdentityAux k m = true) (i : Nat)
    (hi : i < m.length) : m[i]? = some (some (k + i)) := by
  induction m generalizing k i with
  | nil => simp at hi
  | cons x xs ih =>
    simp only [isIdentityAux, Bool.and_eq_true, beq_iff_eq] at h
    cases i with
    | zero => simp [h.1]
    | succ j =>
      have := ih (k + 1) h.2 j (by simpa using hi)
      simp only [List.getElem?_cons_succ, this]
      congr 2; omega

theorem projRow_of_findCol (msch side : Schema)
    (hf : ∀ i (hi : i < msch.length), findCol side (msch[i]).id = some i)
    (hlen : side.length = msch.length) (row : Row) (hrow : rowOk side row = true) :
    projRow msch side row = row := by
  have hl := rowOk_length side row hrow
  apply List.ext_getElem?
  intro i
  by_cases hi : i < msch.length
  · have hr : i < row.length := by omega
    simp [projRow, List.getElem?_eq_getElem hi, cellOf, hf i hi, cellAt, List.getElem?_eq_getElem hr]
  · have h1 : (projRow msch side row).length ≤ i := by simp [projRow]; omega
    have h2 : row.length ≤ i := by omega
    simp [List.getElem?_eq_none h1, List.getElem?_eq_none h2]

theorem projRow_of_identity (msch side : Schema) (hid : isIdentity (mapping msch side) = true)
    (hlen : side.length = msch.length) (row : Row) (hrow : rowOk side row = true) :
    projRow msch side row = row := by
  refine projRow_of_findCol msch side (fun i hi => ?_) hlen row hrow
  have hm := isIdentityAux_get 0 (mapping msch side) hid i (by simpa [mapping] using hi)
  simpa [mapping_get, List.getElem?_eq_getElem hi] using hm

theorem projRow_self (s : Schema) (hd : idsDistinct s = true) (row : Row) (hrow : rowOk s row = true) :
    projRow s s row = row :=
  projRow_of_findCol s s (fun i hi => findCol_self s hd i s[i] (List.getElem?_eq_getElem hi)) rfl row hrow

theorem schemaMerge_noRewrite (anc ours theirs msch : Schema) (fl : Flags)
    (ho : idsDistinct ours = true) (ht : idsDistinct theirs = true)
    (h : schemaMerge anc ours theirs = .ok (msch, fl)) :
    (fl.leftNeedsRewrite = false → ∀ row, rowOk ours row = true → projRow msch ours row = row) ∧
    (fl.rightNeedsRewrite = false → ∀ row, rowOk theirs row = true → projRow msch theirs row = row) := by
  unfold schemaMerge at h
  by_cases he : anc = ours ∧ anc = theirs
  · rw [if_pos he] at h
    cases h
    obtain ⟨rfl, rfl⟩ := he
    exact ⟨fun _ row hr => projRow_self _ ho row hr, fun _ row hr => projRow_self _ ht row hr⟩
  · cases hm : mergeColumns anc ours theirs with
    | error e => simp [he, hm, bind, Except.bind] at h
    | ok p =>
      simp only [he, if_false, hm, bind, Except.bind, pure, Except.pure, Except.ok.injEq, Prod.mk.injEq] at h
      obtain ⟨rfl, rfl⟩ := h
      -- the flag is off only if the mapping is the identity and the column types agree
      refine ⟨fun hf => ?_, fun hf => ?_⟩ <;>
      · simp only [Bool.or_eq_false_iff, Bool.not_eq_false', bne_eq_false_iff_eq] at hf
        exact projRow_of_identity _ _ hf.2.1 (by simpa using congrArg List.length hf.2.2)

theorem schemaMerge_ids_symm (anc ours theirs m1 m2 : Schema) (fl1 fl2 : Flags)
    (tc : TypeConsistent anc ours theirs)
    (h1 : schemaMerge anc ours theirs = .ok (m1, fl1)) (h2 : schemaMerge anc theirs ours = .ok (m2, fl2))
    (id : Nat) (hid : findCol m1 id ≠ none) : findCol m2 id ≠ none := by
  cases hf : findCol m1 id with
  | none => exact absurd hf hid
  | some j =>
    obtain ⟨x, hxj, rfl⟩ := findCol_some m1 id j hf
    have mem2 := fun y => (schemaMerge_mem_iff anc theirs ours m2 fl2 tc.swap h2 y).2
    rcases (schemaMerge_mem_iff anc ours theirs m1 fl1 tc h1 x).1 (List.mem_of_getElem? hxj) with
      ⟨hxo, hbt⟩ | ⟨hxt, hb, _⟩
    · cases hft : findCol theirs x.id with
      | some jt =>
        -- theirs' column of that id is kept by the other direction: ours has it too
        obtain ⟨t, htj, htid⟩ := findCol_some theirs x.id jt hft
        rw [← htid]
        exact findCol_ne_none_of_mem m2 t (mem2 t (.inl ⟨List.mem_of_getElem? htj,
          fun _ => htid ▸ findCol_ne_none_of_mem ours x hxo⟩))
      | none =>
        have hb : findCol anc x.id = none := Classical.byContradiction fun hb => hbt hb hft
        exact findCol_ne_none_of_mem m2 x (mem2 x (.inr ⟨hxo, hb, hft⟩))
    · exact findCol_ne_none_of_mem m2 x (mem2 x (.inl ⟨hxt, fun hb' => absurd hb hb'⟩))

end DoltVerif.RowMerge
