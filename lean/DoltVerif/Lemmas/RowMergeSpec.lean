import DoltVerif.Lemmas.RowMerge
/-! Column lookups by id, cells, well-typed rows, stored-tuple equality and the index-driven loops of
TryMerge, with the cell-wise specification of the row merger on one schema (C29: `cellMerge`,
`rowMergeSpec`, `specKey`) and what it says where no merging is needed (identical sides, a side equal to
the base) and of a conflicted key. -/
namespace DoltVerif.RowMerge

def idsDistinct : Schema → Bool
  | [] => true
  | c :: cs => cs.all (fun d => d.id != c.id) && idsDistinct cs

/-- field `i` of a stored row as SQL sees it -/
def cellAt (row : Row) (i : Nat) : Val := (row[i]?).join

theorem findCol_self (s : Schema) (h : idsDistinct s = true) (i : Nat) (c : Col)
    (hc : s[i]? = some c) : findCol s c.id = some i := by
  induction s generalizing i with
  | nil => simp at hc
  | cons d ds ih =>
    simp only [idsDistinct, Bool.and_eq_true, List.all_eq_true] at h
    cases i with
    | zero =>
      simp at hc; subst hc
      simp [findCol]
    | succ j =>
      simp at hc
      have hmem : c ∈ ds := List.mem_of_getElem? hc
      have hne := h.1 c hmem
      have hne' : (d.id == c.id) = false := by
        simp only [bne_iff_ne, ne_eq] at hne
        simp only [beq_eq_false_iff_ne, ne_eq]
        exact fun e => hne e.symm
      simp [findCol, hne', ih h.2 j hc]

theorem mapping_self_get (s : Schema) (h : idsDistinct s = true) (i : Nat) (hi : i < s.length) :
    (mapping s s)[i]? = some (some i) := by
  have hc : s[i]? = some s[i] := List.getElem?_eq_getElem hi
  simp [mapping, hc, findCol_self s h i s[i] hc]

theorem findCol_eq_findIdx? (sch : Schema) (id : Nat) : findCol sch id = sch.findIdx? (fun c => c.id == id) := by
  induction sch with
  | nil => rfl
  | cons c cs ih => simp only [findCol, List.findIdx?_cons, ih]

theorem findCol_some (sch : Schema) (id j : Nat) (h : findCol sch id = some j) :
    ∃ c, sch[j]? = some c ∧ c.id = id := by
  rw [findCol_eq_findIdx?, List.findIdx?_eq_some_iff_getElem] at h
  obtain ⟨hj, hp, _⟩ := h
  exact ⟨sch[j], List.getElem?_eq_getElem hj, by simpa using hp⟩

theorem findCol_eq_none_iff (sch : Schema) (id : Nat) :
    findCol sch id = none ↔ ∀ c, c ∈ sch → c.id ≠ id := by
  simp [findCol_eq_findIdx?]

theorem findCol_ne_none_of_mem (sch : Schema) (c : Col) (h : c ∈ sch) : findCol sch c.id ≠ none :=
  fun hn => (findCol_eq_none_iff sch c.id).1 hn c h rfl

theorem mapping_get (dst src : Schema) (i : Nat) :
    (mapping dst src)[i]? = (dst[i]?).map (fun c => findCol src c.id) := by
  simp [mapping]

theorem convert_of_hasTy (t : Ty) (v : Val) (h : Val.hasTy v t = true) : convert t v = .ok v := by
  cases v with
  | none => rfl
  | some c => cases c <;> cases t <;> simp_all [Val.hasTy, Cell.hasTy, convert]

theorem eqUnder_of_hasTy (t : Ty) (a b : Val) (ha : Val.hasTy a t = true) (hb : Val.hasTy b t = true) :
    eqUnder t a b = decide (a = b) := by
  cases a with
  | none => cases b <;> simp [eqUnder]
  | some x =>
    cases b with
    | none => simp [eqUnder]
    | some y =>
      cases x <;> cases y <;> cases t <;> simp_all [Val.hasTy, Cell.hasTy, eqUnder, toI, toS] <;>
        (rename_i a b; by_cases h : a = b <;> simp [h])

theorem rowOk_length (s : Schema) (row : Row) (h : rowOk s row = true) : row.length = s.length := by
  revert h
  fun_induction rowOk s row with
  | case1 => exact fun _ => rfl
  | case2 c cs v vs ih => exact fun h => congrArg Nat.succ (ih (Bool.and_eq_true_iff.mp h).2)
  | case3 => nofun

theorem rowOk_get (s : Schema) (row : Row) (h : rowOk s row = true) (i : Nat) (hi : i < s.length) :
    ∃ v, row[i]? = some v ∧ Val.hasTy v (s[i]'hi).ty = true := by
  revert h
  fun_induction rowOk s row generalizing i with
  | case1 => exact absurd hi (Nat.not_lt_zero _)
  | case2 c cs v vs ih =>
    intro h
    obtain ⟨hv, hvs⟩ := Bool.and_eq_true_iff.mp h
    cases i with
    | zero => exact ⟨v, rfl, hv⟩
    | succ j => exact ih j (Nat.lt_of_succ_lt_succ hi) hvs
  | case3 => nofun

theorem trimNulls_append (a : Row) : ∃ k, a = trimNulls a ++ List.replicate k none := by
  induction a with
  | nil => exact ⟨0, by simp [trimNulls]⟩
  | cons v vs ih =>
    obtain ⟨k, hk⟩ := ih
    cases v with
    | some c =>
      refine ⟨k, ?_⟩
      simp only [trimNulls]
      rw [List.cons_append, ← hk]
    | none =>
      cases ht : trimNulls vs with
      | nil =>
        refine ⟨k + 1, ?_⟩
        simp only [trimNulls, ht]
        rw [ht] at hk
        simp at hk
        simp [hk, List.replicate_succ]
      | cons w ws =>
        refine ⟨k, ?_⟩
        simp only [trimNulls, ht]
        rw [ht] at hk
        rw [List.cons_append, ← hk]

theorem rawEq_iff_eq (a b : Row) (hl : a.length = b.length) : rawEq a b = true ↔ a = b := by
  constructor
  · intro h
    simp only [rawEq, beq_iff_eq] at h
    obtain ⟨k1, h1⟩ := trimNulls_append a
    obtain ⟨k2, h2⟩ := trimNulls_append b
    have : k1 = k2 := by
      have l1 := congrArg List.length h1
      have l2 := congrArg List.length h2
      simp at l1 l2
      rw [h] at l1
      omega
    rw [h1, h2, h, this]
  · intro h; subst h; simp [rawEq]

/-- is the per-index test true somewhere in `[i, i + n)` — `anyConflict` without the errors -/
def anySpec (g : Nat → Bool) : Nat → Nat → Bool
  | 0, _ => false
  | n + 1, i => g i || anySpec g n (i + 1)

theorem anyConflict_eq (f : Nat → Except Err Bool) (g : Nat → Bool) (n i : Nat)
    (h : ∀ j, i ≤ j → j < i + n → f j = .ok (g j)) : anyConflict f n i = .ok (anySpec g n i) := by
  induction n generalizing i with
  | zero => rfl
  | succ n ih =>
    have h0 := h i (Nat.le_refl _) (by omega)
    have hr := ih (i + 1) (fun j h1 h2 => h j (by omega) (by omega))
    simp only [anyConflict, anySpec, h0, bind, Except.bind, pure, Except.pure, hr]
    cases g i <;> simp

theorem anySpec_eq_any (g : Nat → Bool) (n i : Nat) : anySpec g n i = (List.range' i n).any g := by
  induction n generalizing i with
  | zero => rfl
  | succ n ih => simp only [anySpec, ih, List.range'_succ, List.any_cons]

theorem anySpec_true_iff (g : Nat → Bool) (n i : Nat) :
    anySpec g n i = true ↔ ∃ j, i ≤ j ∧ j < i + n ∧ g j = true := by
  simp only [anySpec_eq_any, List.any_eq_true, List.mem_range'_1, and_assoc]

theorem anySpec_false (n i : Nat) : anySpec (fun _ => false) n i = false := by
  simp [anySpec_eq_any]

theorem anySpec_congr (f g : Nat → Bool) (n i : Nat) (h : ∀ j, i ≤ j → j < i + n → f j = g j) :
    anySpec f n i = anySpec g n i := by
  induction n generalizing i with
  | zero => rfl
  | succ n ih =>
    simp only [anySpec]
    rw [h i (Nat.le_refl _) (by omega), ih (i + 1) (fun j h1 h2 => h j (by omega) (by omega))]

/-- the row built column by column from per-column (value, conflict) results -/
def colsSpec (g : Nat → Val × Bool) : Nat → Nat → Option Row
  | 0, _ => some []
  | n + 1, i =>
    if (g i).2 then none else
    match colsSpec g n (i + 1) with
    | none => none
    | some vs => some ((g i).1 :: vs)

theorem mergeCols_eq (f : Nat → Except Err (Val × Bool)) (g : Nat → Val × Bool) (n i : Nat)
    (h : ∀ j, i ≤ j → j < i + n → f j = .ok (g j)) : mergeCols f n i = .ok (colsSpec g n i) := by
  induction n generalizing i with
  | zero => rfl
  | succ n ih =>
    have h0 := h i (Nat.le_refl _) (by omega)
    have hr := ih (i + 1) (fun j h1 h2 => h j (by omega) (by omega))
    simp only [mergeCols, colsSpec, h0, bind, Except.bind, pure, Except.pure, hr]
    cases hg : (g i).2 <;> simp
    cases colsSpec g n (i + 1) <;> simp

theorem colsSpec_eq (g : Nat → Val × Bool) (n i : Nat) :
    colsSpec g n i =
      if anySpec (fun j => (g j).2) n i then none else some ((List.range' i n).map fun j => (g j).1) := by
  induction n generalizing i with
  | zero => rfl
  | succ n ih =>
    simp only [colsSpec, anySpec, ih, List.range'_succ, List.map_cons]
    cases (g i).2 <;> cases anySpec (fun j => (g j).2) n (i + 1) <;> rfl

theorem map_range'_getElem? {α β} (M : List α) (G : Option α → β) :
    (List.range' 0 M.length).map (fun i => G M[i]?) = M.map fun c => G (some c) := by
  refine List.ext_getElem (by simp) fun i h1 _ => ?_
  have hi : i < M.length := by simpa using h1
  simp [hi]

theorem colsSpec_getElem? {α} (M : List α) (G : Option α → Val × Bool) :
    colsSpec (fun i => G M[i]?) M.length 0 =
      if M.any (fun c => (G (some c)).2) then none else some (M.map fun c => (G (some c)).1) := by
  have hany := congrArg (List.any · id) (map_range'_getElem? M fun o => (G o).2)
  simp only [List.any_map, Function.id_comp] at hany
  rw [colsSpec_eq, anySpec_eq_any, map_range'_getElem? M fun o => (G o).1, hany]

theorem colsSpec_congr (f g : Nat → Val × Bool) (n i : Nat) (h : ∀ j, i ≤ j → j < i + n → f j = g j) :
    colsSpec f n i = colsSpec g n i := by
  rw [colsSpec_eq, colsSpec_eq, anySpec_congr _ (fun j => (g j).2) n i fun j h1 h2 => congrArg Prod.snd (h j h1 h2),
    List.map_congr_left fun j hj => congrArg Prod.fst (h j (List.mem_range'_1.mp hj).1 (List.mem_range'_1.mp hj).2)]

/-- the property's rule for one cell with a base value -/
def cellMerge (b l r : Val) : Val × Bool :=
  if l = r then (l, false)                    -- both sides equal → that value
  else if l ≠ b ∧ r ≠ b then (none, true)     -- both changed it differently → conflict
  else if l ≠ b then (l, false)               -- ours-only change → ours
  else (r, false)                             -- theirs-only change → theirs

/-- … and for a row both sides inserted (no base row) -/
def cellMergeNoBase (l r : Val) : Val × Bool := if l = r then (l, false) else (none, true)

theorem cellMerge_comm (b l r : Val) : cellMerge b r l = cellMerge b l r := by
  unfold cellMerge
  by_cases h1 : l = r
  · subst h1; rfl
  · have h1' : ¬ r = l := fun e => h1 e.symm
    by_cases h2 : l = b <;> by_cases h3 : r = b <;> simp_all

theorem cellMergeNoBase_comm (l r : Val) : cellMergeNoBase r l = cellMergeNoBase l r := by
  unfold cellMergeNoBase
  by_cases h1 : l = r
  · subst h1; rfl
  · have h1' : ¬ r = l := fun e => h1 e.symm
    simp [h1, h1']

def sameVM (s : Schema) : VM := ⟨s, s, s, s, false⟩

theorem rows_eq_iff_cells (s : Schema) (a b : Row) (ha : rowOk s a = true) (hb : rowOk s b = true) :
    a = b ↔ ∀ i, i < s.length → cellAt a i = cellAt b i := by
  constructor
  · intro h; subst h; intros; rfl
  · intro h
    have la := rowOk_length s a ha
    have lb := rowOk_length s b hb
    apply List.ext_getElem? 
    intro i
    by_cases hi : i < s.length
    · obtain ⟨va, hva, _⟩ := rowOk_get s a ha i hi
      obtain ⟨vb, hvb, _⟩ := rowOk_get s b hb i hi
      have := h i hi
      simp [cellAt, hva, hvb] at this
      simp [hva, hvb, this]
    · have h1 : a.length ≤ i := by omega
      have h2 : b.length ≤ i := by omega
      simp [List.getElem?_eq_none h1, List.getElem?_eq_none h2]

/-- cell-wise merge of two present rows; `none` = some cell conflicts -/
def rowMergeSpec (s : Schema) (b : Option Row) (l r : Row) : Option Row :=
  match b with
  | some bb => colsSpec (fun i => cellMerge (cellAt bb i) (cellAt l i) (cellAt r i)) s.length 0
  | none => colsSpec (fun i => cellMergeNoBase (cellAt l i) (cellAt r i)) s.length 0

theorem rowMergeSpec_symm (s : Schema) (b : Option Row) (l r : Row) :
    rowMergeSpec s b r l = rowMergeSpec s b l r := by
  cases b with
  | none => simp only [rowMergeSpec]; congr 1; funext i; exact cellMergeNoBase_comm _ _
  | some bb => simp only [rowMergeSpec]; congr 1; funext i; exact cellMerge_comm _ _ _

theorem anySpec_diff (s : Schema) (b x : Row) (hb : rowOk s b = true) (hx : rowOk s x = true) :
    anySpec (fun i => !decide (cellAt b i = cellAt x i)) s.length 0 = !decide (x = b) := by
  rw [Bool.eq_iff_iff, anySpec_true_iff]
  simp only [Bool.not_eq_true', decide_eq_false_iff_not, Nat.zero_add, Nat.zero_le, true_and]
  rw [rows_eq_iff_cells s x b hx hb]
  constructor
  · rintro ⟨j, hj, hne⟩ h
    exact hne (h j hj).symm
  · intro h
    apply Classical.byContradiction
    intro hc
    apply h
    intro i hi
    apply Classical.byContradiction
    intro hne
    exact hc ⟨i, hi, fun e => hne e.symm⟩

def okOpt (s : Schema) (x : Option Row) : Prop := ∀ row, x = some row → rowOk s row = true

/-- **the property for one key** (tables sharing one schema):
theirs untouched → ours; ours untouched → theirs (so delete vs untouched → delete); the same change
on both sides → that; otherwise cell by cell (`rowMergeSpec`: ours-only cell → ours, theirs-only →
theirs, equal → that, both different → conflict), and delete vs modify → conflict.  A conflicted key
keeps ours' row. -/
def specKey (s : Schema) (b l r : Option Row) : Option Row × Bool :=
  if r = b then (l, false)
  else if l = b then (r, false)
  else if l = r then (l, false)
  else match l, r with
    | some ll, some rr =>
      (match rowMergeSpec s b ll rr with
       | some row => (some row, false)
       | none => (some ll, true))
    | _, _ => (l, true)

theorem specKey_same (s : Schema) (b l : Option Row) : specKey s b l l = (l, false) := by
  unfold specKey
  by_cases h1 : l = b <;> simp [h1]

theorem specKey_right_base (s : Schema) (b l : Option Row) : specKey s b l b = (l, false) := by
  simp [specKey]

theorem specKey_left_base (s : Schema) (b r : Option Row) : specKey s b b r = (r, false) := by
  unfold specKey
  by_cases h1 : r = b <;> simp [h1]

theorem specKey_conflict (s : Schema) (b l r : Option Row) (h : (specKey s b l r).2 = true) :
    (specKey s b l r).1 = l := by
  unfold specKey at h ⊢
  by_cases c1 : r = b
  · simp [c1] at h
  by_cases c2 : l = b
  · simp [c1, c2] at h
  by_cases c3 : l = r
  · simp [c1, c3] at h
  simp only [c1, c2, c3, if_false] at h ⊢
  cases l <;> cases r <;> simp_all
  split at h <;> simp_all

theorem rawEqOpt_iff (s : Schema) (x y : Option Row) (hx : okOpt s x) (hy : okOpt s y) :
    rawEqOpt x y = true ↔ x = y := by
  cases x with
  | none => cases y <;> simp [rawEqOpt]
  | some a =>
    cases y with
    | none => simp [rawEqOpt]
    | some b =>
      have la := rowOk_length s a (hx a rfl)
      have lb := rowOk_length s b (hy b rfl)
      simp [rawEqOpt, rawEq_iff_eq a b (by omega)]

theorem rowDiff_none_iff (s : Schema) (b x : Option Row) (hb : okOpt s b) (hx : okOpt s x) :
    rowDiff false b x = .none ↔ x = b := by
  cases b with
  | none => cases x <;> simp [rowDiff]
  | some bb =>
    cases x with
    | none => simp [rowDiff]
    | some xx =>
      have la := rowOk_length s bb (hb bb rfl)
      have lb := rowOk_length s xx (hx xx rfl)
      have := rawEq_iff_eq bb xx (by omega)
      simp only [rowDiff, Bool.false_or]
      by_cases h : rawEq bb xx = true
      · have e := this.1 h
        subst e
        simp [h]
      · have hne : ¬ bb = xx := fun e => h (this.2 e)
        have hne' : ¬ xx = bb := fun e => hne e.symm
        simp [h, hne']

def tableOk (t : Table) : Bool := t.rows.all (fun p => rowOk t.sch p.2)

theorem okOpt_get (t : Table) (h : tableOk t = true) (k : Key) : okOpt t.sch (get t.rows k) := by
  intro row hr
  simp only [tableOk, List.all_eq_true] at h
  exact h (k, row) (get_mem t.rows k row hr)

end DoltVerif.RowMerge
