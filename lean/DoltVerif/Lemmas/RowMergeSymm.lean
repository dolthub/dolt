import DoltVerif.Lemmas.RowMergeSchema
/-! The by-column-id specification of the merger is symmetric in the two sides, up to the column
permutation between the two directions' result schemas (C29 merge_symmetric_schema).  The cell rules are
symmetric by cases; a merged row and a row mapped by `projRow` are both `M.map fun c => f c.id`
(`rowSpecSchema_eq`), and over result schemas with the same ids that is the same row by id. -/
namespace DoltVerif.RowMerge

theorem cellSpec_swap (B L R M1 M2 : Schema) (k1 k2 : Bool) (id : Nat) (l r : Row) (b : Option Row) :
    cellSpec ⟨B, R, L, M2, k2⟩ id r l b = cellSpec ⟨B, L, R, M1, k1⟩ id l r b := by
  simp only [cellSpec]
  cases (b.bind fun bb => cellOf B bb id) <;> cases cellOf L l id <;> cases cellOf R r id <;>
    simp [cellMerge_comm, cellMergeNoBase_comm]

theorem dropConflict_swap (B L R M1 M2 : Schema) (k1 k2 : Bool) (id : Nat) (bv : Val) (l r : Option Row) :
    dropConflict ⟨B, R, L, M2, k2⟩ id bv r l = dropConflict ⟨B, L, R, M1, k1⟩ id bv l r := by
  cases l <;> cases r <;> simp only [dropConflict]
  rename_i ll rr
  cases cellOf L ll id <;> cases cellOf R rr id <;> rfl

theorem dropSpec_swap (B L R M1 M2 : Schema) (k1 k2 : Bool) (l r b : Option Row) :
    dropSpec ⟨B, R, L, M2, k2⟩ r l b = dropSpec ⟨B, L, R, M1, k1⟩ l r b := by
  cases b with
  | none => rfl
  | some bb =>
    simp only [dropSpec]
    congr 1
    funext i
    cases B[i]? <;> simp [dropConflict_swap B L R M1 M2 k1 k2]

/-- two stored rows under two result schemas are the same row as maps column id → cell -/
def RowsEqById (M1 M2 : Schema) (r1 r2 : Option Row) : Prop :=
  match r1, r2 with
  | none, none => True
  | some a, some b => ∀ id, cellOf M1 a id = cellOf M2 b id
  | _, _ => False

theorem rowSpecSchema_eq (m : VM) (ll rr : Row) (b : Option Row) :
    rowSpecSchema m ll rr b =
      if m.resultSch.any (fun c => (cellSpec m c.id ll rr b).2) then none
      else some (m.resultSch.map fun c => (cellSpec m c.id ll rr b).1) :=
  colsSpec_getElem? m.resultSch fun o => match o with
    | some c => cellSpec m c.id ll rr b
    | none => (none, false)

theorem cellOf_map (M : Schema) (f : Nat → Val) (id : Nat) :
    cellOf M (M.map fun c => f c.id) id = (findCol M id).map fun _ => f id := by
  cases hf : findCol M id with
  | none => simp [cellOf, hf]
  | some j =>
    obtain ⟨c, hc, hid⟩ := findCol_some M id j hf
    simp [cellOf, hf, cellAt, hc, hid]

theorem rowsEqById_map (M1 M2 : Schema) (hids : ∀ id, findCol M1 id ≠ none ↔ findCol M2 id ≠ none) (f : Nat → Val) :
    RowsEqById M1 M2 (some (M1.map fun c => f c.id)) (some (M2.map fun c => f c.id)) := by
  intro id
  rw [cellOf_map, cellOf_map]
  cases hf1 : findCol M1 id <;> cases hf2 : findCol M2 id
  · rfl
  · exact absurd hf1 ((hids id).2 (hf2 ▸ Option.some_ne_none _))
  · exact absurd hf2 ((hids id).1 (hf1 ▸ Option.some_ne_none _))
  · rfl

theorem any_ids (M1 M2 : Schema) (hids : ∀ id, findCol M1 id ≠ none ↔ findCol M2 id ≠ none) (p : Nat → Bool) :
    (M1.any fun c => p c.id) = M2.any fun c => p c.id := by
  have h : ∀ A B : Schema, (∀ id, findCol A id ≠ none → findCol B id ≠ none) →
      (A.any fun c => p c.id) = true → (B.any fun c => p c.id) = true := by
    intro A B hAB ha
    obtain ⟨c, hc, hp⟩ := List.any_eq_true.1 ha
    cases hf : findCol B c.id with
    | none => exact absurd hf (hAB _ (findCol_ne_none_of_mem A c hc))
    | some j =>
      obtain ⟨d, hd, hid⟩ := findCol_some B c.id j hf
      exact List.any_eq_true.2 ⟨d, List.mem_of_getElem? hd, by rw [hid]; exact hp⟩
  exact Bool.eq_iff_iff.2 ⟨h M1 M2 fun id => (hids id).1, h M2 M1 fun id => (hids id).2⟩

theorem tryMergeSpec_swap (B L R M1 M2 : Schema)
    (hids : ∀ id, findCol M1 id ≠ none ↔ findCol M2 id ≠ none) (l r b : Option Row) :
    (tryMergeSpec ⟨B, R, L, M2, false⟩ r l b).2 = (tryMergeSpec ⟨B, L, R, M1, false⟩ l r b).2 ∧
    RowsEqById M1 M2 (tryMergeSpec ⟨B, L, R, M1, false⟩ l r b).1 (tryMergeSpec ⟨B, R, L, M2, false⟩ r l b).1 := by
  unfold tryMergeSpec
  rw [dropSpec_swap B L R M1 M2 false false l r b]
  cases dropSpec ⟨B, L, R, M1, false⟩ l r b with
  | true => simp [RowsEqById]
  | false =>
    cases l with
    | none => cases r <;> simp [RowsEqById]
    | some ll =>
      cases r with
      | none => simp [RowsEqById]
      | some rr =>
        -- both merged rows are built from the same function of the column id, over schemas with the same ids
        simp only [Bool.false_eq_true, if_false, rowSpecSchema_eq, cellSpec_swap B L R M1 M2 false false,
          any_ids M2 M1 (fun id => (hids id).symm) fun id => (cellSpec ⟨B, L, R, M1, false⟩ id ll rr b).2]
        cases List.any M1 fun c => (cellSpec ⟨B, L, R, M1, false⟩ c.id ll rr b).2 with
        | true => simp [RowsEqById]
        | false => exact ⟨rfl, rowsEqById_map M1 M2 hids fun id => (cellSpec ⟨B, L, R, M1, false⟩ id ll rr b).1⟩

theorem projRow_eqById (M1 M2 S : Schema) (hids : ∀ id, findCol M1 id ≠ none ↔ findCol M2 id ≠ none) (row : Row) :
    RowsEqById M1 M2 (some (projRow M1 S row)) (some (projRow M2 S row)) :=
  rowsEqById_map M1 M2 hids fun id => (cellOf S row id).join

/-- two outcomes of one key agree as far as a merge is symmetric: the same conflict decision and, without a
conflict, rows related by `R` (a conflicted key keeps the respective ours) -/
def SymmAgree (R : Option Row → Option Row → Prop) (o1 o2 : Option Row × Bool) : Prop :=
  o2.2 = o1.2 ∧ (o1.2 = false → R o1.1 o2.1)

theorem verdict_swap {R : Option Row → Option Row → Prop} (t1 t2 : Option Row × Bool) (p1 p2 : Option Row)
    (hflag : t2.2 = t1.2) (hrow : R t1.1 t2.1) : SymmAgree R (verdict t1 p1) (verdict t2 p2) := by
  obtain ⟨a1, k1⟩ := t1
  obtain ⟨a2, k2⟩ := t2
  cases hflag
  cases k1
  · exact ⟨rfl, fun h => nomatch h⟩
  · exact ⟨rfl, fun _ => hrow⟩

theorem specSchemaKey_swap (B L R M1 M2 : Schema) (fl1 fl2 : Flags)
    (hids : ∀ id, findCol M1 id ≠ none ↔ findCol M2 id ≠ none) (b l r : Option Row) :
    SymmAgree (RowsEqById M1 M2) (specSchemaKey ⟨⟨B, L, R, M1, false⟩, fl1⟩ b l r)
      (specSchemaKey ⟨⟨B, R, L, M2, false⟩, fl2⟩ b r l) := by
  obtain ⟨hflag, hrow⟩ := tryMergeSpec_swap B L R M1 M2 hids l r b
  -- wherever `specSchemaKey` asks TryMerge, its value is `verdict (tryMergeSpec …) (ours' row mapped)` by definition
  have v := verdict_swap (R := RowsEqById M1 M2) _ _ (l.map (projRow M1 L)) (r.map (projRow M2 R)) hflag hrow
  cases l with
  | none =>
    cases r with
    | none => cases b <;> exact ⟨rfl, fun _ => trivial⟩
    | some rr =>
      cases b with
      | none => exact ⟨rfl, fun _ => projRow_eqById M1 M2 R hids rr⟩
      | some bb => exact v
  | some ll =>
    cases r with
    | none =>
      cases b with
      | none => exact ⟨rfl, fun _ => projRow_eqById M1 M2 L hids ll⟩
      | some bb => exact v
    | some rr => cases b <;> exact v

end DoltVerif.RowMerge
