import DoltVerif.Model.SchemaSer
/-! Helper lemmas for C37: the column decoder inverts the encoder (for `roundtrip`); the collision loop
`firstFree` as `List.find?` over the stream of draws and a pigeonhole lemma (for the tag theorems). -/
namespace DoltVerif.SchemaSer

theorem mapE_map_inv {α β ε : Type} (f : β → Except ε α) (g : α → β) :
    ∀ l : List α, (∀ a ∈ l, f (g a) = .ok a) → mapE f (l.map g) = .ok l
  | [], _ => rfl
  | a :: as, h => by
    simp only [List.map_cons, mapE, h a (by simp), mapE_map_inv f g as (fun x hx => h x (by simp [hx]))]

theorem length_mapIdxFrom {α β : Type} (f : Nat → α → β) : ∀ (l : List α) (i : Nat), (mapIdxFrom f i l).length = l.length
  | [], _ => rfl
  | _ :: as, i => by simp [mapIdxFrom, length_mapIdxFrom f as (i + 1)]

theorem getElem?_mapIdxFrom {α β : Type} (f : Nat → α → β) :
    ∀ (l : List α) (i j : Nat), (mapIdxFrom f i l)[j]? = (l[j]?).map (f (i + j))
  | [], _, _ => by simp [mapIdxFrom]
  | a :: as, i, 0 => by simp [mapIdxFrom]
  | a :: as, i, j + 1 => by
    simp only [mapIdxFrom, List.getElem?_cons_succ]
    rw [getElem?_mapIdxFrom f as (i + 1) j]
    congr 2; omega

/-- one flatbuffer field carries the default *or* the generated expression; key and auto-increment columns are
read back NOT NULL -/
structure ColWF (c : Column) : Prop where
  notBoth : c.default = "" ∨ c.generated = ""
  keyNotNull : (c.isPartOfPK = true ∨ c.autoIncrement = true) → c.notNull = true

theorem deColumn_serColumn (ad : AdaptivePred) (i : Nat) (c : Column) (h : ColWF c) :
    deColumn (serColumn ad i c) = c := by
  obtain ⟨name, tag, typ, pk, dflt, gen, onUpd, virt, ai, comment, nn, hid, shid⟩ := c
  obtain ⟨hb, hk⟩ := h
  simp only at hb hk
  have hnn : (!(!pk && !ai && !nn) || pk) = nn := by
    cases pk <;> cases ai <;> cases nn <;> simp_all
  simp only [deColumn, serColumn, Column.isNullable, optStr]
  congr 1
  · by_cases hd : dflt = ""
    · by_cases hg : gen = "" <;> simp [hd, hg]
    · have hg : gen = "" := by cases hb with | inl h => exact absurd h hd | inr h => exact h
      simp [hd, hg]
  · by_cases hd : dflt = ""
    · by_cases hg : gen = "" <;> simp [hd, hg]
    · have hg : gen = "" := by cases hb with | inl h => exact absurd h hd | inr h => exact h
      simp [hg]
  · by_cases ho : onUpd = "" <;> simp [ho]

theorem map_deColumn_mapIdxFrom (ad : AdaptivePred) :
    ∀ (l : List Column) (i : Nat), (∀ c ∈ l, ColWF c) → (mapIdxFrom (serColumn ad) i l).map deColumn = l
  | [], _, _ => rfl
  | c :: cs, i, h => by
    simp only [mapIdxFrom, List.map_cons]
    rw [deColumn_serColumn ad i c (h c (by simp)), map_deColumn_mapIdxFrom ad cs (i + 1) (fun x hx => h x (by simp [hx]))]

theorem u16_of_lt {n : Nat} (h : n < 65536) : u16 n = n := Nat.mod_eq_of_lt h

theorem map_u16_of_lt (l : List Nat) (h : ∀ x ∈ l, x < 65536) : l.map u16 = l :=
  (List.map_congr_left fun x hx => u16_of_lt (h x hx)).trans (List.map_id l)

theorem tagToIdx_spec (cols : List Column) (t : Nat) (h : t ∈ cols.map (·.tag)) :
    ∃ hi : tagToIdx cols t < cols.length, cols[tagToIdx cols t].tag = t := by
  obtain ⟨x, hx, hxt⟩ := List.mem_map.mp h
  unfold tagToIdx
  cases hf : cols.findIdx? (·.tag == t) with
  | none => exact absurd (List.findIdx?_eq_none_iff.mp hf x hx) (by simp [hxt])
  | some i =>
    obtain ⟨hi, hp, _⟩ := List.findIdx?_eq_some_iff_getElem.mp hf
    exact ⟨hi, by simpa using hp⟩

theorem optStr_ite (x : String) : optStr (if (x != "") = true then some x else none) = x := by
  by_cases hx : x = "" <;> simp [hx, optStr]

theorem keylessSerial_append_hidden (l : List FbColumn) (k : KeylessConsts) :
    keylessSerial (l ++ [hiddenIdCol k.idTag k.hashEnc, hiddenCardCol k.cardTag k.u64Enc]) = true := by
  have h2 : l.length + 2 - 1 = l.length + 1 := rfl
  simp [keylessSerial, h2, hiddenIdCol, hiddenCardCol]

theorem isKeyless_pk {s : Schema} (h : s.isKeyless = true) : (s.cols.filter (·.isPartOfPK)).length = 0 := by
  simp only [Schema.isKeyless, Bool.and_eq_true, Bool.not_eq_true', List.any_eq_false] at h
  rw [List.length_eq_zero_iff, List.filter_eq_nil_iff]
  intro c hc
  simpa using h.1 c hc

theorem firstFree_eq_find (ex : List Nat) (st : Nat → Nat) : ∀ fuel i,
    firstFree ex st fuel i = ((List.range' i fuel).map st).find? (fun t => !ex.contains t)
  | 0, _ => rfl
  | fuel + 1, i => by
    rw [firstFree, List.range'_succ, List.map_cons, List.find?_cons, firstFree_eq_find ex st fuel (i + 1)]
    cases ex.contains (st i) <;> rfl

theorem firstFree_sound (ex : List Nat) (st : Nat → Nat) (fuel i t : Nat) (h : firstFree ex st fuel i = some t) :
    t ∉ ex ∧ ∃ j, i ≤ j ∧ t = st j := by
  rw [firstFree_eq_find] at h
  obtain ⟨j, hj, rfl⟩ := List.mem_map.mp (List.mem_of_find?_eq_some h)
  exact ⟨by simpa using List.find?_some h, j, (List.mem_range'_1.mp hj).1, rfl⟩

theorem firstFree_congr (e1 e2 : List Nat) (st : Nat → Nat) (h : ∀ x, x ∈ e1 ↔ x ∈ e2) (fuel i : Nat) :
    firstFree e1 st fuel i = firstFree e2 st fuel i := by
  rw [firstFree_eq_find, firstFree_eq_find]
  congr 1; funext t; rw [Bool.eq_iff_iff]; simp [h]

theorem firstFree_hit (ex : List Nat) (st : Nat → Nat) (d i : Nat) (h : st (i + d) ∉ ex) :
    ∃ t, firstFree ex st (d + 1) i = some t := by
  rw [firstFree_eq_find, ← Option.isSome_iff_exists, List.find?_isSome]
  exact ⟨st (i + d), List.mem_map.mpr ⟨i + d, List.mem_range'_1.mpr ⟨by omega, by omega⟩, rfl⟩, by simpa using h⟩

/-- pigeonhole: else `range n`, which has no duplicates, would be contained in a shorter list -/
theorem exists_free (n : Nat) (l : List Nat) (h : l.length < n) : ∃ v, v < n ∧ v ∉ l := by
  apply Decidable.byContradiction
  intro hno
  have hsub : List.range n ⊆ l := fun v hv =>
    Decidable.byContradiction (fun hvl => hno ⟨v, List.mem_range.mp hv, hvl⟩)
  have := List.nodup_range.length_le_of_subset hsub
  rw [List.length_range] at this
  omega

theorem autoGenerateTag_not_mem {rand : Rand} {fuel : Nat} {existing : List Nat} {table col : List UInt8} {kinds : List Nat}
    {kind t : Nat} (h : autoGenerateTag rand fuel existing table kinds col kind = some t) : t ∉ existing := by
  simp only [autoGenerateTag] at h
  cases hm : maxTagVal existing.length with
  | none => simp [hm] at h
  | some m => rw [hm] at h; exact (firstFree_sound _ _ _ _ _ h).1

end DoltVerif.SchemaSer
