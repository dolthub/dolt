import DoltVerif.Model.Sealer
/-! The transliterated `filepath.Clean` on relative paths (C39): its loop keeps the write buffer of the shape `RelShape`
(`loop_rel`); rooted paths are not treated, the file handler strips leading slashes before it calls `Clean`.  Also the
handler's own path steps: `splitLastSlash` and `trimLeftSlash` on joined paths, what `validateFileName` and `postPath`
accept. -/
namespace DoltVerif.PathClean

def NoSlash (c : Bytes) : Prop := ∀ b ∈ c, b ≠ slash

/-- a path component that is a real name -/
def Normal (c : Bytes) : Prop := c ≠ [] ∧ NoSlash c ∧ c ≠ [dot] ∧ c ≠ dotdot

theorem slash_ne_dot : slash ≠ dot := by decide

theorem noSlash_dotdot : NoSlash dotdot := by
  intro b hb; simp [dotdot] at hb; subst hb; decide

theorem joinSlash_cons_cons (a b : Bytes) (l : List Bytes) :
    joinSlash (a :: b :: l) = a ++ slash :: joinSlash (b :: l) := rfl

theorem joinSlash_append {a b : List Bytes} (ha : a ≠ []) (hb : b ≠ []) :
    joinSlash (a ++ b) = joinSlash a ++ slash :: joinSlash b := by
  induction a with
  | nil => exact absurd rfl ha
  | cons x t ih =>
    cases t with
    | nil => obtain ⟨y, b', rfl⟩ := List.exists_cons_of_ne_nil hb; rfl
    | cons y t' =>
      rw [List.cons_append, List.cons_append, joinSlash_cons_cons, ← List.cons_append, ih (by simp),
        joinSlash_cons_cons, List.append_assoc]; rfl

theorem joinSlash_length_append (a b : List Bytes) :
    (joinSlash (a ++ b)).length =
      (joinSlash a).length + (if a ≠ [] ∧ b ≠ [] then 1 else 0) + (joinSlash b).length := by
  by_cases ha : a = []
  · simp [ha, joinSlash]
  · by_cases hb : b = []
    · simp [hb, joinSlash]
    · simp [joinSlash_append ha hb, ha, hb]; omega

theorem joinSlash_pos {l : List Bytes} (hne : l ≠ []) (h : ∀ c ∈ l, c ≠ []) :
    0 < (joinSlash l).length := by
  cases l with
  | nil => exact absurd rfl hne
  | cons a t =>
    have ha : a ≠ [] := h a (by simp)
    have : 0 < a.length := List.length_pos_iff.mpr ha
    cases t with
    | nil => simpa [joinSlash]
    | cons b t' => simp [joinSlash_cons_cons]; omega

/-- appending a component the way the loop does: a '/' first unless the buffer is empty -/
theorem joinSlash_concat (l : List Bytes) (e : Bytes) (hl : ∀ c ∈ l, c ≠ []) :
    joinSlash (l ++ [e]) =
      (if (joinSlash l).length > 0 then joinSlash l ++ [slash] else joinSlash l) ++ e := by
  by_cases h : l = []
  · subst h; rfl
  · rw [if_pos (joinSlash_pos h hl), joinSlash_append h (by simp)]; simp [joinSlash]

theorem backW_eq (out : Bytes) (dd lo w : Nat) (hdd : dd ≤ lo) (hstop : lo = dd ∨ out.getD lo 0 = slash)
    (hw : lo < w) (hmid : ∀ i, lo < i → i < w → out.getD i 0 ≠ slash) : backW out dd w = lo := by
  induction w with
  | zero => omega
  | succ w ih =>
    unfold backW
    by_cases hwl : w = lo
    · subst hwl
      rcases hstop with rfl | hs
      · simp
      · simp only [hs, bne_self_eq_false, Bool.and_false, Bool.false_eq_true, if_false]
    · have := hmid w (by omega) (by omega)
      simp only [show w > dd by omega, decide_true, Bool.true_and, bne_iff_ne, ne_eq, this, not_false_eq_true, if_true]
      exact ih (by omega) fun i h1 h2 => hmid i h1 (by omega)

theorem back_after_slash (pre e : Bytes) (dd : Nat) (he : NoSlash e) (hdd : dd ≤ pre.length) :
    back (pre ++ slash :: e) dd = pre := by
  unfold back
  rw [backW_eq _ dd pre.length _ hdd (.inr (by simp)) (by simp)]
  · simp
  · intro i h1 h2
    obtain ⟨j, rfl⟩ : ∃ j, i = pre.length + (j + 1) := ⟨i - pre.length - 1, by omega⟩
    simp only [List.length_append, List.length_cons] at h2
    rw [List.getD_eq_getElem?_getD, List.getElem?_append_right (by omega)]
    simp only [Nat.add_sub_cancel_left, List.getElem?_cons_succ, List.getElem?_eq_getElem (show j < e.length by omega), Option.getD_some]
    exact he _ (List.getElem_mem _)

theorem back_no_slash (e : Bytes) (he : NoSlash e) : back e 0 = [] := by
  by_cases hne : e = []
  · subst hne; rfl
  unfold back
  rw [backW_eq _ 0 0 _ (Nat.le_refl 0) (.inl rfl) (List.length_pos_iff.mpr hne)]
  · rfl
  · intro i _ h2
    rw [List.getD_eq_getElem?_getD, List.getElem?_eq_getElem h2]
    exact he _ (List.getElem_mem _)

theorem copyElem_noSlash (t : Bytes) : NoSlash (copyElem t).1 := by
  induction t with
  | nil => intro b hb; simp [copyElem] at hb
  | cons c r ih =>
    unfold copyElem
    split
    · intro b hb; simp at hb
    · rename_i hc
      intro b hb
      simp only [List.mem_cons] at hb
      rcases hb with rfl | hb
      · intro h; exact hc (by simp [h])
      · exact ih b hb

theorem copyElem_fst_nil_iff (t : Bytes) :
    (copyElem t).1 = [] ↔ (t.isEmpty || t.head? == some slash) = true := by
  fun_cases copyElem t
  next => simp
  next hc => simp [hc] -- stops at a '/'
  next hc _ _ _ => simp [hc] -- copies a byte

-- `splitSlash` and `joinSlash` are core's `List.splitOn` and `List.intercalate` at '/', whose inverse laws are in core

theorem splitSlash_eq_splitOn (s : Bytes) : splitSlash s = s.splitOn slash := by
  induction s with
  | nil => rfl
  | cons c t ih =>
    rw [splitSlash, List.splitOn_cons_eq_if_modifyHead, ih]
    cases h : t.splitOn slash with
    | nil => exact absurd h (List.splitOn_ne_nil slash t)
    | cons x r => rfl

theorem joinSlash_eq_intercalate (l : List Bytes) : joinSlash l = [slash].intercalate l := by
  induction l with
  | nil => rfl
  | cons a t ih =>
    cases t with
    | nil => exact List.intercalate_singleton.symm
    | cons b t => rw [joinSlash_cons_cons, ih, List.intercalate_cons_cons, List.append_assoc]; rfl

theorem splitSlash_joinSlash (l : List Bytes) (hne : l ≠ []) (h : ∀ c ∈ l, NoSlash c) :
    splitSlash (joinSlash l) = l := by
  rw [splitSlash_eq_splitOn, joinSlash_eq_intercalate]
  exact List.splitOn_intercalate slash (fun c hc hs => h c hc slash hs rfl) hne

/-- shape of the write buffer while cleaning a relative path -/
def RelShape (out : Bytes) (dd : Nat) : Prop :=
  ∃ (k : Nat) (comps : List Bytes), (∀ c ∈ comps, Normal c) ∧
    out = joinSlash (List.replicate k dotdot ++ comps) ∧
    dd = (joinSlash (List.replicate k dotdot)).length

theorem dotdot_ne_nil : dotdot ≠ [] := by simp [dotdot]

theorem parts_ne_nil {k : Nat} {comps : List Bytes} (h : ∀ c ∈ comps, Normal c) :
    ∀ x ∈ List.replicate k dotdot ++ comps, x ≠ [] := by
  intro x hx
  rcases List.mem_append.mp hx with hx | hx
  · rw [(List.mem_replicate.mp hx).2]; exact dotdot_ne_nil
  · exact (h x hx).1

theorem relShape_len {k : Nat} {comps : List Bytes} (h : ∀ c ∈ comps, Normal c) (hne : comps ≠ []) :
    (joinSlash (List.replicate k dotdot ++ comps)).length > (joinSlash (List.replicate k dotdot)).length := by
  rw [joinSlash_length_append]
  have := joinSlash_pos hne (fun c hc => (h c hc).1)
  omega

theorem relShape_back {out : Bytes} {dd : Nat} (h : RelShape out dd) (hlen : out.length > dd) :
    RelShape (back out dd) dd := by
  obtain ⟨k, comps, hn, rfl, rfl⟩ := h
  -- the buffer is longer than its ".." prefix, so there is a last normal component to drop
  obtain ⟨comps', e, rfl⟩ := (List.eq_nil_or_concat comps).resolve_left
    (by rintro rfl; simp at hlen)
  rw [List.concat_eq_append] at hn hlen ⊢
  have he : Normal e := hn e (by simp)
  refine ⟨k, comps', fun c hc => hn c (by simp [hc]), ?_, rfl⟩
  rw [← List.append_assoc]
  by_cases hA : List.replicate k dotdot ++ comps' = []
  · rw [hA, List.nil_append, joinSlash]
    obtain ⟨hk, -⟩ := List.append_eq_nil_iff.mp hA
    rw [hk, joinSlash, List.length_nil]
    exact back_no_slash e he.2.1
  · rw [joinSlash_append hA (by simp), joinSlash, back_after_slash _ _ _ he.2.1]
    rw [joinSlash_length_append]; omega

theorem relShape_pushDotDot {out : Bytes} {dd : Nat} (h : RelShape out dd) (hlen : ¬ out.length > dd) :
    RelShape ((if out.length > 0 then out ++ [slash] else out) ++ [dot, dot])
      ((if out.length > 0 then out ++ [slash] else out) ++ [dot, dot]).length := by
  obtain ⟨k, comps, hn, rfl, rfl⟩ := h
  -- nothing but ".." has been written, or the buffer would be longer than `dd`
  have hnil : comps = [] := Decidable.byContradiction fun hne => hlen (relShape_len hn hne)
  subst hnil
  rw [List.append_nil]
  have hshape := joinSlash_concat (List.replicate k dotdot) dotdot
    fun c hc => by rw [(List.mem_replicate.mp hc).2]; exact dotdot_ne_nil
  rw [← List.replicate_succ'] at hshape
  exact ⟨k + 1, [], by simp, by rw [List.append_nil]; exact hshape.symm, by rw [hshape]; rfl⟩

theorem normal_elem {c : UInt8} {t : Bytes}
    (h1 : ¬(c == slash) = true)
    (h2 : ¬(c == dot && (t.isEmpty || t.head? == some slash)) = true)
    (h3 : ¬(c == dot && t.head? == some dot && (t.tail.isEmpty || t.tail.head? == some slash)) = true) :
    Normal (c :: (copyElem t).1) := by
  refine ⟨by simp, ?_, ?_, ?_⟩
  · exact List.forall_mem_cons.mpr ⟨by simpa using h1, copyElem_noSlash t⟩
  · intro heq
    obtain ⟨hc, he⟩ := List.cons.inj heq
    exact h2 (by simp [hc, (copyElem_fst_nil_iff t).mp he])
  · intro heq
    obtain ⟨hc, he⟩ := List.cons.inj heq
    -- the copied rest is "." only if the input goes on with "." and then ends or meets a '/'
    cases t with
    | nil => cases he
    | cons d t' =>
      unfold copyElem at he
      split at he
      · cases he
      · obtain ⟨hd, he'⟩ := List.cons.inj he
        exact h3 (by simp [hc, hd, (copyElem_fst_nil_iff t').mp he'])

theorem relShape_pushElem {out : Bytes} {dd : Nat} (h : RelShape out dd) {e : Bytes} (he : Normal e) :
    RelShape ((if out.length > 0 then out ++ [slash] else out) ++ e) dd := by
  obtain ⟨k, comps, hn, rfl, hdd⟩ := h
  refine ⟨k, comps ++ [e], ?_, ?_, hdd⟩
  · intro c hc
    rcases List.mem_append.mp hc with hc | hc
    · exact hn c hc
    · rw [List.mem_singleton.mp hc]; exact he
  · rw [← List.append_assoc, joinSlash_concat _ _ (parts_ne_nil hn)]

theorem loop_rel (rest out : Bytes) (dd : Nat) (h : RelShape out dd) :
    ∃ dd', RelShape (loop false rest out dd) dd' := by
  fun_induction loop false rest out dd
  case case1 => exact ⟨_, h⟩
  case case2 ih => exact ih h
  case case3 ih => exact ih h
  case case4 hlen ih => exact ih (relShape_back h hlen)
  case case5 hlen _ out' ih => exact ih (relShape_pushDotDot h hlen)
  case case6 hf _ => simp at hf
  case case7 h1 h2 h3 out1 er ih =>
    -- for a relative path the separator test `rooted && … || !rooted && out.length != 0` is `out.length > 0`
    apply ih
    simpa [out1, Nat.pos_iff_ne_zero] using relShape_pushElem h (normal_elem h1 h2 h3)

end DoltVerif.PathClean

namespace DoltVerif.C39
open DoltVerif.Sealer hiding Bytes
open DoltVerif.PathClean

theorem splitLastSlash_append_slash (a R : Bytes) :
    splitLastSlash (a ++ slash :: R) =
      match splitLastSlash R with
      | some (d, f) => some (a ++ slash :: d, f)
      | none => some (a, R) := by
  induction a with
  | nil => cases h : splitLastSlash R <;> simp [splitLastSlash, h]
  | cons x a ih => cases h : splitLastSlash R <;> simp [splitLastSlash, ih, h]

theorem splitLastSlash_noSlash (c : Bytes) (h : NoSlash c) : splitLastSlash c = none := by
  induction c with
  | nil => rfl
  | cons b r ih =>
    obtain ⟨hb, hr⟩ := List.forall_mem_cons.mp h
    simp [splitLastSlash, ih hr, hb]

theorem splitLastSlash_joinSlash_concat (l : List Bytes) (f : Bytes) (hl : l ≠ []) (hf : NoSlash f) :
    splitLastSlash (joinSlash (l ++ [f])) = some (joinSlash l, f) := by
  rw [joinSlash_append hl (by simp), joinSlash, splitLastSlash_append_slash, splitLastSlash_noSlash f hf]

theorem trimLeftSlash_eq_dropWhile (p : Bytes) : trimLeftSlash p = p.dropWhile (· == slash) := by
  induction p with
  | nil => rfl
  | cons c r ih => rw [trimLeftSlash, List.dropWhile_cons, ih]

theorem trimLeftSlash_rel (p : Bytes) : (trimLeftSlash p).head? ≠ some slash := by
  have := List.head?_dropWhile_not (· == slash) p
  rw [trimLeftSlash_eq_dropWhile]
  intro h
  simp [h] at this

theorem isHashChar_ne_slash (c : UInt8) (h : isHashChar c = true) : c ≠ slash ∧ c ≠ dot := by
  constructor <;> (intro he; subst he; simp [isHashChar, slash, dot] at h)

theorem validateFileName_spec {f : Bytes} (hv : validateFileName f = true) :
    isHashName (f.take 32) = true ∧
      (f.length = 32 ∨ (f.length = 37 ∧ archiveSuffix.isSuffixOf f = true)) := by
  have hal : archiveSuffix.length = 5 := by decide
  revert hv
  fun_cases validateFileName f
  next h32 => -- 32 characters: a table file
    intro hv
    have : f.length = 32 := by simpa using h32
    exact ⟨by rw [List.take_of_length_le (by omega)]; exact hv, Or.inl this⟩
  next h37 => -- 37 characters ending in the archive suffix
    simp only [Bool.and_eq_true, beq_iff_eq, hasSuffix] at h37
    exact fun hv => ⟨hv, Or.inr ⟨by omega, h37.2⟩⟩
  next => nofun

/-- what the POST branch hands to `writeTableFile`: the directory part goes through unexamined -/
theorem postPath_write_iff {urlPath d f : Bytes} :
    postPath urlPath = .write d f ↔
      splitLastSlash (trimLeftSlash urlPath) = some (d, f) ∧ validateFileName f = true := by
  constructor
  · fun_cases postPath urlPath
    next => nofun -- no '/'
    next hs hv => intro h; cases h; exact ⟨hs, hv⟩
    next => nofun -- the file name is refused
  · rintro ⟨hs, hv⟩
    simp only [postPath, hs, hv, if_true]

end DoltVerif.C39
