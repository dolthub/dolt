import DoltVerif.Lemmas.ExceptOk
import DoltVerif.Model.Sealer
/-!
Lemmas for the sealer model (C39): the bytes of a literal (`str_ofList`), decimal round trip, no
colon in what `ParseInt` accepts and the AAD layout it makes injective, query access and window
strings of sealed URLs, and what `unsealUrl` accepts (`Accepted`, `unsealUrl_ok_iff`).
-/
namespace DoltVerif.Sealer

/-- `str` of a literal, read off its characters.  The kernel (and `rw`'s unifier) take a literal
`"…"` as `String.ofList ['…']` at no cost, whereas evaluating `String.toList` on it runs core's
UTF-8 decoder over the encoded bytes: a test vector is evaluated after `rw [str_ofList]`, once per
literal in it. -/
theorem str_ofList (l : List Char) : str (String.ofList l) = l.map (fun c => UInt8.ofNat c.toNat) := by
  rw [str, String.toList_ofList]

theorem digitsVal_append (ds : Bytes) (d : UInt8) (acc : Nat) :
    digitsVal (ds ++ [d]) acc =
      (digitsVal ds acc).bind (fun v => if isDigit d then some (v * 10 + (d.toNat - 0x30)) else none) := by
  fun_induction digitsVal ds acc
  next => simp [digitsVal]
  next hd ih => simp only [List.cons_append, digitsVal, hd, if_true, ih] -- a digit: go on
  next hd => simp [digitsVal, hd] -- no digit

theorem digit_small (n : Nat) (h : n < 10) : isDigit (digitChar n) = true ∧
    (digitChar n).toNat - 0x30 = n ∧
    (digitChar n == 0x2b) = false ∧ (digitChar n == 0x2d) = false := by
  have := (by decide : ∀ m : Fin 10, isDigit (digitChar m.val) = true ∧
    (digitChar m.val).toNat - 0x30 = m.val ∧
    (digitChar m.val == 0x2b) = false ∧ (digitChar m.val == 0x2d) = false) ⟨n, h⟩
  exact this

theorem digitsVal_natDigits (n : Nat) : digitsVal (natDigits n) 0 = some n := by
  fun_induction natDigits n
  next n h => -- one digit
    have := digit_small n h
    simp only [digitsVal, this.1, if_true, this.2.1]
    simp
  next n h ih => -- the digits of `n / 10`, then the last one
    rw [digitsVal_append, ih]
    have := digit_small (n % 10) (by omega)
    simp only [Option.bind_some, this.1, if_true, this.2.1]
    congr 1; omega

theorem natDigits_ne_nil (n : Nat) : natDigits n ≠ [] := by
  fun_cases natDigits n <;> simp

theorem natDigits_head (n : Nat) : ∃ c r, natDigits n = c :: r ∧ (c == 0x2b) = false ∧ (c == 0x2d) = false := by
  fun_induction natDigits n
  next n h => -- one digit
    have := digit_small n h
    exact ⟨_, [], rfl, this.2.2.1, this.2.2.2⟩
  next n h ih => -- the head is that of `n / 10`
    obtain ⟨c, r, hc, h1, h2⟩ := ih
    exact ⟨c, r ++ [_], by rw [hc]; rfl, h1, h2⟩

theorem parseInt64_minus {ds : Bytes} {n : Nat} (hne : ds ≠ []) (hv : digitsVal ds 0 = some n) :
    parseInt64 (0x2d :: ds) = if n > 2^63 then none else some (-(n : Int)) := by
  cases ds with
  | nil => exact absurd rfl hne
  | cons c r => simp [parseInt64, hv]

theorem parseInt64_unsigned {c : UInt8} {r : Bytes} {n : Nat} (h1 : (c == 0x2b) = false)
    (h2 : (c == 0x2d) = false) (hv : digitsVal (c :: r) 0 = some n) :
    parseInt64 (c :: r) = if n ≥ 2^63 then none else some (n : Int) := by
  simp [parseInt64, h1, h2, hv]

theorem parseInt64_formatInt (i : Int) (hlo : -(2^63 : Int) ≤ i) (hhi : i < 2^63) :
    parseInt64 (formatInt i) = some i := by
  unfold formatInt
  split
  · rw [parseInt64_minus (natDigits_ne_nil _) (digitsVal_natDigits _), if_neg (by omega)]
    congr 1; omega
  · obtain ⟨c, r, hc, h1, h2⟩ := natDigits_head i.toNat
    rw [hc, parseInt64_unsigned h1 h2 (hc ▸ digitsVal_natDigits _), if_neg (by omega)]
    congr 1; omega

theorem digitsVal_no_colon (ds : Bytes) (acc : Nat) (v : Nat) (h : digitsVal ds acc = some v) :
    (0x3a : UInt8) ∉ ds := by
  revert h
  fun_induction digitsVal ds acc
  next => simp
  next c r acc hd ih => -- a digit is no ':'
    intro h hm
    rcases List.mem_cons.mp hm with rfl | hm
    · simp [isDigit] at hd
    · exact ih h hm
  next => nofun

theorem parseInt64_no_colon (s : Bytes) (v : Int) (h : parseInt64 s = some v) : (0x3a : UInt8) ∉ s := by
  unfold parseInt64 at h
  cases s with
  | nil => cases h
  | cons c r =>
    simp only at h
    by_cases hs : (c == 0x2b || c == 0x2d) = true
    · simp only [hs, if_true] at h
      by_cases he : r.isEmpty = true
      · simp [he] at h
      · simp only [he, Bool.false_eq_true, if_false] at h
        cases hd : digitsVal r 0 with
        | none => simp [hd] at h
        | some n =>
          intro hm
          simp only [List.mem_cons] at hm
          rcases hm with rfl | hm
          · simp at hs
          · exact digitsVal_no_colon _ _ _ hd hm
    · simp only [hs, Bool.false_eq_true, if_false, List.isEmpty_cons] at h
      cases hd : digitsVal (c :: r) 0 with
      | none => simp [hd] at h
      | some n => exact digitsVal_no_colon _ _ _ hd

/-- `nbf` is the first field of the split at ':' -/
theorem aadOf_inj (a b a' b' : Bytes) (ha : (0x3a : UInt8) ∉ a) (ha' : (0x3a : UInt8) ∉ a')
    (h : aadOf a b = aadOf a' b') : a = a' ∧ b = b' := by
  unfold aadOf at h
  have hs := congrArg (List.splitOn 0x3a) h
  rw [List.splitOn_append_cons_self_of_not_mem ha, List.splitOn_append_cons_self_of_not_mem ha'] at hs
  obtain rfl := (List.cons.inj hs).1
  exact ⟨rfl, (List.cons.inj (List.append_cancel_left h)).2⟩

theorem sealUrl_has (P : Params) (k nonce ep rq : Bytes) (now now2 : Int) :
    let q := (sealUrl P k now now2 nonce ep rq).query
    qHas q (str "nbf") = true ∧ qHas q (str "exp") = true ∧ qHas q (str "nonce") = true ∧
      qHas q (str "req") = true := by
  simp [qHas, sealUrl]

theorem sealUrl_get (P : Params) (k nonce ep rq : Bytes) (now now2 : Int) :
    let q := (sealUrl P k now now2 nonce ep rq).query
    qGet q (str "nbf") = formatInt (now - nbfBackMs) ∧ qGet q (str "exp") = formatInt (now2 + expAheadMs) ∧
      qGet q (str "nonce") = P.b64.enc nonce ∧
      qGet q (str "req") = P.b64.enc (P.aead.sealA k nonce
        (aadOf (formatInt (now - nbfBackMs)) (formatInt (now2 + expAheadMs))) (P.url.render ep rq)) :=
  ⟨rfl, rfl, rfl, rfl⟩

theorem sealUrl_window (P : Params) (k nonce ep rq : Bytes) {now now2 : Int}
    (hrange : -(2^63 : Int) ≤ now - nbfBackMs ∧ now2 + expAheadMs < 2^63) (hmono : now ≤ now2) :
    let q := (sealUrl P k now now2 nonce ep rq).query
    parseInt64 (qGet q (str "nbf")) = some (now - nbfBackMs) ∧
      parseInt64 (qGet q (str "exp")) = some (now2 + expAheadMs) := by
  have hnb : nbfBackMs = 10000 := rfl
  have hea : expAheadMs = 900000 := rfl
  obtain ⟨g1, g2, -⟩ := sealUrl_get P k nonce ep rq now now2
  exact ⟨g1 ▸ parseInt64_formatInt _ hrange.1 (by omega), g2 ▸ parseInt64_formatInt _ (by omega) hrange.2⟩

/-- `Unseal`'s prefix test and its comparison of what follows the prefix, as one equation -/
theorem prefix_drop_iff {p s e : Bytes} : (p.isPrefixOf s = true ∧ s.drop p.length = e) ↔ s = p ++ e := by
  rw [List.isPrefixOf_iff_prefix, List.prefix_iff_eq_append]
  exact ⟨fun ⟨h, hd⟩ => hd ▸ h.symm, fun h => by simp [h]⟩

/-- everything a successful `Unseal` has checked -/
structure Accepted (P : Params) (k : Bytes) (now : Int) (u : Url) (res : Bytes × Bytes) where
  hasNbf : qHas u.query (str "nbf") = true
  hasExp : qHas u.query (str "exp") = true
  hasNonce : qHas u.query (str "nonce") = true
  hasReq : qHas u.query (str "req") = true
  nbf : Int
  exp : Int
  nonce : Bytes
  ct : Bytes
  msg : Bytes
  parsed : Parsed
  hnbf : parseInt64 (qGet u.query (str "nbf")) = some nbf
  hexp : parseInt64 (qGet u.query (str "exp")) = some exp
  hnonce : P.b64.dec (qGet u.query (str "nonce")) = some nonce
  hwin : nbf ≤ now ∧ now ≤ exp
  hlen : nonce.length = nonceLen
  hct : P.b64.dec (qGet u.query (str "req")) = some ct
  hopen : P.aead.openA k nonce (aadOf (qGet u.query (str "nbf")) (qGet u.query (str "exp"))) ct = some msg
  hparse : P.url.parse msg = some parsed
  hpath : u.path = sealedPrefix ++ parsed.escPath
  hres : res = (parsed.path, parsed.rawQuery)

theorem unsealUrl_ok_iff {P : Params} {k : Bytes} {now : Int} {u : Url} {res : Bytes × Bytes} :
    unsealUrl P k now u = .ok res ↔ Nonempty (Accepted P k now u res) := by
  constructor
  · fun_cases unsealUrl P k now u
    -- the one path on which every check passed; each of the fifteen others ends in an error
    case case16 hp h1 h2 h3 h4 _ _ _ nbf hnbf exp hexp nonce hnonce hw1 hw2 hlen ct hct msg hopen r hparse hpath =>
      intro h
      cases h
      exact ⟨{ hasNbf := by simpa using h1, hasExp := by simpa using h2,
               hasNonce := by simpa using h3, hasReq := by simpa using h4, nbf, exp, nonce, ct, msg, parsed := r,
               hnbf := hnbf, hexp := hexp,
               hnonce := hnonce, hwin := ⟨Int.not_lt.mp hw1, Int.not_lt.mp hw2⟩, hlen := by simpa using hlen,
               hct := hct, hopen := hopen, hparse := hparse,
               hpath := prefix_drop_iff.mp ⟨by simpa using hp, by simpa using hpath⟩, hres := rfl }⟩
    all_goals nofun
  · rintro ⟨a⟩
    obtain ⟨hp, hd⟩ := prefix_drop_iff.mpr a.hpath
    simp only [unsealUrl, hp, hd, a.hasNbf, a.hasExp, a.hasNonce, a.hasReq, a.hnbf, a.hexp, a.hnonce,
      Int.not_lt.mpr a.hwin.1, Int.not_lt.mpr a.hwin.2, a.hlen, a.hct, a.hopen, a.hparse, a.hres,
      Bool.not_true, Bool.false_eq_true, if_false, bne_self_eq_false]

end DoltVerif.Sealer
