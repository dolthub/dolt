/-
Lawful comparators (`TotalPreorder`; C11, C12) and the binary search loop `sort.Search` (C11): `psearch p` finds
the boundary of a monotone (`Mono`) key predicate; `searchForKey`, `rangeStartSearch`, `rangeStopSearch` are instances.
-/
import DoltVerif.Model.Cursor
namespace DoltVerif.Prolly

/-- a comparator that is a total preorder (what a tuple descriptor's `Compare` must be; C15) -/
structure TotalPreorder {κ : Type} (cmp : κ → κ → Ordering) : Prop where
  swap_lt : ∀ a b, cmp a b = .lt ↔ cmp b a = .gt
  le_trans : ∀ a b c, cmp a b ≠ .gt → cmp b c ≠ .gt → cmp a c ≠ .gt

namespace TotalPreorder
variable {κ : Type} {cmp : κ → κ → Ordering} (h : TotalPreorder cmp)
include h

theorem transCmp : Std.TransCmp cmp where
  eq_swap {a b} := by
    cases hab : cmp a b with
    | lt => rw [(h.swap_lt a b).mp hab]; rfl
    | gt => rw [(h.swap_lt b a).mpr hab]; rfl
    | eq =>
      cases hba : cmp b a with
      | eq => rfl
      | lt => rw [(h.swap_lt b a).mp hba] at hab; cases hab
      | gt => rw [(h.swap_lt a b).mpr hba] at hab; cases hab
  isLE_trans {a b c} hab hbc := Ordering.isLE_iff_ne_gt.mpr
    (h.le_trans a b c (Ordering.isLE_iff_ne_gt.mp hab) (Ordering.isLE_iff_ne_gt.mp hbc))

theorem refl (a : κ) : cmp a a = .eq := haveI := h.transCmp; Std.ReflCmp.compare_self

theorem swap_eq (a b : κ) : cmp a b = .eq → cmp b a = .eq := haveI := h.transCmp; Std.OrientedCmp.eq_symm

theorem lt_of_le_of_lt (a b c : κ) (hab : cmp a b ≠ .gt) (hbc : cmp b c = .lt) : cmp a c = .lt :=
  haveI := h.transCmp; Std.TransCmp.lt_of_isLE_of_lt (Ordering.isLE_iff_ne_gt.mpr hab) hbc

theorem lt_trans (a b c : κ) (hab : cmp a b = .lt) (hbc : cmp b c = .lt) : cmp a c = .lt :=
  haveI := h.transCmp; Std.TransCmp.lt_trans hab hbc

theorem gt_of_lt (a b : κ) (hab : cmp a b = .lt) : cmp b a = .gt := (h.swap_lt a b).mp hab

theorem cmp_congr (a b z : κ) (hab : cmp a b = .eq) : cmp a z = cmp b z :=
  haveI := h.transCmp; Std.TransCmp.congr_left hab

end TotalPreorder

theorem bsearch_spec (f : Nat → Bool) (mono : ∀ a b, a ≤ b → f a = true → f b = true) (i j : Nat) (hij : i ≤ j) :
    i ≤ bsearch f i j ∧ bsearch f i j ≤ j ∧
      (∀ x, i ≤ x → x < bsearch f i j → f x = false) ∧
      (∀ x, bsearch f i j ≤ x → x < j → f x = true) := by
  induction i, j using bsearch.induct f with
  | case1 i j hlt h hf ih =>
    -- `f h`: the boundary is in `[i, h]`, and `f` holds from `h` on
    obtain ⟨a1, a2, a3, a4⟩ := ih (by omega)
    rw [bsearch, if_pos hlt]
    simp only [h, hf, if_true] at a1 a2 a3 a4 ⊢
    exact ⟨a1, by omega, a3, fun x hx1 hx2 =>
      if hxh : x < (i + j) / 2 then a4 x hx1 hxh else mono _ x (by omega) hf⟩
  | case2 i j hlt h hf ih =>
    -- `¬ f h`: `f` fails up to `h`, the boundary is in `[h+1, j]`
    obtain ⟨a1, a2, a3, a4⟩ := ih (by omega)
    rw [bsearch, if_pos hlt]
    simp only [h, hf, Bool.false_eq_true, if_false] at a1 a2 a3 a4 ⊢
    refine ⟨by omega, a2, fun x hx1 hx2 => ?_, a4⟩
    by_cases hxh : x ≤ (i + j) / 2
    · cases hfx : f x with
      | false => rfl
      | true => exact absurd (mono x _ hxh hfx) hf
    · exact a3 x (by omega) hx2
  | case3 i j hlt =>
    rw [bsearch, if_neg hlt]
    exact ⟨Nat.le_refl _, hij, fun x h1 h2 => by omega, fun x h1 h2 => by omega⟩

theorem sortSearch_spec (n : Nat) (f : Nat → Bool) (mono : ∀ a b, a ≤ b → f a = true → f b = true) :
    sortSearch n f ≤ n ∧ (∀ x, x < sortSearch n f → f x = false) ∧
    (∀ x, sortSearch n f ≤ x → x < n → f x = true) := by
  obtain ⟨_, a2, a3, a4⟩ := bsearch_spec f mono 0 n (Nat.zero_le n)
  exact ⟨a2, fun x hx => a3 x (by omega) hx, a4⟩

theorem sortSearch_eq (n : Nat) (f : Nat → Bool) (mono : ∀ a b, a ≤ b → f a = true → f b = true)
    (t : Nat) (htn : t ≤ n) (hlo : ∀ x, x < t → f x = false) (hhi : t < n → f t = true) :
    sortSearch n f = t := by
  obtain ⟨h1, h2, h3⟩ := sortSearch_spec n f mono
  rcases Nat.lt_trichotomy (sortSearch n f) t with hlt | heq | hgt
  · have := h3 _ (Nat.le_refl _) (by omega)
    rw [hlo _ hlt] at this; cases this
  · exact heq
  · have := h2 t hgt
    rw [hhi (by omega)] at this; cases this

variable {κ : Type}

theorem length_takeWhile {α : Type} (q : α → Bool) (l : List α) :
    (l.takeWhile q).length = l.findIdx (fun x => !q x) := by
  rw [List.takeWhile_eq_take_findIdx_not, List.length_take]
  exact Nat.min_eq_left List.findIdx_le_length

/-- `sort.Search(Count, i => p(key i))`: the shape of `searchForKey`, `rangeStartSearchFn` and
`rangeStopSearchFn` -/
def psearch (p : κ → Bool) : SearchFn κ := fun keys =>
  sortSearch keys.length (fun i => match keys[i]? with
    | some k => p k
    | none => true)

def Mono (cmp : κ → κ → Ordering) (p : κ → Bool) : Prop := ∀ a b, cmp a b ≠ .gt → p a = true → p b = true

theorem searchForKey_eq_psearch (cmp : κ → κ → Ordering) (k : κ) :
    searchForKey cmp k = psearch (fun x => cmp k x != .gt) := rfl

theorem rangeStartSearch_eq_psearch {β : Type} (fcmp : FieldCmp κ β) (r : List (RangeField β)) :
    rangeStartSearch fcmp r = psearch (fun k => aboveStart fcmp k 0 r) := rfl

theorem rangeStopSearch_eq_psearch {β : Type} (fcmp : FieldCmp κ β) (r : List (RangeField β)) :
    rangeStopSearch fcmp r = psearch (fun k => !belowStop fcmp k 0 r) := rfl

theorem mono_searchForKey {cmp : κ → κ → Ordering} (hc : TotalPreorder cmp) (k : κ) :
    Mono cmp (fun x => cmp k x != .gt) := by
  intro a b hab ha
  simp only [bne_iff_ne, ne_eq] at ha ⊢
  exact hc.le_trans k a b ha hab

theorem psearch_eq_takeWhile {cmp : κ → κ → Ordering} {p : κ → Bool} (hp : Mono cmp p)
    (keys : List κ) (hs : keys.Pairwise (fun a b => cmp a b = .lt)) :
    psearch p keys = (keys.takeWhile (fun x => !p x)).length := by
  let f : Nat → Bool := fun i => match keys[i]? with
    | some x => p x
    | none => true
  have hf : ∀ i, f i = (match keys[i]? with
    | some x => p x
    | none => true) := fun _ => rfl
  show sortSearch keys.length f = _
  have mono : ∀ a b, a ≤ b → f a = true → f b = true := by
    intro a b hab hfa
    rw [hf] at hfa ⊢
    cases hkb : keys[b]? with
    | none => rfl
    | some kb =>
      simp only
      cases hka : keys[a]? with
      | none =>
        have h1 : keys.length ≤ a := List.getElem?_eq_none_iff.mp hka
        have h2 : b < keys.length := (List.getElem?_eq_some_iff.mp hkb).1
        omega
      | some ka =>
        rw [hka] at hfa
        simp only at hfa
        by_cases hab' : a = b
        · subst hab'; rw [hka] at hkb; cases hkb; exact hfa
        · obtain ⟨ha', rfl⟩ := List.getElem?_eq_some_iff.mp hka
          obtain ⟨hb', rfl⟩ := List.getElem?_eq_some_iff.mp hkb
          have hlt := List.pairwise_iff_getElem.mp hs a b ha' hb' (by omega)
          exact hp _ _ (by rw [hlt]; simp) hfa
  rw [length_takeWhile]
  simp only [Bool.not_not]
  refine sortSearch_eq _ f mono _ List.findIdx_le_length (fun x hx => ?_) (fun ht => ?_)
  · rw [hf, List.getElem?_eq_getElem (Nat.lt_of_lt_of_le hx List.findIdx_le_length)]
    simpa using List.not_of_lt_findIdx hx
  · rw [hf, List.getElem?_eq_getElem ht]
    exact List.findIdx_getElem

theorem searchForKey_eq_takeWhile {cmp : κ → κ → Ordering} (hc : TotalPreorder cmp) (k : κ)
    (keys : List κ) (hs : keys.Pairwise (fun a b => cmp a b = .lt)) :
    searchForKey cmp k keys = (keys.takeWhile (fun x => cmp k x == .gt)).length := by
  rw [searchForKey_eq_psearch, psearch_eq_takeWhile (mono_searchForKey hc k) keys hs]
  congr 2
  funext x
  cases cmp k x <;> rfl

end DoltVerif.Prolly
