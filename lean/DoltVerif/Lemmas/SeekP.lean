/-
Cursor positioning by a monotone key predicate (`sort.Search(Count, p)` at every level:
`searchForKey`, `rangeStartSearchFn`, `rangeStopSearchFn`): in a well-formed tree the cursor
stands at the predicate's rank in the content (`seek_pos`).  `Get` is an instance (`Tree.get_refines`).  C11.
-/
import DoltVerif.Lemmas.CursorOrder
namespace DoltVerif.Prolly
open DoltVerif.SortedDict

variable {κ ν : Type}

theorem seekPath_succ (s : SearchFn κ) (n : Nat) (nd : NodeH κ ν (n+1)) :
    seekPath s (n+1) nd = match nd[min (s (nodeKeys (n+1) nd)) (nd.length - 1)]? with
      | none => none
      | some it => (seekPath s n (childOf it)).map (min (s (nodeKeys (n+1) nd)) (nd.length - 1) :: ·) := rfl

theorem seekPath_succ_some (s : SearchFn κ) (n : Nat) (nd : NodeH κ ν (n+1)) (path : List Nat)
    (h : seekPath s (n+1) nd = some path) :
    ∃ it rest, nd[min (s (nodeKeys (n+1) nd)) (nd.length - 1)]? = some it ∧
      seekPath s n (childOf it) = some rest ∧ path = min (s (nodeKeys (n+1) nd)) (nd.length - 1) :: rest := by
  rw [seekPath_succ] at h
  cases hit : nd[min (s (nodeKeys (n+1) nd)) (nd.length - 1)]? with
  | none => rw [hit] at h; cases h
  | some it =>
    rw [hit] at h
    simp only at h
    cases hr : seekPath s n (childOf it) with
    | none => rw [hr] at h; cases h
    | some rest =>
      rw [hr] at h
      simp only [Option.map_some, Option.some.injEq] at h
      exact ⟨it, rest, rfl, hr, h.symm⟩

section
variable [Inhabited κ]

theorem psearch_index {cmp : κ → κ → Ordering} {p : κ → Bool} (hp : Mono cmp p)
    (n : Nat) (nd : NodeH κ ν n) (hwf : WFNode n nd) (hs : Sorted cmp (flatten n nd)) :
    psearch p (nodeKeys n nd) = (nd.takeWhile (fun it => !p (keyOf n it))).length := by
  rw [psearch_eq_takeWhile hp _ (keys_sorted n nd hwf hs)]
  unfold nodeKeys; rw [List.takeWhile_map]; simp [Function.comp_def]

/-- the last disjunct: unless the index was clamped to the last child (`post = []`), `p` holds for the child's
last key, so the rank stays inside the child -/
theorem seek_child {cmp : κ → κ → Ordering} (hc : TotalPreorder cmp) {p : κ → Bool} (hp : Mono cmp p)
    (n : Nat) (nd : NodeH κ ν (n+1)) (hwf : WFNode (n+1) nd) (hs : Sorted cmp (flatten (n+1) nd))
    (hne : nd ≠ []) :
    ∃ pre it post, nd = pre ++ it :: post ∧
      min (psearch p (nodeKeys (n+1) nd)) (nd.length - 1) = pre.length ∧
      rankP p (flatten (n+1) nd) = (flatten (n+1) pre).length + rankP p (flatten n (childOf it)) ∧
      (rankP p (flatten n (childOf it)) < (flatten n (childOf it)).length ∨ post = []) := by
  suffices ∃ pre it post, nd = pre ++ it :: post ∧
      min (psearch p (nodeKeys (n+1) nd)) (nd.length - 1) = pre.length ∧
      (∀ x ∈ flatten (n+1) pre, p x.1 = false) ∧ (∀ x ∈ flatten (n+1) post, p x.1 = true) ∧
      (rankP p (flatten n (childOf it)) < (flatten n (childOf it)).length ∨ post = []) by
    obtain ⟨pre, it, post, hnd, hidx, hpre, hpost, hlast⟩ := this
    refine ⟨pre, it, post, hnd, hidx, ?_, hlast⟩
    rw [hnd, flatten_append, flatten_cons, rankP_append p _ _ _ hpre hpost]
  rw [psearch_index hp (n+1) nd hwf hs]
  -- `p` fails below every child whose stored key fails it
  have hlow : ∀ it ∈ nd, p (keyOf (n+1) it) = false → ∀ x ∈ flatten n (childOf it), p x.1 = false := by
    intro it hit hpk x hx
    obtain ⟨hch, hkey, _, hwfc⟩ := hwf it hit
    have hle := (le_lastKey hc n (childOf it) hwfc hch (child_sorted n nd it hit hs)).2 x hx
    rw [← hkey] at hle
    cases hpx : p x.1 with
    | false => rfl
    | true => rw [hp x.1 _ hle hpx] at hpk; cases hpk
  have hsplit := List.takeWhile_append_dropWhile (p := fun it : ItemH κ ν (n+1) => !p (keyOf (n+1) it)) (l := nd)
  have hA : ∀ it ∈ nd.takeWhile (fun it => !p (keyOf (n+1) it)), p (keyOf (n+1) it) = false := by
    intro x hx; simpa using mem_takeWhile_true _ _ x hx
  generalize nd.takeWhile (fun it => !p (keyOf (n+1) it)) = A at hsplit hA
  cases hB : nd.dropWhile (fun it => !p (keyOf (n+1) it)) with
  | nil =>
    -- `p` fails for every stored key: the index is clamped to the last child
    rw [hB, List.append_nil] at hsplit
    subst hsplit
    refine ⟨A.dropLast, A.getLast hne, [], (List.dropLast_concat_getLast hne).symm, ?_, ?_, ?_, Or.inr rfl⟩
    · rw [List.length_dropLast]; omega
    · intro x hx
      obtain ⟨it, hit, hxit⟩ := (mem_flatten_succ n _ x).mp hx
      have hitA := (List.dropLast_sublist A).subset hit
      exact hlow it hitA (hA it hitA) x hxit
    · intro x hx; simp [flatten] at hx
  | cons it B =>
    rw [hB] at hsplit
    have hpk : p (keyOf (n+1) it) = true := by
      simpa using dropWhile_head (fun it : ItemH κ ν (n+1) => !p (keyOf (n+1) it)) nd it B hB
    subst hsplit
    -- `p` holds for the chosen child's last entry, hence for everything after the child
    obtain ⟨hch, hkey, _, hwfc⟩ := hwf it (by simp)
    rw [flatten_append, flatten_cons] at hs
    obtain ⟨⟨kv, hkvmem, hkv⟩, _⟩ :=
      le_lastKey hc n (childOf it) hwfc hch (sorted_append_left (sorted_append_right hs))
    have hpkv : p kv.1 = true := by rw [hkv, ← hkey]; exact hpk
    refine ⟨A, it, B, rfl, by simp, ?_, ?_, Or.inl (rankP_lt hkvmem hpkv)⟩
    · intro x hx
      obtain ⟨it', hit', hxit⟩ := (mem_flatten_succ n _ x).mp hx
      exact hlow it' (by simp [hit']) (hA it' hit') x hxit
    · intro x hx
      have hlt := sorted_append_lt (sorted_append_right hs) kv hkvmem x hx
      exact hp _ x.1 (by rw [hlt]; simp) hpkv

theorem seek_pos {cmp : κ → κ → Ordering} (hc : TotalPreorder cmp) {p : κ → Bool} (hp : Mono cmp p) :
    ∀ (n : Nat) (nd : NodeH κ ν n), WFNode n nd → Sorted cmp (flatten n nd) → (n = 0 ∨ nd ≠ []) →
      ∃ path, seekPath (psearch p) n nd = some path ∧ Pos n nd path (rankP p (flatten n nd))
  | 0, nd, hwf, hs, _ => ⟨_, rfl, by rw [psearch_index hp 0 nd hwf hs]; exact .leaf nd _ (rankP_le p nd)⟩
  | n+1, nd, hwf, hs, hne => by
    have hne : nd ≠ [] := hne.resolve_left (Nat.succ_ne_zero n)
    obtain ⟨pre, it, post, rfl, hidx, hrank, hin⟩ := seek_child hc hp n nd hwf hs hne
    obtain ⟨hch, _, _, hwfc⟩ := hwf it (by simp)
    obtain ⟨path, h1, h2⟩ := seek_pos hc hp n (childOf it) hwfc (child_sorted n _ it (by simp) hs) (Or.inr hch)
    exact ⟨pre.length :: path, by rw [seekPath_succ, hidx]; simp [h1], hrank ▸ .inner pre it post h2 hin⟩

theorem seek_spec {cmp : κ → κ → Ordering} (hc : TotalPreorder cmp) {p : κ → Bool} (hp : Mono cmp p)
    (n : Nat) (nd : NodeH κ ν n) (hwf : WFNode n nd) (hs : Sorted cmp (flatten n nd)) (hne : n = 0 ∨ nd ≠ []) :
    ∃ path, seekPath (psearch p) n nd = some path ∧
      pathOrdinal n nd path = some (rankP p (flatten n nd)) ∧
      pathItem n nd path = (flatten n nd)[rankP p (flatten n nd)]? := by
  obtain ⟨path, h1, h2⟩ := seek_pos hc hp n nd hwf hs hne
  exact ⟨path, h1, h2.ordinal hwf, h2.item⟩

theorem seek_spec_of {cmp : κ → κ → Ordering} (hc : TotalPreorder cmp) {p : κ → Bool} (hp : Mono cmp p)
    (n : Nat) (nd : NodeH κ ν n) (hwf : WFNode n nd) (hs : Sorted cmp (flatten n nd)) (hne : n = 0 ∨ nd ≠ [])
    (path : List Nat) (h : seekPath (psearch p) n nd = some path) :
    pathOrdinal n nd path = some (rankP p (flatten n nd)) ∧
      pathItem n nd path = (flatten n nd)[rankP p (flatten n nd)]? := by
  obtain ⟨path', h1, h2, h3⟩ := seek_spec hc hp n nd hwf hs hne
  rw [h] at h1; cases h1
  exact ⟨h2, h3⟩

end

theorem Tree.get_refines [Inhabited κ] {cmp : κ → κ → Ordering} (hc : TotalPreorder cmp) (t : Tree κ ν)
    (hwf : WFNode t.height t.root) (hs : Sorted cmp t.flatten) (k : κ) :
    t.get cmp k = lookup cmp t.flatten k := by
  by_cases hne : t.height = 0 ∨ t.root ≠ []
  · obtain ⟨path, h1, _, h3⟩ := seek_spec hc (mono_searchForKey hc k) t.height t.root hwf hs hne
    unfold Tree.get
    rw [searchForKey_eq_psearch, h1]
    simp only [h3]
    exact (lookup_eq_at_rank hc t.flatten hs k).symm
  · -- an empty internal root: the search fails, and there is no content
    obtain ⟨h, root⟩ := t
    cases h with
    | zero => exact absurd (Or.inl rfl) hne
    | succ n =>
      cases root with
      | nil => rfl
      | cons it r => exact absurd (Or.inr (List.cons_ne_nil _ _)) hne

end DoltVerif.Prolly
