/-
The sorted-dictionary specification (C11, C12): cuts of a sorted list at a key, the single put/delete `upd`
(= `insert`/`erase`), and a sorted edit batch as its edits applied one after the other.
-/
import DoltVerif.Lemmas.Search
import DoltVerif.Spec.SortedDict
namespace DoltVerif.SortedDict
open DoltVerif.Prolly (TotalPreorder)

variable {κ ν : Type}

theorem cutAt_append_left (cmp : κ → κ → Ordering) (k : κ) (rest : List (κ × ν))
    (hr : ∀ x ∈ rest, cmp k x.1 = .lt) : ∀ (l : List (κ × ν)),
    cutAt cmp k (l ++ rest) = ((cutAt cmp k l).1, (cutAt cmp k l).2 ++ rest) := by
  intro l
  fun_induction cutAt cmp k l with
  | case1 =>
    cases rest with
    | nil => rfl
    | cons x xs => simp [cutAt, hr x (by simp)]
  | case2 _ _ hck | case3 _ _ hck => simp [cutAt, hck]
  | case4 _ _ hck ih => simp [cutAt, hck, ih]

theorem cutAt_append_right (cmp : κ → κ → Ordering) (k : κ) (rest : List (κ × ν)) : ∀ (l : List (κ × ν)),
    (∀ x ∈ l, cmp k x.1 = .gt) →
    cutAt cmp k (l ++ rest) = (l ++ (cutAt cmp k rest).1, (cutAt cmp k rest).2)
  | [], _ => by simp
  | kv :: l, h => by
    have hk := h kv (by simp)
    simp only [List.cons_append, cutAt, hk]
    rw [cutAt_append_right cmp k rest l (fun x hx => h x (by simp [hx]))]

theorem cutAt_fst_gt (cmp : κ → κ → Ordering) (k : κ) : ∀ (l : List (κ × ν)), ∀ x ∈ (cutAt cmp k l).1, cmp k x.1 = .gt := by
  intro l
  fun_induction cutAt cmp k l with
  | case1 | case2 | case3 => simp  -- nothing is cut off below `k`
  | case4 kv l hgt ih =>
    intro x h
    rcases List.mem_cons.mp h with rfl | h
    · exact hgt
    · exact ih x h

theorem cutAt_fst_sublist (cmp : κ → κ → Ordering) (k : κ) : ∀ (l : List (κ × ν)), ((cutAt cmp k l).1).Sublist l := by
  intro l
  fun_induction cutAt cmp k l with
  | case1 | case2 | case3 => simp
  | case4 kv _ _ ih => exact ih.cons_cons kv

theorem cutAt_snd_sublist (cmp : κ → κ → Ordering) (k : κ) : ∀ (l : List (κ × ν)), ((cutAt cmp k l).2).Sublist l := by
  intro l
  fun_induction cutAt cmp k l with
  | case1 | case2 | case3 => simp
  | case4 kv _ _ ih => exact ih.cons kv

theorem cutAt_snd_subset (cmp : κ → κ → Ordering) (k : κ) (l : List (κ × ν)) : ∀ x ∈ (cutAt cmp k l).2, x ∈ l :=
  fun _ h => (cutAt_snd_sublist cmp k l).subset h

theorem cutAt_snd_sorted {cmp : κ → κ → Ordering} (k : κ) {l : List (κ × ν)} (hs : Sorted cmp l) :
    Sorted cmp (cutAt cmp k l).2 :=
  List.Pairwise.sublist (cutAt_snd_sublist cmp k l) hs

theorem cutAt_snd_lt {cmp : κ → κ → Ordering} (hc : TotalPreorder cmp) (k : κ) : ∀ (l : List (κ × ν)), Sorted cmp l →
    ∀ x ∈ (cutAt cmp k l).2, cmp k x.1 = .lt := by
  intro l
  fun_induction cutAt cmp k l with
  | case1 => simp
  | case2 kv l hck => -- `kv` is the first entry above `k`
    intro hs x h
    rcases List.mem_cons.mp h with rfl | hx
    · exact hck
    · exact hc.lt_trans k kv.1 x.1 hck ((List.pairwise_cons.mp hs).1 x hx)
  | case3 kv l hck => -- `kv` is dropped
    intro hs x h
    exact hc.lt_of_le_of_lt k kv.1 x.1 (by rw [hck]; simp) ((List.pairwise_cons.mp hs).1 x h)
  | case4 _ _ _ ih => exact fun hs => ih (List.pairwise_cons.mp hs).2

theorem cutAt_all_lt (cmp : κ → κ → Ordering) (k : κ) : ∀ (l : List (κ × ν)), (∀ x ∈ l, cmp k x.1 = .lt) →
    cutAt cmp k l = ([], l)
  | [], _ => rfl
  | kv :: l, h => by simp [cutAt, h kv (by simp)]

theorem cutAt_congr {cmp : κ → κ → Ordering} (hc : TotalPreorder cmp) (a b : κ) (h : cmp a b = .eq) :
    ∀ (l : List (κ × ν)), cutAt cmp a l = cutAt cmp b l
  | [] => rfl
  | kv :: l => by
    simp only [cutAt, hc.cmp_congr a b kv.1 h, cutAt_congr hc a b h l]

theorem mem_emit {k : κ} {v : Option ν} {x : κ × ν} (h : x ∈ emit k v) : x.1 = k := by
  cases v with
  | none => cases h
  | some v => rw [List.mem_singleton.mp h]

/-- `b` is the last key of a leaf: the rule by which `ApplyMutations` finds the leaf of an edit -/
theorem applyEdits_append {cmp : κ → κ → Ordering} (hc : TotalPreorder cmp) (b : κ) (rest : List (κ × ν))
    (hrest : ∀ x ∈ rest, cmp b x.1 = .lt) :
    ∀ (es : Edits κ ν) (l : List (κ × ν)), (∀ x ∈ l, cmp x.1 b ≠ .gt) →
      applyEdits cmp (l ++ rest) es =
        applyEdits cmp l (es.takeWhile (fun e => cmp e.1 b != .gt)) ++
        applyEdits cmp rest (es.dropWhile (fun e => cmp e.1 b != .gt))
  | [], l, _ => by simp [applyEdits]
  | e :: es, l, hl => by
    by_cases he : cmp e.1 b ≠ .gt
    · have hp : (cmp e.1 b != .gt) = true := by simpa using he
      simp only [List.takeWhile_cons, List.dropWhile_cons, hp, if_true, applyEdits]
      have hr : ∀ x ∈ rest, cmp e.1 x.1 = .lt := fun x hx => hc.lt_of_le_of_lt e.1 b x.1 he (hrest x hx)
      rw [cutAt_append_left cmp e.1 rest hr l]
      simp only
      rw [applyEdits_append hc b rest hrest es (cutAt cmp e.1 l).2
        (fun x hx => hl x (cutAt_snd_subset cmp e.1 l x hx))]
      simp [List.append_assoc]
    · have hgt : cmp e.1 b = .gt := Decidable.not_not.mp he
      have hp : (cmp e.1 b != .gt) = false := by simp [hgt]
      simp only [List.takeWhile_cons, List.dropWhile_cons, hp, Bool.false_eq_true, if_false, applyEdits]
      have hlgt : ∀ x ∈ l, cmp e.1 x.1 = .gt := by
        intro x hx
        have hbe : cmp b e.1 = .lt := (hc.swap_lt b e.1).mpr hgt
        exact hc.gt_of_lt _ _ (hc.lt_of_le_of_lt x.1 b e.1 (hl x hx) hbe)
      rw [cutAt_append_right cmp e.1 rest l hlgt]
      simp [List.append_assoc]

/-- a single put/delete on a sorted association list -/
def upd (cmp : κ → κ → Ordering) (l : List (κ × ν)) (e : κ × Option ν) : List (κ × ν) :=
  (cutAt cmp e.1 l).1 ++ emit e.1 e.2 ++ (cutAt cmp e.1 l).2

theorem upd_append_right {cmp : κ → κ → Ordering} (e : κ × Option ν) (a b : List (κ × ν))
    (h : ∀ x ∈ a, cmp e.1 x.1 = .gt) : upd cmp (a ++ b) e = a ++ upd cmp b e := by
  unfold upd
  rw [cutAt_append_right cmp e.1 b a h]
  simp [List.append_assoc]

theorem upd_append_left {cmp : κ → κ → Ordering} (e : κ × Option ν) (a b : List (κ × ν))
    (h : ∀ x ∈ b, cmp e.1 x.1 = .lt) : upd cmp (a ++ b) e = upd cmp a e ++ b := by
  unfold upd
  rw [cutAt_append_left cmp e.1 b h a]
  simp [List.append_assoc]

theorem mem_upd {cmp : κ → κ → Ordering} {l : List (κ × ν)} {e : κ × Option ν} {x : κ × ν}
    (h : x ∈ upd cmp l e) : x ∈ l ∨ x.1 = e.1 := by
  simp only [upd, List.mem_append] at h
  rcases h with (h | h) | h
  · exact Or.inl ((cutAt_fst_sublist cmp e.1 l).subset h)
  · exact Or.inr (mem_emit h)
  · exact Or.inl (cutAt_snd_subset cmp e.1 l x h)

theorem upd_sorted {cmp : κ → κ → Ordering} (hc : TotalPreorder cmp) {l : List (κ × ν)} (hs : Sorted cmp l)
    (e : κ × Option ν) : Sorted cmp (upd cmp l e) := by
  have hbelow : ∀ a ∈ (cutAt cmp e.1 l).1, cmp a.1 e.1 = .lt :=
    fun a ha => (hc.swap_lt _ _).mpr (cutAt_fst_gt cmp e.1 l a ha)
  have habove := cutAt_snd_lt hc e.1 l hs
  unfold Sorted upd
  rw [List.append_assoc, List.pairwise_append]
  refine ⟨List.Pairwise.sublist (cutAt_fst_sublist cmp e.1 l) hs, ?_, ?_⟩
  · rw [List.pairwise_append]
    refine ⟨?_, cutAt_snd_sorted e.1 hs, fun a ha b hb => by rw [mem_emit ha]; exact habove b hb⟩
    cases e.2 <;> simp [emit]
  · intro a ha b hb
    rcases List.mem_append.mp hb with hb | hb
    · rw [mem_emit hb]; exact hbelow a ha
    · exact hc.lt_trans a.1 e.1 b.1 (hbelow a ha) (habove b hb)

theorem insert_eq_upd (cmp : κ → κ → Ordering) (k : κ) (v : ν) : ∀ (l : List (κ × ν)),
    insert cmp l k v = upd cmp l (k, some v) := by
  intro l
  fun_induction insert cmp l k v with
  | case1 => rfl
  | case2 _ _ _ _ hck | case3 _ _ _ _ hck => simp [upd, cutAt, hck, emit]
  | case4 _ _ _ _ hck ih => simp [ih, upd, cutAt, hck]

theorem erase_eq_upd (cmp : κ → κ → Ordering) (k : κ) : ∀ (l : List (κ × ν)),
    erase cmp l k = upd cmp l (k, none) := by
  intro l
  fun_induction erase cmp l k with
  | case1 => rfl
  | case2 _ _ _ hck | case3 _ _ _ hck => simp [upd, cutAt, hck, emit]
  | case4 _ _ _ hck ih => simp [ih, upd, cutAt, hck]

theorem applyEdits_append_below (cmp : κ → κ → Ordering) (a b : List (κ × ν)) : ∀ (es : Edits κ ν),
    (∀ x ∈ a, ∀ f ∈ es, cmp f.1 x.1 = .gt) → applyEdits cmp (a ++ b) es = a ++ applyEdits cmp b es
  | [], _ => rfl
  | f :: fs, h => by
    simp only [applyEdits]
    rw [cutAt_append_right cmp f.1 b a (fun x hx => h x hx f (by simp))]
    simp [List.append_assoc]

theorem applyEdits_cons {cmp : κ → κ → Ordering} (hc : TotalPreorder cmp) (l : List (κ × ν))
    (e : κ × Option ν) (es : Edits κ ν) (h : ∀ f ∈ es, cmp e.1 f.1 = .lt) :
    applyEdits cmp l (e :: es) = applyEdits cmp (upd cmp l e) es := by
  unfold upd
  rw [applyEdits_append_below cmp _ _ es]
  · rfl
  · intro x hx f hf
    rcases List.mem_append.mp hx with hx | hx
    · have hxe : cmp x.1 e.1 = .lt := (hc.swap_lt _ _).mpr (cutAt_fst_gt cmp e.1 l x hx)
      exact hc.gt_of_lt _ _ (hc.lt_trans x.1 e.1 f.1 hxe (h f hf))
    · rw [mem_emit hx]; exact hc.gt_of_lt _ _ (h f hf)

theorem applyEdits_eq_foldl {cmp : κ → κ → Ordering} (hc : TotalPreorder cmp) :
    ∀ (es : Edits κ ν) (l : List (κ × ν)), Sorted cmp es →
      applyEdits cmp l es = es.foldl (upd cmp) l
  | [], _, _ => rfl
  | e :: es, l, hes => by
    have hes := List.pairwise_cons.mp hes
    rw [applyEdits_cons hc l e es hes.1, applyEdits_eq_foldl hc es _ hes.2]
    rfl

theorem foldl_upd_sorted {cmp : κ → κ → Ordering} (hc : TotalPreorder cmp) : ∀ (es : Edits κ ν)
    (l : List (κ × ν)), Sorted cmp l → Sorted cmp (es.foldl (upd cmp) l)
  | [], _, hs => hs
  | e :: es, _, hs => foldl_upd_sorted hc es _ (upd_sorted hc hs e)

theorem applyEdits_sorted {cmp : κ → κ → Ordering} (hc : TotalPreorder cmp) (es : Edits κ ν)
    (l : List (κ × ν)) (hs : Sorted cmp l) (hes : Sorted cmp es) :
    Sorted cmp (applyEdits cmp l es) := by
  rw [applyEdits_eq_foldl hc es l hes]
  exact foldl_upd_sorted hc es l hs

end DoltVerif.SortedDict
