import DoltVerif.Model.SqlEscape
import DoltVerif.Model.SqlEscapeCsv
/-! Lemmas for C36: the escape table (nine entries) and the hex alphabet (sixteen) checked entry by entry; each
scanner of the reader run over what the corresponding writer produces; `parseCell`'s dispatch on the first byte;
at the end, in namespace `Csv`, the two field scanners of the CSV import over what the export writes. -/
namespace DoltVerif.SqlEscape

/-- the bytes `SQLEncodeMap` escapes -/
theorem encodeChar_some {b e : UInt8} (h : encodeChar b = some e) : b ∈ [0, 39, 34, 8, 10, 13, 9, 26, 92] := by
  apply Decidable.byContradiction
  intro hn
  simp only [List.mem_cons, List.not_mem_nil, or_false, not_or] at hn
  simp [encodeChar, hn] at h

theorem unescape_encode (b e : UInt8) (h : encodeChar b = some e) : unescape e = b :=
  (by decide : ∀ b ∈ [0, 39, 34, 8, 10, 13, 9, 26, 92], ∀ e, encodeChar b = some e → unescape e = b)
    b (encodeChar_some h) e h

theorem encode_none (b : UInt8) (h : encodeChar b = none) : b ≠ 92 ∧ b ≠ 39 ∧ b ≠ 34 := by
  refine ⟨?_, ?_, ?_⟩ <;> (rintro rfl; exact absurd h (by decide))

theorem digitVal_hexDigitChar : ∀ n < 16, digitVal (hexDigitChar n) = n := by decide

theorem hexDigit_roundtrip (b : UInt8) :
    digitVal (hexDigitChar (b.toNat / 16)) < 16 ∧ digitVal (hexDigitChar (b.toNat % 16)) < 16 ∧
    UInt8.ofNat (digitVal (hexDigitChar (b.toNat / 16)) * 16 + digitVal (hexDigitChar (b.toNat % 16))) = b := by
  have hi : b.toNat / 16 < 16 := by have := b.toNat_lt; omega
  have lo : b.toNat % 16 < 16 := Nat.mod_lt _ (by decide)
  rw [digitVal_hexDigitChar _ hi, digitVal_hexDigitChar _ lo, Nat.div_add_mod', UInt8.ofNat_toNat]
  exact ⟨hi, lo, rfl⟩

theorem lexBody_quoteBody (s : Bytes) : ∀ (acc rest : Bytes), (∀ r, rest ≠ 39 :: r) →
    lexBody 39 (quoteBody s ++ 39 :: rest) acc = some (acc ++ s, rest) := by
  unfold lexBody
  fun_induction quoteBody s with
  | case1 =>
    intro acc rest h
    cases rest with
    | nil => simp [lexGo]
    | cons c r =>
      have hc : c ≠ 39 := fun hc => h r (by rw [hc])
      simp [lexGo, hc]
  | case2 b bs he ih =>
    -- a byte written as it is
    intro acc rest h
    obtain ⟨h1, h2, _⟩ := encode_none b he
    simp only [List.cons_append, lexGo, h1, h2, if_false]
    rw [ih (acc ++ [b]) rest h]
    simp
  | case3 b bs e he ih =>
    -- a byte written as backslash and `e`
    intro acc rest h
    simp only [List.cons_append, lexGo, if_true]
    rw [ih (acc ++ [unescape e]) rest h, unescape_encode b e he]
    simp

theorem scanMantissa16_hexBody (b : Bytes) : ∀ (acc rest : Bytes), (∀ c r, rest = c :: r → ¬ digitVal c < 16) →
    scanMantissa16 (hexBody b ++ rest) acc = (acc ++ hexBody b, rest) := by
  induction b with
  | nil =>
    intro acc rest h
    cases rest with
    | nil => simp [hexBody, scanMantissa16]
    | cons c r => simp [hexBody, scanMantissa16, h c r rfl]
  | cons x xs ih =>
    intro acc rest h
    obtain ⟨h1, h2, _⟩ := hexDigit_roundtrip x
    simp only [hexBody, List.cons_append, scanMantissa16, h1, h2, if_true]
    rw [ih _ rest h]
    simp

theorem decodeHexPairs_hexBody : ∀ b : Bytes, decodeHexPairs (hexBody b) = some b
  | [] => rfl
  | x :: xs => by
    obtain ⟨h1, h2, h3⟩ := hexDigit_roundtrip x
    simp only [hexBody, decodeHexPairs, h1, h2, and_self, if_true, decodeHexPairs_hexBody xs, Option.map_some, h3]

theorem hexBody_length_even : ∀ b : Bytes, (hexBody b).length % 2 = 0
  | [] => rfl
  | _ :: xs => by simp only [hexBody, List.length_cons]; have := hexBody_length_even xs; omega

theorem lexIdentBody_identBody (s : Bytes) : ∀ (acc rest : Bytes), (∀ r, rest ≠ 96 :: r) →
    lexIdentBody (identBody s ++ 96 :: rest) acc = some (acc ++ s, rest) := by
  unfold lexIdentBody
  fun_induction identBody s with
  | case1 =>
    intro acc rest h
    cases rest with
    | nil => simp [lexIdentGo]
    | cons c r =>
      have hc : c ≠ 96 := fun hc => h r (by rw [hc])
      simp [lexIdentGo, hc]
  | case2 bs ih =>
    -- a backtick, doubled
    intro acc rest h
    simp only [List.cons_append, lexIdentGo]
    rw [ih _ rest h]
    simp
  | case3 b bs hb ih =>
    intro acc rest h
    simp only [hb, List.cons_append, lexIdentGo]
    rw [ih _ rest h]
    simp

theorem digit_facts : ∀ d, d < 10 → isDigit (UInt8.ofNat (48 + d)) = true ∧ (UInt8.ofNat (48 + d)).toNat - 48 = d := by decide

def valOf (ds : Bytes) (acc : Nat) : Nat := ds.foldl (fun a c => a * 10 + (c.toNat - 48)) acc

theorem scanDigits_append : ∀ (ds : Bytes) (rest : Bytes) (acc : Nat), (∀ c ∈ ds, isDigit c = true) →
    (∀ c r, rest = c :: r → isDigit c = false) → scanDigits (ds ++ rest) acc = (valOf ds acc, rest)
  | [], rest, acc, _, hr => by
    cases rest with
    | nil => simp [scanDigits, valOf]
    | cons c r => simp [scanDigits, valOf, hr c r rfl]
  | d :: ds, rest, acc, hd, hr => by
    simp only [List.cons_append, scanDigits, hd d (by simp), if_true, valOf, List.foldl_cons]
    exact scanDigits_append ds rest _ (fun c hc => hd c (by simp [hc])) hr

theorem natDigits_spec : ∀ n : Nat, (∀ c ∈ natDigits n, isDigit c = true) ∧ valOf (natDigits n) 0 = n ∧
    (∃ b ds, natDigits n = b :: ds ∧ (b = 48 → ds = [])) := by
  intro n
  induction n using Nat.strongRecOn with
  | _ n ih =>
    rw [natDigits]
    by_cases h : n < 10
    · obtain ⟨h1, h2⟩ := digit_facts n h
      simp only [h, if_true, List.mem_singleton, forall_eq, h1, valOf, List.foldl_cons, List.foldl_nil, h2, Nat.zero_mul,
        Nat.zero_add, true_and]
      exact ⟨_, [], rfl, fun _ => rfl⟩
    · simp only [h, if_false]
      obtain ⟨ih1, ih2, b, ds, ih3, hz⟩ := ih (n / 10) (by omega)
      obtain ⟨h1, h2⟩ := digit_facts (n % 10) (by omega)
      refine ⟨?_, ?_, b, ds ++ [UInt8.ofNat (48 + n % 10)], by rw [ih3]; rfl, ?_⟩
      · intro c hc
        simp only [List.mem_append, List.mem_singleton] at hc
        rcases hc with hc | rfl
        · exact ih1 c hc
        · exact h1
      · simp only [valOf, List.foldl_append, List.foldl_cons, List.foldl_nil] at ih2 ⊢
        rw [ih2, h2]; omega
      · -- a leading zero is impossible: n / 10 ≥ 1
        rintro rfl
        rw [ih3, hz rfl] at ih2
        have : valOf [48] 0 = 0 := rfl
        omega

theorem parseCell_quote (t : Bytes) : parseCell (39 :: t) = (lexString (39 :: t)).map (fun p => (.str p.1, p.2)) := rfl

theorem parseCell_hex (t : Bytes) : parseCell (48 :: 120 :: t) = (readHex (48 :: 120 :: t)).map (fun p => (.bin p.1, p.2)) := rfl

theorem parseCell_minus (d : UInt8) (t : Bytes) (hd : isDigit d = true) :
    parseCell (45 :: d :: t) = some (.int (-(Int.ofNat (scanDigits (d :: t) 0).1)), (scanDigits (d :: t) 0).2) := by
  show (if isDigit d then _ else none) = _
  rw [if_pos hd]

theorem parseCell_digit (b : UInt8) (t : Bytes) (hb : isDigit b = true) (hx : b = 48 → t.head? ≠ some 120) :
    parseCell (b :: t) = some (.int (Int.ofNat (scanDigits (b :: t) 0).1), (scanDigits (b :: t) 0).2) := by
  have h78 : b ≠ 78 := by rintro rfl; exact absurd hb (by decide)
  have h45 : b ≠ 45 := by rintro rfl; exact absurd hb (by decide)
  have h39 : b ≠ 39 := by rintro rfl; exact absurd hb (by decide)
  have hhex : (decide (b = 48) && decide (t.head? = some 120)) = false := by
    by_cases h : b = 48
    · simp [h, hx h]
    · simp [h]
  simp only [parseCell, h78, h45, h39, if_false, hhex, Bool.false_eq_true, hb, if_true]

theorem fmtCell_head (cell : Cell) : ∃ b bs, fmtCell cell = b :: bs ∧ b ≠ 41 := by
  cases cell with
  | null => exact ⟨78, _, rfl, by decide⟩
  | str s => exact ⟨39, _, rfl, by decide⟩
  | bin b => exact ⟨48, _, rfl, by decide⟩
  | int i =>
    cases i with
    | ofNat n =>
      obtain ⟨hall, _, b, ds, hds, _⟩ := natDigits_spec n
      refine ⟨b, ds, hds, ?_⟩
      rintro rfl
      exact absurd (hall 41 (by simp [hds])) (by decide)
    | negSucc n => exact ⟨45, _, rfl, by decide⟩

theorem len_join : ∀ (cells : List Cell) (cell : Cell), cells.length < (joinComma ((cell :: cells).map fmtCell)).length
  | [], cell => by
    obtain ⟨b, bs, hb, _⟩ := fmtCell_head cell
    simp [joinComma, hb]
  | c2 :: cs, cell => by
    have ih := len_join cs c2
    simp only [List.map_cons, joinComma, List.length_append, List.length_cons] at ih ⊢
    omega

end DoltVerif.SqlEscape

namespace DoltVerif.SqlEscape.Csv

theorem parseQuoted_escBody (f : Runes) : ∀ (acc rest : Runes),
    parseQuoted .body (escBody f ++ dq :: comma :: rest) acc = some (acc ++ f, some rest) := by
  induction f with
  | nil => intro acc rest; simp [escBody, parseQuoted, comma, dq]
  | cons r rs ih =>
    intro acc rest
    by_cases hr : r = dq
    · subst hr
      simp only [escBody, if_true, List.cons_append, parseQuoted]
      simp only [show ¬ ((34 : Nat) = 44) by decide, if_false]
      rw [ih]; simp
    · simp only [escBody, hr, if_false, List.cons_append, parseQuoted]
      rw [ih]; simp

theorem parseField_plain (f : Runes) (hc : f.contains comma = false) (hn : f.contains 10 = false) : ∀ (acc rest : Runes),
    parseField (f ++ comma :: rest) acc = (acc ++ f, some rest) := by
  induction f with
  | nil => intro acc rest; simp [parseField]
  | cons r rs ih =>
    intro acc rest
    simp only [List.contains_cons, Bool.or_eq_false_iff, beq_eq_false_iff_ne, ne_eq] at hc hn
    have hrc : ¬ r = comma := fun e => hc.1 e.symm
    have h10 : ¬ r = 10 := fun e => hn.1 e.symm
    simp only [List.cons_append, parseField, hrc, h10, if_false, decide_false, Bool.false_and, Bool.false_eq_true]
    rw [ih hc.2 hn.2]; simp

end DoltVerif.SqlEscape.Csv
