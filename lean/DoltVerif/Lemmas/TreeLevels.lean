/-
What a successful `ApplyMutations` consists of (`applyMutations_inv`), and: every level of
`ApplyMutations` on a canonical old tree holds the canonical nodes of the edited content (C12,
`levels_sound`, induction over the levels).  Defines `MutHyp`, the hypotheses of the tree-level
theorem on the old tree and the batch (incl. NoOverflowBoundary = `MutHyp.no_overflow`).
Tree level of C12: `ApplyMutations` on a canonical tree returns the canonical tree of the edited
content (`mutate_canonical_core`, under `MutHyp.no_overflow`; `mutate_canonical_empty` on the empty
map), incl. growing and shrinking height.
-/
import DoltVerif.Lemmas.Glue
namespace DoltVerif.Prolly
open DoltVerif.SortedDict

variable {σ κ ν : Type}

section
variable [Inhabited κ]

theorem lvl_canon (C : Cfg σ κ ν) (X : List (κ × ν)) (n : Nat)
    (h : (C n).feedNoOvf (C n).fresh (levelItems C n X) = true) : (C n).Canon (lvl C n X) := by
  rw [lvl_eq_chunk]; exact (C n).chunk_canon _ h

/-- about any region list, not only `regionsAt`: what `ApplyMutations` has to establish, and so has a tree patcher
(`C12.patch_canonical_partial`) -/
theorem regions_canonical {C : Cfg σ κ ν} (hs : SingleOk C) (X' : List (κ × ν))
    (h : Nat) (rs : List (Region (ItemH κ ν h))) (hsound : (C h).Sound rs)
    (hitems : rs.flatMap (·.new) = levelItems C h X') (t1 t2 : Tree κ ν)
    (h1 : Roots C h (((C h).incr (C h).fresh rs).flatMap Out.chunks) t1)
    (h2 : build C X' = .ok t2) : t1 = t2 := by
  rw [(C h).incr_eq_chunk rs hsound, hitems, ← lvl_eq_chunk] at h1
  exact h1.unique (Roots.up hs X' t2 h (build_roots C X' t2 h2).2)

variable [BEq κ] [BEq ν]

theorem applyMutations_nil (C : Cfg σ κ ν) (cmp : κ → κ → Ordering) (t : Tree κ ν) :
    applyMutations C cmp t [] = .ok t := rfl

theorem applyMutations_inv (C : Cfg σ κ ν) (cmp : κ → κ → Ordering) (h : Nat) (root : NodeH κ ν h)
    (es : Edits κ ν) (t1 : Tree κ ν) (h1 : applyMutations C cmp ⟨h, root⟩ es = .ok t1) :
    (es = [] ∧ t1 = ⟨h, root⟩) ∨
    (es ≠ [] ∧ levelsOk C cmp h [root] es = true ∧
      Roots C h (((C h).incr (C h).fresh (regionsAt C cmp h [root] es)).flatMap Out.chunks) t1) := by
  revert h1
  fun_cases applyMutations C cmp ⟨h, root⟩ es with
  | case1 he => exact fun h1 => Or.inl ⟨List.isEmpty_iff.mp he, (Except.ok.inj h1).symm⟩
  | case2 => intro h1; cases h1
  | case3 he hok => exact fun h1 => Or.inr ⟨by simpa using he, by simpa using hok, rootOf_roots C _ h _ t1 h1⟩

/-- the empty map is one empty leaf: the leaf chunker runs over the whole edited content from scratch -/
theorem incr_empty_leaf (C : Cfg σ κ ν) (cmp : κ → κ → Ordering) (es : Edits κ ν) (hes : es ≠ []) :
    ((C 0).incr (C 0).fresh (regionsAt C cmp 0 [([] : NodeH κ ν 0)] es)).flatMap Out.chunks
        = (C 0).chunk (applyEdits cmp [] es) ∧
      (levelsOk C cmp 0 [([] : NodeH κ ν 0)] es = true → (C 0).chunkOk (applyEdits cmp [] es) = true) := by
  cases es with
  | nil => exact absurd rfl hes
  | cons e es =>
    -- the one region is dirty (`!seen && !es.isEmpty`), so it is fed and flushed
    have hr : regionsAt C cmp 0 [([] : NodeH κ ν 0)] (e :: es) = [⟨[], applyEdits cmp [] (e :: es), true⟩] := by
      simp [regionsAt, leafRegions]; rfl
    constructor
    · rw [hr]; simp [LevelCfg.incr, Out.chunks]; rfl
    · intro h
      have h' : (C 0).incrOk (C 0).fresh (regionsAt C cmp 0 [[]] (e :: es)) = true := h
      rw [hr] at h'
      simpa [LevelCfg.incrOk, LevelCfg.chunkOk] using h'

/-- the leaf chunker runs from scratch, so this needs no hypothesis on the configuration (`MutHyp`, `SingleOk`) -/
theorem mutate_canonical_empty {C : Cfg σ κ ν} {cmp : κ → κ → Ordering} {es : Edits κ ν} (t1 t2 : Tree κ ν)
    (h1 : applyMutations C cmp ⟨0, []⟩ es = .ok t1) (h2 : build C (applyEdits cmp [] es) = .ok t2) : t1 = t2 := by
  rcases applyMutations_inv C cmp 0 [] es t1 h1 with ⟨rfl, rfl⟩ | ⟨hes, _, hf⟩
  · exact Except.ok.inj ((build_nil C).symm.trans h2)
  · rw [(incr_empty_leaf C cmp es hes).1] at hf
    exact hf.unique (build_roots C _ t2 h2).2

end

variable [BEq κ] [BEq ν] [LawfulBEq κ] [LawfulBEq ν] [Inhabited κ]

/-- the hypotheses of the tree-level theorem about the OLD tree and the batch -/
structure MutHyp (C : Cfg σ κ ν) (cmp : κ → κ → Ordering) (X : List (κ × ν)) (es : Edits κ ν) : Prop where
  cmp_ok : TotalPreorder cmp
  sorted : Sorted cmp X
  edits_sorted : es.Pairwise (fun a b => cmp a.1 b.1 = .lt)
  nonempty : X ≠ []
  /-- NoOverflowBoundary: no node of the old tree ended because the next item did not fit -/
  no_overflow : ∀ n, (C n).feedNoOvf (C n).fresh (levelItems C n X) = true

theorem levels_sound {C : Cfg σ κ ν} {cmp : κ → κ → Ordering} {X : List (κ × ν)} {es : Edits κ ν}
    (H : MutHyp C cmp X es) : ∀ (n : Nat),
      (C n).Sound (regionsAt C cmp n (lvl C n X) es) ∧
      (regionsAt C cmp n (lvl C n X) es).flatMap (·.new) = levelItems C n (applyEdits cmp X es)
  | 0 => by
    have hflat : ((C 0).chunk X).flatten = X := (C 0).chunk_flatten X
    have hok : (C 0).chunkOk X = true := (C 0).feedOk_of_noOvf X _ (H.no_overflow 0)
    have hsflat : Sorted cmp (((C 0).chunk X).flatten : List (κ × ν)) := by rw [hflat]; exact H.sorted
    have hclean := leafRegions_clean H.cmp_ok ((C 0).chunk X) es false true
      (fun l hl => sorted_of_mem_flatten _ l hl hsflat) H.edits_sorted
    have hcontent := leafRegions_content H.cmp_ok ((C 0).chunk X) es false true (lvl_ne_nil C H.nonempty 0)
      ((C 0).chunk_nonempty X hok) hsflat
    refine ⟨sound_of_canon (C 0) _ ?_ hclean, by rw [hflat] at hcontent; exact hcontent⟩
    rw [regionsAt_old C cmp 0]
    exact lvl_canon C X 0 (H.no_overflow 0)
  | n+1 => by
    obtain ⟨hsound, hnew⟩ := levels_sound H n
    have houts : ((C n).incr (C n).fresh (regionsAt C cmp n (lvl C n X) es)).flatMap Out.chunks
        = lvl C n (applyEdits cmp X es) := by
      rw [(C n).incr_eq_chunk _ hsound, hnew, lvl_eq_chunk]
    have hsum : ∀ it ∈ (lvl C (n+1) X).flatten, it = summary n (childOf it) := fun it hit => by
      rw [lvl_flatten] at hit
      obtain ⟨c, _, rfl⟩ := List.mem_map.mp hit
      rfl
    refine ⟨sound_of_canon _ _ ?_ (regionsAt_succ_clean C cmp n _ es), ?_⟩
    · rw [regionsAt_old]; exact lvl_canon C X (n+1) (H.no_overflow (n+1))
    · rw [regionsAt_succ_new C cmp n _ es hsum, children_lvl, houts]
      rfl

theorem mutate_canonical_core {C : Cfg σ κ ν} {cmp : κ → κ → Ordering} {X : List (κ × ν)} {es : Edits κ ν}
    (H : MutHyp C cmp X es) (hs : SingleOk C) (t t1 t2 : Tree κ ν) (hb : build C X = .ok t)
    (h1 : applyMutations C cmp t es = .ok t1) (h2 : build C (applyEdits cmp X es) = .ok t2) : t1 = t2 := by
  obtain ⟨h, root⟩ := t
  rcases applyMutations_inv C cmp h root es t1 h1 with ⟨rfl, rfl⟩ | ⟨hes, _, hf⟩
  · exact Except.ok.inj (hb.symm.trans h2)
  · have htop : lvl C h X = [root] := (build_roots C X _ hb).2.top H.nonempty rfl (Or.inl rfl)
    rw [← htop] at hf
    obtain ⟨hsound, hitems⟩ := levels_sound H h
    exact regions_canonical hs _ h _ hsound hitems t1 t2 hf h2

end DoltVerif.Prolly
