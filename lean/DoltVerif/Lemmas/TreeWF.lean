/-
Well-formed prolly trees (defines `WFNode`): what the stored last keys and subtree counts say about the content
below a node (C11, C12).
-/
import DoltVerif.Lemmas.Rank
namespace DoltVerif.Prolly
open DoltVerif.SortedDict

variable {κ ν : Type}

/-- stored parent items describe their children: non-empty child, stored key = child's last key,
stored count = child's tree count (what `writeNewNode` writes) -/
def WFNode [Inhabited κ] : (n : Nat) → NodeH κ ν n → Prop
  | 0, _ => True
  | n+1, nd => ∀ it ∈ nd, childOf it ≠ [] ∧ keyOf (n+1) it = lastKey n (childOf it) ∧
      countOf (n+1) it = treeCount n (childOf it) ∧ WFNode n (childOf it)

theorem WFNode.eq_summary [Inhabited κ] {n : Nat} {nd : NodeH κ ν (n+1)} (h : WFNode (n+1) nd)
    {it : ItemH κ ν (n+1)} (hit : it ∈ nd) : it = summary n (childOf it) := by
  obtain ⟨_, hk, hc, _⟩ := h it hit
  obtain ⟨k, c, ch⟩ := it
  show (k, c, ch) = (lastKey n ch, treeCount n ch, ch)
  rw [show k = lastKey n ch from hk, show c = treeCount n ch from hc]

theorem flatten_cons (n : Nat) (it : ItemH κ ν (n+1)) (rest : NodeH κ ν (n+1)) :
    flatten (n+1) (it :: rest) = flatten n (childOf it) ++ flatten (n+1) rest := by
  simp [flatten, List.flatMap_cons]

theorem flatten_append (n : Nat) (a b : NodeH κ ν (n+1)) :
    flatten (n+1) (a ++ b) = flatten (n+1) a ++ flatten (n+1) b := by
  simp [flatten, List.flatMap_append]

theorem mem_flatten_succ (n : Nat) (nd : NodeH κ ν (n+1)) (x : κ × ν) :
    x ∈ flatten (n+1) nd ↔ ∃ it ∈ nd, x ∈ flatten n (childOf it) := by
  simp [flatten, List.mem_flatMap]

theorem flatMap_flatten_succ (n : Nat) (nds : List (NodeH κ ν (n+1))) :
    nds.flatMap (flatten (n+1)) = (nds.flatten).flatMap (fun it => flatten n (childOf it)) := by
  induction nds with
  | nil => rfl
  | cons nd rest ih =>
    rw [List.flatMap_cons, ih, List.flatten_cons, List.flatMap_append]; rfl

theorem flatMap_flatten0 (cs : List (NodeH κ ν 0)) : cs.flatMap (flatten 0) = (cs.flatten : List (κ × ν)) :=
  List.flatMap_id

theorem flatten_of_summaries [Inhabited κ] {n : Nat} {cs : List (NodeH κ ν n)} {nds : List (NodeH κ ν (n+1))}
    (hitems : nds.flatten = cs.map (summary n)) : nds.flatMap (flatten (n+1)) = cs.flatMap (flatten n) := by
  rw [flatMap_flatten_succ, hitems, List.flatMap_map]; rfl

/-- the converse of `WFNode.eq_summary`: how the nodes of every chunker level above the leaves are shown well formed -/
theorem wf_of_summaries [Inhabited κ] {n : Nat} {cs : List (NodeH κ ν n)} (hcs : ∀ c ∈ cs, WFNode n c ∧ c ≠ [])
    {nds : List (NodeH κ ν (n+1))} (hitems : nds.flatten = cs.map (summary n)) : ∀ nd ∈ nds, WFNode (n+1) nd := by
  intro nd hnd it hit
  have hmem : it ∈ nds.flatten := List.mem_flatten.mpr ⟨nd, hnd, hit⟩
  rw [hitems] at hmem
  obtain ⟨c, hcm, rfl⟩ := List.mem_map.mp hmem
  exact ⟨(hcs c hcm).2, rfl, rfl, (hcs c hcm).1⟩

theorem flatten_last [Inhabited κ] : ∀ (n : Nat) (c : NodeH κ ν n), WFNode n c → c ≠ [] →
    ∃ pre kv, flatten n c = pre ++ [kv] ∧ kv.1 = lastKey n c
  | 0, c, _, hne => by
    refine ⟨c.dropLast, c.getLast hne, (List.dropLast_concat_getLast hne).symm, ?_⟩
    unfold lastKey
    rw [List.getLast?_eq_some_getLast hne]
    rfl
  | n+1, c, hwf, hne => by
    have hc : c = c.dropLast ++ [c.getLast hne] := (List.dropLast_concat_getLast hne).symm
    have hmem : c.getLast hne ∈ c := List.getLast_mem hne
    obtain ⟨hch, hkey, _, hwfc⟩ := hwf (c.getLast hne) hmem
    obtain ⟨pre, kv, hfl, hkv⟩ := flatten_last n (childOf (c.getLast hne)) hwfc hch
    refine ⟨flatten (n+1) c.dropLast ++ pre, kv, ?_, ?_⟩
    · conv => lhs; rw [hc]
      rw [flatten_append]
      have : flatten (n+1) [c.getLast hne] = flatten n (childOf (c.getLast hne)) := by
        simp [flatten]
      rw [this, hfl, List.append_assoc]
    · rw [hkv, ← hkey]
      unfold lastKey
      rw [List.getLast?_eq_some_getLast hne]

theorem flatten_ne_nil [Inhabited κ] (n : Nat) (c : NodeH κ ν n) (hwf : WFNode n c) (hne : c ≠ []) :
    flatten n c ≠ [] := by
  obtain ⟨pre, kv, hfl, _⟩ := flatten_last n c hwf hne
  rw [hfl]; simp

theorem le_lastKey [Inhabited κ] {cmp : κ → κ → Ordering} (hc : TotalPreorder cmp) (n : Nat) (c : NodeH κ ν n)
    (hwf : WFNode n c) (hne : c ≠ []) (hs : Sorted cmp (flatten n c)) :
    (∃ kv ∈ flatten n c, kv.1 = lastKey n c) ∧ ∀ x ∈ flatten n c, cmp x.1 (lastKey n c) ≠ .gt := by
  obtain ⟨pre, kv, hfl, hkv⟩ := flatten_last n c hwf hne
  refine ⟨⟨kv, by rw [hfl]; simp, hkv⟩, ?_⟩
  intro x hx
  rw [hfl] at hx hs
  unfold Sorted at hs
  rw [List.pairwise_append] at hs
  rw [← hkv]
  rcases List.mem_append.mp hx with hx | hx
  · have := hs.2.2 x hx kv (by simp)
    rw [this]; simp
  · simp only [List.mem_singleton] at hx
    rw [hx, hc.refl]; simp

theorem wf_tail [Inhabited κ] {n : Nat} {it : ItemH κ ν (n+1)} {rest : NodeH κ ν (n+1)}
    (h : WFNode (n+1) (it :: rest)) : WFNode (n+1) rest := fun x hx => h x (by simp [hx])

theorem keys_sorted [Inhabited κ] {cmp : κ → κ → Ordering} (n : Nat) (nd : NodeH κ ν n)
    (hwf : WFNode n nd) (hs : Sorted cmp (flatten n nd)) : (nodeKeys n nd).Pairwise (fun a b => cmp a b = .lt) := by
  cases n with
  | zero => exact List.pairwise_map.mpr hs
  | succ n =>
    induction nd with
    | nil => simp [nodeKeys]
    | cons it rest ih =>
      rw [flatten_cons] at hs
      have ih := ih (wf_tail hwf) (sorted_append_right hs)
      unfold nodeKeys at ih ⊢
      rw [List.map_cons, List.pairwise_cons]
      refine ⟨?_, ih⟩
      intro k' hk'
      obtain ⟨it', hit', rfl⟩ := List.mem_map.mp hk'
      obtain ⟨hch, hkey, _, hwfc⟩ := hwf it (by simp)
      obtain ⟨hch', hkey', _, hwfc'⟩ := hwf it' (by simp [hit'])
      obtain ⟨pre, kv, hfl, hkv⟩ := flatten_last n (childOf it) hwfc hch
      obtain ⟨pre', kv', hfl', hkv'⟩ := flatten_last n (childOf it') hwfc' hch'
      have h1 : kv ∈ flatten n (childOf it) := by rw [hfl]; simp
      have h2 : kv' ∈ flatten (n+1) rest := (mem_flatten_succ n rest kv').mpr ⟨it', hit', by rw [hfl']; simp⟩
      have := sorted_append_lt hs kv h1 kv' h2
      rw [hkey, hkey', ← hkv, ← hkv']; exact this

theorem sum_countOf_zero (l : List (ItemH κ ν 0)) : (l.map (countOf 0)).sum = l.length := by
  induction l with
  | nil => rfl
  | cons x xs ih =>
    rw [List.map_cons, List.sum_cons, ih, List.length_cons]
    show 1 + xs.length = xs.length + 1
    omega

theorem treeCount_eq_length [Inhabited κ] : ∀ (n : Nat) (nd : NodeH κ ν n), WFNode n nd →
    treeCount n nd = (flatten n nd).length
  | 0, nd, _ => sum_countOf_zero nd
  | n+1, nd, hwf => by
    induction nd with
    | nil => simp [treeCount, flatten]
    | cons it rest ih =>
      have hr := ih (wf_tail hwf)
      obtain ⟨_, _, hcnt, hwfc⟩ := hwf it (by simp)
      unfold treeCount at hr ⊢
      rw [List.map_cons, List.sum_cons, hr, flatten_cons, List.length_append, hcnt,
        treeCount_eq_length n (childOf it) hwfc]

theorem sum_counts_eq_length [Inhabited κ] (n : Nat) : ∀ (l : NodeH κ ν (n+1)), WFNode (n+1) l →
    (l.map (countOf (n+1))).sum = (flatten (n+1) l).length := fun l h => treeCount_eq_length (n+1) l h

theorem child_sorted {cmp : κ → κ → Ordering} (n : Nat) (nd : NodeH κ ν (n+1)) (it : ItemH κ ν (n+1))
    (hit : it ∈ nd) (hs : Sorted cmp (flatten (n+1) nd)) : Sorted cmp (flatten n (childOf it)) :=
  (List.pairwise_flatMap.mp hs).1 it hit

end DoltVerif.Prolly
