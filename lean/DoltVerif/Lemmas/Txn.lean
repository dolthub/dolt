import DoltVerif.Model.Txn
import DoltVerif.Lemmas.AssocList
/-! The data side of the transaction machine (C23–C25): finite-map laws of `Root`; `dump` (the canonical
sorted listing of a root) lists exactly the bindings of the root, each key once (used by C24 and C25); the
declarative reading of the three-way merge (`applyDeltaKey`, `KeyConflict`) and its agreement with `mergeKey` /
`mergeRoots` at every level. -/
namespace DoltVerif.Txn

theorem get_nil (k : Key) : get [] k = none := rfl

theorem get_put (k : Key) (r : Row) (t : Root) (k' : Key) :
    get (put k r t) k' = if k' = k then some r else get t k' := by
  unfold get put
  by_cases h : k' = k
  · simp [h]
  · simp [List.lookup_cons, beq_false_of_ne h, h]

theorem get_del (k : Key) (t : Root) (k' : Key) :
    get (del k t) k' = if k' = k then none else get t k' := by
  -- `get` is `List.lookup` and `del` filters with `!(·.1 == k)`, which is `·.1 != k` unfolded
  by_cases h : k' = k
  · rw [if_pos h, h]; exact lookup_filter_self t k
  · rw [if_neg h]; exact lookup_filter_ne t h

theorem get_eq_none_of_not_mem (t : Root) (k : Key) (h : k ∉ keys t) : get t k = none :=
  List.lookup_eq_none_iff.2 fun p hp => by
    simpa using fun e : k = p.1 => h (e ▸ List.mem_map_of_mem hp)

theorem mem_keys_of_get {t : Root} {k : Key} {r : Row} (h : get t k = some r) : k ∈ keys t :=
  List.mem_map_of_mem (f := (·.1)) (mem_of_lookup h)

theorem get_ofFn (ks : List Key) (g : Key → Option Row) (k : Key) :
    get (ofFn ks g) k = if k ∈ ks then g k else none := by
  induction ks with
  | nil => rfl
  | cons a ks ih =>
    unfold ofFn at ih ⊢
    rw [List.filterMap_cons]
    cases hg : g a with
    | none =>
      rw [Option.map_none, ih]
      by_cases h : k = a
      · simp [h, hg]
      · simp [h]
    | some r =>
      rw [Option.map_some]
      show get (put a r _) k = _
      rw [get_put, ih]
      by_cases h : k = a
      · simp [h, hg]
      · simp [h]

theorem rootEq_iff (a b : Root) : rootEq a b = true ↔ ∀ k, get a k = get b k := by
  unfold rootEq
  rw [List.all_eq_true]
  constructor
  · intro h k
    by_cases hk : k ∈ keys a ++ keys b
    · simpa using h k hk
    · rw [List.mem_append, not_or] at hk
      rw [get_eq_none_of_not_mem a k hk.1, get_eq_none_of_not_mem b k hk.2]
  · intro h k _; simp [h k]

theorem rootEq_refl (a : Root) : rootEq a a = true := (rootEq_iff a a).2 (fun _ => rfl)

theorem mem_dump (t : Root) (k : Key) (r : Row) : (k, r) ∈ dump t ↔ get t k = some r := by
  unfold dump
  simp only [List.mem_filterMap, Option.map_eq_some_iff]
  constructor
  · rintro ⟨k', _, r', hg, he⟩; injection he with h1 h2; subst h1; subst h2; exact hg
  · intro hg
    refine ⟨k, ?_, r, hg, rfl⟩
    unfold sortedKeys
    rw [List.mem_mergeSort, List.mem_eraseDups]
    exact mem_keys_of_get hg

theorem nodup_eraseDups {α : Type} [BEq α] [LawfulBEq α] : ∀ (l : List α), l.eraseDups.Nodup
  | [] => by simp
  | a :: as => by
    rw [List.eraseDups_cons]
    refine List.nodup_cons.2 ⟨?_, nodup_eraseDups _⟩
    intro hm; rw [List.mem_eraseDups, List.mem_filter] at hm; simpa using hm.2
termination_by l => l.length
decreasing_by exact Nat.lt_succ_of_le (List.length_filter_le _ _)

theorem nodup_dump_keys (t : Root) : ((dump t).map (·.1)).Nodup := by
  have hs : (sortedKeys t).Nodup := (List.mergeSort_perm _ _).nodup_iff.2 (nodup_eraseDups _)
  have : (dump t).map (·.1) = (sortedKeys t).filter (fun k => (get t k).isSome) := by
    unfold dump
    rw [List.map_filterMap, ← List.filterMap_eq_filter]
    congr; funext k; cases h : get t k <;> simp [Option.guard, h]
  rw [this]
  exact hs.sublist List.filter_sublist

/-- C23's "cell-wise merge of the transaction's changes" into the existing row `e` (`w` the transaction's
row, `s` the row it started from) -/
def deltaCells : Row → Row → Row → Row
  | e :: es, w :: ws, s :: ss => (if w ≠ s then w else e) :: deltaCells es ws ss
  | _, _, _ => []

/-- the same at row level -/
def applyDeltaKey (e w s : Option Row) : Option Row :=
  if w = s then e
  else if e = s then w
  else if e = w then w
  else match e, w, s with
    | some er, some wr, some sr => some (deltaCells er wr sr)
    | _, _, _ => w

theorem applyDeltaKey_untouched (e s : Option Row) : applyDeltaKey e s s = e := by
  simp [applyDeltaKey]

theorem applyDeltaKey_only_txn (w s : Option Row) : applyDeltaKey s w s = w := by
  unfold applyDeltaKey; split <;> simp_all

theorem applyDeltaKey_same (w s : Option Row) : applyDeltaKey w w s = w := by
  unfold applyDeltaKey; split <;> simp_all

theorem deltaCells_getElem? (e w s : Row) (c : Nat) (h1 : e.length = w.length) (h2 : w.length = s.length) :
    (deltaCells e w s)[c]? = if w[c]? ≠ s[c]? then w[c]? else e[c]? := by
  induction e generalizing w s c with
  | nil =>
    obtain rfl := List.length_eq_zero_iff.1 h1.symm
    obtain rfl := List.length_eq_zero_iff.1 h2.symm
    rfl
  | cons e es ih =>
    obtain _ | ⟨w, ws⟩ := w
    · cases h1
    obtain _ | ⟨s, ss⟩ := s
    · cases h2
    cases c with
    | zero =>
      simp only [deltaCells, List.getElem?_cons_zero, ne_eq, Option.some.injEq]
      split <;> rfl
    | succ c =>
      simp only [deltaCells, List.getElem?_cons_succ]
      exact ih ws ss c (Nat.succ.inj h1) (Nat.succ.inj h2)

def cellConflict (e w s : Cell) : Prop := e ≠ s ∧ w ≠ s ∧ e ≠ w

def rowsConflict : Row → Row → Row → Prop
  | e :: es, w :: ws, s :: ss => cellConflict e w s ∨ rowsConflict es ws ss
  | _, _, _ => False

/-- the property's conflict: both sides changed the row, differently, and it is a delete against a
modification, two different inserts, or some cell changed by both to different values -/
def KeyConflict (e w s : Option Row) : Prop :=
  w ≠ s ∧ e ≠ s ∧ e ≠ w ∧
    match e, w, s with
    | some er, some wr, some sr => rowsConflict er wr sr
    | _, _, _ => True

theorem mergeCell_spec (e w s : Cell) :
    (cellConflict e w s ∧ mergeCell e w s = none) ∨
    (¬ cellConflict e w s ∧ mergeCell e w s = some (if w ≠ s then w else e)) := by
  unfold mergeCell cellConflict
  by_cases h1 : e = w
  · simp [h1]
  · by_cases h2 : e = s
    · subst h2; simp [h1, Ne.symm h1]
    · by_cases h3 : w = s <;> simp [h1, h2, h3]

theorem mergeCells_spec : ∀ (e w s : Row),
    (rowsConflict e w s ∧ mergeCells e w s = none) ∨
    (¬ rowsConflict e w s ∧ mergeCells e w s = some (deltaCells e w s))
  | e :: es, w :: ws, s :: ss => by
    simp only [mergeCells, rowsConflict, deltaCells]
    rcases mergeCell_spec e w s with ⟨hc, hm⟩ | ⟨hc, hm⟩
    · exact .inl ⟨.inl hc, by rw [hm]⟩
    · rcases mergeCells_spec es ws ss with ⟨hr, hn⟩ | ⟨hr, hn⟩
      · exact .inl ⟨.inr hr, by rw [hm, hn]⟩
      · exact .inr ⟨fun h => h.elim hc hr, by rw [hm, hn]⟩
  | [], _, _ => .inr ⟨id, rfl⟩
  | _ :: _, [], _ => .inr ⟨id, rfl⟩
  | _ :: _, _ :: _, [] => .inr ⟨id, rfl⟩

theorem mergeKey_spec (e w s : Option Row) :
    (KeyConflict e w s ∧ mergeKey e w s = none) ∨
    (¬ KeyConflict e w s ∧ mergeKey e w s = some (applyDeltaKey e w s)) := by
  by_cases h1 : w = s
  · exact .inr ⟨fun hc => hc.1 h1, by simp only [mergeKey, applyDeltaKey, h1, if_true]⟩
  by_cases h2 : e = s
  · exact .inr ⟨fun hc => hc.2.1 h2, by simp only [mergeKey, applyDeltaKey, h1, h2, if_true, if_false]⟩
  simp only [mergeKey, KeyConflict, applyDeltaKey, h1, h2, if_false, ne_eq, not_false_eq_true, true_and]
  rcases e with _ | er <;> rcases w with _ | wr
  · simp
  · simp
  · simp
  by_cases heq : er = wr
  · simp [heq]
  rcases s with _ | sr
  · simp [heq]
  · rcases mergeCells_spec er wr sr with ⟨hc, hm⟩ | ⟨hc, hm⟩ <;> simp [heq, hc, hm]

theorem conflictAt_iff (e w s : Root) (k : Key) :
    conflictAt e w s k = true ↔ KeyConflict (get e k) (get w k) (get s k) := by
  unfold conflictAt
  rcases mergeKey_spec (get e k) (get w k) (get s k) with ⟨hc, hm⟩ | ⟨hc, hm⟩ <;> simp [hc, hm]

theorem mergedAt_of_no_conflict {e w s : Root} {k : Key}
    (h : ¬ KeyConflict (get e k) (get w k) (get s k)) :
    mergedAt e w s k = applyDeltaKey (get e k) (get w k) (get s k) := by
  unfold mergedAt
  rcases mergeKey_spec (get e k) (get w k) (get s k) with ⟨hc, _⟩ | ⟨_, hm⟩
  · exact absurd hc h
  · rw [hm]

theorem get_of_not_mem_mergeKeysOf {e w s : Root} {k : Key} (h : k ∉ mergeKeysOf e w s) :
    get e k = none ∧ get w k = none ∧ get s k = none := by
  unfold mergeKeysOf at h
  simp only [List.mem_eraseDups, List.mem_append, not_or] at h
  exact ⟨get_eq_none_of_not_mem e k h.1.1, get_eq_none_of_not_mem w k h.1.2, get_eq_none_of_not_mem s k h.2⟩

theorem get_mergeRoots (e w s : Root) (k : Key) :
    get (mergeRoots e w s).1 k = mergedAt e w s k := by
  unfold mergeRoots
  rw [get_ofFn]
  split
  · rfl
  · rename_i hk
    obtain ⟨h1, h2, h3⟩ := get_of_not_mem_mergeKeysOf hk
    simp [mergedAt, h1, h2, h3, mergeKey]

theorem mergeRoots_no_conflict_iff (e w s : Root) :
    (mergeRoots e w s).2 = [] ↔ ∀ k, ¬ KeyConflict (get e k) (get w k) (get s k) := by
  unfold mergeRoots
  simp only [List.filter_eq_nil_iff, conflictAt_iff]
  refine ⟨fun h k hc => ?_, fun h k _ => h k⟩
  by_cases hk : k ∈ mergeKeysOf e w s
  · exact h k hk hc
  · obtain ⟨h1, h2, _⟩ := get_of_not_mem_mergeKeysOf hk
    exact hc.2.2.1 (h1.trans h2.symm)

end DoltVerif.Txn
