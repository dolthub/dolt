import DoltVerif.Model.TxnCons
import DoltVerif.Lemmas.Txn
/-! The constraint evaluators of `Model/TxnCons.lean` (`clashesAny`, `referenced`, `fkOk`, `validate`,
`changedKeys`, `violatesB`, `recordedViolations`) read as propositions about the rows of the roots; a
unique-key collision is symmetric (`clash_comm`), so the readings name one order only. Used by C24. -/
namespace DoltVerif.TxnCons
open DoltVerif.Txn

theorem clash_comm (sc : Schema) (r r' : Row) : clash sc r r' = clash sc r' r := by
  have h : ∀ a b : Cell, (a.isSome && a == b) = (b.isSome && b == a) := fun a b => by
    by_cases h : a = b
    · rw [h]
    · rw [beq_false_of_ne h, beq_false_of_ne (Ne.symm h), Bool.and_false, Bool.and_false]
  simp only [clash, h (cellAt r _)]

theorem clashesAny_true_iff (sc : Schema) (c : Root) (k : Key) (r : Row) :
    clashesAny sc c k r = true ↔ ∃ k' r', Txn.get c k' = some r' ∧ k' ≠ k ∧ clash sc r r' = true := by
  unfold clashesAny
  simp only [List.any_eq_true, Prod.exists, mem_dump, clash_comm sc _ r, Bool.or_self, Bool.and_eq_true,
    bne_iff_ne]

theorem clashesAny_false {sc : Schema} {c : Root} {k : Key} {r : Row} (h : clashesAny sc c k r = false) :
    ∀ k' r', get c k' = some r' → k' ≠ k → clash sc r r' = false := fun k' r' hg hk =>
  Bool.eq_false_iff.2 fun hc =>
    Bool.false_ne_true (h.symm.trans ((clashesAny_true_iff sc c k r).2 ⟨k', r', hg, hk, hc⟩))

theorem referenced_false {sc : Schema} {c : Root} {k : Key} (h : referenced sc c k = false) :
    ∀ k' r, get c k' = some r → ∀ col ∈ sc.fks, cellAt r col ≠ some (.int k) := by
  intro k' r hg col hcol heq
  unfold referenced at h
  rw [List.any_eq_false] at h
  have := h (k', r) ((mem_dump c k' r).2 hg)
  simp only [List.any_eq_true, not_exists, not_and] at this
  exact this col hcol (by simp [heq])

theorem fkOk_iff (sc : Schema) (p : Root) (r : Row) :
    fkOk sc p r = true ↔
      ∀ col ∈ sc.fks, ∀ v, cellAt r col = some v → ∃ i, v = .int i ∧ (get p i).isSome = true := by
  unfold fkOk
  rw [List.all_eq_true]
  refine forall₂_congr fun col _ => ?_
  cases cellAt r col with
  | none => simp
  | some v => cases v <;> simp

theorem validate_ok {sc : Schema} {db : Db} {k : Key} {r : Row} (h : validate sc db k r = .ok) :
    notNullOk sc r = true ∧ checkOk sc r = true ∧ fkOk sc db.p r = true ∧ clashesAny sc db.c k r = false := by
  unfold validate at h
  cases h1 : notNullOk sc r <;> cases h2 : checkOk sc r <;> cases h3 : fkOk sc db.p r <;>
    cases h4 : clashesAny sc db.c k r <;> simp_all

theorem applyCOp_unchanged_or_ok (sc : Schema) (db : Db) (op : COp) :
    (applyCOp sc db op).1 = db ∨ (applyCOp sc db op).2 = .ok := by
  fun_cases applyCOp sc db op
  all_goals first | exact .inl rfl | exact .inr rfl

theorem mem_changedKeys (a m : Root) (k : Key) : k ∈ changedKeys a m ↔ Txn.get a k ≠ Txn.get m k := by
  unfold changedKeys
  rw [List.mem_filter, List.mem_eraseDups, List.mem_append]
  constructor
  · rintro ⟨_, h⟩; simpa using h
  · intro h
    refine ⟨?_, by simpa using h⟩
    apply Classical.byContradiction; intro hn
    rw [not_or] at hn
    exact h (by rw [get_eq_none_of_not_mem a k hn.1, get_eq_none_of_not_mem m k hn.2])

theorem fkOk_false {sc : Schema} {p : Root} {r : Row} (h : fkOk sc p r = false) :
    ∃ col ∈ sc.fks, ∃ v, cellAt r col = some v ∧ ∀ i, v = .int i → Txn.get p i = none := by
  have := mt (fkOk_iff sc p r).2 (by simp [h])
  simpa only [Classical.not_forall, not_exists, not_and, exists_prop, Bool.not_eq_true,
    Option.isSome_eq_false_iff, Option.isNone_iff_eq_none] using this

theorem violatesB_iff {sc : Schema} {p c : Root} {k : Key} {r : Row} (hg : Txn.get c k = some r) :
    violatesB sc p c k = true ↔
      notNullOk sc r = false ∨ checkOk sc r = false ∨ fkOk sc p r = false ∨ clashesAny sc c k r = true := by
  simp only [violatesB, hg]
  cases notNullOk sc r <;> cases checkOk sc r <;> cases fkOk sc p r <;> simp

theorem mem_recordedViolations {sc : Schema} {pS cS cE pM cM : Root} {k : Key} {r : Row}
    (hg : Txn.get cM k = some r) :
    k ∈ recordedViolations sc pS cS cE pM cM ↔
      (((Txn.get cE k ≠ some r ∧
          (notNullOk sc r = false ∨ checkOk sc r = false ∨ clashesAny sc cM k r = true)) ∨
        (∃ k' r', Txn.get cE k' ≠ some r' ∧ Txn.get cM k' = some r' ∧ k' ≠ k ∧ clash sc r r' = true)) ∨
        (Txn.get cS k ≠ some r ∧ fkOk sc pM r = false)) ∨
        (∃ col ∈ sc.fks, ∃ j, Txn.get pS j ≠ none ∧ Txn.get pM j = none ∧ cellAt r col = some (.int j)) := by
  unfold recordedViolations
  simp only [List.mem_filter, List.mem_eraseDups, mem_keys_of_get hg, true_and, hg, Bool.or_eq_true,
    Bool.and_eq_true, decide_eq_true_eq, mem_changedKeys]
  refine or_congr (or_congr (or_congr (and_congr Iff.rfl ?_) ?_) (and_congr Iff.rfl ?_)) ?_
  · simp only [rowViolates, hg]
    cases notNullOk sc r <;> cases checkOk sc r <;> simp
  · simp only [uniqPartner, hg, List.any_eq_true, mem_changedKeys, Bool.and_eq_true, bne_iff_ne,
      clash_comm sc _ r, Bool.or_self]
    constructor
    · rintro ⟨k', hd, hk, hc⟩
      cases hg' : Txn.get cM k' with
      | none => simp [hg'] at hc
      | some r' => exact ⟨k', r', hg' ▸ hd, hg', hk, by simpa [hg'] using hc⟩
    · rintro ⟨k', r', hd, hg', hk, hc⟩
      exact ⟨k', hg' ▸ hd, hk, by simpa [hg'] using hc⟩
  · simp
  · simp only [refsDeletedParent, List.any_eq_true, List.mem_filter, mem_changedKeys, beq_iff_eq,
      Option.isNone_iff_eq_none]
    constructor
    · rintro ⟨col, hcol, j, ⟨hd, hn⟩, hc⟩; exact ⟨col, hcol, j, hn ▸ hd, hn, hc⟩
    · rintro ⟨col, hcol, j, hd, hn, hc⟩; exact ⟨col, hcol, j, ⟨hn ▸ hd, hn⟩, hc⟩

end DoltVerif.TxnCons
