import DoltVerif.Model.TxnIdx
import DoltVerif.Lemmas.Txn
/-! The entry-set operations of `Model/TxnIdx.lean` (`addE`, `delE`, `idxAfter`, `rowsAfter`) as facts about
membership and duplicates; used by C25. -/
namespace DoltVerif.TxnIdx
open DoltVerif.Txn

theorem entry_key_inj {d : IdxDef} {k k' : Key} {r r' : Row} (h : entry d k r = entry d k' r') : k = k' := by
  unfold entry at h
  have := List.append_inj_right' h rfl
  simpa using this

theorem mem_addE (e x : List Cell) (es : Entries) : x ∈ addE e es ↔ x = e ∨ x ∈ es := by
  unfold addE; split
  · constructor
    · exact Or.inr
    · rintro (rfl | h) <;> assumption
  · simp

theorem nodup_addE (e : List Cell) (es : Entries) (h : es.Nodup) : (addE e es).Nodup := by
  unfold addE; split
  · exact h
  · exact List.nodup_cons.2 ⟨by assumption, h⟩

theorem mem_delE (e x : List Cell) (es : Entries) : x ∈ delE e es ↔ x ≠ e ∧ x ∈ es := by
  unfold delE; simp [List.mem_filter, and_comm]

theorem nodup_delE (e : List Cell) (es : Entries) (h : es.Nodup) : (delE e es).Nodup :=
  h.sublist List.filter_sublist

theorem get_rowsAfter (k : Key) (v : Option Row) (rows : Root) (k' : Key) :
    get (rowsAfter k v rows) k' = if k' = k then v else get rows k' := by
  cases v with
  | none => simp only [rowsAfter]; rw [get_del]
  | some r => simp only [rowsAfter]; rw [get_put]

theorem mem_idxAfter (d : IdxDef) (k : Key) (old new : Option Row) (es : Entries) (x : List Cell) :
    x ∈ idxAfter d k old new es ↔
      (∃ rn, new = some rn ∧ x = entry d k rn) ∨ (x ∈ es ∧ ∀ ro, old = some ro → x ≠ entry d k ro) := by
  unfold idxAfter
  cases old <;> cases new <;> simp [mem_addE, mem_delE, and_comm]

theorem nodup_idxAfter (d : IdxDef) (k : Key) (old new : Option Row) (es : Entries) (h : es.Nodup) :
    (idxAfter d k old new es).Nodup := by
  unfold idxAfter
  have h1 : (match old with | some ro => delE (entry d k ro) es | none => es).Nodup := by
    cases old with
    | none => exact h
    | some ro => exact nodup_delE _ _ h
  cases new with
  | none => exact h1
  | some rn => exact nodup_addE _ _ h1

end DoltVerif.TxnIdx
