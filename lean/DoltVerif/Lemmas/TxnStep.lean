import DoltVerif.Model.Txn
/-! The statement machine `step` (C22, C23): what its building blocks leave alone, and the elementary
moves every statement is composed of (`Moves.step`). -/
namespace DoltVerif.Txn

@[simp] theorem setSess_shared (w : World) (i : Nat) (s : Sess) : (setSess w i s).shared = w.shared := rfl
@[simp] theorem setSess_other_db (w : World) (i : Nat) (s : Sess) : (setSess w i s).other = w.other := rfl
@[simp] theorem setSess_commits (w : World) (i : Nat) (s : Sess) : (setSess w i s).commits = w.commits := rfl
@[simp] theorem setSess_same (w : World) (i : Nat) (s : Sess) : (setSess w i s).sess i = s := by simp [setSess]
theorem setSess_other (w : World) (i j : Nat) (s : Sess) (h : j ≠ i) : (setSess w i s).sess j = w.sess j := by
  simp [setSess, h]

@[simp] theorem startTx_shared (w : World) (i : Nat) (b : Bool) : (startTx w i b).shared = w.shared := rfl
@[simp] theorem startTx_commits (w : World) (i : Nat) (b : Bool) : (startTx w i b).commits = w.commits := rfl
@[simp] theorem endTx_shared (w : World) (i : Nat) (b : Bool) : (endTx w i b).shared = w.shared := rfl
@[simp] theorem endTx_commits (w : World) (i : Nat) (b : Bool) : (endTx w i b).commits = w.commits := rfl
@[simp] theorem endTx_active (w : World) (i : Nat) (b : Bool) : ((endTx w i b).sess i).active = false := by
  simp [endTx]
@[simp] theorem endTx_work (w : World) (i : Nat) (b : Bool) : ((endTx w i b).sess i).work = [] := by
  simp [endTx]

theorem ensureTx_of_active (w : World) (i : Nat) (h : (w.sess i).active = true) : ensureTx w i = w := by
  simp [ensureTx, h]
@[simp] theorem ensureTx_shared (w : World) (i : Nat) : (ensureTx w i).shared = w.shared := by
  unfold ensureTx; split <;> rfl
@[simp] theorem ensureTx_commits (w : World) (i : Nat) : (ensureTx w i).commits = w.commits := by
  unfold ensureTx; split <;> rfl
theorem ensureTx_active (w : World) (i : Nat) : ((ensureTx w i).sess i).active = true := by
  unfold ensureTx; split
  · assumption
  · simp [startTx]

theorem commitTx_cases (w : World) (i : Nat) (b : Bool) :
    ((w.sess i).active = false ∧ commitTx w i b = (endTx w i b, .ok)) ∨
    ((w.sess i).active = true ∧ ∃ ws, doCommit w.shared (w.sess i).snap (w.sess i).work (w.sess i).snap.staged false = some ws ∧
      commitTx w i b = (endTx { w with shared := ws, commits := w.commits ++ [((w.sess i).snap.working, (w.sess i).work)] } i b, .ok)) ∨
    ((w.sess i).active = true ∧ doCommit w.shared (w.sess i).snap (w.sess i).work (w.sess i).snap.staged false = none ∧
      commitTx w i b = (endTx w i b, .retry)) := by
  unfold commitTx
  cases ha : (w.sess i).active with
  | false => simp [ha]
  | true =>
    cases hd : doCommit w.shared (w.sess i).snap (w.sess i).work (w.sess i).snap.staged false with
    | none => simp [ha, hd]
    | some ws => simp [ha, hd]

/-- Every statement of session `i` is a sequence of elementary moves: the session starts or ends a
transaction, records a write, changes its autocommit flag, the other database takes a new root, and
at most once the branch takes an acknowledged commit.  A fact `T` about all statements (frame, an
invariant, the shape of the branch change) is proved by checking it on the moves: `L` holds across
every move that leaves the branch alone; `T` holds across no move and across one commit, and stays
true when moves that leave the branch alone come before or after. -/
structure Moves (i : Nat) (L T : World → World → Prop) : Prop where
  refl : ∀ w, L w w
  trans : ∀ {a b c}, L a b → L b c → L a c
  start : ∀ w b, L w (startTx w i b)
  stop : ∀ w b, L w (endTx w i b)
  write : ∀ w op t, applyOp op (w.sess i).work = (t, .ok) →
    L w (setSess w i { w.sess i with work := t, log := (w.sess i).log ++ [op] })
  auto : ∀ w b, L w (setSess w i { w.sess i with autocommit := b })
  otherDb : ∀ w o, L w { w with other := o }
  skip : ∀ w, T w w
  commit : ∀ w St dolt ws, doCommit w.shared (w.sess i).snap (w.sess i).work St dolt = some ws →
    T w { w with shared := ws, commits := w.commits ++ [((w.sess i).snap.working, (w.sess i).work)] }
  before : ∀ {a b c}, L a b → T b c → T a c
  after : ∀ {a b c}, T a b → L b c → T a c

namespace Moves
variable {i : Nat} {L T : World → World → Prop} (m : Moves i L T)
include m

theorem lift {w w' : World} (h : L w w') : T w w' := m.before h (m.skip w')

theorem ensureTx (w : World) : L w (ensureTx w i) := by
  unfold Txn.ensureTx; split
  · exact m.refl w
  · exact m.start w _

theorem commitTx (w : World) (b : Bool) : T w (commitTx w i b).1 := by
  rcases commitTx_cases w i b with ⟨_, e⟩ | ⟨_, ws, hd, e⟩ | ⟨_, _, e⟩ <;> rw [e]
  · exact m.lift (m.stop w b)
  · exact m.after (m.commit w _ _ ws hd) (m.stop _ b)
  · exact m.lift (m.stop w b)

theorem endStmt (w : World) : T w (endStmt w i).1 := by
  unfold Txn.endStmt; simp only; split
  · exact m.commitTx w true
  · exact m.skip w

theorem step (w : World) (st : Stmt) : T w (step w i st).1 := by
  have he := m.ensureTx w
  cases st with
  | begin =>
    simp only [Txn.step]
    have := m.commitTx w false
    split
    · exact m.after this (m.start _ true)
    · exact this
  | commit => exact m.commitTx w false
  | rollback => exact m.lift (m.stop w false)
  | read | readO | readHead => exact m.before he (m.endStmt _)
  | write op =>
    simp only [Txn.step]
    split
    · rename_i t heq
      exact m.before (m.trans he (m.write _ op t heq)) (m.endStmt _)
    · split
      · exact m.lift (m.trans he (m.stop _ true))
      · exact m.lift he
  | dcommit =>
    simp only [Txn.step]
    split
    · have := m.before he (m.commitTx _ true)
      split <;> (rename_i heq; rw [heq] at this)
      · exact this
      · exact m.after this (m.stop _ false)
    · split
      · rename_i ws hd
        exact m.before he (m.after (m.commit _ _ _ ws hd) (m.stop _ true))
      · exact m.lift (m.trans he (m.stop _ false))
  | writeO op =>
    simp only [Txn.step]
    split
    · split
      · split
        · exact m.before (m.trans he (m.otherDb _ _)) (m.commitTx _ true)
        · exact m.lift (m.trans he (m.stop _ true))
      · exact m.lift (m.trans he (m.stop _ true))
    · exact m.lift he
  | setAuto b =>
    simp only [Txn.step]
    split
    · exact m.after (m.commitTx w true) (m.auto _ true)
    · exact m.lift (m.trans he (m.auto _ false))

end Moves

theorem moves_other {i j : Nat} (h : j ≠ i) :
    Moves i (fun w w' => w'.sess j = w.sess j) (fun w w' => w'.sess j = w.sess j) where
  refl _ := rfl
  trans h1 h2 := h2.trans h1
  start w _ := setSess_other w i j _ h
  stop w _ := setSess_other w i j _ h
  write w _ _ _ := setSess_other w i j _ h
  auto w _ := setSess_other w i j _ h
  otherDb _ _ := rfl
  skip _ := rfl
  commit _ _ _ _ _ := rfl
  before h1 h2 := h2.trans h1
  after h1 h2 := h2.trans h1

theorem commitTx_other (w : World) (i j : Nat) (b : Bool) (h : j ≠ i) : (commitTx w i b).1.sess j = w.sess j :=
  (moves_other h).commitTx w b

theorem step_other (w : World) (i j : Nat) (st : Stmt) (h : j ≠ i) : (step w i st).1.sess j = w.sess j :=
  (moves_other h).step w st

theorem run_rel {R : World → World → Prop} (refl : ∀ w, R w w) (trans : ∀ {a b c}, R a b → R b c → R a c)
    (sched : List (Nat × Stmt)) (h : ∀ p ∈ sched, ∀ w, R w (step w p.1 p.2).1) (w : World) :
    R w (run w sched) := by
  induction sched generalizing w with
  | nil => exact refl w
  | cons p rest ih =>
    exact trans (h p List.mem_cons_self w) (ih (fun q hq => h q (List.mem_cons_of_mem _ hq)) _)

end DoltVerif.Txn
