import DoltVerif.Model.Undrop
/-! The dropped-database model (C47): what a successful call of each step of the manager did to the stored paths
(`…_ok`), and the two observations `contents` and `subtree` followed through those steps: a move carries the files under
its source to its destination and leaves alone what lies under a directory `Apart` from both. -/
namespace DoltVerif.Undrop

/-- the contents of all stored files, in stored order: what "no data destroyed" is measured by -/
def contents (fs : FS) : List Nat :=
  fs.filterMap (fun e => match e.2 with | .file c => some c | .dir => none)

/-- what `MoveDir` does to one stored path -/
def rename (src dst : Path) (e : Path × Entry) : Path × Entry :=
  if src.isPrefixOf e.1 then (dst ++ e.1.drop src.length, e.2) else e

theorem rename_snd (src dst : Path) (e : Path × Entry) : (rename src dst e).2 = e.2 := by
  unfold rename; split <;> rfl

theorem moveDir_ok {fs fs' : FS} {src dst : Path} (h : moveDir fs src dst = .ok fs') :
    fs' = fs.map (rename src dst) ∧ pathExists fs dst = false := by
  revert h
  fun_cases moveDir fs src dst <;> intro h <;> cases h
  next hd _ => exact ⟨rfl, Bool.not_eq_true _ ▸ hd⟩

theorem initHolding_ok {fs fs' : FS} (h : initHolding fs = .ok fs') :
    fs' = fs ∨ (pathExists fs [holding] = false ∧ fs' = fs ++ [([holding], .dir)]) := by
  revert h
  fun_cases initHolding fs <;> intro h <;> cases h
  · exact .inl rfl
  -- `mkDirs fs [holding]` is, by `rfl`, `if pathExists fs [holding] then fs else fs ++ [([holding], .dir)]`
  next hn => exact .inr ⟨Bool.not_eq_true _ ▸ hn, if_neg hn⟩

theorem prepareToMove_ok {fs fs' : FS} {t : Path} {ms : Nat} (h : prepareToMove fs t ms = .ok fs') :
    (pathExists fs t = false ∧ fs' = fs) ∨
    (pathExists fs t = true ∧ ∃ base, t.getLast? = some base ∧
      moveDir fs t (t.dropLast ++ [backupName base ms]) = .ok fs') := by
  revert h
  fun_cases prepareToMove fs t ms <;> intro h <;> cases h
  next hex => exact .inl ⟨by simpa using hex, rfl⟩
  next hex base hb _ _ hm => exact .inr ⟨by simpa using hex, base, hb, hm⟩

theorem managerDrop_nested {fs fs' : FS} {name d : Name} {ms : Nat}
    (h : managerDrop fs name [d] ms = .ok fs') :
    ∃ fsA fsB, initHolding fs = .ok fsA ∧ prepareToMove fsA [holding, d] ms = .ok fsB ∧
      moveDir fsB [d] [holding, d] = .ok fs' := by
  generalize hl : [d] = loc at h
  revert h
  fun_cases managerDrop fs name loc ms <;> intro h <;> try cases h
  next fs1 h1 base hb _ _ fs3 h3 =>
    subst hl
    cases hb
    exact ⟨fs1, fs3, h1, h3, h⟩

theorem contents_append_dir (fs : FS) (p : Path) : contents (fs ++ [(p, .dir)]) = contents fs := by
  simp [contents, List.filterMap_append]

theorem contents_mkDirs (fs : FS) (p : Path) : contents (mkDirs fs p) = contents fs := by
  unfold mkDirs
  generalize List.range p.length = l
  induction l generalizing fs with
  | nil => rfl
  | cons i is ih =>
    simp only [List.foldl_cons]
    split
    · exact ih fs
    · rw [ih, contents_append_dir]

theorem contents_moveDir {fs fs' : FS} {src dst : Path} (h : moveDir fs src dst = .ok fs') :
    contents fs' = contents fs := by
  rw [(moveDir_ok h).1, contents, List.filterMap_map]
  refine congrArg (fun f => List.filterMap f fs) (funext fun e => ?_)
  simp only [Function.comp, rename_snd]

theorem contents_initHolding {fs fs' : FS} (h : initHolding fs = .ok fs') : contents fs' = contents fs := by
  rcases initHolding_ok h with rfl | ⟨_, rfl⟩
  · rfl
  · exact contents_append_dir _ _

theorem contents_prepareToMove {fs fs' : FS} {t : Path} {ms : Nat} (h : prepareToMove fs t ms = .ok fs') :
    contents fs' = contents fs := by
  rcases prepareToMove_ok h with ⟨_, rfl⟩ | ⟨_, _, _, hm⟩
  · rfl
  · exact contents_moveDir hm

theorem contents_managerDrop {fs fs' : FS} {name : Name} {loc : Path} {ms : Nat}
    (h : managerDrop fs name loc ms = .ok fs') : contents fs' = contents fs := by
  revert h
  -- the one path through `managerDrop` that can end in `.ok`: its last call is `moveDir`
  fun_cases managerDrop fs name loc ms <;> intro h <;> try cases h
  next fs1 h1 _ _ fs2 _ fs3 h3 =>
    rw [contents_moveDir h, contents_prepareToMove h3]
    show contents (if _ then _ else _) = _
    split
    · rw [contents_mkDirs, contents_initHolding h1]
    · exact contents_initHolding h1

theorem not_exists_no_prefix {fs : FS} {p : Path} (h : pathExists fs p = false) :
    ∀ e ∈ fs, p.isPrefixOf e.1 = false := by
  unfold pathExists at h
  rw [Bool.or_eq_false_iff, List.any_eq_false] at h
  exact fun e he => Bool.eq_false_iff.mpr (h.2 e he)

/-- the files under `p` after every stored path went through `f`, when `f` carries what lay
strictly under `p'` to the same place under `p` and nothing else there -/
theorem subtree_map {f : Path × Entry → Path × Entry} {fs : FS} {p p' : Path}
    (h : ∀ e ∈ fs, (p.isPrefixOf (f e).1 && (f e).1 != p) = (p'.isPrefixOf e.1 && e.1 != p') ∧
      ((p'.isPrefixOf e.1 && e.1 != p') = true →
        ((f e).1.drop p.length, (f e).2) = (e.1.drop p'.length, e.2))) :
    subtree (fs.map f) p = subtree fs p' := by
  unfold subtree
  rw [List.filter_map, List.map_map]
  simp only [Function.comp_def]
  rw [List.filter_congr fun e he => (h e he).1]
  exact List.map_congr_left fun e he =>
    (h e (List.mem_filter.mp he).1).2 (List.mem_filter.mp he).2

theorem rename_under {src dst r : Path} {en : Entry} :
    rename src dst (src ++ r, en) = (dst ++ r, en) := by
  simp [rename]

theorem rename_outside {src dst : Path} {e : Path × Entry} (h : src.isPrefixOf e.1 = false) :
    rename src dst e = e := by
  simp [rename, h]

theorem subtree_moveDir {fs fs' : FS} {src dst : Path} (h : moveDir fs src dst = .ok fs') :
    subtree fs' dst = subtree fs src := by
  obtain ⟨rfl, hno⟩ := moveDir_ok h
  refine subtree_map fun e he => ?_
  have hd := not_exists_no_prefix hno e he
  rcases Bool.eq_false_or_eq_true (src.isPrefixOf e.1) with hs | hs
  · obtain ⟨r, hr⟩ := List.isPrefixOf_iff_prefix.mp hs
    obtain ⟨q, en⟩ := e
    subst hr
    rw [rename_under]
    -- `src ++ r` lies strictly under `src`, and `dst ++ r` under `dst`, iff `r` is not empty
    have under : ∀ p : Path, (p.isPrefixOf (p ++ r) && p ++ r != p) = (r != []) := fun p => by
      rw [List.isPrefixOf_iff_prefix.mpr (List.prefix_append ..), Bool.eq_iff_iff]; simp
    simp only [under, List.drop_left, implies_true, and_self]
  · rw [rename_outside hs, hd, hs]; simp

/-- two directories neither of which lies inside the other -/
def Apart (p q : Path) : Prop := ¬ p <+: q ∧ ¬ q <+: p

theorem Apart.of_head_ne {a b : Name} (h : a ≠ b) (p q : Path) : Apart (a :: p) (b :: q) :=
  ⟨fun hp => h (List.cons_prefix_cons.mp hp).1, fun hq => h (List.cons_prefix_cons.mp hq).1.symm⟩

theorem Apart.cons (a : Name) {p q : Path} (h : Apart p q) : Apart (a :: p) (a :: q) :=
  ⟨fun hp => h.1 (List.cons_prefix_cons.mp hp).2, fun hq => h.2 (List.cons_prefix_cons.mp hq).2⟩

theorem Apart.not_both {p q x : Path} (h : Apart p q) (hq : q.isPrefixOf x = true) :
    p.isPrefixOf x = false :=
  Bool.eq_false_iff.mpr fun hp =>
    (List.prefix_or_prefix_of_prefix (List.isPrefixOf_iff_prefix.mp hp)
      (List.isPrefixOf_iff_prefix.mp hq)).elim h.1 h.2

theorem Apart.not_under {p q : Path} (h : Apart p q) (r : Path) : p.isPrefixOf (q ++ r) = false :=
  h.not_both (List.isPrefixOf_iff_prefix.mpr (List.prefix_append q r))

theorem subtree_moveDir_other {fs fs' : FS} {src dst p : Path} (h : moveDir fs src dst = .ok fs')
    (hs : Apart p src) (hd : Apart p dst) : subtree fs' p = subtree fs p := by
  rw [(moveDir_ok h).1]
  refine subtree_map fun e _ => ?_
  cases hsrc : src.isPrefixOf e.1 with
  | false => rw [rename_outside hsrc]; exact ⟨rfl, fun _ => rfl⟩
  | true => rw [rename, if_pos hsrc, hd.not_under, hs.not_both hsrc]; simp

theorem subtree_append_other {fs : FS} {extra : FS} {p : Path}
    (h : ∀ e ∈ extra, p.isPrefixOf e.1 = false) : subtree (fs ++ extra) p = subtree fs p := by
  unfold subtree
  rw [List.filter_append, List.map_append,
    List.filter_eq_nil_iff (l := extra) |>.mpr fun e he => by simp [h e he],
    List.map_nil, List.append_nil]

theorem subtree_initHolding {fs fs' : FS} {p : Path} (h : initHolding fs = .ok fs')
    (hp : p.isPrefixOf [holding] = false) : subtree fs' p = subtree fs p := by
  rcases initHolding_ok h with rfl | ⟨_, rfl⟩
  · rfl
  · exact subtree_append_other fun e he => by rw [List.mem_singleton.mp he]; exact hp

theorem subtree_prepareToMove {fs fs' : FS} {t p : Path} {ms : Nat} (h : prepareToMove fs t ms = .ok fs')
    (hs : Apart p t) (hd : ∀ b : Name, Apart p (t.dropLast ++ [b])) :
    subtree fs' p = subtree fs p := by
  rcases prepareToMove_ok h with ⟨_, rfl⟩ | ⟨_, _, _, hm⟩
  · rfl
  · exact subtree_moveDir_other hm hs (hd _)

theorem pathExists_parent {fs : FS} {a b : Name} (h : pathExists fs [a, b] = true) : pathExists fs [a] = true := by
  unfold pathExists at h ⊢
  simp only [Bool.or_eq_true, List.any_eq_true, List.isPrefixOf_iff_prefix] at h ⊢
  rcases h with h | ⟨e, he, hp⟩
  · cases h
  · exact .inr ⟨e, he, (List.prefix_append [a] [b]).trans hp⟩

theorem backupName_ne (d : Name) (ms : Nat) : backupName d ms ≠ d := by
  intro h
  have := congrArg List.length h
  simp only [backupName, backupInfix, List.length_append, List.length_cons, List.length_nil, List.length_map] at this
  omega

/-- whatever else was in the holding directory: an earlier dropped copy of the same name is renamed first -/
theorem subtree_managerDrop {fs fs1 : FS} {name d : Name} {ms : Nat} (hd : d ≠ holding)
    (hdrop : managerDrop fs name [d] ms = .ok fs1) : subtree fs1 [holding, d] = subtree fs [d] := by
  obtain ⟨fsA, fsB, hA, hB, hmv⟩ := managerDrop_nested hdrop
  rw [subtree_moveDir hmv,
    subtree_prepareToMove hB (.of_head_ne hd _ _) (fun _ => .of_head_ne hd _ _),
    subtree_initHolding hA (by simp [List.isPrefixOf, hd])]

theorem mem_insertSorted {s x : Name} {l : List Name} : x ∈ insertSorted s l ↔ x = s ∨ x ∈ l := by
  induction l with
  | nil => simp [insertSorted]
  | cons y ys ih =>
    unfold insertSorted
    split
    · exact List.mem_cons
    · split
      · rename_i he; rw [he, List.mem_cons, or_self_left]
      · rw [List.mem_cons, ih, List.mem_cons]; exact or_left_comm

theorem mem_children {fs : FS} {d : Path} {n : Name} {r : Path} {en : Entry}
    (h : (d ++ n :: r, en) ∈ fs) : n ∈ children fs d := by
  unfold children
  suffices key : ∀ (l : FS) (acc : List Name), n ∈ acc ∨ (d ++ n :: r, en) ∈ l →
      n ∈ l.foldl (fun acc e => if d.isPrefixOf e.1 then
        match (e.1.drop d.length).head? with
        | some n => insertSorted n acc
        | none => acc else acc) acc from key fs [] (.inr h)
  intro l
  induction l with
  | nil => exact fun acc h => h.resolve_right List.not_mem_nil
  | cons e rest ih =>
    intro acc h
    rw [List.foldl_cons]
    refine ih _ ?_
    rcases h with h | h
    · left; split
      · split
        · exact mem_insertSorted.2 (.inr h)
        · exact h
      · exact h
    · rcases List.mem_cons.mp h with rfl | h
      · left
        rw [if_pos (List.isPrefixOf_iff_prefix.mpr (List.prefix_append ..)), List.drop_left]
        exact mem_insertSorted.2 (.inl rfl)
      · exact .inr h

theorem mem_purge_fold (e : Path × Entry) : ∀ (ns : List Name) (fs : FS),
    e ∈ ns.foldl (fun acc n => deleteAll acc [holding, n]) fs ↔
      e ∈ fs ∧ ∀ n ∈ ns, [holding, n].isPrefixOf e.1 = false
  | [], fs => by simp
  | n :: ns, fs => by
    rw [List.foldl_cons, mem_purge_fold e ns, deleteAll, List.mem_filter, List.forall_mem_cons,
      Bool.not_eq_true', and_assoc]

theorem find_exact {cands : List Name} {n : Name} (h : n ∈ cands) : cands.find? (fun s => s == n) = some n := by
  cases hf : cands.find? (fun s => s == n) with
  | none => exact absurd (List.find?_eq_none.mp hf n h) (by simp)
  | some x => have := List.find?_some hf; rw [show x = n from eq_of_beq this]

theorem find_exact_none {cands : List Name} {n : Name} (h : n ∉ cands) : cands.find? (fun s => s == n) = none :=
  List.find?_eq_none.mpr fun _ hx hxn => h (eq_of_beq hxn ▸ hx)

theorem eqFold_refl (n : Name) : eqFold n n = true := by simp [eqFold]

theorem validateUndrop_ok {fs fs1 : FS} {n ex : Name} {src dst : Path}
    (h : validateUndrop fs n = .ok (fs1, src, dst, ex)) :
    initHolding fs = .ok fs1 ∧ firstFoldMatch (children fs1 [holding]) n = some ex ∧
      ¬ (children fs1 []).any (fun x => eqFold x ex) = true ∧ src = [holding, ex] ∧ dst = [ex] := by
  revert h
  fun_cases validateUndrop fs n <;> intro h <;> cases h
  exact ⟨‹_›, ‹_›, ‹_›, rfl, rfl⟩

theorem undropDb_ok {st : St} {n : Name} (h : (undropDb st n).2 = .ok ()) :
    ∃ fs1 ex fs2, initHolding st.fs = .ok fs1 ∧
      firstFoldMatch (children fs1 [holding]) n = some ex ∧
      moveDir fs1 [holding, ex] [ex] = .ok fs2 ∧
      (undropDb st n).1 = { fs := fs2, live := st.live ++ [(ex, [ex])] } := by
  revert h
  fun_cases undropDb st n <;> intro h <;> cases h
  next fs1 src dst ex hv fs2 hmv _ =>
    obtain ⟨hA, hm, -, rfl, rfl⟩ := validateUndrop_ok hv
    exact ⟨fs1, ex, fs2, hA, hm, hmv, rfl⟩

end DoltVerif.Undrop
