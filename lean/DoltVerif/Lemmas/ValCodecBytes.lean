import DoltVerif.Model.ValCodec
/-! `bytes.Compare` is core's `compare` on byte lists, the lexicographic order; what appending does to it;
string / raw codecs (C15, C16). -/
namespace DoltVerif.ValCodec
open Std

theorem list_compare_eq_lt {α : Type} [Ord α] [LT α] [LE α] [LawfulOrderOrd α] [LawfulOrderLT α]
    [LawfulEqOrd α] {a b : List α} : compare a b = .lt ↔ a < b := by
  induction a generalizing b with
  | nil => cases b <;> simp
  | cons x xs ih =>
    cases b with
    | nil => simp
    | cons y ys =>
      rw [List.compare_cons_cons, Ordering.then_eq_lt, List.cons_lt_cons_iff, compare_eq_lt,
        compare_eq_iff_eq, ih]

theorem bytesCompare_eq_compare : bytesCompare = compare := by
  funext a b
  fun_induction bytesCompare a b with
  | case1 | case2 | case3 => rfl  -- one side is empty
  | case4 x xs y ys h => rw [List.compare_cons_cons, compare_eq_lt.2 h]; rfl
  | case5 x xs y ys _ h => rw [List.compare_cons_cons, compare_eq_gt.2 h]; rfl
  | case6 x xs y ys h1 h2 ih =>  -- equal heads
    rw [List.compare_cons_cons, UInt8.le_antisymm (UInt8.not_lt.1 h2) (UInt8.not_lt.1 h1), compare_self, ih]; rfl

instance : TransCmp bytesCompare := bytesCompare_eq_compare ▸ inferInstanceAs (TransOrd Bytes)

theorem bytesCompare_refl (a : Bytes) : bytesCompare a a = .eq := ReflCmp.compare_self

theorem bytesCompare_swap (a b : Bytes) : bytesCompare b a = (bytesCompare a b).swap :=
  OrientedCmp.eq_swap

theorem bytesCompare_eq_iff {a b : Bytes} : bytesCompare a b = .eq ↔ a = b :=
  bytesCompare_eq_compare ▸ compare_eq_iff_eq

theorem bytesCompare_lt_iff {a b : Bytes} : bytesCompare a b = .lt ↔ a < b :=
  bytesCompare_eq_compare ▸ list_compare_eq_lt

theorem bytesCompare_gt_iff {a b : Bytes} : bytesCompare a b = .gt ↔ b < a :=
  OrientedCmp.gt_iff_lt.trans bytesCompare_lt_iff

theorem bytesCompare_prefix (p a b : Bytes) : bytesCompare (p ++ a) (p ++ b) = bytesCompare a b := by
  induction p with
  | nil => rfl
  | cons x xs ih =>
    rw [List.cons_append, List.cons_append, bytesCompare, if_neg (UInt8.lt_irrefl x), if_neg (UInt8.lt_irrefl x), ih]

theorem bytesCompare_append : ∀ (l r a b : Bytes), l ≠ r → (l.length < r.length → a = []) →
    (r.length < l.length → b = []) → bytesCompare (l ++ a) (r ++ b) = bytesCompare l r
  | [], [], _, _, hne, _, _ => absurd rfl hne
  | [], _ :: _, _, _, _, ha, _ => by rw [ha (Nat.succ_pos _)]; rfl
  | _ :: _, [], _, _, _, _, hb => by rw [hb (Nat.succ_pos _)]; rfl
  | x :: xs, y :: ys, a, b, hne, ha, hb => by
    simp only [List.cons_append, bytesCompare]
    refine ite_congr rfl (fun _ => rfl) fun h1 => ite_congr rfl (fun _ => rfl) fun h2 => ?_
    obtain rfl : x = y := UInt8.le_antisymm (UInt8.not_lt.1 h2) (UInt8.not_lt.1 h1)
    exact bytesCompare_append xs ys a b (fun e => hne (by rw [e])) (fun h => ha (Nat.succ_lt_succ h))
      (fun h => hb (Nat.succ_lt_succ h))

theorem readByteString_write (v : Bytes) : readByteString (writeByteString v) = .ok v := by
  simp [readByteString, writeByteString]

theorem writeByteString_ne_nil (v : Bytes) : writeByteString v ≠ [] := by simp [writeByteString]

theorem readRaw_ok {n : Nat} {b : Bytes} (h : b.length = n) : readRaw n b = .ok b := by
  simp [readRaw, expectSize, h, bind, Except.bind, pure, Except.pure]

end DoltVerif.ValCodec
