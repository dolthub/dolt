import DoltVerif.Lemmas.ValCodecLayout
/-! `compareTuples` on built tuples = field-wise comparison of the field lists (C15). -/
namespace DoltVerif.ValCodec

/-- field `j` of a row as it reads back (missing = NULL) -/
def fieldAt (xs : List Field) (j : Nat) : Field := normField ((xs[j]?).join)

/-- specification: compare field by field (NULL first inside `compareField`), first difference wins -/
def specTupleCompare : List TType → Nat → List Field → List Field → Except Err Ordering
  | [], _, _, _ => .ok .eq
  | t :: ts, j, xs, ys =>
    match compareField t.enc (fieldAt xs j) (fieldAt ys j) with
    | .ok .eq => specTupleCompare ts (j + 1) xs ys
    | other => other

/-- precondition of the fixed-access loop: the leading NOT NULL fixed-width columns hold values of
exactly their width (what `TupleBuilder.Build` guarantees of rows put by typed `Put*`s: `C15.fastOk_of_build`) -/
def FastOk : List TType → List Field → Prop
  | [], _ => True
  | t :: ts, xs =>
    if t.nullable then True
    else match t.enc.fixedSize with
      | none => True
      | some sz => ∃ b rest, xs = some b :: rest ∧ b.length = sz ∧ FastOk ts rest

theorem fixedSize_pos {e : Enc} {sz : Nat} (h : e.fixedSize = some sz) : 0 < sz := by
  cases e <;> cases h <;> decide

theorem compareRest_spec (xs ys : List Field) (s t : Bytes)
    (hs : ∀ i, getField s i = .ok (fieldAt xs i)) (ht : ∀ i, getField t i = .ok (fieldAt ys i))
    (ts : List TType) (j : Nat) : compareRest ts j s t = specTupleCompare ts j xs ys := by
  induction ts generalizing j with
  | nil => rfl
  | cons t ts ih =>
    unfold compareRest specTupleCompare
    rw [hs j, ht j]
    simp only []
    cases compareField t.enc (fieldAt xs j) (fieldAt ys j) with
    | error e => rfl
    | ok o => cases o <;> simp [ih]

theorem getField_built (xs : List Field) (hx : BuildOk (trimNullSuffix xs)) (i : Nat) :
    getField (layout (trimNullSuffix xs)) i = .ok (fieldAt xs i) := by
  rw [getField_layout _ hx i, trim_getElem?]; rfl

theorem fastOk_step (xs : List Field) (hx : BuildOk (trimNullSuffix xs)) {t : TType} {ts : List TType}
    {j off sz : Nat} (hn : ¬ t.nullable = true) (hsz : t.enc.fixedSize = some sz)
    (fx : FastOk (t :: ts) (xs.drop j)) (px : prefixLen (trimNullSuffix xs) j = off) :
    ∃ b, sliceOf (layout (trimNullSuffix xs)) off (off + sz) = .ok b ∧
      getField (layout (trimNullSuffix xs)) j = .ok (some b) ∧
      FastOk ts (xs.drop (j + 1)) ∧ prefixLen (trimNullSuffix xs) (j + 1) = off + sz := by
  simp only [FastOk, hn, hsz] at fx
  obtain ⟨b, rest, ex, rfl, fx'⟩ := fx
  have gx : xs[j]? = some (some b) := by rw [← List.head?_drop, ex]; rfl
  obtain ⟨hlt, hget⟩ := List.getElem?_eq_some_iff.1 (trim_getElem?_some gx)
  have hsucc := prefixLen_succ _ j hlt
  have hs := sliceOf_field _ j hlt
  rw [hget, px] at hsucc hs
  refine ⟨b, hsucc ▸ hs, ?_, ?_, hsucc⟩
  · -- the field is not empty (`fixedSize_pos`), so it does not read as NULL
    rw [getField_built xs hx j, fieldAt, gx]
    exact congrArg Except.ok (normField_of_pos (Nat.ne_of_gt (fixedSize_pos hsz)))
  · rw [← List.tail_drop, ex]; exact fx'

theorem compareRest_split (l r : Bytes) (k : Nat) : ∀ (ts : List TType) (j : Nat),
    compareRest ts j l r = (match compareRest (ts.take k) j l r with
      | .ok .eq => compareRest (ts.drop k) (j + k) l r
      | other => other) := by
  induction k with
  | zero => intro ts j; rfl
  | succ k ih =>
    intro ts j
    cases ts with
    | nil => rfl
    | cons t ts =>
      rw [List.take_succ_cons, List.drop_succ_cons, compareRest, compareRest]
      cases getField l j with
      | error e => rfl
      | ok lf =>
        cases getField r j with
        | error e => rfl
        | ok rf =>
          simp only []
          cases compareField t.enc lf rf with
          | error e => rfl
          | ok o => cases o <;> simp only [ih ts (j + 1), Nat.add_comm k 1, Nat.add_assoc]

theorem compareFast_eq_rest (xs ys : List Field)
    (hx : BuildOk (trimNullSuffix xs)) (hy : BuildOk (trimNullSuffix ys)) :
    ∀ (ts : List TType) (j off : Nat), FastOk ts (xs.drop j) → FastOk ts (ys.drop j) →
      prefixLen (trimNullSuffix xs) j = off → prefixLen (trimNullSuffix ys) j = off →
      compareFast ts (fixedAccessAux off ts) off (layout (trimNullSuffix xs)) (layout (trimNullSuffix ys))
        = compareRest (ts.take (fixedAccessAux off ts).length) j
            (layout (trimNullSuffix xs)) (layout (trimNullSuffix ys)) := by
  intro ts j off fx fy px py
  fun_induction fixedAccessAux off ts generalizing j with
  | case1 | case2 | case3 => rfl  -- the fixed prefix ends: no column left, a nullable one, variable width
  | case4 off t ts hn sz hsz ih =>  -- NOT NULL of width `sz`
    obtain ⟨bx, sx, gx, fx', nx⟩ := fastOk_step xs hx hn hsz fx px
    obtain ⟨by', sy, gy, fy', ny⟩ := fastOk_step ys hy hn hsz fy py
    rw [List.length_cons, List.take_succ_cons, compareFast, compareRest, sx, sy, gx, gy,
      ih (j + 1) fx' fy' nx ny]

/-- **fixed access is an optimisation**: on built tuples of rows that satisfy `FastOk`,
`DefaultTupleComparator.Compare` computes what the plain `GetField` loop over all columns computes -/
theorem compareTuples_eq_rest (ts : List TType) (xs ys : List Field)
    (hx : BuildOk (trimNullSuffix xs)) (hy : BuildOk (trimNullSuffix ys))
    (fx : FastOk ts xs) (fy : FastOk ts ys) :
    compareTuples ts (layout (trimNullSuffix xs)) (layout (trimNullSuffix ys))
      = compareRest ts 0 (layout (trimNullSuffix xs)) (layout (trimNullSuffix ys)) := by
  rw [compareTuples, makeFixedAccess, compareFast_eq_rest xs ys hx hy ts 0 0 fx fy rfl rfl,
    compareRest_split _ _ (fixedAccessAux 0 ts).length ts 0, Nat.zero_add]
  rfl

end DoltVerif.ValCodec
