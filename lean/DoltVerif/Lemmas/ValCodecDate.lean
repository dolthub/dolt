import DoltVerif.Model.ValCodec
/-! Dates: packed y/m/d round trip; `time.Date` day numbers are strictly monotone in (y,m,d) (C15). -/
namespace DoltVerif.ValCodec

/-- the month field: mask `0xff00`, shift down by 8 -/
theorem and_ff00 (t : Nat) : (t &&& 255 <<< 8) >>> 8 = t / 256 % 256 := by
  rw [Nat.shiftRight_and_distrib, show (255 <<< 8) >>> 8 = 2 ^ 8 - 1 by decide, Nat.and_two_pow_sub_one_eq_mod,
    Nat.shiftRight_eq_div_pow]

theorem dateParts_eq (t : UInt32) :
    dateParts t = (t.toNat / 65536, t.toNat / 256 % 256, t.toNat % 256) := by
  unfold dateParts yearShift monthShift monthMask dayMask
  rw [and_ff00, Nat.shiftRight_eq_div_pow]
  exact congrArg (fun x => (_, _, x)) (Nat.and_two_pow_sub_one_eq_mod _ 8)

theorem dateParts_pack (y m d : Nat) (hy : y < 65536) (hm : m < 256) (hd : d < 256) :
    dateParts (UInt32.ofNat (y <<< yearShift) + UInt32.ofNat (m <<< monthShift) + UInt32.ofNat d) = (y, m, d) := by
  have ht : (UInt32.ofNat (y <<< yearShift) + UInt32.ofNat (m <<< monthShift) + UInt32.ofNat d).toNat
      = y * 65536 + m * 256 + d := by
    rw [← UInt32.ofNat_add, ← UInt32.ofNat_add, UInt32.toNat_ofNat', yearShift, monthShift,
      Nat.shiftLeft_eq, Nat.shiftLeft_eq]
    exact Nat.mod_eq_of_lt (by omega)
  rw [dateParts_eq, ht]
  refine Prod.ext ?_ (Prod.ext ?_ ?_) <;> simp only [] <;> omega

/-- days in month `m` (1-based) -/
def dim (leap : Bool) : Nat → Nat
  | 1 => 31 | 2 => if leap then 29 else 28 | 3 => 31 | 4 => 30 | 5 => 31 | 6 => 30
  | 7 => 31 | 8 => 31 | 9 => 30 | 10 => 31 | 11 => 30 | 12 => 31 | _ => 0

def ValidYMD (y m d : Nat) : Prop := 1 ≤ m ∧ m ≤ 12 ∧ 1 ≤ d ∧ d ≤ dim (isLeap y) m

theorem ValidYMD.lt_256 {y m d : Nat} (v : ValidYMD y m d) : m < 256 ∧ d < 256 := by
  obtain ⟨_, h2, _, h4⟩ := v
  have : dim (isLeap y) m ≤ 31 := by unfold dim; split <;> (try split) <;> omega
  omega

theorem dateDays_pack {y m d : Nat} (hy : y < 65536) (v : ValidYMD y m d) :
    dateDays (UInt32.ofNat (y <<< yearShift) + UInt32.ofNat (m <<< monthShift) + UInt32.ofNat d)
      = civilDays y m d := by
  rw [dateDays, dateParts_pack y m d hy v.lt_256.1 v.lt_256.2]

/-- offset of the first day of month `m` (1-based) inside its year -/
def startOf (leap : Bool) (m : Nat) : Int :=
  daysBeforeMonth ((m : Int) - 1) + (if leap && decide (((m : Int) - 1) ≥ 2) then 1 else 0)

theorem civilDays_valid (y m d : Nat) (h1 : 1 ≤ m) (h2 : m ≤ 12) :
    civilDays y m d = daysBeforeYear y + startOf (isLeap y) m + ((d : Int) - 1) := by
  unfold civilDays startOf
  have a : ((m : Int) - 1) / 12 = 0 := by omega
  have b : ((m : Int) - 1) % 12 = (m : Int) - 1 := by omega
  simp only [a, b, Int.add_zero]
  omega

theorem month_table : ∀ leap : Bool, ∀ m m' : Fin 13, 1 ≤ m.val → m.val < m'.val →
    startOf leap m.val + (dim leap m.val : Int) ≤ startOf leap m'.val := by decide +kernel

theorem month_within_year : ∀ leap : Bool, ∀ m : Fin 13, 1 ≤ m.val →
    0 ≤ startOf leap m.val ∧ startOf leap m.val + (dim leap m.val : Int) ≤ 365 + (if leap then 1 else 0) := by decide +kernel

theorem isLeap_count (y : Int) : (if isLeap y then 1 else 0 : Int) =
    (if y % 4 = 0 then 1 else 0) - (if y % 100 = 0 then 1 else 0) + (if y % 400 = 0 then 1 else 0) := by
  unfold isLeap
  by_cases h4 : y % 4 = 0 <;> by_cases h100 : y % 100 = 0 <;> by_cases h400 : y % 400 = 0 <;>
    simp [h4, h100, h400] <;> omega

theorem daysBeforeYear_succ (y : Int) :
    daysBeforeYear (y + 1) = daysBeforeYear y + 365 + (if isLeap y then 1 else 0) := by
  -- each of the three quotients steps by one exactly at a multiple
  have h4 : y / 4 = (y - 1) / 4 + if y % 4 = 0 then 1 else 0 := by split <;> omega
  have h100 : y / 100 = (y - 1) / 100 + if y % 100 = 0 then 1 else 0 := by split <;> omega
  have h400 : y / 400 = (y - 1) / 400 + if y % 400 = 0 then 1 else 0 := by split <;> omega
  rw [isLeap_count, daysBeforeYear, daysBeforeYear, Int.add_sub_cancel, h4, h100, h400]
  omega

theorem daysBeforeYear_le (y : Int) (k : Nat) : daysBeforeYear y ≤ daysBeforeYear (y + k) := by
  induction k with
  | zero => simp
  | succ k ih =>
    have := daysBeforeYear_succ (y + k)
    rw [show y + ((k + 1 : Nat) : Int) = y + k + 1 by omega, this]
    split <;> omega

theorem civilDays_lt {y m d y' m' d' : Nat} (v : ValidYMD y m d) (v' : ValidYMD y' m' d')
    (h : y < y' ∨ (y = y' ∧ (m < m' ∨ (m = m' ∧ d < d')))) : civilDays y m d < civilDays y' m' d' := by
  obtain ⟨a1, a2, a3, a4⟩ := v
  obtain ⟨b1, b2, b3, b4⟩ := v'
  rw [civilDays_valid y m d a1 a2, civilDays_valid y' m' d' b1 b2]
  rcases h with h | ⟨rfl, h | ⟨rfl, h⟩⟩
  · -- earlier year: the date lies before the next 1 January, which is not after 1 January of y'
    have t1 := (month_within_year (isLeap y) ⟨m, by omega⟩ a1).2
    have t2 := (month_within_year (isLeap y') ⟨m', by omega⟩ b1).1
    have s := daysBeforeYear_succ y
    have mo := daysBeforeYear_le ((y : Int) + 1) (y' - y - 1)
    rw [show (y : Int) + 1 + ((y' - y - 1 : Nat) : Int) = y' by omega] at mo
    simp only [] at t1 t2
    omega
  · have := month_table (isLeap y) ⟨m, by omega⟩ ⟨m', by omega⟩ a1 h
    simp only [] at this
    omega
  · omega

theorem civilDays_ge {y m d : Nat} (v : ValidYMD y m d) : -366 ≤ civilDays y m d := by
  obtain ⟨a1, a2, a3, a4⟩ := v
  rw [civilDays_valid y m d a1 a2]
  have t := (month_within_year (isLeap y) ⟨m, by omega⟩ a1).1
  have mo := daysBeforeYear_le 0 y
  rw [show daysBeforeYear 0 = -366 by decide, Int.zero_add] at mo
  simp only [] at t
  omega

end DoltVerif.ValCodec
