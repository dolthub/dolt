import DoltVerif.Lemmas.ValCodecInt
/-! Decimal codec: big-endian magnitude, word padding, round trip; `apd.Decimal.Cmp` (transliterated as `Dec.cmp`) is the
order of the exact values (C15). -/
namespace DoltVerif.ValCodec

theorem coeff_fits (c : Nat) : c < 256 ^ (wordsOf c * 8) := by
  unfold wordsOf
  by_cases h : c = 0
  · subst h; simp
  · simp only [h, if_false, Nat.mul_one]
    have h1 : c < 2 ^ (Nat.log2 c + 1) := Nat.lt_log2_self
    have h2 : (256 : Nat) ^ ((Nat.log2 c + 64) / 64 * 8) = 2 ^ (8 * ((Nat.log2 c + 64) / 64 * 8)) := by
      rw [show (256 : Nat) = 2 ^ 8 by decide, ← Nat.pow_mul]
    rw [h2]
    exact Nat.lt_of_lt_of_le h1 (Nat.pow_le_pow_right (by decide) (by omega))

theorem writeDecimal_finite_length (d : Dec) (h : d.form = .finite) :
    (writeDecimal d).length = 5 + wordsOf d.coeff * 8 := by
  unfold writeDecimal
  simp [h, writeI32, writeU32, writeI8, writeU8, leBytes_length, beBytes_length]
  omega

theorem sign_byte (d : Dec) (hf : d.form = .finite) (hz : d.neg = true → d.coeff ≠ 0) :
    decide ((Int8.ofInt d.sign) < 0) = d.neg := by
  unfold Dec.sign
  by_cases hc : d.coeff = 0
  · have : d.neg = false := by
      cases hn : d.neg with
      | false => rfl
      | true => exact absurd hc (hz hn)
    simp [hf, hc, this]
  · cases hn : d.neg <;> simp [hf, hc] <;> decide

theorem readDecimal_writeDecimal (d : Dec) (hf : d.form = .finite) (hz : d.neg = true → d.coeff ≠ 0) :
    readDecimal (writeDecimal d) = .ok d := by
  have hl := writeDecimal_finite_length d hf
  have hw : writeDecimal d = writeI32 d.exp ++ (writeI8 (Int8.ofInt d.sign) ++ beBytes (wordsOf d.coeff * 8) d.coeff) := by
    unfold writeDecimal; simp [hf]
  have l4 : (writeI32 d.exp).length = 4 := leBytes_length 4 _
  have l1 : (writeI8 (Int8.ofInt d.sign)).length = 1 := leBytes_length 1 _
  rw [readDecimal, if_neg (by omega), if_neg (by omega), ← List.drop_drop (i := 1) (j := 4), hw,
    List.take_left' l4, List.drop_left' l4, List.take_left' l1, List.drop_left' l1,
    readI32_writeI32, readI8_writeI8]
  simp only [bind, Except.bind, pure, Except.pure]
  rw [beNat_beBytes, Nat.mod_eq_of_lt (coeff_fits d.coeff), sign_byte d hf hz]
  cases d; simp_all

theorem numDigitsAux_spec : ∀ (fuel c : Nat), 0 < c → c ≤ fuel →
    ∃ k, numDigitsAux fuel c = k + 1 ∧ 10 ^ k ≤ c ∧ c < 10 ^ (k + 1) := by
  intro fuel c h0 hle
  fun_induction numDigitsAux fuel c with
  | case1 => omega  -- no fuel: excluded by `c ≤ fuel`
  | case2 fuel c h10 => exact ⟨0, rfl, h0, h10⟩  -- one digit
  | case3 fuel c h10 ih =>  -- strip the last digit
    obtain ⟨k, e, i2, i3⟩ := ih (by omega) (by omega)
    refine ⟨k + 1, by omega, ?_, ?_⟩ <;> rw [Nat.pow_succ] <;> omega

theorem numDigits_spec (c : Nat) (h : 0 < c) : ∃ k, numDigits c = k + 1 ∧ 10 ^ k ≤ c ∧ c < 10 ^ (k + 1) :=
  numDigitsAux_spec c c h (Nat.le_refl c)

theorem specCmpInt_negate (a b : Int) : specCmpInt (-a) (-b) = Ordering.neg (specCmpInt a b) := by
  rcases Int.lt_trichotomy a b with h | h | h
  · rw [specCmpInt_lt_iff.2 h, specCmpInt_gt_iff.2 (by omega)]; rfl
  · subst h; simp [specCmpInt_refl, Ordering.neg]
  · rw [specCmpInt_gt_iff.2 h, specCmpInt_lt_iff.2 (by omega)]; rfl

theorem pow10_pos (k : Nat) : 0 < 10 ^ k := Nat.pow_pos (by decide)

/-- comparison of the magnitudes of two positive coefficients, as `Cmp` does it -/
def magCmp (ca : Nat) (ea : Int) (cb : Nat) (eb : Int) : Ordering :=
  if ea = eb then cmp3 ca cb
  else
    let dn : Int := (numDigits ca : Int) + ea
    let xn : Int := (numDigits cb : Int) + eb
    if dn < xn then .lt else if dn > xn then .gt
    else if ea < eb then cmp3 ca (cb * 10 ^ (eb - ea).toNat) else cmp3 (ca * 10 ^ (ea - eb).toNat) cb

/-- the magnitude `c·10^e` as a multiple of `10^m`, for `m ≤ e` (used with `m` the smaller of two exponents) -/
def scaled (c : Nat) (e m : Int) : Nat := c * 10 ^ (e - m).toNat

theorem scaled_pos {c : Nat} (h : 0 < c) (e m : Int) : 0 < scaled c e m :=
  Nat.mul_pos h (pow10_pos _)

/-- the shortcut of `Cmp`: the number with its leading digit at the lower position is smaller,
`ca·10^ka < 10^(na+1+ka) ≤ 10^(nb+kb) ≤ cb·10^kb` for `ca` of `na+1` and `cb` of `nb+1` digits -/
theorem lt_of_digits_lt {ca cb ka kb : Nat} {ea eb : Int} (hca : 0 < ca) (hcb : 0 < cb)
    (hk : (ka : Int) - kb = ea - eb) (h : (numDigits ca : Int) + ea < numDigits cb + eb) :
    ((ca * 10 ^ ka : Nat) : Int) < (cb * 10 ^ kb : Nat) := by
  obtain ⟨na, da, _, a3⟩ := numDigits_spec ca hca
  obtain ⟨nb, db, b2, _⟩ := numDigits_spec cb hcb
  have s1 : ca * 10 ^ ka < 10 ^ (na + 1 + ka) := by
    rw [Nat.pow_add]; exact Nat.mul_lt_mul_of_pos_right a3 (pow10_pos ka)
  have s2 : 10 ^ (na + 1 + ka) ≤ 10 ^ (nb + kb) :=
    Nat.pow_le_pow_right (by decide) (by omega)
  have s3 : 10 ^ (nb + kb) ≤ cb * 10 ^ kb := by
    rw [Nat.pow_add]; exact Nat.mul_le_mul_right _ b2
  exact Int.ofNat_lt.2 (Nat.lt_of_lt_of_le s1 (Nat.le_trans s2 s3))

theorem magCmp_spec (ca cb : Nat) (ea eb : Int) (hca : 0 < ca) (hcb : 0 < cb) :
    magCmp ca ea cb eb = specCmpInt (scaled ca ea (min ea eb)) (scaled cb eb (min ea eb)) := by
  unfold magCmp scaled
  by_cases he : ea = eb
  · subst he
    simp [cmp3_nat]
  · rw [if_neg he]
    simp only []
    -- ka, kb : how far each exponent is above the minimum
    obtain ⟨ka, kb, hk, h0, eka, ekb⟩ : ∃ ka kb : Nat, (ka : Int) - kb = ea - eb ∧ (ka = 0 ∨ kb = 0) ∧
        (ea - min ea eb).toNat = ka ∧ (eb - min ea eb).toNat = kb := ⟨_, _, by omega, by omega, rfl, rfl⟩
    rw [eka, ekb]
    clear eka ekb  -- every `omega` below would analyse their `min` and `toNat` again
    have hka : ea < eb → ka = 0 ∧ (eb - ea).toNat = kb := by omega
    have hkb : ¬ ea < eb → kb = 0 ∧ (ea - eb).toNat = ka := by omega
    by_cases hlt : (numDigits ca : Int) + ea < (numDigits cb : Int) + eb
    · rw [if_pos hlt]
      exact (specCmpInt_lt_iff.2 (lt_of_digits_lt hca hcb hk hlt)).symm
    · rw [if_neg hlt]
      by_cases hgt : (numDigits ca : Int) + ea > (numDigits cb : Int) + eb
      · rw [if_pos hgt]
        exact (specCmpInt_gt_iff.2 (lt_of_digits_lt hcb hca (by omega) hgt)).symm
      · rw [if_neg hgt]
        by_cases hab : ea < eb
        · rw [if_pos hab, cmp3_nat, (hka hab).1, (hka hab).2]; simp
        · rw [if_neg hab, cmp3_nat, (hkb hab).1, (hkb hab).2]; simp

/-- exact value order of two finite decimals `±c·10^e`, both scaled to the smaller exponent -/
def decValueCmp (a b : Dec) : Ordering :=
  let m := min a.exp.toInt b.exp.toInt
  specCmpInt (a.sign * (scaled a.coeff a.exp.toInt m : Int)) (b.sign * (scaled b.coeff b.exp.toInt m : Int))

theorem Dec.cmp_of_sign_lt {a b : Dec} (h : a.sign < b.sign) : a.cmp b = .lt := by
  simp only [Dec.cmp, h, if_true]

theorem Dec.cmp_of_sign_gt {a b : Dec} (h : b.sign < a.sign) : a.cmp b = .gt := by
  simp only [Dec.cmp, if_neg (Int.lt_asymm h), GT.gt, h, if_true]

theorem Dec.cmp_of_sign_zero {a b : Dec} (ha : a.sign = 0) (hb : b.sign = 0) : a.cmp b = .eq := by
  simp [Dec.cmp, ha, hb]

theorem Dec.cmp_of_sign_eq {a b : Dec} {s : Int} (ha : a.form = .finite) (hb : b.form = .finite)
    (hs : s = 1 ∨ s = -1) (sa : a.sign = s) (sb : b.sign = s) :
    a.cmp b = if s < 0 then Ordering.neg (magCmp a.coeff a.exp.toInt b.coeff b.exp.toInt)
      else magCmp a.coeff a.exp.toInt b.coeff b.exp.toInt := by
  have e1 : (a.exp = b.exp) = (a.exp.toInt = b.exp.toInt) := by rw [Int32.toInt_inj]
  have e2 : (a.exp < b.exp) = (a.exp.toInt < b.exp.toInt) := by rw [Int32.lt_iff_toInt_lt]
  unfold Dec.cmp magCmp
  simp only [sa, sb, ha, hb, e1, e2]
  rcases hs with rfl | rfl
  · simp
  · -- the mirror image: `neg` moves inside every branch
    simp [apply_ite Ordering.neg, show Ordering.neg .lt = .gt from rfl, show Ordering.neg .gt = .lt from rfl]

theorem Dec.sign_cases (d : Dec) (h : d.form = .finite) :
    (d.sign = 0 ∧ d.coeff = 0) ∨ (d.sign = 1 ∧ 0 < d.coeff) ∨ (d.sign = -1 ∧ 0 < d.coeff) := by
  unfold Dec.sign
  by_cases hc : d.coeff = 0
  · simp [h, hc]
  · cases hn : d.neg <;> simp [h, hc, Nat.pos_of_ne_zero hc]

theorem Dec.cmp_eq_signed (a b : Dec) (ha : a.form = .finite) (hb : b.form = .finite) (A B : Int)
    (hA : 0 < a.coeff → 0 < A) (hB : 0 < b.coeff → 0 < B)
    (hm : 0 < a.coeff → 0 < b.coeff → magCmp a.coeff a.exp.toInt b.coeff b.exp.toInt = specCmpInt A B) :
    a.cmp b = specCmpInt (a.sign * A) (b.sign * B) := by
  rcases Dec.sign_cases a ha with ⟨sa, ca⟩ | ⟨sa, ca⟩ | ⟨sa, ca⟩ <;>
    rcases Dec.sign_cases b hb with ⟨sb, cb⟩ | ⟨sb, cb⟩ | ⟨sb, cb⟩
  -- signs 0 0, 0 +, 0 −, + 0, + +, + −, − 0, − +, − −
  · rw [Dec.cmp_of_sign_zero sa sb, sa, sb, Int.zero_mul, Int.zero_mul, specCmpInt_refl]
  · rw [Dec.cmp_of_sign_lt (by omega), sa, sb]; have := hB cb; exact (specCmpInt_lt_iff.2 (by omega)).symm
  · rw [Dec.cmp_of_sign_gt (by omega), sa, sb]; have := hB cb; exact (specCmpInt_gt_iff.2 (by omega)).symm
  · rw [Dec.cmp_of_sign_gt (by omega), sa, sb]; have := hA ca; exact (specCmpInt_gt_iff.2 (by omega)).symm
  · rw [Dec.cmp_of_sign_eq ha hb (.inl rfl) sa sb, hm ca cb, sa, sb, Int.one_mul, Int.one_mul]; rfl
  · rw [Dec.cmp_of_sign_gt (by omega), sa, sb]
    have := hA ca; have := hB cb; exact (specCmpInt_gt_iff.2 (by omega)).symm
  · rw [Dec.cmp_of_sign_lt (by omega), sa, sb]; have := hA ca; exact (specCmpInt_lt_iff.2 (by omega)).symm
  · rw [Dec.cmp_of_sign_lt (by omega), sa, sb]
    have := hA ca; have := hB cb; exact (specCmpInt_lt_iff.2 (by omega)).symm
  · rw [Dec.cmp_of_sign_eq ha hb (.inr rfl) sa sb, hm ca cb, sa, sb, Int.neg_one_mul, Int.neg_one_mul,
      specCmpInt_negate]
    rfl

theorem Dec.cmp_eq_value (a b : Dec) (ha : a.form = .finite) (hb : b.form = .finite) :
    a.cmp b = decValueCmp a b :=
  Dec.cmp_eq_signed a b ha hb _ _ (fun h => Int.ofNat_lt.2 (scaled_pos h _ _))
    (fun h => Int.ofNat_lt.2 (scaled_pos h _ _)) (fun ca cb => magCmp_spec _ _ _ _ ca cb)

theorem compareDecimal_finite (a b : Dec) (ha : a.form = .finite) (hb : b.form = .finite) :
    compareDecimal a b = decValueCmp a b := by
  unfold compareDecimal
  simp [ha, hb, Dec.cmp_eq_value a b ha hb]

end DoltVerif.ValCodec
