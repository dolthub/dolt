import DoltVerif.Lemmas.ValCodecLE
/-! Fixed-width integer codecs: round trip and order (C15). -/
namespace DoltVerif.ValCodec

/-- the order of SQL integer values -/
def specCmpInt (a b : Int) : Ordering := if a < b then .lt else if a = b then .eq else .gt

/-- all the round trip needs of the integer type is that its values are below `256 ^ n`;
`readU8 … readU64` are the instances `n = 1, 2, 4, 8` -/
theorem readLE_writeLE {α : Type} {n : Nat} {toNat : α → Nat} {ofNat : Nat → α}
    (hlt : ∀ v, toNat v < 256 ^ n) (hof : ∀ v, ofNat (toNat v) = v) (v : α) :
    (do expectSize n (leBytes n (toNat v)); pure (ofNat (leNat (leBytes n (toNat v)))) : Except Err α)
      = .ok v := by
  rw [leNat_leBytes, Nat.mod_eq_of_lt (hlt v), hof, expectSize, if_pos (leBytes_length n _)]
  rfl

theorem readU8_writeU8 (v : UInt8) : readU8 (writeU8 v) = .ok v :=
  readLE_writeLE (n := 1) UInt8.toNat_lt (fun _ => UInt8.ofNat_toNat) v
theorem readU16_writeU16 (v : UInt16) : readU16 (writeU16 v) = .ok v :=
  readLE_writeLE (n := 2) UInt16.toNat_lt (fun _ => UInt16.ofNat_toNat) v
theorem readU32_writeU32 (v : UInt32) : readU32 (writeU32 v) = .ok v :=
  readLE_writeLE (n := 4) UInt32.toNat_lt (fun _ => UInt32.ofNat_toNat) v
theorem readU64_writeU64 (v : UInt64) : readU64 (writeU64 v) = .ok v :=
  readLE_writeLE (n := 8) UInt64.toNat_lt (fun _ => UInt64.ofNat_toNat) v

-- signed: the two's complement casts `uint32(val)` / `int32(u)` are inverse to each other

theorem readI8_writeI8 (v : Int8) : readI8 (writeI8 v) = .ok v := by
  rw [readI8, writeI8, readU8_writeU8]; rfl
theorem readI16_writeI16 (v : Int16) : readI16 (writeI16 v) = .ok v := by
  rw [readI16, writeI16, readU16_writeU16]; rfl
theorem readI32_writeI32 (v : Int32) : readI32 (writeI32 v) = .ok v := by
  rw [readI32, writeI32, readU32_writeU32]; rfl
theorem readI64_writeI64 (v : Int64) : readI64 (writeI64 v) = .ok v := by
  rw [readI64, writeI64, readU64_writeU64]; rfl

theorem cmp3_of_key {α : Type} [LT α] [DecidableEq α] [DecidableLT α] (key : α → Int)
    (hinj : ∀ a b : α, key a = key b → a = b) (hlt : ∀ a b : α, a < b ↔ key a < key b) (a b : α) :
    cmp3 a b = specCmpInt (key a) (key b) := by
  by_cases h : a = b
  · subst h; simp [cmp3, specCmpInt]
  · have hk : key a ≠ key b := fun e => h (hinj a b e)
    simp only [cmp3, specCmpInt, if_neg h, if_neg hk, hlt a b]

theorem cmp3_of_natKey {α : Type} [LT α] [DecidableEq α] [DecidableLT α] (key : α → Nat)
    (hinj : ∀ a b : α, key a = key b → a = b) (hlt : ∀ a b : α, a < b ↔ key a < key b) (a b : α) :
    cmp3 a b = specCmpInt (key a) (key b) :=
  cmp3_of_key (fun x => (key x : Int)) (fun a b e => hinj a b (Int.ofNat_inj.1 e))
    (fun a b => (hlt a b).trans Int.ofNat_lt.symm) a b

theorem cmp3_u8 (a b : UInt8) : cmp3 a b = specCmpInt a.toNat b.toNat :=
  cmp3_of_natKey UInt8.toNat (fun _ _ => UInt8.toNat_inj.1) (fun _ _ => UInt8.lt_iff_toNat_lt) a b
theorem cmp3_u16 (a b : UInt16) : cmp3 a b = specCmpInt a.toNat b.toNat :=
  cmp3_of_natKey UInt16.toNat (fun _ _ => UInt16.toNat_inj.1) (fun _ _ => UInt16.lt_iff_toNat_lt) a b
theorem cmp3_u32 (a b : UInt32) : cmp3 a b = specCmpInt a.toNat b.toNat :=
  cmp3_of_natKey UInt32.toNat (fun _ _ => UInt32.toNat_inj.1) (fun _ _ => UInt32.lt_iff_toNat_lt) a b
theorem cmp3_u64 (a b : UInt64) : cmp3 a b = specCmpInt a.toNat b.toNat :=
  cmp3_of_natKey UInt64.toNat (fun _ _ => UInt64.toNat_inj.1) (fun _ _ => UInt64.lt_iff_toNat_lt) a b
theorem cmp3_nat (a b : Nat) : cmp3 a b = specCmpInt a b :=
  cmp3_of_natKey id (fun _ _ => id) (fun _ _ => Iff.rfl) a b
theorem cmp3_i8 (a b : Int8) : cmp3 a b = specCmpInt a.toInt b.toInt :=
  cmp3_of_key Int8.toInt (fun _ _ => Int8.toInt_inj.1) (fun _ _ => Int8.lt_iff_toInt_lt) a b
theorem cmp3_i16 (a b : Int16) : cmp3 a b = specCmpInt a.toInt b.toInt :=
  cmp3_of_key Int16.toInt (fun _ _ => Int16.toInt_inj.1) (fun _ _ => Int16.lt_iff_toInt_lt) a b
theorem cmp3_i32 (a b : Int32) : cmp3 a b = specCmpInt a.toInt b.toInt :=
  cmp3_of_key Int32.toInt (fun _ _ => Int32.toInt_inj.1) (fun _ _ => Int32.lt_iff_toInt_lt) a b
theorem cmp3_i64 (a b : Int64) : cmp3 a b = specCmpInt a.toInt b.toInt :=
  cmp3_of_key Int64.toInt (fun _ _ => Int64.toInt_inj.1) (fun _ _ => Int64.lt_iff_toInt_lt) a b
theorem cmp3_int (a b : Int) : cmp3 a b = specCmpInt a b :=
  cmp3_of_key id (fun _ _ => id) (fun _ _ => Iff.rfl) a b

/-- the shape of every `case` of the switch in `compare` -/
theorem compare_decoded {α : Type} {rd : Bytes → Except Err α} {c : α → α → Ordering}
    {x y : Bytes} {a b : α} {o : Ordering} (hx : rd x = .ok a) (hy : rd y = .ok b) (ho : c a b = o) :
    (do pure (c (← rd x) (← rd y)) : Except Err Ordering) = .ok o := by
  rw [hx, hy, ← ho]; rfl

theorem specCmpInt_eq_compare : specCmpInt = compare := by
  funext a b
  rw [Int.compare_eq_ite_lt]
  fun_cases specCmpInt a b with
  | case1 h => rw [if_pos h]
  | case2 h e => rw [if_neg h, if_neg (by omega)]
  | case3 h e => rw [if_neg h, if_pos (by omega)]

instance : Std.TransCmp specCmpInt := specCmpInt_eq_compare ▸ inferInstanceAs (Std.TransOrd Int)

theorem specCmpInt_refl (a : Int) : specCmpInt a a = .eq := Std.ReflCmp.compare_self
theorem specCmpInt_swap (a b : Int) : specCmpInt b a = (specCmpInt a b).swap := Std.OrientedCmp.eq_swap
theorem specCmpInt_eq_iff {a b : Int} : specCmpInt a b = .eq ↔ a = b :=
  specCmpInt_eq_compare ▸ Int.compare_eq_eq
theorem specCmpInt_lt_iff {a b : Int} : specCmpInt a b = .lt ↔ a < b :=
  specCmpInt_eq_compare ▸ Int.compare_eq_lt
theorem specCmpInt_gt_iff {a b : Int} : specCmpInt a b = .gt ↔ b < a :=
  specCmpInt_eq_compare ▸ Int.compare_eq_gt

end DoltVerif.ValCodec
