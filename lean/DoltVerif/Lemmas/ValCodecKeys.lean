import DoltVerif.Lemmas.ValCodecOrder
import DoltVerif.Lemmas.ValCodecCompare
/-! Every ordered encoding compares by an order key of the decoded value (C15). -/
namespace DoltVerif.ValCodec

def mapKey {α : Type} (r : Except Err α) (f : α → Key) : Except Err Key :=
  match r with
  | .ok v => .ok (f v)
  | .error e => .error e

theorem mapKey_ok {α : Type} {r : Except Err α} {f : α → Key} {k : Key} (h : mapKey r f = .ok k) :
    ∃ v, r = .ok v ∧ f v = k := by
  cases r with
  | error e => cases h
  | ok v => exact ⟨v, rfl, Except.ok.inj h⟩

/-- the order key of a field of encoding `e`: the integer value, the absolute day number of a date,
the sign-magnitude key of a non-NaN float, the byte string.  Not defined (error) for NaN floats,
decimals (ordered by exact value, see `Props/C15`), adaptive and unordered encodings. -/
def keyOf (e : Enc) (b : Bytes) : Except Err Key :=
  match e with
  | .int8 => mapKey (readI8 b) (fun v => .inl v.toInt)
  | .uint8 => mapKey (readU8 b) (fun v => .inl v.toNat)
  | .int16 => mapKey (readI16 b) (fun v => .inl v.toInt)
  | .uint16 | .enum => mapKey (readU16 b) (fun v => .inl v.toNat)
  | .int32 => mapKey (readI32 b) (fun v => .inl v.toInt)
  | .uint32 => mapKey (readU32 b) (fun v => .inl v.toNat)
  | .int64 | .time | .datetime => mapKey (readI64 b) (fun v => .inl v.toInt)
  | .uint64 | .bit64 | .set => mapKey (readU64 b) (fun v => .inl v.toNat)
  | .float32 => match readU32 b with
      | .ok v => if f32IsNaN v then .error .domain else .ok (.inl (f32Key v))
      | .error e => .error e
  | .float64 => match readU64 b with
      | .ok v => if f64IsNaN v then .error .domain else .ok (.inl (f64Key v))
      | .error e => .error e
  | .year => mapKey (readYear b) (fun v => .inl v.toInt)
  | .date => mapKey (readU32 b) (fun v => .inl (dateDays v))
  | .string | .bytes => mapKey (readByteString b) .inr
  | .hash128 => mapKey (readRaw 16 b) .inr
  | .geomAddr | .bytesAddr | .commitAddr | .jsonAddr | .stringAddr => mapKey (readRaw 20 b) .inr
  | .cell => mapKey (readRaw 17 b) .inr
  | _ => .error .unknownEnc

theorem compareF32_key {l r : UInt32} (hl : f32IsNaN l = false) (hr : f32IsNaN r = false) :
    compareF32 l r = specCmpInt (f32Key l) (f32Key r) := by
  unfold compareF32
  rw [hl, hr, ← cmp3_int]; rfl

theorem compareF64_key {l r : UInt64} (hl : f64IsNaN l = false) (hr : f64IsNaN r = false) :
    compareF64 l r = specCmpInt (f64Key l) (f64Key r) := by
  unfold compareF64
  rw [hl, hr, ← cmp3_int]; rfl

theorem keyOf_float32 {b : Bytes} {k : Key} (h : keyOf .float32 b = .ok k) :
    ∃ v, readU32 b = .ok v ∧ f32IsNaN v = false ∧ k = .inl (f32Key v) := by
  simp only [keyOf] at h
  split at h
  · rename_i v hv
    split at h
    · cases h
    · rename_i n
      exact ⟨v, hv, Bool.eq_false_iff.2 n, (Except.ok.inj h).symm⟩
  · cases h

theorem keyOf_float64 {b : Bytes} {k : Key} (h : keyOf .float64 b = .ok k) :
    ∃ v, readU64 b = .ok v ∧ f64IsNaN v = false ∧ k = .inl (f64Key v) := by
  simp only [keyOf] at h
  split at h
  · rename_i v hv
    split at h
    · cases h
    · rename_i n
      exact ⟨v, hv, Bool.eq_false_iff.2 n, (Except.ok.inj h).symm⟩
  · cases h

theorem compare_mapKey {α : Type} {rd : Bytes → Except Err α} {c : α → α → Ordering} {k : α → Key}
    (hc : ∀ a b, c a b = Key.cmp (k a) (k b)) {l r : Bytes} {kl kr : Key}
    (hl : mapKey (rd l) k = .ok kl) (hr : mapKey (rd r) k = .ok kr) :
    (do pure (c (← rd l) (← rd r)) : Except Err Ordering) = .ok (Key.cmp kl kr) := by
  obtain ⟨a, ha, rfl⟩ := mapKey_ok hl
  obtain ⟨b, hb, rfl⟩ := mapKey_ok hr
  exact compare_decoded ha hb (hc a b)

theorem compareEnc_key (e : Enc) (l r : Bytes) (kl kr : Key)
    (hl : keyOf e l = .ok kl) (hr : keyOf e r = .ok kr) : compareEnc e l r = .ok (Key.cmp kl kr) := by
  cases e
  case int8 => exact compare_mapKey cmp3_i8 hl hr
  case uint8 => exact compare_mapKey cmp3_u8 hl hr
  case int16 => exact compare_mapKey cmp3_i16 hl hr
  case uint16 | enum => exact compare_mapKey cmp3_u16 hl hr
  case int32 => exact compare_mapKey cmp3_i32 hl hr
  case uint32 => exact compare_mapKey cmp3_u32 hl hr
  case int64 | time | datetime => exact compare_mapKey cmp3_i64 hl hr
  case uint64 | bit64 | set => exact compare_mapKey cmp3_u64 hl hr
  case year => exact compare_mapKey cmp3_i16 hl hr
  case date => exact compare_mapKey (c := fun a b => cmp3 (dateDays a) (dateDays b)) (fun _ _ => cmp3_int _ _) hl hr
  case string | bytes | hash128 | cell | geomAddr | bytesAddr | commitAddr | jsonAddr | stringAddr =>
    exact compare_mapKey (c := bytesCompare) (fun _ _ => rfl) hl hr
  case float32 =>
    obtain ⟨a, ha, na, rfl⟩ := keyOf_float32 hl
    obtain ⟨b, hb, nb, rfl⟩ := keyOf_float32 hr
    exact compare_decoded ha hb (compareF32_key na nb)
  case float64 =>
    obtain ⟨a, ha, na, rfl⟩ := keyOf_float64 hl
    obtain ⟨b, hb, nb, rfl⟩ := keyOf_float64 hr
    exact compare_decoded ha hb (compareF64_key na nb)
  -- the remaining encodings have no key
  all_goals cases hl

/-- a field admissible in a column of encoding `e` -/
def FieldValid (e : Enc) (f : Field) : Prop :=
  f = none ∨ ∃ b k, f = some b ∧ b ≠ [] ∧ keyOf e b = .ok k

def fieldKey (e : Enc) : Field → Option Key
  | none => none
  | some b => match keyOf e b with
    | .ok k => some k
    | .error _ => none

theorem compareField_key (e : Enc) (a b : Field) (ha : FieldValid e a) (hb : FieldValid e b) :
    compareField e a b = .ok (okCmp Key.cmp (fieldKey e a) (fieldKey e b)) := by
  rcases ha with rfl | ⟨x, kx, rfl, nx, hx⟩ <;> rcases hb with rfl | ⟨y, ky, rfl, ny, hy⟩
  · rfl
  · have : y.isEmpty = false := by cases y <;> simp_all
    simp [compareField, fieldKey, hy, okCmp, this]
  · have : x.isEmpty = false := by cases x <;> simp_all
    simp [compareField, fieldKey, hx, okCmp, this]
  · simp only [compareField, fieldKey, hx, hy, okCmp]
    exact compareEnc_key e x y kx ky hx hy

def rowKeys : List TType → Nat → List Field → List (Option Key)
  | [], _, _ => []
  | t :: ts, j, xs => fieldKey t.enc (fieldAt xs j) :: rowKeys ts (j + 1) xs

def RowValid : List TType → Nat → List Field → Prop
  | [], _, _ => True
  | t :: ts, j, xs => FieldValid t.enc (fieldAt xs j) ∧ RowValid ts (j + 1) xs

theorem spec_lex (ts : List TType) (j : Nat) (xs ys : List Field)
    (vx : RowValid ts j xs) (vy : RowValid ts j ys) :
    specTupleCompare ts j xs ys = .ok (lexCmp (okCmp Key.cmp) (rowKeys ts j xs) (rowKeys ts j ys)) := by
  induction ts generalizing j with
  | nil => rfl
  | cons t ts ih =>
    obtain ⟨fx, rx⟩ := vx
    obtain ⟨fy, ry⟩ := vy
    simp only [specTupleCompare, rowKeys, lexCmp]
    rw [compareField_key t.enc _ _ fx fy]
    cases okCmp Key.cmp (fieldKey t.enc (fieldAt xs j)) (fieldKey t.enc (fieldAt ys j)) with
    | eq => exact ih (j + 1) rx ry
    | lt => rfl
    | gt => rfl

end DoltVerif.ValCodec
