import DoltVerif.Lemmas.ExceptOk
import DoltVerif.Model.ValCodec
/-! Little-endian, big-endian and `Except` helper lemmas for the ValCodec model (C15, C16). -/
namespace DoltVerif.ValCodec

/-- core has none: every `decide` of an equation between results of `read*` / `compare*` / `newTuple` goes through it -/
instance instDecEqExcept {ε α : Type} [DecidableEq ε] [DecidableEq α] : DecidableEq (Except ε α)
  | .ok a, .ok b => if h : a = b then isTrue (by rw [h]) else isFalse (fun h' => h (by cases h'; rfl))
  | .error a, .error b => if h : a = b then isTrue (by rw [h]) else isFalse (fun h' => h (by cases h'; rfl))
  | .ok _, .error _ => isFalse (fun h => by cases h)
  | .error _, .ok _ => isFalse (fun h => by cases h)

theorem write_inj {α : Type} {rd : Bytes → Except Err α} {wr : α → Bytes} (h : ∀ v, rd (wr v) = .ok v)
    {a b : α} (e : wr a = wr b) : a = b :=
  Except.ok.inj ((h a).symm.trans ((congrArg rd e).trans (h b)))

theorem leBytes_length (n v : Nat) : (leBytes n v).length = n := by
  induction n generalizing v with
  | zero => rfl
  | succ n ih => simp [leBytes, ih]

theorem leNat_leBytes (n v : Nat) : leNat (leBytes n v) = v % 256 ^ n := by
  induction n generalizing v with
  | zero => simp [leBytes, leNat, Nat.mod_one]
  | succ n ih =>
    simp only [leBytes, leNat, ih]
    have h : (UInt8.ofNat (v % 256)).toNat = v % 256 := by
      simp [UInt8.toNat_ofNat']
    rw [h, Nat.pow_succ, Nat.mul_comm (256 ^ n) 256, Nat.mod_mul]

theorem leNat_lt (b : Bytes) : leNat b < 256 ^ b.length := by
  induction b with
  | nil => simp [leNat]
  | cons x xs ih =>
    simp only [leNat, List.length_cons, Nat.pow_succ]
    have := UInt8.toNat_lt x
    omega

theorem leBytes_leNat (b : Bytes) : leBytes b.length (leNat b) = b := by
  induction b with
  | nil => rfl
  | cons x xs ih =>
    have hx := UInt8.toNat_lt x
    simp only [List.length_cons, leBytes, leNat]
    have h1 : (x.toNat + 256 * leNat xs) % 256 = x.toNat := by omega
    have h2 : (x.toNat + 256 * leNat xs) / 256 = leNat xs := by omega
    rw [h1, h2, ih]
    simp

theorem leNat_inj {a b : Bytes} (hl : a.length = b.length) (h : leNat a = leNat b) : a = b := by
  rw [← leBytes_leNat a, ← leBytes_leNat b, hl, h]

theorem beNat_reverse (xs : Bytes) : beNat xs.reverse = leNat xs := by
  unfold beNat
  rw [List.foldl_reverse]
  induction xs with
  | nil => rfl
  | cons x xs ih => simp only [List.foldr_cons, leNat, ih]; omega

theorem beNat_beBytes (k n : Nat) : beNat (beBytes k n) = n % 256 ^ k := by
  unfold beBytes; rw [beNat_reverse, leNat_leBytes]

theorem beBytes_length (k n : Nat) : (beBytes k n).length = k := by
  simp [beBytes, leBytes_length]

end DoltVerif.ValCodec
