import DoltVerif.Lemmas.ValCodecTuple
/-! `getField (newTuple fs) i` — the layout theorem behind tuple_roundtrip (C15). -/
namespace DoltVerif.ValCodec

/-- the bytes `NewTuple` produces for an already trimmed field list -/
def layout (vs : List Field) : Bytes := dataOf vs ++ offsetBytes vs ++ leBytes 2 vs.length

/-- the size conditions under which `NewTuple` does not panic -/
structure BuildOk (vs : List Field) : Prop where
  small : ∀ f ∈ vs, fieldLen f < 65536
  nfields : vs.length ≤ maxTupleFields
  data : dataSize vs ≤ maxTupleDataSize
  alloc : dataSize vs + 2 * vs.length ≤ 65535

theorem BuildOk.length_lt {vs : List Field} (h : BuildOk vs) : vs.length < 65536 := by
  have := h.nfields; unfold maxTupleFields at this; omega

theorem newTuple_ok {fs : List Field} {t : Bytes} (h : newTuple fs = .ok t) :
    BuildOk (trimNullSuffix fs) ∧ t = layout (trimNullSuffix fs) := by
  obtain ⟨h1, h⟩ := ok_of_ite h
  obtain ⟨h2, h⟩ := ok_of_ite h
  obtain ⟨h3, h⟩ := ok_of_ite h
  obtain ⟨h4, h⟩ := ok_of_ite h
  refine ⟨⟨fun f hf => ?_, by omega, by omega, by omega⟩, (Except.ok.inj h).symm⟩
  exact Nat.lt_of_not_le fun hc => h1 (List.any_eq_true.2 ⟨f, hf, decide_eq_true hc⟩)

theorem newTuple_of_ok {fs : List Field} (h : BuildOk (trimNullSuffix fs)) :
    newTuple fs = .ok (layout (trimNullSuffix fs)) := by
  unfold newTuple
  simp only []
  have h1 : ¬ ((trimNullSuffix fs).any fun f => decide (fieldLen f ≥ 65536)) = true := by
    simp only [List.any_eq_true, decide_eq_true_eq, not_exists, not_and]
    intro f hf; have := h.small f hf; omega
  have h2 := h.nfields
  have h3 := h.data
  have h4 := h.alloc
  rw [if_neg h1, if_neg (by omega), if_neg (by omega), if_neg (by omega)]
  rfl

theorem layout_length (vs : List Field) :
    (layout vs).length = dataSize vs + 2 * (vs.length - 1) + 2 := by
  simp only [layout, List.length_append, dataOf_length, offsetBytes_length, leBytes_length]

theorem tupleCount_layout (vs : List Field) (h : vs.length < 65536) :
    tupleCount (layout vs) = .ok vs.length := by
  have hl := layout_length vs
  rw [tupleCount, if_neg (by omega)]
  have : (layout vs).length - 2 = (dataOf vs ++ offsetBytes vs).length := by
    rw [List.length_append, dataOf_length, offsetBytes_length]; omega
  rw [this, layout, List.drop_left, leNat_leBytes, Nat.mod_eq_of_lt (by omega)]

theorem offsetAt_layout (vs : List Field) (hok : BuildOk vs) (k : Nat) (hk : k + 1 < vs.length) :
    offsetAt (layout vs) (dataSize vs + k * 2) = .ok (prefixLen vs (k + 1)) := by
  have hl := layout_length vs
  have hO := offsetBytes_length vs
  rw [offsetAt, if_neg (by omega), layout, List.append_assoc, ← dataOf_length, Nat.mul_comm,
    List.drop_length_add_append, take_drop_append _ (by omega), offsetBytes_get vs k hk, leNat_leBytes,
    Nat.mod_eq_of_lt]
  have := prefixLen_le vs (k + 1)
  have := hok.data
  unfold maxTupleDataSize at this
  omega

theorem sliceOf_layout (vs : List Field) (s e : Nat) (hse : s ≤ e) (he : e ≤ dataSize vs) :
    sliceOf (layout vs) s e = .ok (((dataOf vs).drop s).take (e - s)) := by
  have hl := layout_length vs
  have hD := dataOf_length vs
  rw [sliceOf, if_neg (by omega), layout, List.append_assoc, take_drop_append _ (by omega)]

theorem sliceOf_field (vs : List Field) (i : Nat) (hi : i < vs.length) :
    sliceOf (layout vs) (prefixLen vs i) (prefixLen vs (i + 1)) = .ok (fieldBytes vs[i]) := by
  have hsucc := prefixLen_succ vs i hi
  rw [sliceOf_layout vs _ _ (by omega) (prefixLen_le vs (i + 1)),
    show prefixLen vs (i + 1) - prefixLen vs i = fieldLen vs[i] by omega, dataOf_slice vs i hi]

theorem getField_past_count {t : Bytes} {cnt i : Nat} (h : tupleCount t = .ok cnt) (hi : cnt ≤ i) :
    getField t i = .ok none := by
  rw [getField, h]; exact if_pos hi

theorem normField_of_len {f : Field} : fieldLen f = 0 → normField f = none := by
  cases f with
  | none => intro _; rfl
  | some b => cases b <;> simp [fieldLen, fieldBytes, normField]

theorem normField_of_pos {f : Field} (h : fieldLen f ≠ 0) : normField f = some (fieldBytes f) := by
  cases f with
  | none => simp [fieldLen, fieldBytes] at h
  | some b => cases b <;> simp_all [fieldLen, fieldBytes, normField]

theorem normField_id {f : Field} (h : f ≠ some []) : normField f = f := by
  cases f with
  | none => rfl
  | some b => cases b <;> simp_all [normField]

theorem stop_layout (vs : List Field) (hok : BuildOk vs) (i : Nat) (hi : i < vs.length) :
    (if i < vs.length - 1 then offsetAt (layout vs) (dataSize vs + i * 2) else .ok (dataSize vs % 65536))
      = .ok (prefixLen vs (i + 1)) := by
  by_cases hlast : i < vs.length - 1
  · rw [if_pos hlast]; exact offsetAt_layout vs hok i (by omega)
  · have hd := hok.data
    unfold maxTupleDataSize at hd
    rw [if_neg hlast, show i + 1 = vs.length by omega, prefixLen_length, Nat.mod_eq_of_lt (by omega)]

theorem start_layout (vs : List Field) (hok : BuildOk vs) (i : Nat) (hi : i < vs.length) :
    (if i > 0 then offsetAt (layout vs) (dataSize vs + (i - 1) * 2) else .ok 0) = .ok (prefixLen vs i) := by
  by_cases h0 : i > 0
  · rw [if_pos h0]
    have := offsetAt_layout vs hok (i - 1) (by omega)
    rwa [Nat.sub_add_cancel h0] at this
  · rw [if_neg h0, show i = 0 by omega]; rfl

/-- the layout theorem; zero-length fields and fields past the end read as NULL -/
theorem getField_layout (vs : List Field) (hok : BuildOk vs) (i : Nat) :
    getField (layout vs) i = .ok (normField ((vs[i]?).join)) := by
  have hn := hok.length_lt
  by_cases hi : i ≥ vs.length
  · rw [getField_past_count (tupleCount_layout vs hn) hi, List.getElem?_eq_none hi]; rfl
  have hi' : i < vs.length := by omega
  have hl := layout_length vs
  rw [getField, tupleCount_layout vs hn]
  simp only []
  rw [if_neg hi, if_neg (by omega), show (layout vs).length - 2 * vs.length = dataSize vs by omega,
    stop_layout vs hok i hi', start_layout vs hok i hi']
  simp only []
  clear hl hn
  have hsucc := prefixLen_succ vs i hi'
  rw [List.getElem?_eq_getElem hi', show ((some vs[i] : Option Field)).join = vs[i] from rfl]
  by_cases hz : fieldLen vs[i] = 0
  · rw [if_pos (by omega), normField_of_len hz]
  · rw [if_neg (by omega), sliceOf_field vs i hi', normField_of_pos hz]

end DoltVerif.ValCodec
