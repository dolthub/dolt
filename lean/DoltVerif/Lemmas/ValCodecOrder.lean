import DoltVerif.Lemmas.ValCodecInt
import DoltVerif.Lemmas.ValCodecBytes
/-! Order keys of encodings; NULL-first and lexicographic lifting of a three-way comparison.  Each is a
total preorder in the sense of core's `Std.TransCmp`, whose lemmas are the order laws used in C15. -/
namespace DoltVerif.ValCodec
open Std

/-- order keys: an integer or a byte string (never mixed within one column) -/
abbrev Key := Int ⊕ Bytes

def Key.cmp : Key → Key → Ordering
  | .inl a, .inl b => specCmpInt a b
  | .inr a, .inr b => bytesCompare a b
  | .inl _, .inr _ => .lt
  | .inr _, .inl _ => .gt

instance : TransCmp Key.cmp where
  eq_swap {a b} := by
    cases a <;> cases b
    · exact OrientedCmp.eq_swap (cmp := specCmpInt)
    · rfl
    · rfl
    · exact OrientedCmp.eq_swap (cmp := bytesCompare)
  isLE_trans {a b d} h1 h2 := by
    -- of the eight cases only the two unmixed ones are not decided by the constructors
    cases a <;> cases b <;> cases d <;> simp only [Key.cmp, Ordering.isLE, Bool.false_eq_true] at *
    · exact TransCmp.isLE_trans (cmp := specCmpInt) h1 h2
    · exact TransCmp.isLE_trans (cmp := bytesCompare) h1 h2

/-- NULL (none) first -/
def okCmp {α : Type} (c : α → α → Ordering) : Option α → Option α → Ordering
  | none, none => .eq
  | none, some _ => .lt
  | some _, none => .gt
  | some a, some b => c a b

instance {α : Type} {c : α → α → Ordering} [TransCmp c] : TransCmp (okCmp c) where
  eq_swap {a b} := by
    cases a <;> cases b
    · rfl
    · rfl
    · rfl
    · exact OrientedCmp.eq_swap (cmp := c)
  isLE_trans {a b d} h1 h2 := by
    cases a <;> cases b <;> cases d <;> simp only [okCmp, Ordering.isLE, Bool.false_eq_true] at *
    exact TransCmp.isLE_trans (cmp := c) h1 h2

/-- lexicographic comparison of equally long rows -/
def lexCmp {α : Type} (c : α → α → Ordering) : List α → List α → Ordering
  | [], [] => .eq
  | [], _ :: _ => .lt
  | _ :: _, [] => .gt
  | a :: as, b :: bs => match c a b with
    | .eq => lexCmp c as bs
    | o => o

theorem lexCmp_eq_compareLex {α : Type} (c : α → α → Ordering) : lexCmp c = List.compareLex c := by
  funext a b
  induction a generalizing b with
  | nil => cases b <;> rfl
  | cons x xs ih =>
    cases b with
    | nil => rfl
    | cons y ys => rw [lexCmp, List.compareLex, ih]; cases c x y <;> rfl

instance {α : Type} {c : α → α → Ordering} [TransCmp c] : TransCmp (lexCmp c) :=
  lexCmp_eq_compareLex c ▸ inferInstanceAs (TransCmp (List.compareLex c))

end DoltVerif.ValCodec
