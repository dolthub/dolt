import DoltVerif.Lemmas.ValCodecLE
/-! The parts of a tuple: data region, stored offsets, `trimNullSuffix` (C15). -/
namespace DoltVerif.ValCodec

theorem take_drop_append {α : Type} {A : List α} (B : List α) {i k : Nat} (h : i + k ≤ A.length) :
    ((A ++ B).drop i).take k = (A.drop i).take k := by
  rw [List.drop_append_of_le_length (by omega), List.take_append_of_le_length (by simp; omega)]

/-- how a field reads back: a zero-length field is NULL -/
def normField : Field → Field
  | some [] => none
  | f => f

def prefixLen (vs : List Field) (k : Nat) : Nat := dataSize (vs.take k)

theorem dataOf_length (vs : List Field) : (dataOf vs).length = dataSize vs := by
  induction vs with
  | nil => rfl
  | cons f fs ih => simp [dataOf, dataSize, fieldLen] at *; omega

theorem dataSize_cons (f : Field) (fs : List Field) : dataSize (f :: fs) = fieldLen f + dataSize fs := by
  simp [dataSize]

theorem dataOf_cons (f : Field) (fs : List Field) : dataOf (f :: fs) = fieldBytes f ++ dataOf fs := by
  simp [dataOf]

theorem offsAux_length (p : Nat) (fs : List Field) : (offsAux p fs).length = 2 * fs.length := by
  induction fs generalizing p with
  | nil => rfl
  | cons f fs ih => simp [offsAux, leBytes_length, ih]; omega

theorem offsetBytes_length (vs : List Field) : (offsetBytes vs).length = 2 * (vs.length - 1) := by
  cases vs with
  | nil => rfl
  | cons f fs => simp [offsetBytes, offsAux_length]

theorem dataSize_append (a b : List Field) : dataSize (a ++ b) = dataSize a + dataSize b := by
  simp [dataSize]

theorem prefixLen_le (vs : List Field) (k : Nat) : prefixLen vs k ≤ dataSize vs := by
  have := dataSize_append (vs.take k) (vs.drop k)
  rw [List.take_append_drop] at this
  exact this ▸ Nat.le_add_right _ _

theorem prefixLen_succ (vs : List Field) (k : Nat) (hk : k < vs.length) :
    prefixLen vs (k + 1) = prefixLen vs k + fieldLen vs[k] := by
  rw [prefixLen, List.take_succ_eq_append_getElem hk, dataSize_append]; simp [prefixLen, dataSize]

theorem prefixLen_length (vs : List Field) : prefixLen vs vs.length = dataSize vs := by
  simp [prefixLen]

theorem offsAux_get (p : Nat) (fs : List Field) (k : Nat) (hk : k < fs.length) :
    ((offsAux p fs).drop (2 * k)).take 2 = leBytes 2 (p + dataSize (fs.take k)) := by
  induction fs generalizing p k with
  | nil => simp at hk
  | cons f fs ih =>
    cases k with
    | zero => exact List.take_left' (leBytes_length 2 p)
    | succ k =>
      rw [offsAux, show 2 * (k + 1) = (leBytes 2 p).length + 2 * k by rw [leBytes_length]; omega,
        List.drop_length_add_append, ih _ _ (by simpa using hk), List.take_succ_cons, dataSize_cons,
        Nat.add_assoc]

theorem offsetBytes_get (vs : List Field) (k : Nat) (hk : k + 1 < vs.length) :
    ((offsetBytes vs).drop (2 * k)).take 2 = leBytes 2 (prefixLen vs (k + 1)) := by
  cases vs with
  | nil => simp at hk
  | cons f fs =>
    rw [offsetBytes, offsAux_get _ _ _ (by simpa using hk), prefixLen, List.take_succ_cons, dataSize_cons]

theorem dataOf_slice (vs : List Field) (i : Nat) (hi : i < vs.length) :
    ((dataOf vs).drop (prefixLen vs i)).take (fieldLen vs[i]) = fieldBytes vs[i] := by
  induction vs generalizing i with
  | nil => simp at hi
  | cons f fs ih =>
    cases i with
    | zero => exact List.take_left
    | succ i =>
      rw [prefixLen, List.take_succ_cons, dataSize_cons, dataOf_cons,
        show fieldLen f = (fieldBytes f).length from rfl, List.drop_length_add_append]
      exact ih i (by simpa using hi)

theorem trim_cons (f : Field) (fs : List Field) :
    trimNullSuffix (f :: fs) = if trimNullSuffix fs = [] ∧ f = none then [] else f :: trimNullSuffix fs := by
  simp only [trimNullSuffix]; split <;> simp_all

theorem trim_append_nulls (fs : List Field) : ∃ k, fs = trimNullSuffix fs ++ List.replicate k none := by
  fun_induction trimNullSuffix fs with
  | case1 => exact ⟨0, rfl⟩
  | case2 fs h ih =>  -- a NULL in front of NULLs only
    obtain ⟨k, hk⟩ := ih
    exact ⟨k + 1, by rw [h] at hk; rw [hk]; rfl⟩
  | case3 fs f _ ih =>  -- the field stays
    obtain ⟨k, hk⟩ := ih
    exact ⟨k, by rw [List.cons_append, ← hk]⟩

theorem trim_getLast (fs : List Field) (h : trimNullSuffix fs ≠ []) :
    (trimNullSuffix fs).getLast h ≠ none := by
  fun_induction trimNullSuffix fs with
  | case1 | case2 => exact absurd rfl h
  | case3 fs f hc ih =>  -- the field stays: it is the last one iff only NULLs follow
    by_cases ht : trimNullSuffix fs = []
    · simp only [ht, List.getLast_singleton]; exact hc ht
    · rw [List.getLast_cons ht]; exact ih ht

theorem getElem?_append_nulls (fs : List Field) (k i : Nat) :
    ((fs ++ List.replicate k none)[i]?).join = (fs[i]?).join := by
  by_cases h : i < fs.length
  · rw [List.getElem?_append_left h]
  · rw [List.getElem?_append_right (by omega), List.getElem?_replicate, List.getElem?_eq_none (by omega)]
    split <;> rfl

theorem trim_getElem? (fs : List Field) (i : Nat) :
    ((trimNullSuffix fs)[i]?).join = (fs[i]?).join := by
  obtain ⟨k, hk⟩ := trim_append_nulls fs
  conv => rhs; rw [hk, getElem?_append_nulls]

theorem trim_getElem?_some {fs : List Field} {i : Nat} {b : Bytes} (h : fs[i]? = some (some b)) :
    (trimNullSuffix fs)[i]? = some (some b) :=
  Option.join_eq_some_iff.1 (by rw [trim_getElem?, h]; rfl)

theorem length_le_of_getElem? {A B : List Field} (hk : ∀ i : Nat, (A[i]?).join = (B[i]?).join)
    (hB : ∀ h : B ≠ [], B.getLast h ≠ none) : B.length ≤ A.length := by
  by_cases hb : B = []
  · simp [hb]
  · refine Nat.le_of_not_lt fun hlt => ?_
    have hpos : 0 < B.length := List.length_pos_iff.2 hb
    have := hk (B.length - 1)
    rw [List.getElem?_eq_none (by omega), List.getElem?_eq_getElem (by omega)] at this
    have hl := hB hb
    rw [List.getLast_eq_getElem] at hl
    exact hl this.symm

theorem trim_eq_of_getElem? {fs gs : List Field} (h : ∀ i : Nat, (fs[i]?).join = (gs[i]?).join) :
    trimNullSuffix fs = trimNullSuffix gs := by
  have key : ∀ i : Nat, ((trimNullSuffix fs)[i]?).join = ((trimNullSuffix gs)[i]?).join := by
    intro i; rw [trim_getElem?, trim_getElem?, h i]
  have l1 := length_le_of_getElem? key (trim_getLast gs)
  have l2 := length_le_of_getElem? (fun i => (key i).symm) (trim_getLast fs)
  apply List.ext_getElem (by omega)
  intro i h1 h2
  have := key i
  rwa [List.getElem?_eq_getElem h1, List.getElem?_eq_getElem h2] at this

theorem trim_append_replicate (fs : List Field) (k : Nat) :
    trimNullSuffix (fs ++ List.replicate k none) = trimNullSuffix fs :=
  trim_eq_of_getElem? (getElem?_append_nulls fs k)

theorem trim_idem (fs : List Field) : trimNullSuffix (trimNullSuffix fs) = trimNullSuffix fs :=
  trim_eq_of_getElem? (trim_getElem? fs)

end DoltVerif.ValCodec
