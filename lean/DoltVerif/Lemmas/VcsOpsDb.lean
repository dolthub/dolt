import DoltVerif.Model.VcsOpsQuery
import DoltVerif.Lemmas.VcsOpsMerge
/-!
Bookkeeping lemmas about the database machine (C31, C33, C34): what `addCommit`, `setHead`, `setWs` do to
the accessors, the well-formedness predicate `Db.WF`, `moveTables` as `setAll`, what a successful inner step of
cherry-pick (`cherryRoot`) or rebase (`rebaseStep`) did, and that the errors they report are never `.ok`.
-/
namespace DoltVerif.VcsOps

/-- What the identities below need of a database; the examples next to the property theorems check it on a sample
history by evaluation (`Db.wfb`).  It is not an invariant of `Db.run`: `Db.dml` does not refuse a `CREATE TABLE`
with a repeated column, and once that table is committed `roots` fails (`cols.Nodup`). -/
structure Db.WF (d : Db) : Prop where
  branches : Sorted ltStr (keys d.branches)
  wss : Sorted ltStr (keys d.wss)
  roots : ∀ (i : Nat) (c : Commit), d.commits[i]? = some c → RootWF c.root
  parents : ∀ (i : Nat) (c : Commit), d.commits[i]? = some c → ∀ p ∈ c.parents, p < i

@[simp] theorem setWs_commits (d : Db) (w : WS) : (d.setWs w).commits = d.commits := rfl
@[simp] theorem setWs_branches (d : Db) (w : WS) : (d.setWs w).branches = d.branches := rfl
@[simp] theorem setWs_cur (d : Db) (w : WS) : (d.setWs w).cur = d.cur := rfl
@[simp] theorem setWs_stashes (d : Db) (w : WS) : (d.setWs w).stashes = d.stashes := rfl
@[simp] theorem setHead_commits (d : Db) (i : Nat) : (d.setHead i).commits = d.commits := rfl
@[simp] theorem setHead_wss (d : Db) (i : Nat) : (d.setHead i).wss = d.wss := rfl
@[simp] theorem setHead_cur (d : Db) (i : Nat) : (d.setHead i).cur = d.cur := rfl

@[simp] theorem ws_setWs (d : Db) (w : WS) : (d.setWs w).ws = w := by
  simp [Db.ws, Db.setWs, get_put]

@[simp] theorem headId_setHead (d : Db) (i : Nat) : (d.setHead i).headId = i := by
  simp [Db.headId, Db.setHead, get_put]

@[simp] theorem headId_setWs (d : Db) (w : WS) : (d.setWs w).headId = d.headId := rfl
@[simp] theorem ws_setHead (d : Db) (i : Nat) : (d.setHead i).ws = d.ws := rfl
@[simp] theorem rootOf_setWs (d : Db) (w : WS) (i : Nat) : (d.setWs w).rootOf i = d.rootOf i := rfl
@[simp] theorem rootOf_setHead (d : Db) (j i : Nat) : (d.setHead j).rootOf i = d.rootOf i := rfl
@[simp] theorem commit?_setWs (d : Db) (w : WS) (i : Nat) : (d.setWs w).commit? i = d.commit? i := rfl
@[simp] theorem commit?_setHead (d : Db) (j i : Nat) : (d.setHead j).commit? i = d.commit? i := rfl

theorem headRoot_setHead (d : Db) (i : Nat) : (d.setHead i).headRoot = d.rootOf i := by
  simp [Db.headRoot]

@[simp] theorem headRoot_setWs (d : Db) (w : WS) : (d.setWs w).headRoot = d.headRoot := rfl

@[simp] theorem addCommit_snd (d : Db) (ps : List Nat) (r : Root) (m : String) :
    (d.addCommit ps r m).2 = d.commits.length := rfl

@[simp] theorem addCommit_branches (d : Db) (ps : List Nat) (r : Root) (m : String) :
    (d.addCommit ps r m).1.branches = d.branches := rfl
@[simp] theorem addCommit_wss (d : Db) (ps : List Nat) (r : Root) (m : String) :
    (d.addCommit ps r m).1.wss = d.wss := rfl
@[simp] theorem addCommit_cur (d : Db) (ps : List Nat) (r : Root) (m : String) :
    (d.addCommit ps r m).1.cur = d.cur := rfl
@[simp] theorem addCommit_ws (d : Db) (ps : List Nat) (r : Root) (m : String) :
    (d.addCommit ps r m).1.ws = d.ws := rfl
@[simp] theorem addCommit_headId (d : Db) (ps : List Nat) (r : Root) (m : String) :
    (d.addCommit ps r m).1.headId = d.headId := rfl

theorem addCommit_length (d : Db) (ps : List Nat) (r : Root) (m : String) :
    (d.addCommit ps r m).1.commits.length = d.commits.length + 1 := by
  simp [Db.addCommit]

theorem commit_addCommit_new (d : Db) (ps : List Nat) (r : Root) (m : String) :
    ∃ h, (d.addCommit ps r m).1.commit? d.commits.length = some ⟨ps, r, m, h⟩ := by
  simp [Db.addCommit, Db.commit?]

theorem rootOf_addCommit_new (d : Db) (ps : List Nat) (r : Root) (m : String) :
    (d.addCommit ps r m).1.rootOf d.commits.length = r := by
  simp [Db.addCommit, Db.rootOf]

theorem commit_addCommit_old (d : Db) (ps : List Nat) (r : Root) (m : String) (i : Nat) (h : i < d.commits.length) :
    (d.addCommit ps r m).1.commit? i = d.commit? i := by
  simp [Db.addCommit, Db.commit?, List.getElem?_append_left h]

theorem rootOf_addCommit_old (d : Db) (ps : List Nat) (r : Root) (m : String) (i : Nat) (h : i < d.commits.length) :
    (d.addCommit ps r m).1.rootOf i = d.rootOf i := by
  simp [Db.addCommit, Db.rootOf, List.getElem?_append_left h]

theorem lt_length_of_commit (d : Db) (i : Nat) (c : Commit) (h : d.commit? i = some c) : i < d.commits.length := by
  unfold Db.commit? at h
  exact (List.getElem?_eq_some_iff.mp h).1

theorem rootOf_of_commit (d : Db) (i : Nat) (c : Commit) (h : d.commit? i = some c) : d.rootOf i = c.root := by
  unfold Db.commit? at h
  simp [Db.rootOf, h]

theorem clean_iff (d : Db) : d.clean = true ↔ d.ws.staged = d.headRoot ∧ d.ws.working = d.headRoot := by
  simp [Db.clean]

theorem resolve_zero (d : Db) (b : RefBase) (c : Nat) (hb : d.resolveBase b = some c) (hc : c < d.commits.length) :
    d.resolve ⟨b, 0⟩ = some c := by
  simp [Db.resolve, hb, Db.ancestor, hc]

theorem rootWF_rootOf (d : Db) (hd : d.WF) (i : Nat) : RootWF (d.rootOf i) := by
  unfold Db.rootOf
  cases h : d.commits[i]? with
  | none => exact ⟨List.Pairwise.nil, fun n t h => by cases h⟩
  | some c => exact hd.roots i c h

theorem put_get_self {κ α : Type} [DecidableEq κ] {lt : κ → κ → Bool} (st : StrictTotal lt)
    (m : List (κ × α)) (k : κ) (v : α) (hs : Sorted lt (keys m)) (h : get m k = some v) :
    put lt m k v = m := by
  have := setOpt_get st m hs k
  rwa [h] at this

theorem setWs_setWs (d : Db) (hs : Sorted ltStr (keys d.wss)) (w w' : WS) : (d.setWs w).setWs w' = d.setWs w' := by
  simp only [Db.setWs, show put ltStr (put ltStr d.wss d.cur w) d.cur w' = put ltStr d.wss d.cur w' from
    setOpt_setOpt strictTotal_ltStr d.wss hs d.cur (some w) (some w')]

theorem setWs_ws (d : Db) (hs : Sorted ltStr (keys d.wss)) (h : get d.wss d.cur = some d.ws) : d.setWs d.ws = d := by
  simp only [Db.setWs, put_get_self strictTotal_ltStr d.wss d.cur d.ws hs h]

theorem setHead_headId (d : Db) (hs : Sorted ltStr (keys d.branches)) (h : get d.branches d.cur = some d.headId) :
    d.setHead d.headId = d := by
  simp only [Db.setHead, put_get_self strictTotal_ltStr d.branches d.cur d.headId hs h]

theorem moveTables_eq_setAll (names : List String) (src dest : Root) :
    moveTables names src dest = setAll ltStr (get src) names dest := by
  have : moveStep src = fun acc n => setOpt ltStr acc n (get src n) := by
    funext acc n
    unfold moveStep
    cases get src n <;> rfl
  rw [moveTables, this]
  rfl

theorem get_moveTables (names : List String) (src dest : Root) (hd : Sorted ltStr (keys dest)) (a : String) :
    get (moveTables names src dest) a = if a ∈ names then get src a else get dest a := by
  rw [moveTables_eq_setAll]
  exact get_setAll strictTotal_ltStr _ names dest hd a

theorem mem_changedTables (a b : Root) (n : String) : n ∈ changedTables a b ↔ get a n ≠ get b n := by
  unfold changedTables
  rw [List.mem_filter, decide_eq_true_eq]
  refine ⟨fun h => h.2, fun h => ⟨Classical.byContradiction fun hn => ?_, h⟩⟩
  obtain ⟨e1, e2⟩ := get_none_of_not_mem_unionKeys a b n hn
  exact h (e1.trans e2.symm)

theorem changedTables_self (a : Root) : changedTables a a = [] := by
  simp [changedTables]

theorem moveTables_eq_src (names : List String) (src dest : Root) (hd : Sorted ltStr (keys dest))
    (hs : Sorted ltStr (keys src)) (h : ∀ n, n ∉ names → get dest n = get src n) :
    moveTables names src dest = src := by
  rw [moveTables_eq_setAll]
  exact setAll_eq strictTotal_ltStr names dest src hd hs h

theorem moveTables_changed (a m : Root) (ha : Sorted ltStr (keys a)) (hm : Sorted ltStr (keys m)) :
    moveTables (changedTables a m) m a = m :=
  moveTables_eq_src _ m a ha hm (fun n hn => Classical.not_not.mp (mt (mem_changedTables a m n).mpr hn))

theorem get_foldl_putUnless (p : String → Bool) (l : Root) (hl : Sorted ltStr (keys l)) :
    ∀ acc : Root, ∀ n,
      get (l.foldl (fun acc nt => if p nt.1 then acc else putTable acc nt.1 nt.2) acc) n =
        match get l n with
        | some tb => if p n then get acc n else some tb
        | none => get acc n := by
  induction l with
  | nil => intro acc n; rfl
  | cons kv rest ih =>
    obtain ⟨k, v⟩ := kv
    obtain ⟨h1, h2⟩ := sorted_cons.mp hl
    intro acc n
    rw [List.foldl_cons, ih h2, get_cons]
    by_cases e : k = n
    · -- `k` does not occur again in `rest`
      rw [if_pos e, ← e, get_none_of_lt strictTotal_ltStr rest k h1]
      dsimp only
      by_cases hp : p k = true
      · rw [if_pos hp, if_pos hp]
      · rw [if_neg hp, if_neg hp]; exact (get_put acc k k v).trans (if_pos rfl)
    · have hacc : get (if p k = true then acc else putTable acc k v) n = get acc n := by
        split
        · rfl
        · exact (get_put acc k n v).trans (if_neg e)
      rw [if_neg e, hacc]

theorem sorted_foldl_putUnless (p : String → Bool) : ∀ (w acc : Root), Sorted ltStr (keys acc) →
    Sorted ltStr (keys (w.foldl (fun acc nt => if p nt.1 then acc else putTable acc nt.1 nt.2) acc))
  | [], _, h => h
  | nt :: rest, acc, h => by
    rw [List.foldl_cons]
    apply sorted_foldl_putUnless p rest
    split
    · exact h
    · exact sorted_put strictTotal_ltStr acc nt.1 nt.2 h

theorem commit_ext (d d1 : Db) (h : d.commits <+: d1.commits) (i : Nat) (hi : i < d.commits.length) :
    d1.commit? i = d.commit? i := by
  obtain ⟨t, ht⟩ := h
  simp [Db.commit?, ← ht, List.getElem?_append_left hi]

theorem rootOf_ext (d d1 : Db) (h : d.commits <+: d1.commits) (i : Nat) (hi : i < d.commits.length) :
    d1.rootOf i = d.rootOf i := by
  obtain ⟨t, ht⟩ := h
  simp [Db.rootOf, ← ht, List.getElem?_append_left hi]

theorem ext_addCommit (d : Db) (ps : List Nat) (r : Root) (m : String) :
    d.commits <+: (d.addCommit ps r m).1.commits :=
  List.prefix_append _ _

theorem eq_of_addCommit {d d1 : Db} {ps : List Nat} {r : Root} {m : String} {id : Nat}
    (h : d.addCommit ps r m = (d1, id)) : d1 = (d.addCommit ps r m).1 ∧ id = d.commits.length := by
  cases h; exact ⟨rfl, rfl⟩

theorem prefix_of_addCommit {d d1 : Db} {ps : List Nat} {r : Root} {m : String} {id : Nat}
    (h : d.addCommit ps r m = (d1, id)) : d.commits <+: d1.commits :=
  (eq_of_addCommit h).1 ▸ ext_addCommit d ps r m

theorem errOfMerge_ne_ok (e : MergeErr) : errOfMerge e ≠ .ok := by
  cases e <;> exact nofun

theorem cherryRoot_error (d : Db) (c : Nat) (e : Res) (h : d.cherryRoot c = .error e) : e ≠ .ok := by
  revert h
  fun_cases Db.cherryRoot d c <;> intro h <;> cases h
  all_goals first | exact errOfMerge_ne_ok _ | exact nofun

theorem cherryRoot_ok (d : Db) (c : Nat) (m : Root) (h : d.cherryRoot c = .ok m) :
    d.ws.staged = d.headRoot ∧ d.ws.working = d.headRoot ∧
    ∃ cm p, d.commit? c = some cm ∧ cm.parents = [p] ∧ cm.root ≠ d.rootOf p ∧
      merge3 true (d.rootOf p) d.ws.working cm.root = .ok m := by
  revert h
  fun_cases Db.cherryRoot d c <;> intro h <;> cases h
  next hclean cm hcm p hp hne hm =>
    have hc := (clean_iff d).mp (by simpa using hclean)
    exact ⟨hc.1, hc.2, cm, p, hcm, hp, hne, hm⟩

theorem rebaseStep_ok (d d1 : Db) (cur cur1 c : Nat) (a : Action) (h : d.rebaseStep cur c a = .ok (d1, cur1)) :
    (a = .drop ∧ d1 = d ∧ cur1 = cur) ∨
    ∃ cm curc p m, a ≠ .drop ∧ d.commit? c = some cm ∧ d.commit? cur = some curc ∧ cm.parents = [p] ∧
      merge3 cherryPickIsCherry (d.rootOf p) curc.root cm.root = .ok m ∧
      ((m = curc.root ∧ d1 = d ∧ cur1 = cur) ∨ ∃ ps msg, d.addCommit ps m msg = (d1, cur1)) := by
  revert h
  -- the branches that answer `.error` go with `cases h`
  fun_cases Db.rebaseStep d cur c a <;> intro h <;> cases h
  -- `drop`
  case case1 => exact Or.inl ⟨rfl, rfl, rfl⟩
  -- the merged root is the current one: the picked commit became empty
  case case3 cm curc hcurc hcm p hp hm hne => exact Or.inr ⟨cm, curc, p, _, hne, hcm, hcurc, hp, hm, Or.inl ⟨rfl, rfl, rfl⟩⟩
  -- the `drop` arm of the inner `match a`, not reached since the outer one took `drop` away
  case case8 => exact absurd rfl ‹Action.drop = Action.drop → False›
  -- `pick`, `reword`, `squash`, `fixup`: one commit is added
  all_goals exact Or.inr ⟨_, _, _, _, nofun, ‹d.commit? c = some _›, ‹d.commit? cur = some _›, ‹_ = [_]›,
    ‹merge3 _ _ _ _ = _›, Or.inr ⟨_, _, rfl⟩⟩

theorem rebaseStep_error_ne_ok (d : Db) (cur c : Nat) (a : Action) (e : Res)
    (h : d.rebaseStep cur c a = .error e) : e ≠ .ok := by
  revert h
  fun_cases Db.rebaseStep d cur c a <;> intro h <;> cases h
  all_goals first | exact errOfMerge_ne_ok _ | exact nofun

theorem rebaseStep_prefix (d d1 : Db) (cur cur1 c : Nat) (a : Action)
    (h : d.rebaseStep cur c a = .ok (d1, cur1)) : d.commits <+: d1.commits := by
  obtain ⟨_, rfl, _⟩ | ⟨_, _, _, _, _, _, _, _, _, ⟨_, rfl, _⟩ | ⟨_, _, hadd⟩⟩ := rebaseStep_ok d d1 cur cur1 c a h
  · exact List.prefix_refl _
  · exact List.prefix_refl _
  · exact prefix_of_addCommit hadd

theorem rebaseSteps_prefix (steps : List (Nat × Action)) (d d1 : Db) (cur cur1 : Nat)
    (h : d.rebaseSteps cur steps = .ok (d1, cur1)) : d.commits <+: d1.commits := by
  revert h
  fun_induction Db.rebaseSteps d cur steps with
  | case1 d cur => rintro ⟨⟩; exact List.prefix_refl _
  | case2 d cur c a rest e hstep => nofun
  | case3 d cur c a rest d2 cur2 hstep ih => exact fun h => (rebaseStep_prefix d d2 cur cur2 c a hstep).trans (ih h)

theorem rebaseSteps_error_ne_ok (d : Db) (cur : Nat) (steps : List (Nat × Action)) (e : Res)
    (h : d.rebaseSteps cur steps = .error e) : e ≠ .ok := by
  revert h
  fun_induction Db.rebaseSteps d cur steps with
  | case1 d cur => nofun
  | case2 d cur c a rest e' hstep => rintro ⟨⟩; exact rebaseStep_error_ne_ok d cur c a _ hstep
  | case3 d cur c a rest d2 cur2 hstep ih => exact ih

theorem mem_rebaseCommits_lt (d : Db) (h u : Nat) (cs : List Nat) (hcs : d.rebaseCommits h u = some cs) :
    ∀ c ∈ cs, c < d.commits.length := by
  unfold Db.rebaseCommits at hcs
  dsimp only at hcs
  split at hcs
  · cases hcs
    intro c hc
    have := (List.mem_filter.mp hc).2
    unfold Db.singleParent at this
    split at this
    · next cm hcm => exact lt_length_of_commit d c cm hcm
    · cases this
  · cases hcs

theorem ancestor_lt (d : Db) (i n u : Nat) (h : d.ancestor i n = some u) : u < d.commits.length := by
  revert h
  fun_induction Db.ancestor d i n with
  | case1 i hi => rintro ⟨⟩; exact hi
  | case3 i n c hc p ps hp ih => exact ih
  -- out of range, a commit without parents, no such commit
  | case2 | case4 | case5 => nofun

theorem resolve_lt (d : Db) (r : Ref) (u : Nat) (h : d.resolve r = some u) : u < d.commits.length := by
  unfold Db.resolve at h
  split at h
  · exact ancestor_lt d _ _ u h
  · cases h

end DoltVerif.VcsOps
