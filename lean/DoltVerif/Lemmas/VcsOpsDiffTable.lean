import DoltVerif.Model.VcsOpsQuery
/-!
C32: `dolt_diff_<t>` on a linear history: the commit walk visits the first-parent chain in order, and the
scan compares every commit with the one visited just before it.
-/
namespace DoltVerif.VcsOps

/-- a linear history, newest first: every commit's parent list is exactly the next element of the
list, the last commit has no parents (no merge commit, no second child anywhere on the way) -/
def IsChain (d : Db) : List Nat → Prop
  | [] => True
  | [c] => (d.commit? c).map (·.parents) = some []
  | c :: p :: rest => (d.commit? c).map (·.parents) = some [p] ∧ IsChain d (p :: rest)

/-- the adjacent-pair diffs along a chain, newest first.  `cid` / `ctbl` are the commit (`none` =
WORKING) and table the first commit of the chain is compared with; the scan ends where the newer
side has no table (a dropped table is a different table from there on). -/
def chainDiff (d : Db) (t : String) (target : List Col) : Option Nat → Option Table → List Nat → List DiffTableRow
  | _, _, [] => []
  | cid, ctbl, c :: rest =>
    if get (d.rootOf c) t ≠ ctbl then
      if ctbl.isNone then []
      else (diffPartitionRows target (get (d.rootOf c) t) ctbl).map (fun r => ⟨cid, c, r⟩) ++
        chainDiff d t target (some c) (get (d.rootOf c) t) rest
    else chainDiff d t target (some c) (get (d.rootOf c) t) rest

theorem chain_cons (d : Db) (c : Nat) (rest : List Nat) (h : IsChain d (c :: rest)) :
    d.parentsOf c = rest.head?.toList ∧ IsChain d rest := by
  unfold Db.parentsOf
  cases rest with
  | nil =>
    have : (d.commit? c).map (·.parents) = some [] := h
    cases hc : d.commit? c with
    | none => exact ⟨rfl, trivial⟩
    | some cm => rw [hc] at this; exact ⟨by simpa using this, trivial⟩
  | cons p rest' =>
    have := h.1
    cases hc : d.commit? c with
    | none => rw [hc] at this; cases this
    | some cm => rw [hc] at this; exact ⟨by simpa using this, h.2⟩

theorem walkAux_chain (d : Db) (rest : List Nat) :
    ∀ (c : Nat) (acc : List Nat) (fuel : Nat), IsChain d (c :: rest) → (∀ x ∈ rest, x ∉ acc) → rest.Nodup →
      rest.length + 1 ≤ fuel → d.walkAux fuel c [] acc acc = acc.reverse ++ rest := by
  induction rest with
  | nil =>
    intro c acc fuel hch _ _ hf
    obtain ⟨f, rfl⟩ : ∃ f, fuel = f + 1 := ⟨fuel - 1, by omega⟩
    simp only [Db.walkAux, (chain_cons d c [] hch).1, List.head?_nil, Option.toList_none, List.foldl_nil,
      List.getLast?_nil, List.append_nil]
  | cons p rest' ih =>
    intro c acc fuel hch hnot hnd hf
    obtain ⟨f, rfl⟩ : ∃ f, fuel = f + 1 := ⟨fuel - 1, by simp at hf; omega⟩
    obtain ⟨hps, hrest⟩ := chain_cons d c (p :: rest') hch
    have hp : p ∉ acc := hnot p List.mem_cons_self
    have hcontains : acc.contains p = false := by simpa using hp
    have hnd' := List.nodup_cons.mp hnd
    simp only [Db.walkAux, hps, List.head?_cons, Option.toList_some, List.foldl_cons, List.foldl_nil, hcontains,
      Bool.false_eq_true, if_false, List.nil_append, List.getLast?_singleton, List.dropLast_singleton]
    rw [ih p (p :: acc) f hrest ?_ hnd'.2 (by simp at hf; omega)]
    · simp
    · intro x hx hmem
      rcases List.mem_cons.mp hmem with e | h'
      · exact hnd'.1 (e ▸ hx)
      · exact hnot x (List.mem_cons_of_mem _ hx) h'

theorem walk_chain (d : Db) (h : Nat) (rest : List Nat) (hch : IsChain d (h :: rest)) (hnd : (h :: rest).Nodup)
    (hlen : rest.length + 1 ≤ d.commits.length) : d.walk h = h :: rest := by
  unfold Db.walk
  have hnd' := List.nodup_cons.mp hnd
  rw [walkAux_chain d rest h [h] _ hch ?_ hnd'.2 (by omega)]
  · simp
  · intro x hx hmem
    simp only [List.mem_singleton] at hmem
    exact hnd'.1 (hmem ▸ hx)

theorem diffTableAux_chain (d : Db) (t : String) (target : List Col) (chain : List Nat) :
    ∀ (info : List (Nat × Option Nat × Option Table)) (acc : List DiffTableRow) (cid : Option Nat) (ctbl : Option Table),
      IsChain d chain → chain.Nodup →
      (∀ c rest, chain = c :: rest → info.find? (fun e => e.1 = c) = some (c, cid, ctbl)) →
      d.diffTableAux t target chain info acc = acc ++ chainDiff d t target cid ctbl chain := by
  induction chain with
  | nil => intro info acc cid ctbl _ _ _; simp [Db.diffTableAux, chainDiff]
  | cons c rest ih =>
    intro info acc cid ctbl hch hnd hinfo
    obtain ⟨hps, hrest⟩ := chain_cons d c rest hch
    -- the next commit of the chain, if there is one, gets registered with `c` as its child
    have hnext : ∀ c' rest', rest = c' :: rest' →
        ((rest.head?.toList.foldl (fun (m : List (Nat × Option Nat × Option Table)) h =>
            (h, some c, get (d.rootOf c) t) :: m.filter (fun e => e.1 ≠ h)) info).find? (fun e => e.1 = c'))
          = some (c', some c, get (d.rootOf c) t) := by
      intro c' rest' e
      subst e
      simp
    have step := fun acc' => ih _ acc' (some c) (get (d.rootOf c) t) hrest (List.nodup_cons.mp hnd).2 hnext
    rw [Db.diffTableAux]
    simp only [hinfo c rest rfl, hps]
    rw [chainDiff]
    by_cases h1 : get (d.rootOf c) t ≠ ctbl
    · simp only [h1, ne_eq, not_false_eq_true, if_true]
      by_cases h2 : ctbl.isNone = true
      · simp [h2]
      · simp only [h2, Bool.false_eq_true, if_false]
        rw [step, List.append_assoc]
    · simp only [h1, if_false]
      exact step acc

end DoltVerif.VcsOps
