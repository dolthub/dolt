import DoltVerif.Lemmas.VcsOpsPatch
import DoltVerif.Lemmas.VcsOpsMerge
/-!
Execution of patches (C32): statements addressed to one table act on that table only (`exec_lift`); the
data statements of a diff turn the first row map, re-laid onto the second column list, into the second
(`execTs_diff`: key by key, `foldlM_flatMap_setAll`); a `CREATE TABLE` followed by its inserts is the case of an
empty first map.
-/
namespace DoltVerif.VcsOps

def execTs (tb : Option Table) (ss : List Stmt) : Option (Option Table) := ss.foldlM execT tb

@[simp] theorem execTs_nil (tb : Option Table) : execTs tb [] = some tb := rfl

theorem execTs_cons (tb : Option Table) (s : Stmt) (ss : List Stmt) :
    execTs tb (s :: ss) = (execT tb s).bind (fun t => execTs t ss) := by
  simp [execTs, List.foldlM_cons]

theorem execTs_append (tb : Option Table) (s1 s2 : List Stmt) :
    execTs tb (s1 ++ s2) = (execTs tb s1).bind (fun t => execTs t s2) :=
  List.foldlM_append

theorem setEntry_eq (r : Root) (n : String) (t : Option Table) : setEntry r n t = setOpt ltStr r n t := by
  cases t <;> rfl

theorem exec_cons (r : Root) (s : Stmt) (ss : List Stmt) :
    exec (s :: ss) r = (execStmt r s).bind (fun r' => exec ss r') := by
  simp [exec, List.foldlM_cons]

theorem exec_append (r : Root) (s1 s2 : List Stmt) :
    exec (s1 ++ s2) r = (exec s1 r).bind (fun r' => exec s2 r') :=
  List.foldlM_append

theorem exec_lift (n : String) (ss : List Stmt) (h : ∀ s ∈ ss, stmtTable s = n) (r : Root)
    (hr : Sorted ltStr (keys r)) :
    exec ss r = (execTs (get r n) ss).map (setOpt ltStr r n) := by
  induction ss generalizing r with
  | nil => rw [execTs_nil, Option.map_some, setOpt_get strictTotal_ltStr r hr n]; rfl
  | cons s rest ih =>
    rw [exec_cons, execTs_cons, execStmt, h s List.mem_cons_self]
    cases execT (get r n) s with
    | none => rfl
    | some t1 =>
      rw [Option.map_some, Option.bind_some, Option.bind_some, setEntry_eq,
        ih (fun s hs => h s (List.mem_cons_of_mem _ hs)) _ (sorted_setOpt strictTotal_ltStr r hr n t1),
        get_setOpt strictTotal_ltStr r hr, if_pos rfl]
      cases execTs t1 rest with
      | none => rfl
      | some t2 => rw [Option.map_some, Option.map_some, setOpt_setOpt strictTotal_ltStr r hr]

theorem applySets_cons (cols : List Col) (row : Row) (s : String × Val) (sets : List (String × Val)) :
    applySets cols row (s :: sets) = applySets cols (setCell cols row s.1 s.2) sets := rfl

theorem applySets_cons_other (c : Col) (cs : List Col) (v : Val) (vs : Row) (sets : List (String × Val))
    (h : ∀ s ∈ sets, s.1 ≠ c.name) :
    applySets (c :: cs) (v :: vs) sets = v :: applySets cs vs sets := by
  induction sets generalizing vs with
  | nil => rfl
  | cons s rest ih =>
    rw [applySets_cons, applySets_cons, setCell, if_neg (fun e => h s List.mem_cons_self e.symm),
      ih _ (fun s' hs' => h s' (List.mem_cons_of_mem _ hs'))]

theorem changedSets_names (cols : List Col) (f t : Row) :
    ∀ s ∈ changedSets cols f t, s.1 ∈ cols.map (·.name) := by
  fun_induction changedSets cols f t with
  | case1 c cs fs t ts ih => exact fun s hs => List.mem_cons_of_mem _ (ih s hs)
  | case2 c cs f fs t ts hne ih =>
    -- a changed cell: its assignment names column `c`
    intro s hs
    rcases List.mem_cons.mp hs with e | h'
    · subst e; simp
    · exact List.mem_cons_of_mem _ (ih s h')
  | case3 => nofun

theorem applySets_changedSets (cols : List Col) (f t : Row) (hn : (cols.map (·.name)).Nodup)
    (hf : f.length = cols.length) (ht : t.length = cols.length) :
    applySets cols f (changedSets cols f t) = t := by
  induction cols generalizing f t with
  | nil => rw [List.eq_nil_of_length_eq_zero hf, List.eq_nil_of_length_eq_zero ht]; rfl
  | cons c cs ih =>
    match f, t, hf, ht with
    | fv :: fs, tv :: ts, hf, ht =>
      have hn' : c.name ∉ cs.map (·.name) ∧ (cs.map (·.name)).Nodup := List.nodup_cons.mp hn
      -- the later columns' assignments do not touch column `c`
      have hother : ∀ s ∈ changedSets cs fs ts, s.1 ≠ c.name :=
        fun s hs e => hn'.1 (e ▸ changedSets_names cs fs ts s hs)
      have ih' := ih fs ts hn'.2 (Nat.succ.inj hf) (Nat.succ.inj ht)
      rw [changedSets]
      split
      · next e => rw [applySets_cons_other c cs fv fs _ hother, ih', e]
      · rw [applySets_cons, setCell, if_pos rfl, applySets_cons_other c cs tv fs _ hother, ih']

theorem execTs_dataStmt (n : String) (fc tc : List Col) (cur : List (Int × Row))
    (hcur : Sorted ltInt (keys cur)) (k : Int) (f t : Option Row)
    (hnn : f ≠ none → (tc.map (·.name)).Nodup)
    (hlt : ∀ tr, t = some tr → tr.length = tc.length) (hk : get cur k = f.map (projRow fc tc)) :
    execTs (some ⟨tc, cur⟩) (dataStmt n fc tc ⟨k, expectedType f t, f, t⟩)
      = some (some ⟨tc, setOpt ltInt cur k t⟩) := by
  -- where no statement is generated the row at `k` already is `t`
  have hsame : get cur k = t → setOpt ltInt cur k t = cur :=
    fun e => e ▸ setOpt_get strictTotal_ltInt cur hcur k
  cases f with
  | none =>
    cases t with
    | none => rw [hsame hk]; rfl
    | some tr => simp [dataStmt, expectedType, execTs_cons, execT, has, hk, hlt tr rfl, setOpt, putRow]
  | some fr =>
    cases t with
    | none => simp [dataStmt, expectedType, execTs_cons, execT, setOpt]
    | some tr =>
      -- `UPDATE` of the changed columns; none changed: the rows are equal
      have happ := applySets_changedSets tc (projRow fc tc fr) tr (hnn nofun) (by simp [projRow]) (hlt tr rfl)
      by_cases hemp : (changedSets tc (projRow fc tc fr) tr).isEmpty = true
      · rw [List.isEmpty_iff.mp hemp] at happ
        rw [hsame (hk.trans (congrArg some happ))]
        simp [dataStmt, expectedType, hemp]
      · simp [dataStmt, expectedType, hemp, execTs_cons, execT, hk, happ, setOpt, putRow]

/-- `g` is what the diff compares (`diffKeyOn`); where it sees no difference the re-laid from-row must be the
to-row (`hg`) — trivially so for `g = id` on one column list, by `NoTupleAlias` for the stored tuples. -/
theorem execTs_diff (n : String) (fc tc : List Col) (f t : List (Int × Row)) (g : Row → Row)
    (hnn : f ≠ [] → (tc.map (·.name)).Nodup)
    (hf : Sorted ltInt (keys f)) (ht : Sorted ltInt (keys t))
    (hg : ∀ k fr tr, get f k = some fr → get t k = some tr → g fr = g tr → projRow fc tc fr = tr)
    (hlt : ∀ k r, get t k = some r → r.length = tc.length) :
    execTs (some ⟨tc, projRows fc tc f⟩) ((diffOn g f t).flatMap (dataStmt n fc tc)) = some (some ⟨tc, t⟩) := by
  have hp : Sorted ltInt (keys (projRows fc tc f)) := by rw [keys_projRows]; exact hf
  -- key by key: the statements made for `k` turn the re-laid from-row into the to-row
  have hkey : ∀ k m, Sorted ltInt (keys m) → get m k = (get f k).map (projRow fc tc) →
      execTs (some ⟨tc, m⟩) ((diffKeyOn g k (get f k) (get t k)).elim [] (dataStmt n fc tc))
        = some (some ⟨tc, setOpt ltInt m k (get t k)⟩) := by
    intro k m hm hk
    cases hd : diffKeyOn g k (get f k) (get t k) with
    | none =>
      -- no difference seen, no statement: the row there already is `t`'s
      have e : (get f k).map (projRow fc tc) = get t k := by
        have hgk := hg k
        have e := (diffKeyOn_eq_none g k _ _).mp hd
        revert hgk e
        cases get f k <;> cases get t k <;> intro hgk e
        · rfl
        · cases e
        · cases e
        · exact congrArg some (hgk _ _ rfl rfl (Option.some.inj e))
      rw [← e, ← hk, setOpt_get strictTotal_ltInt m hm k]; rfl
    | some d =>
      rw [diffKeyOn_some g k _ _ d hd]
      exact execTs_dataStmt n fc tc m hm k _ _ (fun h => hnn (fun e => h (e ▸ rfl))) (hlt k) hk
  rw [diffOn, flatMap_filterMap]
  refine (foldlM_flatMap_setAll strictTotal_ltInt execT (fun m => some ⟨tc, m⟩) _ _ (get t) hkey _
    (nodup_of_sorted strictTotal_ltInt _ (sorted_unionKeys strictTotal_ltInt (keys f) (keys t)))
    _ hp (fun k _ => get_projRows fc tc f k)).trans ?_
  -- outside the union of the keys both maps are empty
  rw [setAll_eq strictTotal_ltInt _ _ t hp ht (fun k hk => by
    obtain ⟨e1, e2⟩ := get_none_of_not_mem_unionKeys f t k hk
    rw [get_projRows, e1, e2]; rfl)]

theorem diffTables_none (tt : Table) (ht : Sorted ltInt (keys tt.rows)) :
    diffTables none (some tt) = diffOn id [] tt.rows := by
  have hrows := filterMap_get_eq strictTotal_ltInt _ (sorted_unionKeys strictTotal_ltInt (keys ([] : List (Int × Row))) (keys tt.rows))
    tt.rows ht (fun k hk => (mem_unionKeys _ _ k).mpr (Or.inr hk))
  simp only [diffTables, diffOn]
  conv => lhs; rw [← hrows]
  rw [List.map_filterMap]
  apply filterMap_congr'
  intro k _
  cases get tt.rows k <;> rfl

theorem execTs_patch_create (n : String) (tt : Table) (ht : tt.WF) :
    execTs none (patchTable n none (some tt)) = some (some tt) := by
  rw [patchTable, diffTables_none tt ht.1, execTs_cons]
  exact execTs_diff n tt.cols tt.cols [] tt.rows id (fun h => absurd rfl h) List.Pairwise.nil ht.1
    (fun _ _ _ h => nomatch h) (len_of_wf tt ht)

theorem stmtTable_dataStmt (n : String) (fc tc : List Col) (d : DiffRow) :
    ∀ s ∈ dataStmt n fc tc d, stmtTable s = n := by
  intro s hs
  unfold dataStmt at hs
  split at hs
  · simp at hs; subst hs; rfl
  · simp at hs; subst hs; rfl
  · dsimp only at hs
    split at hs
    · simp at hs
    · simp at hs; subst hs; rfl
  · simp at hs

theorem stmtTable_patchTable (n : String) (f t : Option Table) :
    ∀ s ∈ patchTable n f t, stmtTable s = n := by
  intro s hs
  unfold patchTable at hs
  split at hs
  · simp at hs
  · simp at hs; subst hs; rfl
  · rcases List.mem_cons.mp hs with e | h'
    · subst e; rfl
    · obtain ⟨d, _, hd⟩ := List.mem_flatMap.mp h'
      exact stmtTable_dataStmt n _ _ d s hd
  · split at hs
    · simp at hs
    · rcases List.mem_append.mp hs with h' | h'
      · simp only [schemaStmts, List.mem_append, List.mem_map] at h'
        rcases h' with ⟨c, _, e⟩ | ⟨c, _, e⟩ <;> (subst e; rfl)
      · obtain ⟨d, _, hd⟩ := List.mem_flatMap.mp h'
        exact stmtTable_dataStmt n _ _ d s hd

end DoltVerif.VcsOps
