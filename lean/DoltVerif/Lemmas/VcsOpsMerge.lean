import DoltVerif.Lemmas.VcsOpsMap
/-!
The three-way merge when every key (every table name) is decided on its own: if key by key the merge
of `b o t` is `x`'s entry, the merge of the maps is `x` (`mergeRows_pointwise`, `merge3_pointwise`).
Instances: `merge _ b b x = x`, `merge _ b x b = x` (C31), the stash identity (C34).  With them well-formed tables
and roots (`Table.WF`, `RootWF`), re-laying rows onto a column list, and that a merged root is ascending in the names.
-/
namespace DoltVerif.VcsOps

def Table.WF (t : Table) : Prop :=
  Sorted ltInt (keys t.rows) ∧ t.cols.Nodup ∧ ∀ kr ∈ t.rows, kr.2.length = t.cols.length

def RootWF (r : Root) : Prop :=
  Sorted ltStr (keys r) ∧ ∀ n t, get r n = some t → t.WF

theorem len_of_wf (t : Table) (h : t.WF) : ∀ k r, get t.rows k = some r → r.length = t.cols.length :=
  fun k r hg => h.2.2 (k, r) (mem_of_get t.rows k r hg)

theorem mergeKey_base_ours (b x : Option Row) : mergeKey b b x = .row x := by
  simp [mergeKey]

theorem mergeKey_base_theirs (b x : Option Row) : mergeKey b x b = .row x := by
  unfold mergeKey
  by_cases h : x = b
  · simp [h]
  · simp [h]

theorem mergeRowsOn_pointwise (ks : List Int) (b o t x : List (Int × Row))
    (h : ∀ k ∈ ks, mergeKey (get b k) (get o k) (get t k) = .row (get x k)) :
    mergeRowsOn ks b o t = some (ks.filterMap (fun k => (get x k).map (fun v => (k, v)))) := by
  induction ks with
  | nil => rfl
  | cons k rest ih =>
    simp only [mergeRowsOn, h k List.mem_cons_self, ih (fun m hm => h m (List.mem_cons_of_mem _ hm)),
      List.filterMap_cons]
    cases get x k <;> rfl

theorem mergeRows_pointwise (b o t x : List (Int × Row)) (hx : Sorted ltInt (keys x))
    (hsub : ∀ k ∈ keys x, (k ∈ keys b ∨ k ∈ keys o) ∨ k ∈ keys t)
    (h : ∀ k, mergeKey (get b k) (get o k) (get t k) = .row (get x k)) :
    mergeRows b o t = some x := by
  unfold mergeRows
  rw [mergeRowsOn_pointwise _ b o t x (fun k _ => h k)]
  congr 1
  apply filterMap_get_eq strictTotal_ltInt _ (sorted_unionKeys strictTotal_ltInt _ _) x hx
  intro k hk
  simpa only [mem_unionKeys] using hsub k hk

theorem mergeRows_base_ours (b x : List (Int × Row)) (hx : Sorted ltInt (keys x)) :
    mergeRows b b x = some x :=
  mergeRows_pointwise b b x x hx (fun _ hk => Or.inr hk) (fun _ => mergeKey_base_ours _ _)

theorem mergeRows_base_theirs (b x : List (Int × Row)) (hx : Sorted ltInt (keys x)) :
    mergeRows b x b = some x :=
  mergeRows_pointwise b x b x hx (fun _ hk => Or.inl (Or.inr hk)) (fun _ => mergeKey_base_theirs _ _)

theorem cellOf_cons_ne (c : Col) (cs : List Col) (v : Val) (vs : Row) (c' : Col) (h : c ≠ c') :
    cellOf (c :: cs) (v :: vs) c' = cellOf cs vs c' := by
  rw [cellOf, if_neg h]

theorem projRow_self (cols : List Col) (r : Row) (hn : cols.Nodup) (hl : r.length = cols.length) :
    projRow cols cols r = r := by
  induction cols generalizing r with
  | nil =>
    cases r with
    | nil => rfl
    | cons _ _ => simp at hl
  | cons c cs ih =>
    cases r with
    | nil => simp at hl
    | cons v vs =>
      have hn' := List.nodup_cons.mp hn
      simp only [projRow, List.map_cons]
      congr 1
      · simp [cellOf]
      · have : cs.map (cellOf (c :: cs) (v :: vs)) = cs.map (cellOf cs vs) := by
          apply List.map_congr_left
          intro c' hc'
          apply cellOf_cons_ne
          intro e
          exact hn'.1 (e ▸ hc')
        rw [this]
        exact ih vs hn'.2 (by simpa using hl)

theorem projRows_self (t : Table) (h : t.WF) : projRows t.cols t.cols t.rows = t.rows := by
  unfold projRows
  have : ∀ kr ∈ t.rows, (fun kr : Int × Row => (kr.1, projRow t.cols t.cols kr.2)) kr = kr := by
    intro kr hkr
    simp only [projRow_self t.cols kr.2 h.2.1 (h.2.2 kr hkr)]
  rw [List.map_congr_left this]
  simp

theorem keys_projRows (src dst : List Col) (rows : List (Int × Row)) :
    keys (projRows src dst rows) = keys rows := by
  simp [keys, projRows, List.map_map, Function.comp_def]

theorem get_projRows (src dst : List Col) (rows : List (Int × Row)) (k : Int) :
    get (projRows src dst rows) k = (get rows k).map (projRow src dst) := by
  induction rows with
  | nil => rfl
  | cons kv rest ih =>
    simp only [projRows, List.map_cons, get]
    split
    · rfl
    · exact ih

/-- the column list `x` is `b`'s surviving columns (in `b`'s order) followed by `x`'s new columns —
what a schema merge that can only append produces from them -/
def ColsAppend (b x : List Col) : Prop :=
  b.filter (fun c => x.contains c) ++ x.filter (fun c => !(b.contains c)) = x

theorem mergeTable_base_ours (c : Bool) (b x : Option Table) (hx : ∀ t, x = some t → t.WF)
    (hcols : c = true → ∀ bt xt, b = some bt → x = some xt → ColsAppend bt.cols xt.cols) :
    mergeTable c b b x = .ok x := by
  cases b with
  | none => cases x <;> rfl
  | some bt =>
    cases x with
    | none => simp [mergeTable]
    | some tt =>
      have hwf := hx tt rfl
      simp only [mergeTable]
      by_cases h1 : bt = tt
      · simp [h1]
      · have h2 : ¬ tt = bt := fun e => h1 e.symm
        simp only [h1, h2, if_false]
        cases c with
        | false => simp
        | true =>
          simp only [Bool.not_true, Bool.false_and, mergeCols, if_true]
          have hca : bt.cols.filter (fun c => tt.cols.contains c) ++ tt.cols.filter (fun c => !(bt.cols.contains c)) = tt.cols :=
            hcols rfl bt tt rfl rfl
          rw [hca]
          have hk : Sorted ltInt (keys (projRows tt.cols tt.cols tt.rows)) := by
            rw [keys_projRows]; exact hwf.1
          rw [mergeRows_base_ours _ _ hk, projRows_self tt hwf]
          simp

theorem mergeTable_base_theirs (c : Bool) (b x : Option Table) : mergeTable c b x b = .ok x := by
  cases b with
  | none => cases x <;> rfl
  | some bt =>
    cases x with
    | none => simp [mergeTable]
    | some ot =>
      simp only [mergeTable]
      by_cases h1 : ot = bt
      · simp [h1]
      · simp [h1]

theorem mergeRootsOn_pointwise (c : Bool) (names : List String) (b o t x : Root)
    (h : ∀ n ∈ names, mergeTable c (get b n) (get o n) (get t n) = .ok (get x n)) :
    mergeRootsOn c names b o t = .ok (names.filterMap (fun n => (get x n).map (fun v => (n, v)))) := by
  induction names with
  | nil => rfl
  | cons n rest ih =>
    simp only [mergeRootsOn, h n List.mem_cons_self, ih (fun m hm => h m (List.mem_cons_of_mem _ hm)),
      List.filterMap_cons]
    cases get x n <;> rfl

theorem merge3_pointwise (c : Bool) (b o t x : Root) (hx : Sorted ltStr (keys x))
    (hsub : ∀ n ∈ keys x, n ∈ keys o ∨ n ∈ keys t)
    (h : ∀ n, mergeTable c (get b n) (get o n) (get t n) = .ok (get x n)) :
    merge3 c b o t = .ok x := by
  unfold merge3
  rw [mergeRootsOn_pointwise c _ b o t x (fun n _ => h n)]
  congr 1
  apply filterMap_get_eq strictTotal_ltStr _ (sorted_unionKeys strictTotal_ltStr _ _) x hx
  intro k hk
  exact (mem_unionKeys _ _ k).mpr (hsub k hk)

theorem keys_mergeRootsOn (c : Bool) (names : List String) (b o t m : Root)
    (h : mergeRootsOn c names b o t = .ok m) : (keys m).Sublist names := by
  revert m
  fun_induction mergeRootsOn c names b o t with
  | case1 => rintro m ⟨⟩; exact List.Sublist.slnil
  | case2 | case3 => nofun
  | case4 n rest m' hm' hn ih => rintro m ⟨⟩; exact (ih m' hm').cons n   -- no table under `n`
  | case5 n rest tb m' hm' hn ih => rintro m ⟨⟩; exact (ih m' hm').cons_cons n

theorem sorted_merge3 (c : Bool) (b o t m : Root) (h : merge3 c b o t = .ok m) : Sorted ltStr (keys m) :=
  List.Pairwise.sublist (keys_mergeRootsOn c _ b o t m h) (sorted_unionKeys strictTotal_ltStr _ _)

end DoltVerif.VcsOps
