import DoltVerif.Lemmas.VcsOpsMap
/-!
Lemmas for C32: the diff of two row maps lists exactly the differing keys, whichever of the two comparisons
(rows, stored tuples) decides what differs.
-/
namespace DoltVerif.VcsOps

/-- the change type a key must be reported with -/
def expectedType (f t : Option Row) : DiffType :=
  match f, t with
  | none, _ => .added
  | _, none => .removed
  | _, _ => .modified

/-- One key of a diff when two rows count as equal iff `g` maps them to the same thing.  `diffKey` is the case
`g = id` (the rows are compared), `diffKeyU` the case `g = trimNulls` (their stored tuples are). -/
def diffKeyOn (g : Row → Row) (k : Int) (f t : Option Row) : Option DiffRow :=
  match f, t with
  | none, none => none
  | none, some tr => some ⟨k, .added, none, some tr⟩
  | some fr, none => some ⟨k, .removed, some fr, none⟩
  | some fr, some tr => if g fr = g tr then none else some ⟨k, .modified, some fr, some tr⟩

theorem diffKey_eq : diffKey = diffKeyOn id := by
  funext k f t; cases f <;> cases t <;> rfl

theorem diffKeyU_eq : diffKeyU = diffKeyOn trimNulls := by
  funext k f t; cases f <;> cases t <;> rfl

theorem diffKeyOn_some (g : Row → Row) (k : Int) (f t : Option Row) (d : DiffRow) (h : diffKeyOn g k f t = some d) :
    d = ⟨k, expectedType f t, f, t⟩ := by
  unfold diffKeyOn at h
  split at h
  · cases h
  · cases h; rfl
  · cases h; rfl
  · split at h <;> cases h
    rfl

theorem diffKeyOn_eq_none (g : Row → Row) (k : Int) (f t : Option Row) :
    diffKeyOn g k f t = none ↔ f.map g = t.map g := by
  cases f <;> cases t <;> simp [diffKeyOn]

def diffOn (g : Row → Row) (f t : List (Int × Row)) : List DiffRow :=
  (unionKeys ltInt (keys f) (keys t)).filterMap (fun k => diffKeyOn g k (get f k) (get t k))

theorem diffRows_eq (f t : List (Int × Row)) : diffRows f t = diffOn id f t := by
  rw [diffRows, diffKey_eq]; rfl

theorem diffTables_eq (ft tt : Table) :
    diffTables (some ft) (some tt) = diffOn (if ft.cols = tt.cols then id else trimNulls) ft.rows tt.rows := by
  rw [diffTables]
  split
  · exact diffRows_eq _ _
  · rw [diffKeyU_eq]; rfl

theorem pk_filterMap_sublist (ks : List Int) (g : Int → Option DiffRow)
    (hg : ∀ k d, g k = some d → d.pk = k) : ((ks.filterMap g).map (·.pk)).Sublist ks := by
  induction ks with
  | nil => exact List.Sublist.slnil
  | cons k rest ih =>
    rw [List.filterMap_cons]
    cases h : g k with
    | none => exact ih.cons k
    | some d =>
      simp only [List.map_cons]
      rw [hg k d h]
      exact ih.cons_cons k

theorem diffOn_exact (g : Row → Row) (f t : List (Int × Row)) :
    Sorted ltInt ((diffOn g f t).map (·.pk)) ∧
    (∀ k, (∃ d ∈ diffOn g f t, d.pk = k) ↔ (get f k).map g ≠ (get t k).map g) ∧
    (∀ d ∈ diffOn g f t, d.from = get f d.pk ∧ d.to = get t d.pk ∧ d.ty = expectedType (get f d.pk) (get t d.pk)) := by
  -- a listed row is the one made for its own key
  have hrow : ∀ d ∈ diffOn g f t, diffKeyOn g d.pk (get f d.pk) (get t d.pk) = some d := fun d hd => by
    obtain ⟨k, _, hkd⟩ := List.mem_filterMap.mp hd
    obtain rfl : k = d.pk := by rw [diffKeyOn_some g k _ _ d hkd]
    exact hkd
  refine ⟨?_, fun k => ⟨?_, fun hne => ?_⟩, fun d hd => ?_⟩
  · exact List.Pairwise.sublist (pk_filterMap_sublist _ _ (fun k d h => diffKeyOn_some g k _ _ d h ▸ rfl))
      (sorted_unionKeys strictTotal_ltInt _ _)
  · rintro ⟨d, hd, rfl⟩ e
    cases ((diffKeyOn_eq_none g _ _ _).mpr e).symm.trans (hrow d hd)
  · obtain ⟨d, hd⟩ := Option.ne_none_iff_exists'.mp (mt (diffKeyOn_eq_none g k _ _).mp hne)
    refine ⟨d, List.mem_filterMap.mpr ⟨k, Classical.byContradiction fun hn => ?_, hd⟩, by rw [diffKeyOn_some g k _ _ d hd]⟩
    -- a key outside the union is in neither map
    obtain ⟨e1, e2⟩ := get_none_of_not_mem_unionKeys f t k hn
    exact hne (by rw [e1, e2])
  · have e := diffKeyOn_some g _ _ _ d (hrow d hd)
    exact ⟨congrArg DiffRow.from e, congrArg DiffRow.to e, congrArg DiffRow.ty e⟩

end DoltVerif.VcsOps
