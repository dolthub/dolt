import DoltVerif.Lemmas.VcsOpsExec
/-!
C32: execution of the schema statements of a patch (`ALTER TABLE … DROP` for every removed column, then
`ALTER TABLE … ADD` for every new one), and the whole patch of a table present in both roots.
-/
namespace DoltVerif.VcsOps

theorem filter_name_ne_self (cs : List Col) (cn : String) (h : cn ∉ cs.map (·.name)) :
    cs.filter (fun c' => c'.name ≠ cn) = cs := by
  apply List.filter_eq_self.mpr
  intro c hc
  simp only [ne_eq, decide_not, Bool.not_eq_eq_eq_not, Bool.not_true, decide_eq_false_iff_not]
  intro e
  exact h (e ▸ List.mem_map_of_mem hc)

theorem dropCell_map (cur : List Col) (f : Col → Val) (cn : String) (hn : (cur.map (·.name)).Nodup) :
    dropCell cur (cur.map f) cn = (cur.filter (fun c' => c'.name ≠ cn)).map f := by
  induction cur with
  | nil => rfl
  | cons c cs ih =>
    have hn' : c.name ∉ cs.map (·.name) ∧ (cs.map (·.name)).Nodup := List.nodup_cons.mp hn
    rw [List.map_cons, dropCell]
    split
    · next e =>
      -- the dropped column is the head; no later column has its name
      rw [List.filter_cons_of_neg (by simpa using e), ← e, filter_name_ne_self cs c.name hn'.1]
    · next e => rw [List.filter_cons_of_pos (by simpa using e), List.map_cons, ih hn'.2]

theorem cellOf_not_mem (src : List Col) (r : Row) (c : Col) (h : c ∉ src) : cellOf src r c = Val.null := by
  induction src generalizing r with
  | nil => simp [cellOf]
  | cons c' cs ih =>
    cases r with
    | nil => simp [cellOf]
    | cons v vs =>
      have hne : ¬ c' = c := fun e => h (e ▸ List.mem_cons_self)
      simp only [cellOf, hne, if_false]
      exact ih vs (fun h' => h (List.mem_cons_of_mem _ h'))

/-! While the schema statements run, the table is the original rows (laid out by `src`) re-laid onto the current
column list: `DROP` and `ADD` change that list only. -/

theorem execT_dropCol (n : String) (src : List Col) (rows : List (Int × Row)) (cur : List Col)
    (hcur : (cur.map (·.name)).Nodup) (cn : String) (hcn : cn ∈ cur.map (·.name)) :
    execT (some ⟨cur, projRows src cur rows⟩) (Stmt.dropCol n cn)
      = some (some ⟨cur.filter (fun c' => c'.name ≠ cn), projRows src (cur.filter (fun c' => c'.name ≠ cn)) rows⟩) := by
  have hany : cur.any (fun c' => decide (c'.name = cn)) = true := by
    obtain ⟨c, hc, e⟩ := List.mem_map.mp hcn
    exact List.any_eq_true.mpr ⟨c, hc, by simp [e]⟩
  simp only [execT, hany, if_true, projRows, List.map_map]
  congr 3
  apply List.map_congr_left
  intro kr _
  exact congrArg (Prod.mk kr.1) (dropCell_map cur (cellOf src kr.2) cn hcur)

theorem execT_addCol (n : String) (src : List Col) (rows : List (Int × Row)) (cur : List Col) (c : Col)
    (hc : c.name ∉ cur.map (·.name)) (hsrc : c ∉ src) :
    execT (some ⟨cur, projRows src cur rows⟩) (Stmt.addCol n c)
      = some (some ⟨cur ++ [c], projRows src (cur ++ [c]) rows⟩) := by
  have hnot : cur.any (fun c' => decide (c'.name = c.name)) = false :=
    List.any_eq_false.mpr fun c' hc' => by
      simp only [decide_eq_true_eq]
      exact fun e => hc (e ▸ List.mem_map_of_mem hc')
  simp only [execT, hnot, Bool.false_eq_true, if_false, projRows, List.map_map]
  congr 3
  apply List.map_congr_left
  intro kr _
  simp only [Function.comp, projRow, List.map_append, List.map_cons, List.map_nil, cellOf_not_mem src kr.2 c hsrc]

def keepCols (cur ds : List Col) : List Col := cur.filter (fun c' => ds.all (fun d => decide (c'.name ≠ d.name)))

theorem keepCols_nil (cur : List Col) : keepCols cur [] = cur := by
  simp [keepCols]

theorem keepCols_cons (cur : List Col) (d : Col) (ds : List Col) :
    keepCols (cur.filter (fun c' => c'.name ≠ d.name)) ds = keepCols cur (d :: ds) := by
  simp only [keepCols, List.filter_filter, List.all_cons]
  apply List.filter_congr
  intro c _
  simp only [ne_eq, decide_not, Bool.and_comm]

theorem nodup_names_filter (cur : List Col) (p : Col → Bool) (h : (cur.map (·.name)).Nodup) :
    ((cur.filter p).map (·.name)).Nodup :=
  List.Nodup.sublist (List.Sublist.map _ List.filter_sublist) h

theorem execTs_drops (n : String) (src : List Col) (rows : List (Int × Row)) (ds : List Col) :
    ∀ cur : List Col, (cur.map (·.name)).Nodup → (ds.map (·.name)).Nodup →
      (∀ d ∈ ds, d.name ∈ cur.map (·.name)) →
      execTs (some ⟨cur, projRows src cur rows⟩) (ds.map (fun d => Stmt.dropCol n d.name))
        = some (some ⟨keepCols cur ds, projRows src (keepCols cur ds) rows⟩) := by
  induction ds with
  | nil => intro cur _ _ _; simp [keepCols_nil]
  | cons d rest ih =>
    intro cur hcur hds hsub
    have hds' := List.nodup_cons.mp (by simpa using hds : (d.name :: rest.map (·.name)).Nodup)
    rw [List.map_cons, execTs_cons, execT_dropCol n src rows cur hcur d.name (hsub d List.mem_cons_self), Option.bind_some]
    have hsub' : ∀ d' ∈ rest, d'.name ∈ (cur.filter (fun c' => c'.name ≠ d.name)).map (·.name) := by
      intro d' hd'
      obtain ⟨c, hc, e⟩ := List.mem_map.mp (hsub d' (List.mem_cons_of_mem _ hd'))
      refine List.mem_map.mpr ⟨c, List.mem_filter.mpr ⟨hc, ?_⟩, e⟩
      simp only [ne_eq, decide_not, Bool.not_eq_eq_eq_not, Bool.not_true, decide_eq_false_iff_not]
      intro e'
      exact hds'.1 (by rw [← e', e]; exact List.mem_map_of_mem hd')
    rw [ih _ (nodup_names_filter cur _ hcur) hds'.2 hsub', keepCols_cons]

theorem execTs_adds (n : String) (src : List Col) (rows : List (Int × Row)) (as : List Col) (has : ∀ c ∈ as, c ∉ src) :
    ∀ (cur : List Col), ((cur ++ as).map (·.name)).Nodup →
      execTs (some ⟨cur, projRows src cur rows⟩) (as.map (fun c => Stmt.addCol n c))
        = some (some ⟨cur ++ as, projRows src (cur ++ as) rows⟩) := by
  induction as with
  | nil => intro cur _; simp
  | cons c rest ih =>
    intro cur hn
    have hn2 : ((cur.map (·.name)) ++ (c.name :: rest.map (·.name))).Nodup := by simpa using hn
    have hc : c.name ∉ cur.map (·.name) := fun h => (List.nodup_append.mp hn2).2.2 _ h _ List.mem_cons_self rfl
    rw [List.map_cons, execTs_cons, execT_addCol n src rows cur c hc (has c List.mem_cons_self), Option.bind_some,
      ih (fun c' hc' => has c' (List.mem_cons_of_mem _ hc')) (cur ++ [c]) (by simpa using hn), List.append_assoc]
    rfl

/-- rows whose stored tuples coincide are equal after re-laying (false e.g. when a dropped leading
column held the value the next column now has — then dolt's diff misses the row, design/C32.md) -/
def NoTupleAlias (ft tt : Table) : Prop :=
  ∀ k fr tr, get ft.rows k = some fr → get tt.rows k = some tr → trimNulls fr = trimNulls tr →
    projRow ft.cols tt.cols fr = tr

theorem eq_of_name_eq (l : List Col) (h : (l.map (·.name)).Nodup) (c d : Col) (hc : c ∈ l) (hd : d ∈ l)
    (e : c.name = d.name) : c = d := by
  have hp : l.Pairwise (fun a b => a.name ≠ b.name) := List.pairwise_map.mp h
  exact List.Pairwise.forall_of_forall_of_flip (R := fun a b => a.name = b.name → a = b) (fun _ _ _ => rfl)
    (hp.imp fun hne e => absurd e hne) (hp.imp fun hne e => absurd e.symm hne) hc hd e

theorem keepCols_drops (fc tc : List Col) (hfn : (fc.map (·.name)).Nodup) :
    keepCols fc (fc.filter (fun c => !(tc.contains c))) = fc.filter (fun c => tc.contains c) := by
  unfold keepCols
  apply List.filter_congr
  intro c hc
  by_cases hct : tc.contains c = true
  · rw [hct]
    apply List.all_eq_true.mpr
    intro d hd
    have hdm := List.mem_filter.mp hd
    simp only [ne_eq, decide_not, Bool.not_eq_eq_eq_not, Bool.not_true, decide_eq_false_iff_not]
    intro e
    have := eq_of_name_eq fc hfn c d hc hdm.1 e
    subst this
    have h2 := hdm.2
    rw [hct] at h2
    cases h2
  · have hcf : tc.contains c = false := by simpa using hct
    rw [hcf]
    apply Bool.eq_false_iff.mpr
    intro hall
    have := List.all_eq_true.mp hall c (List.mem_filter.mpr ⟨hc, by rw [hcf]; rfl⟩)
    simp at this

theorem execTs_schemaStmts (n : String) (ft : Table) (tc : List Col) (hf : ft.WF)
    (hfn : (ft.cols.map (·.name)).Nodup) (htn : (tc.map (·.name)).Nodup) (happ : ColsAppend ft.cols tc) :
    execTs (some ft) (schemaStmts n ft.cols tc) = some (some ⟨tc, projRows ft.cols tc ft.rows⟩) := by
  have hstart : (some ft : Option Table) = some ⟨ft.cols, projRows ft.cols ft.cols ft.rows⟩ := by
    rw [projRows_self ft hf]
  rw [schemaStmts, execTs_append, hstart,
    execTs_drops n ft.cols ft.rows _ ft.cols hfn (nodup_names_filter _ _ hfn)
      (fun d hd => List.mem_map_of_mem (List.mem_filter.mp hd).1),
    keepCols_drops ft.cols tc hfn, Option.bind_some,
    execTs_adds n ft.cols ft.rows _ (fun c hc => by simpa using (List.mem_filter.mp hc).2) _ (by rw [happ]; exact htn),
    happ]

theorem colsAppend_self (cs : List Col) : ColsAppend cs cs := by
  unfold ColsAppend
  rw [List.filter_eq_self.mpr (fun c hc => by simpa using hc),
    List.filter_eq_nil_iff.mpr (fun c hc => by simpa using hc), List.append_nil]

/-- The diff compares rows when the column list is unchanged and stored tuples otherwise; only the latter needs
`NoTupleAlias`. -/
theorem execTs_patch_update (n : String) (ft tt : Table) (hf : ft.WF) (ht : tt.WF)
    (hfn : (ft.cols.map (·.name)).Nodup) (htn : (tt.cols.map (·.name)).Nodup)
    (happ : ColsAppend ft.cols tt.cols) (halias : ft.cols ≠ tt.cols → NoTupleAlias ft tt) :
    execTs (some ft) (patchTable n (some ft) (some tt)) = some (some tt) := by
  by_cases heq : ft = tt
  · simp [patchTable, heq]
  simp only [patchTable, heq, if_false]
  rw [execTs_append, execTs_schemaStmts n ft tt.cols hf hfn htn happ, Option.bind_some, diffTables_eq]
  refine execTs_diff n ft.cols tt.cols ft.rows tt.rows _ (fun _ => htn) hf.1 ht.1 (fun k fr tr hfr htr h => ?_)
    (len_of_wf tt ht)
  split at h
  · -- equal rows: re-laying onto the same columns changes nothing
    next hc => rw [← hc, projRow_self ft.cols fr hf.2.1 (len_of_wf ft hf k fr hfr)]; exact h
  · next hc => exact halias hc k fr tr hfr htr h

end DoltVerif.VcsOps
