import DoltVerif.Lemmas.VcsOpsDb
import DoltVerif.Model.VcsOpsStep
/-!
Boolean checkers for `RootWF` and `Db.WF` (`Sorted` and `Table.WF` are decidable as they stand), so that the
witnesses and non-vacuity examples next to the property theorems can discharge the invariant of a concrete root
or database by evaluation, and the sample history `exDb` the examples run on.
-/
namespace DoltVerif.VcsOps

instance {κ : Type} (lt : κ → κ → Bool) (l : List κ) : Decidable (Sorted lt l) :=
  inferInstanceAs (Decidable (l.Pairwise _))

instance (t : Table) : Decidable t.WF := inferInstanceAs (Decidable (_ ∧ _ ∧ _))

def rootWFb (r : Root) : Bool := decide (Sorted ltStr (keys r)) && r.all (fun nt => decide nt.2.WF)

theorem rootWF_of_b (r : Root) (h : rootWFb r = true) : RootWF r := by
  simp only [rootWFb, Bool.and_eq_true, decide_eq_true_eq, List.all_eq_true] at h
  refine ⟨h.1, ?_⟩
  intro n t hg
  exact h.2 (n, t) (mem_of_get r n t hg)

def Db.wfb (d : Db) : Bool :=
  decide (Sorted ltStr (keys d.branches)) && decide (Sorted ltStr (keys d.wss)) &&
  d.commits.all (fun c => rootWFb c.root) &&
  (List.range d.commits.length).all (fun i =>
    match d.commits[i]? with
    | some c => c.parents.all (fun p => decide (p < i))
    | none => true)

theorem Db.wf_of_wfb (d : Db) (h : d.wfb = true) : d.WF := by
  simp only [Db.wfb, Bool.and_eq_true, decide_eq_true_eq, List.all_eq_true] at h
  obtain ⟨⟨⟨h1, h2⟩, h3⟩, h4⟩ := h
  refine ⟨h1, h2, ?_, ?_⟩
  · intro i c hc
    exact rootWF_of_b c.root (h3 c (List.mem_of_getElem? hc))
  · intro i c hc p hp
    have hi : i < d.commits.length := (List.getElem?_eq_some_iff.mp hc).1
    have := h4 i (List.mem_range.mpr hi)
    rw [hc] at this
    simp only [List.all_eq_true, decide_eq_true_eq] at this
    exact this p hp

/-- a small history used by the examples: two tables, a column added on `main`, a second branch with
its own commit -/
def exDb : Db :=
  initDb.run [
    .dml (.createTable "t" [⟨"a", .int⟩, ⟨"b", .str⟩]),
    .dml (.insert "t" 1 [.int 10, .str "x"]),
    .dml (.insert "t" 2 [.null, .null]),
    .commit .all "c1",
    .branch "other" ⟨.head, 0⟩,
    .dml (.update "t" 1 [("a", .int 11)]),
    .dml (.addCol "t" ⟨"c", .int⟩),
    .commit .tracked "c2",
    .checkout "other",
    .dml (.insert "t" 3 [.int 30, .str "it's"]),
    .dml (.createTable "u" [⟨"k", .int⟩]),
    .commit .all "c3",
    .checkout "main"]

def exDbVal : Db :=
  let r1 : Root := [("t", ⟨[⟨"a", .int⟩, ⟨"b", .str⟩], [(1, [.int 10, .str "x"]), (2, [.null, .null])]⟩)]
  let r2 : Root := [("t", ⟨[⟨"a", .int⟩, ⟨"b", .str⟩, ⟨"c", .int⟩],
    [(1, [.int 11, .str "x", .null]), (2, [.null, .null, .null])]⟩)]
  let r3 : Root := [("t", ⟨[⟨"a", .int⟩, ⟨"b", .str⟩],
    [(1, [.int 10, .str "x"]), (2, [.null, .null]), (3, [.int 30, .str "it's"])]⟩), ("u", ⟨[⟨"k", .int⟩], []⟩)]
  { commits := [⟨[], [], "Initialize data repository", 1⟩, ⟨[0], r1, "c1", 2⟩, ⟨[1], r2, "c2", 3⟩, ⟨[1], r3, "c3", 3⟩]
    branches := [("main", 2), ("other", 3)], tags := []
    wss := [("main", ⟨r2, r2, none⟩), ("other", ⟨r3, r3, none⟩)], cur := "main", stashes := [] }

/-- evaluated once here, so that the examples start from the state and not from the thirteen statements -/
theorem exDb_eq : exDb = exDbVal := by decide +kernel

end DoltVerif.VcsOps
