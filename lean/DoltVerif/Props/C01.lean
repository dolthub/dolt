import DoltVerif.Lemmas.NbsArc
import DoltVerif.Lemmas.NbsGetMany
import DoltVerif.Lemmas.NbsJStore
/-! C01 — Chunk reads return exactly the bytes stored under that address.  Three layers: the index lookups of
`Model/NbsFiles.lean`, for *every* well-formed index with a sorted prefix column (any number of addresses sharing an 8-byte
prefix, in any tie order) and every prefix-sorted request list; the stores of `Model/NbsStore.lean` (block, generational,
journaling) over histories of operations; the journal's range index `JIdx` by itself, with its own history type `JOp`. -/
namespace DoltVerif.C01
open DoltVerif.NbsFiles

/-- `findPrefix` returns the lower bound of the prefix: for all sorted prefix columns. -/
theorem findPrefix_lowerBound (ix : Idx) (t : Nat) (hs : SortedArr ix.pfx) :
    IsLowerBound ix.pfx t (findPrefix ix t) := findPrefix_isLowerBound ix t hs

/-- the carried binary search (`filterIdx` not reset between requests) still lands on the lower
bound, provided everything before `i` is already known to be smaller -/
theorem findFrom_lowerBound (p : Array Nat) (t i : Nat) (hs : SortedArr p) (hi : i ≤ p.size)
    (hlo : ∀ k (hk : k < p.size), k < i → p[k] < t) :
    IsLowerBound p t (findFrom p t i p.size (Nat.le_refl _)) :=
  findFrom_isLowerBound p t i hs hi hlo

/-- single lookups (`has`, hence `lookup`/`get`'s presence decision) answer *exactly* membership of
the full 20-byte address and never panic — among any number of rows sharing the prefix. -/
theorem lookup_membership (ix : Idx) (a : Addr) (hwf : WF ix) (hs : SortedArr ix.pfx) :
    (has ix a = some true ∧ Mem ix a) ∨ (has ix a = some false ∧ ¬ Mem ix a) := has_spec ix a hwf hs

/-- `lookupOrdinal` returns the ordinal stored in a row that *is* the address, or `count`. -/
theorem lookupOrdinal_sound (ix : Idx) (a : Addr) (hwf : WF ix) (hs : SortedArr ix.pfx) :
    (∃ k, RowIs ix k a ∧ ∃ hk : k < ix.ord.size, lookupOrdinal ix a = some ix.ord[k]) ∨
    (lookupOrdinal ix a = some ix.count ∧ ¬ Mem ix a) := lookupOrdinal_spec ix a hwf hs

/-- `tableReader.hasMany` on a prefix-sorted request list: it does not panic; every record keeps its
address; a record ends up `has` iff it was pre-set or its full address is in the index (so an absent
address whose prefix — or whose prefix and most of its suffix — equals a present one is *not*
answered); `remaining = false` only if every record is `has` (the early exit `filterIdx >= filterLen`
returns `true` unconditionally, but is only reached at an unanswered request: `NbsFiles.hasManyGo_spec`
has the flag exactly). -/
theorem hasMany_spec (ix : Idx) (hwf : WF ix) (hs : SortedArr ix.pfx) (reqs : List HasRec)
    (hsorted : reqs.Pairwise (fun x y => x.a.pre ≤ y.a.pre)) :
    ∃ out rem, hasMany ix reqs = some (out, rem) ∧ All2 (HasOut ix) reqs out ∧
      (rem = false → ∀ o ∈ out, o.has = true) := by
  obtain ⟨out, h1, h2⟩ := hasManyGo_spec ix hwf hs reqs 0 false hsorted (fun _ _ => Carried.zero ..)
  exact ⟨out, _, h1, h2, fun h o ho => by simpa using List.any_eq_false.mp h o ho⟩

/-- the hypothesis `hsorted` is needed (and every Go caller sorts: `toHasRecords`, `toGetRecords`,
`memTable.write`): on an unsorted list the carried `filterIdx` skips entries.  Index {prefix 1},
requests [prefix 2 (absent), prefix 1 (present)] → the present one is reported absent. -/
def unsortedWitness : Bool :=
  hasMany ⟨#[1], #[0], #[7], #[5], 0⟩ [⟨⟨2, 7⟩, false⟩, ⟨⟨1, 7⟩, false⟩]
    == some ([⟨⟨2, 7⟩, false⟩, ⟨⟨1, 7⟩, false⟩], true)
#guard unsortedWitness

/-- `tableReader.findOffsets` on a prefix-sorted request list: no panic; already-found and absent
requests are left alone and yield no record; every other request is marked found and yields exactly
one offset record — its own address with the index entry `(offset, length)` of a row that *is* that
address — (`FoRel`); `remaining = false` only if every request is found; the returned records are
the same records sorted by offset. -/
theorem findOffsets_spec (ix : Idx) (hwf : WF ix) (hs : SortedArr ix.pfx) (reqs : List GetRec)
    (hsorted : reqs.Pairwise (fun x y => x.a.pre ≤ y.a.pre)) :
    ∃ out recs rem, findOffsets ix reqs = some (out, sortByOff recs, rem) ∧ FoRel ix reqs out recs ∧
      (rem = false → ∀ o ∈ out, o.found = true) ∧
      (sortByOff recs).Pairwise (fun a b => a.off ≤ b.off) ∧ (sortByOff recs).length = recs.length ∧
      (∀ r, r ∈ sortByOff recs ↔ r ∈ recs) := by
  obtain ⟨out, recs, h1, h2⟩ := findOffsetsGo_spec ix hwf hs reqs 0 false hsorted (fun _ _ => Carried.zero ..)
  exact ⟨out, recs, out.any (!·.found), by simp [findOffsets, h1], h2,
    fun h o ho => by simpa using List.any_eq_false.mp h o ho, sortByOff_pairwise recs,
    (sortByOff_isSort.perm recs).length_eq, fun _ => (sortByOff_isSort.perm recs).mem_iff⟩

/-- `prollyBinSearch` (the archive's interpolation search) terminates, never panics (no division by
zero, no `Div64` overflow, no index out of range) and returns the lower bound — for **every** sorted
slice: dense, sparse, all-equal, any distribution.  (The Go comment asks for "well distributed"
values; that only matters for speed.) -/
theorem prollyBinSearch_lowerBound (s : Array Nat) (t : Nat) (hs : SortedArr s) (hsz : s.size < 18446744073709551616) :
    ∃ r, prollyBinSearch s t = some r ∧ IsLowerBound s t r := prollyBinSearch_spec s t hs hsz

/-- `archiveReader.findIndex` decides membership of the full address among any number of rows sharing
the prefix, and never panics. -/
theorem archive_findIndex_spec (ar : Arc) (a : Addr) (hwf : AWF ar) :
    (∃ k, findIndex ar a = some (some k) ∧ ARowIs ar k a) ∨
    (findIndex ar a = some none ∧ ∀ k, ¬ ARowIs ar k a) := findIndex_spec ar a hwf

/-- **`getManyCompressed` agrees with `getMany`** on a table file (any index of the written chunks,
any tie order, compression abstract): for a prefix-sorted request list both succeed, mark the same
requests found with the same `remaining`, and deliver the same addresses in the same order — `getMany`
the bytes `d` of a written chunk, `getManyCompressed` exactly `cmp d`; one delivery per newly found
request (`FoRel`). -/
theorem getManyCompressed_agrees (c : Codec) (hc : c.Ok) (chunks : List Chunk) (ix : Idx)
    (hix : IsIndexOf ix (chunks.map (recOf c))) (tail : Bytes) (reqs : List GetRec)
    (hsorted : reqs.Pairwise (fun x y => x.a.pre ≤ y.a.pre)) :
    ∃ out recs rem L, FoRel ix reqs out recs ∧
      tableGetMany c (recordsOf c chunks ++ tail) ix reqs = .ok (out, L, rem) ∧
      tableGetManyCompressed c (recordsOf c chunks ++ tail) ix reqs = .ok (out, L.map (fun p => (p.1, c.cmp p.2)), rem) ∧
      (∀ p ∈ L, ∃ ch ∈ chunks, p = (ch.a, ch.data)) ∧ L.map (·.1) = (sortByOff recs).map (·.a) ∧
      L.length = recs.length ∧ (rem = false → ∀ o ∈ out, o.found = true) := by
  obtain ⟨out, recs, rem, hf, hrel, hrem, _, hlen, hmem⟩ := findOffsets_spec ix hix.wf hix.sorted reqs hsorted
  obtain ⟨L, h1, h2, h3, h4⟩ := read_recs c hc chunks ix hix tail (sortByOff recs)
    (fun r hr => foRel_entries ix _ _ _ hrel r ((hmem r).mp hr))
  refine ⟨out, recs, rem, L, hrel, by simp [tableGetMany, hf, h1], by simp [tableGetManyCompressed, hf, h2], h4, h3, ?_, hrem⟩
  have := congrArg List.length h3
  simpa [hlen] using this

open DoltVerif.NbsStore in
/-- all read paths of a store agree with one abstract map `Addr → Option Bytes`: `Get` is the map,
`Has` is its domain, `GetMany` delivers exactly the requested part of its graph, `HasMany` reports
exactly the requested addresses outside its domain. -/
theorem store_reads_agree (s : Store) :
    (∀ a, s.get a = s.abs a) ∧ (∀ a, s.has a = (s.abs a).isSome) ∧
    (∀ as p, p ∈ s.getMany as ↔ p.1 ∈ as ∧ s.abs p.1 = some p.2) ∧
    (∀ as, s.hasMany as = as.filter (fun a => (s.abs a).isNone)) :=
  ⟨get_eq_abs s, has_eq_abs s, getMany_spec s, NbsStore.hasMany_spec s⟩

open DoltVerif.NbsStore in
/-- for every history of put / commit (flush with de-duplication against the tables) / reopen /
conjoin (selected tables replaced by one serving their concatenation) / gc (all tables replaced by one
serving exactly the kept set): an address is readable iff it was **written and not collected since**
(`live` = the written pairs, filtered by every later keep-set) -/
theorem store_present_iff_written (ops : List Op) (a : Addr) :
    ((run ops).get a).isSome ↔ a ∈ (live ops).map (·.1) := by
  rw [get_eq_abs]; exact NbsStore.store_present_iff_written ops a

open DoltVerif.NbsStore in
/-- garbage collection is exactly the restriction of the abstract map to the keep-set: kept addresses
read the same bytes as before, everything else is gone -/
theorem store_gc_exact (s : Store) (keep : Addr → Bool) (a : Addr) :
    (s.gc keep).get a = if keep a then s.get a else none := by
  rw [get_eq_abs, get_eq_abs]; exact gc_abs s keep a

open DoltVerif.NbsStore in
/-- conjoin neither adds nor loses a chunk: the same (address, bytes) pairs are held, the same
addresses are present -/
theorem store_conjoin_preserves (s : Store) (sel : Source → Bool) :
    (∀ e, e ∈ (s.conjoin sel).entries ↔ e ∈ s.entries) ∧ (∀ a, (s.conjoin sel).has a = s.has a) := by
  refine ⟨conjoin_entries s sel, fun a => ?_⟩
  rw [has_eq_abs, has_eq_abs]
  exact Bool.eq_iff_iff.mpr ((abs_isSome_iff _ a).trans
    (((Covers.of_mem_iff (conjoin_entries s sel)).keys_iff a).trans (abs_isSome_iff s a).symm))

open DoltVerif.NbsStore in
/-- what a read returns is bytes that were written under that very address; hence, if every write is
content-addressed (`H d = a`), so is every read -/
theorem store_content_addressed (H : NbsStore.Bytes → Addr) (ops : List Op) (hw : ∀ e ∈ written ops, H e.2 = e.1)
    (a : Addr) (d : NbsStore.Bytes) (h : (run ops).get a = some d) : H d = a :=
  NbsStore.store_content_addressed H ops hw a d h

open DoltVerif.NbsStore in
/-- generational store (old generation consulted first, then new): `Get`, `Has` and `HasMany` agree
with one abstract map in the same way (the model has no generational `GetMany`) -/
theorem generational_reads_agree (g : Gen) :
    (∀ a, g.get a = g.abs a) ∧ (∀ a, g.has a = (g.abs a).isSome) ∧
    (∀ as, g.hasMany as = as.filter (fun a => (g.abs a).isNone)) :=
  ⟨gen_get_eq_abs g, gen_has_eq_abs g, gen_hasMany_spec g⟩

open DoltVerif.NbsStore in
/-- a journaling store (memtable → journal source with novel map + addr16 cache → table files) over
every history of put / commit (persist into the journal, de-duplicated) / flatten: for a queried
address `a` **that no written address aliases on its first 16 bytes**, `Get` returns only bytes written
under `a`, is defined iff `a` was written, `Has` is its domain and `HasMany` the complement of `Has`. -/
theorem jstore_reads_agree_partial (ops : List JOp) (a : Addr)
    (hno : ∀ x ∈ jwritten ops, x.1.a16 = a.a16 → x.1 = a) :
    (((jrun ops).get a).isSome ↔ a ∈ (jwritten ops).map (·.1)) ∧
    (∀ d, (jrun ops).get a = some d → (a, d) ∈ jwritten ops) ∧
    ((jrun ops).has a = ((jrun ops).get a).isSome) ∧
    (∀ as, (jrun ops).hasMany as = as.filter (fun x => !(jrun ops).has x)) := by
  refine ⟨⟨?_, jstore_get_complete ops a⟩, jstore_get_sound ops a hno, jstore_has_eq _ a, jstore_hasMany_eq _⟩
  intro h
  obtain ⟨d, hd⟩ := Option.isSome_iff_exists.mp h
  exact List.mem_map.mpr ⟨(a, d), jstore_get_sound ops a hno d hd, rfl⟩

/-- without the hypothesis, already "what `Get` finds was written" (the first claim, left to right) … -/
def jstore_reads_agree_full : Prop :=
  ∀ (ops : List NbsStore.JOp) (a : Addr), ((NbsStore.jrun ops).get a).isSome → a ∈ (NbsStore.jwritten ops).map (·.1)

/-- … is false at store level too (known finding `journal-addr16-alias`): write one chunk, commit,
flatten; an address differing only in its last 4 bytes is then present and readable. -/
theorem jstore_reads_agree_full_false : ¬ jstore_reads_agree_full := by
  intro h
  have := h [.put ⟨1, 5 * 4294967296 + 1⟩ [7], .commit, .flatten] ⟨1, 5 * 4294967296 + 2⟩
  revert this
  decide

open DoltVerif.NbsStore in
/-- as long as no flatten has happened, iterating the journal source reports written chunks only,
each under its own address -/
theorem jstore_iterate_partial (ops : List JOp) (hn : ∀ op ∈ ops, op.isFlatten = false) (p : Addr × NbsStore.Bytes)
    (hp : p ∈ (jrun ops).j.iterate) : p ∈ jwritten ops := jstore_iterate_sound ops hn p hp

/-- full iteration of the journal source reports only written chunks … -/
def jstore_iterate_full : Prop :=
  ∀ (ops : List NbsStore.JOp) (p : Addr × NbsStore.Bytes), p ∈ (NbsStore.jrun ops).j.iterate → p ∈ NbsStore.jwritten ops

/-- … is false after a flatten (known finding `journal-addr16-iterate`): the chunk is reported under
its first 16 address bytes followed by zeros. -/
theorem jstore_iterate_full_false : ¬ jstore_iterate_full := by
  intro h
  have := h [.put ⟨1, 5 * 4294967296 + 1⟩ [7], .commit, .flatten] (⟨1, 5 * 4294967296⟩, [7])
  revert this
  decide

/-- a journal history, newest operation first -/
inductive JOp where
  | put (a : Addr) (r : Nat × Nat)
  | flatten

def jrun : List JOp → JIdx
  | [] => JIdx.empty
  | .put a r :: older => (jrun older).put a r
  | .flatten :: older => (jrun older).flatten

/-- the specification: ranges by *full* address, newest first -/
def jputs : List JOp → List (Addr × (Nat × Nat))
  | [] => []
  | .put a r :: older => (a, r) :: jputs older
  | .flatten :: older => jputs older

def key16 (x : Addr × (Nat × Nat)) : (Nat × Nat) × (Nat × Nat) := (x.1.a16, x.2)

theorem jrun_inv (ops : List JOp) :
    ∃ rest, jputs ops = (jrun ops).novel ++ rest ∧ (jrun ops).cached = rest.map key16 := by
  induction ops with
  | nil => exact ⟨[], rfl, rfl⟩
  | cons op older ih =>
    obtain ⟨rest, h1, h2⟩ := ih
    cases op with
    | put a r => exact ⟨rest, by simp [jputs, jrun, JIdx.put, h1], by simp [jrun, JIdx.put, h2]⟩
    | flatten =>
      refine ⟨(jrun older).novel ++ rest, by simp [jputs, jrun, JIdx.flatten, h1], ?_⟩
      simp [jrun, JIdx.flatten, h2, key16]

theorem lookup16 (h : Addr) : ∀ (rest : List (Addr × (Nat × Nat))),
    (∀ x ∈ rest, x.1.a16 = h.a16 → x.1 = h) → (rest.map key16).lookup h.a16 = rest.lookup h
  | [], _ => rfl
  | (a, r) :: rest, hno => by
    have ih := lookup16 h rest (fun x hx => hno x (List.mem_cons_of_mem _ hx))
    have hiff := hno (a, r) (List.mem_cons_self ..)
    by_cases hah : a = h
    · subst hah; simp [key16, List.lookup]
    · have h16 : ¬ (a.a16 = h.a16) := fun e => hah (hiff e)
      have h16' : (h.a16 == a.a16) = false := by
        simp only [beq_eq_false_iff_ne, ne_eq]; exact fun e => h16 e.symm
      have hah' : (h == a) = false := by
        simp only [beq_eq_false_iff_ne, ne_eq]; exact fun e => hah e.symm
      simp only [List.map_cons, key16, List.lookup, h16', hah']
      exact ih

/-- `rangeIndex.get` agrees with the by-full-address specification for every history and every
queried address `h` **that no stored address aliases on the first 16 bytes**. -/
theorem journalIdx_get_partial (ops : List JOp) (h : Addr)
    (hno : ∀ x ∈ jputs ops, x.1.a16 = h.a16 → x.1 = h) :
    (jrun ops).get h = (jputs ops).lookup h := by
  obtain ⟨rest, h1, h2⟩ := jrun_inv ops
  rw [h1, List.lookup_append]
  have hrest := lookup16 h rest (fun x hx => hno x (by rw [h1]; exact List.mem_append_right _ hx))
  unfold JIdx.get
  rw [h2, hrest]
  cases (jrun ops).novel.lookup h <;> simp

/-- the full statement (no aliasing hypothesis) … -/
def journalIdx_get_full : Prop := ∀ (ops : List JOp) (h : Addr), (jrun ops).get h = (jputs ops).lookup h

/-- … is false: after `flatten`, an address that was never stored but shares the first 16 bytes
with a stored one is answered with the stored one's range (replayed on the real `rangeIndex` and
through the journal ChunkStore by the harnesses; known finding `journal-addr16-alias`). -/
theorem journalIdx_get_full_false : ¬ journalIdx_get_full := by
  intro hfull
  have := hfull [.flatten, .put ⟨1, 5 * 4294967296 + 1⟩ (100, 10)] ⟨1, 5 * 4294967296 + 2⟩
  revert this
  decide

-- non-vacuity

/-- a well-formed sorted index with two rows sharing prefix 5 (tie order 1,0) and one other -/
def exIdx : Idx := ⟨#[5, 5, 9], #[1, 0, 2], #[11, 12, 11], #[4, 6, 3], 0⟩

example : WF exIdx ∧ SortedArr exIdx.pfx := by
  exact ⟨⟨rfl, rfl, rfl, by decide⟩, sortedArr_of_pairwise id [5, 5, 9] (by decide)⟩

example : [(⟨⟨5, 11⟩, false⟩ : HasRec), ⟨⟨5, 13⟩, false⟩, ⟨⟨9, 11⟩, true⟩].Pairwise (fun x y => x.a.pre ≤ y.a.pre) := by
  simp

-- evaluation checks (tests, not proofs): equal-prefix rows, absent neighbour, early exit
#guard has exIdx ⟨5, 11⟩ == some true && has exIdx ⟨5, 13⟩ == some false && has exIdx ⟨9, 10⟩ == some false
#guard lookup exIdx ⟨5, 12⟩ == some (some (4, 6)) && lookup exIdx ⟨5, 11⟩ == some (some (0, 4))
#guard hasMany exIdx [⟨⟨5, 12⟩, false⟩, ⟨⟨5, 13⟩, false⟩, ⟨⟨9, 11⟩, false⟩, ⟨⟨10, 0⟩, false⟩, ⟨⟨11, 0⟩, true⟩]
    == some ([⟨⟨5, 12⟩, true⟩, ⟨⟨5, 13⟩, false⟩, ⟨⟨9, 11⟩, true⟩, ⟨⟨10, 0⟩, false⟩, ⟨⟨11, 0⟩, true⟩], true)

example : ∀ x ∈ NbsStore.jwritten [.put ⟨1, 7⟩ [1], .commit, .flatten, .put ⟨2, 9⟩ [2]], x.1.a16 = (⟨2, 9⟩ : Addr).a16 → x.1 = ⟨2, 9⟩ := by
  decide

example : (jrun [.put ⟨1, 7⟩ (0, 3), .flatten, .put ⟨2, 9⟩ (5, 4)]).get ⟨2, 9⟩ = some (5, 4) := by decide

example : [(⟨⟨5, 11⟩, false⟩ : GetRec), ⟨⟨5, 13⟩, false⟩, ⟨⟨9, 11⟩, true⟩].Pairwise (fun x y => x.a.pre ≤ y.a.pre) := by
  simp

#guard prollyBinSearch #[5, 5, 5, 5] 5 == some 0 && prollyBinSearch #[0, 1, 2, 18446744073709551615] 3 == some 3
#guard (findOffsets exIdx [⟨⟨5, 12⟩, false⟩, ⟨⟨5, 13⟩, false⟩, ⟨⟨9, 11⟩, false⟩]).map (fun r => (r.2.1.map (fun o => (o.off, o.len)), r.2.2))
    == some ([(4, 6), (10, 3)], true)
#guard (NbsStore.run [.put ⟨1, 1⟩ [1], .commit, .put ⟨3, 3⟩ [9], .gc (fun a => a.pre != 3), .conjoin (fun _ => true), .put ⟨1, 2⟩ [2], .put ⟨1, 1⟩ [1], .reopen, .put ⟨2, 2⟩ [3]]).getMany [⟨1, 1⟩, ⟨1, 3⟩, ⟨2, 2⟩]
    == [(⟨2, 2⟩, [3]), (⟨1, 1⟩, [1])]

end DoltVerif.C01
