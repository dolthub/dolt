import DoltVerif.Lemmas.ManStoreStep
import DoltVerif.Model.ManOrder
/-! C02 — Root commit is an atomic compare-and-swap and acknowledged commits persist.  Over `Model/ManStore.lean` (lemmas:
`Lemmas/ManStore*.lean`).  A *schedule* is any `List Op`: an arbitrary interleaving of the atomic steps of any number of
handles / processes on one directory (`put`, `cstart`: `commit` up to `manifest.Update`, `cresume`: each `Update` with what
follows it, LOCK time-outs, `rebase`, open/close, `WriteTableFile`, `AddTableFilesToManifest`, `ConjoinTableFiles`). -/
namespace DoltVerif.C02
open DoltVerif.ManStore

/-- replay a list of *acknowledged* `(last, cur)` commits on a sequential CAS register;
`none` as soon as one of them would not have succeeded -/
def Register.replay (reg : Addr) : List (Addr × Addr) → Option Addr
  | [] => some reg
  | (last, cur) :: rest => if reg = last then Register.replay cur rest else none

/-- the same register with an *idempotent* compare-and-swap: `cas(last, cur)` also reports success when the
register already holds `cur` (and then changes nothing) -/
def Register.replayI (reg : Addr) : List (Addr × Addr) → Option Addr
  | [] => some reg
  | (last, cur) :: rest => if reg = last ∨ reg = cur then Register.replayI cur rest else none

/-- the acknowledgements of a schedule, in the order of their `manifest.Update` steps -/
def acks (env : Env) : Sys → List Op → List (Addr × Addr)
  | _, [] => []
  | s, op :: ops => (ackOf s op (s.next env op).2).toList ++ acks env (s.next env op).1 ops

/-- Update either replaces the manifest by exactly `new` — and then the lock on disk was
`lastLock` — or leaves the directory's manifest untouched. -/
theorem update_is_cas (d : Disk) (lastLock : Lock) (new : Contents) :
    ((d.update lastLock new).1.manifest = some new ∧ (d.update lastLock new).2 = .wrote new ∧ d.lock = lastLock) ∨
    ((d.update lastLock new).1 = d ∧ ∀ c, (d.update lastLock new).2 ≠ .wrote c) := by
  rcases update_cases d lastLock new with ⟨e, h⟩ | ⟨up, _, h⟩ | ⟨hl, h⟩ <;> rw [h]
  · exact Or.inr ⟨rfl, nofun⟩
  · exact Or.inr ⟨rfl, nofun⟩
  · exact Or.inl ⟨rfl, rfl, hl⟩

example : (Disk.update { manifest := some { root := 1, lock := mkLock 1 [[1]], specs := [[1]] }, files := [[1], [2]] }
    (mkLock 1 [[1]]) { root := 2, lock := mkLock 2 [[1], [2]], specs := [[1], [2]] }).1.root = 2 := rfl

/-- a stale `lastLock` changes nothing and reports what is on disk -/
theorem update_stale_reports_disk (d : Disk) (l : Lock) (n up : Contents) (h : (d.update l n).2 = .stale up) :
    d.manifest = some up ∧ (d.update l n).1 = d := by
  rcases update_cases d l n with ⟨e, hu⟩ | ⟨up', hm, hu⟩ | ⟨_, hu⟩ <;> rw [hu] at h ⊢ <;> cases h
  exact ⟨hm, rfl⟩

/-- only `cresume` answering `true` ever acknowledges -/
theorem ack_only_by_update (s : Sys) (op : Op) (r : Resp) (l c : Addr) (h : ackOf s op r = some (l, c)) :
    ∃ i p, op = .cresume i ∧ r = .commit (.ok true) ∧ (s.hs i).pc = some p ∧ p.last = l ∧ p.cur = c := by
  unfold ackOf at h
  split at h
  · rename_i i
    cases hp : (s.hs i).pc with
    | none => simp [hp] at h
    | some p => simp [hp] at h; exact ⟨i, p, rfl, rfl, hp, h.1, h.2⟩
  · simp at h

theorem inv_run (env : Env) (s : Sys) (hi : Inv s) (ops : List Op) : Inv (s.run env ops) := by
  induction ops generalizing s with
  | nil => exact hi
  | cons op ops ih => exact ih _ (next_facts env s hi op).inv

/-- a step that acknowledges a commit `(last, cur)` leaves the persisted
root equal to `cur`, and found it equal to `last` — or found it *already equal to `cur`* and wrote nothing
(the manifest on disk already carried exactly the new lock: same root, same table set); every other step
(of any handle) leaves the persisted root alone. -/
theorem commit_step_is_cas_or_idempotent (env : Env) (s : Sys) (hi : Inv s) (op : Op) :
    match ackOf s op (s.next env op).2 with
    | some (last, cur) => (s.next env op).1.disk.root = cur ∧
        (s.disk.root = last ∨ (s.disk.root = cur ∧ (s.next env op).1.disk.manifest = s.disk.manifest))
    | none => (s.next env op).1.disk.root = s.disk.root := by
  have f := next_facts env s hi op
  cases h : ackOf s op (s.next env op).2 with
  | none => exact f.noack h
  | some p => obtain ⟨l, c⟩ := p; exact f.ack l c h

/-- The property as stated ("succeeds only if the persisted root still equals the caller's expected
previous root"), for every acknowledging step. -/
def commit_step_is_cas_full : Prop :=
  ∀ (env : Env) (s : Sys), Inv s → ∀ (op : Op) (l c : Addr), ackOf s op (s.next env op).2 = some (l, c) → s.disk.root = l

/-- the strict statement holds whenever the lock on disk differs from the lock
of the manifest the commit is about to write (i.e. nobody has already installed exactly that root with
exactly that table set). -/
theorem commit_step_is_cas_partial (env : Env) (s : Sys) (hi : Inv s) (i : Nat) (p : Pending) (l c : Addr)
    (hp : (s.hs i).pc = some p) (hne : s.disk.lock ≠ p.new.lock)
    (h : ackOf s (.cresume i) (s.next env (.cresume i)).2 = some (l, c)) :
    s.disk.root = l ∧ (s.next env (.cresume i)).1.disk.root = c :=
  ⟨(next_facts env s hi (.cresume i)).strict l c i p h rfl hp hne, ((next_facts env s hi (.cresume i)).ack l c h).1⟩

/-- The full statement is false of the code: `updateManifest` recognises success by
`newContents.lock == upstream.lock`, so a commit whose `last` is stale is acknowledged when another handle
has already installed the same root over the same table set.  Witness: two handles open the empty store,
both put chunk 1, handle 0 commits (0 → 1); handle 1 — still believing the root is 0 — commits (0 → 1) and
is told `true` while the persisted root is 1.  (Replayed on the implementation by the `nbscommit` harness:
known finding `C02/commit-true-root-already-cur`.) -/
theorem commit_step_is_cas_full_refuted : ¬ commit_step_is_cas_full := by
  intro h
  have := h { refs := fun _ => [], size := fun _ => 10 }
    (Sys.init.run { refs := fun _ => [], size := fun _ => 10 }
      [.openH 0 100, .openH 1 100, .put 0 1, .put 1 1, .cstart 0 1 0, .cresume 0, .cstart 1 1 0])
    (inv_run _ _ inv_init _) (.cresume 1) 0 1 (by decide)
  revert this
  decide +kernel

/-- linearizability to a single register: for every schedule of the atomic steps of
any number of handles, replaying the acknowledged commits — in the order of their `manifest.Update` steps —
on one sequential register with idempotent compare-and-swap succeeds at every one of them and ends in
exactly the root a fresh open of the directory reports. -/
theorem commit_refines_cas (env : Env) (s : Sys) (hi : Inv s) (ops : List Op) :
    Register.replayI s.disk.root (acks env s ops) = some (s.run env ops).disk.root := by
  induction ops generalizing s with
  | nil => rfl
  | cons op ops ih =>
    have f := next_facts env s hi op
    have ih' := ih _ f.inv
    simp only [acks, Sys.run]
    cases h : ackOf s op (s.next env op).2 with
    | none =>
      simp only [Option.toList, List.nil_append]
      rw [← f.noack h]; exact ih'
    | some p =>
      obtain ⟨l, c⟩ := p
      obtain ⟨h2, h1⟩ := f.ack l c h
      have hc : s.disk.root = l ∨ s.disk.root = c := by
        rcases h1 with e | ⟨e, _⟩
        · exact Or.inl e
        · exact Or.inr e
      simp only [Option.toList, List.cons_append, List.nil_append, Register.replayI, hc, if_true]
      rw [← h2]; exact ih'

/-- no lock coincidence along the schedule: whenever a parked commit runs its `Update`, the lock on disk is
not already the lock it is about to write -/
def NoCoincidence (env : Env) : Sys → List Op → Prop
  | _, [] => True
  | s, op :: ops =>
    (∀ i p, op = .cresume i → (s.hs i).pc = some p → s.disk.lock ≠ p.new.lock) ∧ NoCoincidence env (s.next env op).1 ops

/-- under `NoCoincidence` the register is a strict compare-and-swap register -/
theorem commit_refines_cas_partial (env : Env) (s : Sys) (hi : Inv s) (ops : List Op) (hnc : NoCoincidence env s ops) :
    Register.replay s.disk.root (acks env s ops) = some (s.run env ops).disk.root := by
  induction ops generalizing s with
  | nil => rfl
  | cons op ops ih =>
    have f := next_facts env s hi op
    have ih' := ih _ f.inv hnc.2
    simp only [acks, Sys.run]
    cases h : ackOf s op (s.next env op).2 with
    | none =>
      simp only [Option.toList, List.nil_append]
      rw [← f.noack h]; exact ih'
    | some p =>
      obtain ⟨l, c⟩ := p
      obtain ⟨i, q, hop, _, hq, _, _⟩ := ack_only_by_update s op _ l c h
      have h1 := f.strict l c i q h hop hq (hnc.1 i q hop hq)
      simp only [Option.toList, List.cons_append, List.nil_append, Register.replay, h1, if_true]
      rw [← (f.ack l c h).1]; exact ih'

/-- the strict statement for all schedules -/
def commit_refines_cas_full : Prop :=
  ∀ (env : Env) (ops : List Op), Register.replay 0 (acks env Sys.init ops) = some (Sys.init.run env ops).disk.root

/-- the same two handles as in `commit_step_is_cas_full_refuted`: the second acknowledgement `(0, 1)` finds the strict
register at 1 -/
theorem commit_refines_cas_full_refuted : ¬ commit_refines_cas_full := by
  intro h
  have := h { refs := fun _ => [], size := fun _ => 10 }
    [.openH 0 100, .openH 1 100, .put 0 1, .put 1 1, .cstart 0 1 0, .cresume 0, .cstart 1 1 0, .cresume 1]
  revert this
  decide +kernel

theorem commit_refines_cas_init (env : Env) (ops : List Op) :
    Register.replayI 0 (acks env Sys.init ops) = some (Sys.init.run env ops).disk.root :=
  commit_refines_cas env Sys.init inv_init ops

-- two handles race: both rebase to the empty store, both put, h0 commits 1 (acknowledged), h1's commit of 2
-- on the same `last` is refused; the register history is [(0,1)]
example :
    let env : Env := { refs := fun _ => [], size := fun _ => 10 }
    let ops := [Op.openH 0 100, .openH 1 100, .put 0 1, .put 1 2, .cstart 0 1 0, .cstart 1 2 0, .cresume 0, .cresume 1]
    acks env Sys.init ops = [(0, 1)] ∧ (Sys.init.run env ops).disk.root = 1 := by decide +kernel

def Op.isCommitStep : Op → Bool
  | .cstart _ _ _ | .cresume _ | .ctimeout _ => true
  | _ => false

/-- a step of a commit that does not acknowledge it (it answered `false`,
an error, "parked", or it was the nothing-novel shortcut answering `true`) leaves the manifest exactly as
it was; hence a commit call that does not return `true` through an `Update` changed nothing at any of its
steps. -/
theorem failed_commit_changes_nothing (env : Env) (s : Sys) (hi : Inv s) (op : Op) (hc : Op.isCommitStep op = true)
    (hr : ackOf s op (s.next env op).2 = none) : (s.next env op).1.disk.manifest = s.disk.manifest :=
  (next_facts env s hi op).manifest hr (by cases op <;> simp_all [Op.isCommitStep, Op.isAddTables])

/-- the `(last, cur)` a parked commit will acknowledge are the arguments of the `Commit` call -/
theorem parked_commit_keeps_args (env : Env) (s : Sys) (i : Nat) (cur last : Addr) (p : Pending)
    (hp : ((s.next env (.cstart i cur last)).1.hs i).pc = some p) (h0 : (s.hs i).pc = none) :
    p.cur = cur ∧ p.last = last := by
  rw [next_hs] at hp
  simp only [Sys.step] at hp
  split at hp
  · rw [h0] at hp; cases hp
  · simp only [Sys.set, if_true] at hp
    rcases commitStart_cases env s.disk (s.hs i) cur last with ⟨r, e⟩ | e <;> rw [e] at hp
    · rw [rebase_pc, h0] at hp; cases hp
    · rcases (prepare_cases env (s.hs i) cur last).2 with ⟨_, e⟩ | ⟨_, _, specs, e⟩ <;> rw [e] at hp
      · rw [h0] at hp; cases hp
      · cases hp; exact ⟨rfl, rfl⟩

/-- the nothing-novel shortcut (`cur = last`, no memtable, no novel tables) answers `true` without looking
at `last`; it is a read (a rebase), never an acknowledgement.  Here `Commit(7, 7)` returns `true` while the
persisted root is 1 (known finding `C02/commit-shortcut-true-on-stale-last`): -/
theorem shortcut_true_on_stale_last :
    let env : Env := { refs := fun _ => [], size := fun _ => 10 }
    let s := Sys.init.run env [.openH 0 100, .openH 1 100, .put 0 1, .cstart 0 1 0, .cresume 0]
    s.disk.root = 1 ∧ (s.next env (.cstart 1 7 7)).2 = .commit (.ok true) ∧ (s.next env (.cstart 1 7 7)).1.disk.root = 1 := by
  decide +kernel

/-- landing a conjoin (`conjoinOperation.updateManifest`, including its retry on a lost
optimistic lock against a manifest somebody else has moved on) never changes the persisted root: the root it writes —
and hashes into the new lock — is the root of the manifest whose lock it compare-and-swaps against. -/
theorem conjoin_never_moves_root (env : Env) (s : Sys) (hi : Inv s) (i : Nat) :
    (s.next env (.conjoin i)).1.disk.root = s.disk.root :=
  (next_facts env s hi (.conjoin i)).noack (ackOf_eq_none fun _ h => nomatch h)

-- a handle with a stale view (root 1) conjoins after another handle has committed root 3: the retry lands on the
-- fresh manifest and keeps root 3 (the seeded defect /verif/seeded/C02 writes root 1 back here)
example :
    let env : Env := { refs := fun _ => [], size := fun _ => 10 }
    let s := Sys.init.run env [.openH 0 10, .put 0 1, .cstart 0 1 0, .cresume 0, .put 0 2, .cstart 0 1 1, .cresume 0,
      .openH 1 100, .put 1 3, .cstart 1 3 1, .cresume 1]
    s.disk.root = 3 ∧ ((s.hs 0).upstream.root = 1) ∧ (s.next env (.conjoin 0)).2 = .unit ∧
    (s.next env (.conjoin 0)).1.disk.root = 3 ∧ (s.next env (.conjoin 0)).1.disk.specs.length = 2 := by decide +kernel

theorem rebase_fresh_root (d : Disk) (h : Handle) (hd : ∀ m, d.manifest = some m → m.lock ≠ none)
    (hlk : h.upstream.lock = none) (hroot : h.upstream.root = 0) (hr : (h.rebase d).2 = none) :
    (h.rebase d).1.upstream.root = d.root := by
  unfold Disk.root
  rcases rebase_cases d h with ⟨hm | ⟨m, hm, hl⟩, e⟩ | ⟨m, hm, e⟩ | e <;> rw [e] at hr ⊢
  · rw [hm]; exact hroot
  · exact absurd (hl.trans hlk) (hd m hm)
  · rw [hm]; rfl
  · cases hr

/-- a successful fresh open reports the persisted root -/
theorem open_sees_persisted_root (env : Env) (s : Sys) (hi : Inv s) (i mm : Nat) (hc : (s.hs i).opened = false)
    (hr : (s.next env (.openH i mm)).2 = .unit) :
    ((s.next env (.openH i mm)).1.hs i).upstream.root = s.disk.root := by
  rw [next_resp] at hr
  rw [next_hs]
  have key := rebase_fresh_root s.disk { Handle.closed with opened := true, memMax := mm }
    (fun m hm => (hi.disk m hm).2) rfl rfl
  simp only [Sys.step, hc, Bool.false_eq_true, if_false, openHandle] at hr ⊢
  rcases hx : Handle.rebase s.disk { Handle.closed with opened := true, memMax := mm } with ⟨h', e⟩
  rw [hx] at hr key
  cases e with
  | none => simp only [Sys.set, if_true]; exact key rfl
  | some e => simp at hr

theorem Register.replayI_mem {reg r : Addr} {l : List (Addr × Addr)} (h : Register.replayI reg l = some r) :
    r ∈ reg :: l.map Prod.snd := by
  revert h
  fun_induction Register.replayI reg l
  next => intro h; cases h; exact List.mem_cons_self ..
  next ih => exact fun h => List.mem_cons_of_mem _ (ih h) -- the entry applies: from its `cur` on
  next => nofun

/-- once a commit `(last, cur)` has been acknowledged, the persisted root at any later
point of any schedule is `cur` or the `cur` of a commit acknowledged after it — never an older root, never
a root nobody committed. -/
theorem reopen_sees_ack (env : Env) (s : Sys) (hi : Inv s) (ops1 : List Op) (op : Op) (ops2 : List Op) (l c : Addr)
    (hack : ackOf (s.run env ops1) op ((s.run env ops1).next env op).2 = some (l, c)) :
    (s.run env (ops1 ++ op :: ops2)).disk.root ∈
      c :: (acks env ((s.run env ops1).next env op).1 ops2).map Prod.snd := by
  rw [run_append]
  simp only [Sys.run]
  have f := next_facts env _ (inv_run env s hi ops1) op
  have := Register.replayI_mem (commit_refines_cas env _ f.inv ops2)
  rw [(f.ack l c hack).1] at this
  exact this

/-- the byte string `generateLockHash` feeds to SHA-512 (layout tied by `Tie.ManifestOrder.lock_hash_layout`)
starts with the 20 root bytes: two manifests with the same preimage have the same root.  With SHA-512
collision-free on the preimages that occur (assumption), equal locks ⇒ equal roots, which is what
`Contents.WF` states in the model. -/
theorem lock_preimage_determines_root (r r' : List UInt8) (a a' s s' : List (List UInt8))
    (h : r.length = 20) (h' : r'.length = 20)
    (e : ManOrder.lockPreimage r a s = ManOrder.lockPreimage r' a' s') : r = r' := by
  simp only [ManOrder.lockPreimage, List.append_assoc] at e
  exact (List.append_inj e (h.trans h'.symm)).1

example : ManOrder.lockPreimage [1] [] [[2], [3]] = [1, 0, 2, 3, 0] := rfl

end DoltVerif.C02
