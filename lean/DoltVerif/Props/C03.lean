import DoltVerif.Lemmas.JournalWriter
import DoltVerif.Lemmas.JournalWindow
/-! C03 — Crash at any point recovers the last acknowledged state without loss.  Over `Model/JournalRec.lean`,
`Model/JournalRecover.lean` (transliterations of `journal_record.go`) and `Model/JournalWriter.lean` (state machine of
`journal_writer.go`), tied to the Go source by `Tie/Journal.lean` and the `journalcrash` harness.  `B` is
`journalWriterBuffSize`.  CRC-32C is never unfolded: every theorem holds for any checksum function. -/
namespace DoltVerif.C03
open DoltVerif.Journal

/-- what either writer emits validates and parses back to the record. -/
theorem readRecord_encode (r : Rec) (h : r.Fits) :
    validate r.encode = .ok () ∧ readRecord r.encode = .ok r.parsed :=
  ⟨r.validate_encode h, Journal.readRecord_encode r h⟩

example : (Rec.chunk (zeros 20) [1, 2, 3]).Fits ∧ (Rec.root (zeros 20) 1700000000).Fits :=
  ⟨⟨rfl, by decide⟩, rfl, by decide⟩

/-- a journal consisting of well-formed records recovers to exactly those records,
with nothing to truncate. -/
theorem recover_clean (B : Nat) (rs : List Rec) (h : AllFit B rs) :
    recover B (encAll rs) = .ok (placed rs 0) (encAll rs).length := by
  have := recover_of_not_validAt B rs [] h (noValidRecord_nil B 0)
  rwa [List.append_nil, dlc_short (by decide)] at this

/-- synced records followed by any tail in which no CRC-valid record starts
(`NoValidRecord`, the `NoEmbeddedRecords` hypothesis of DESIGN.md — forced by the proof, see
`damage_then_valid_reported` for what happens without it) recover to exactly the synced records;
the tail is discarded silently and the truncation offset is the end of the last whole record. -/
theorem recover_torn_tail (B : Nat) (rs : List Rec) (t : Bytes) (h : AllFit B rs) (ht : NoValidRecord B t) :
    recover B (encAll rs ++ t) = .ok (placed rs 0) (encAll rs).length := by
  rw [recover_of_not_validAt B rs t h (ht 0), dlc_of_noValidRecord B false t ht]

/-- the unsynced tail was dropped entirely -/
theorem recover_dropped_tail (B : Nat) (rs : List Rec) (h : AllFit B rs) :
    recover B (encAll rs ++ []) = .ok (placed rs 0) (encAll rs).length :=
  recover_torn_tail B rs [] h (noValidRecord_nil B)

/-- the unsynced tail reads back as zeros (pre-allocated / zero-filled blocks), any length -/
theorem recover_zero_filled (B : Nat) (rs : List Rec) (z : Nat) (h : AllFit B rs) :
    recover B (encAll rs ++ zeros z) = .ok (placed rs 0) (encAll rs).length :=
  recover_torn_tail B rs (zeros z) h (noValidRecord_zeros B z)

/-- a record torn after `p` bytes, optionally followed by zeros: recovered silently *provided* no
CRC-valid record starts inside the torn bytes.  The hypothesis cannot be dropped: a chunk payload
that contains a root record followed by another record satisfies `damage_then_valid_reported`. -/
theorem recover_torn_record (B : Nat) (rs : List Rec) (r : Rec) (p z : Nat) (h : AllFit B rs)
    (hne : NoValidRecord B (r.encode.take p ++ zeros z)) :
    recover B (encAll rs ++ (r.encode.take p ++ zeros z)) = .ok (placed rs 0) (encAll rs).length :=
  recover_torn_tail B rs _ h hne

/-- whatever bytes `g` follow the synced records — torn, zero-filled,
garbage, adversarial — recovery never silently drops a synced record: it either succeeds with
every synced record first (and truncates at or after their end), or reports data loss at an offset
at or after their end, or fails because `g` itself holds a CRC-valid but malformed record.  (Among the `fatal` values
is `RErr.panic`, which stands for a Go slice panic, i.e. a crash of the process; that a 9-byte record reaches it is
`C10.journal_scan_no_panic_full_false`, over C10's own transliteration of the same functions.) -/
theorem recover_never_loses_synced (B : Nat) (rs : List Rec) (g : Bytes) (h : AllFit B rs) :
    match recover B (encAll rs ++ g) with
    | .ok out off => placed rs 0 <+: out ∧ (encAll rs).length ≤ off
    | .dataLoss off => (encAll rs).length ≤ off
    | .fatal e => (scan B true g (encAll rs).length).stop = .fatal e := by
  have hoff := scan_off_ge B true g (encAll rs).length
  rw [recover, recoverFrom_boundary B rs g h]
  simp only [recoverFrom, List.drop_left]
  cases hst : (scan B true g (encAll rs).length).stop with
  | eof => exact ⟨List.prefix_append _ _, hoff⟩
  | fatal e => rfl
  | recovered =>
    simp only []
    cases dlc B ((encAll rs ++ g).drop (scan B true g (encAll rs).length).off) false with
    | error _ => exact ⟨List.prefix_append _ _, hoff⟩
    | ok b =>
      cases b
      · exact ⟨List.prefix_append _ _, hoff⟩
      · exact hoff

/-- synced records, then damage in which no valid record starts, then a
well-formed root record, then any well-formed record (with at least a root record's worth of bytes
from there to EOF — the loop bound of `possibleDataLossCheck`) is reported as possible data loss at
the end of the synced records, never silently truncated.  This is also the mechanism of the
finding `journal-torn-payload-resync`: take `junk` = the header of a torn chunk record and the
root/record pair from inside its payload. -/
theorem damage_then_valid_reported (B : Nat) (rs : List Rec) (junk : Bytes) (ra : Bytes) (ts : Nat) (x : Rec)
    (rest : Bytes) (h : AllFit B rs) (hroot : (Rec.root ra ts).Fits) (hrB : (Rec.root ra ts).encode.length ≤ B)
    (hx : x.Fits) (hxB : x.encode.length ≤ B) (hne : junk ≠ [])
    (h40 : rootRecSz ≤ (x.encode ++ rest).length)
    (hj : ∀ i, i < junk.length → ¬ ValidAt B ((junk ++ ((Rec.root ra ts).encode ++ (x.encode ++ rest))).drop i)) :
    recover B (encAll rs ++ (junk ++ ((Rec.root ra ts).encode ++ (x.encode ++ rest)))) = .dataLoss (encAll rs).length := by
  have hs40 : rootRecSz ≤ ((Rec.root ra ts).encode ++ (x.encode ++ rest)).length := by
    rw [List.length_append, Rec.length_encode_root ra ts hroot]; exact Nat.le_add_right _ _
  have h0 : ¬ ValidAt B (junk ++ ((Rec.root ra ts).encode ++ (x.encode ++ rest))) :=
    hj 0 (List.length_pos_iff.mpr hne)
  -- the scan stops at the junk; the check skips it, accepts the root record, then the next record
  rw [recover_of_not_validAt B rs _ h h0, dlc_skip B false _ hs40 junk hj,
    dlc_encode_append B false _ _ hroot hrB hs40, if_neg Bool.false_ne_true,
    dlc_encode_append B _ x rest hx hxB h40]
  rfl

/-- `possibleDataLossCheck` as implemented — a `2 * journalWriterBuffSize`
window refilled with `io.ReadFull` after shifting the unprocessed remainder to the front — gives
the same verdict as the whole-suffix scan `dlc` that `recover` uses, on every byte string, for
every buffer size of at least 20 bytes (the real one is 5 MiB, `Tie.Journal.buff_size`).  Hence all
theorems above hold for the loop that exists. -/
theorem windowed_dataloss_check (B : Nat) (hB : 20 ≤ B) (s : Bytes) : windowedDlc B s = dlc B s false :=
  windowedDlc_eq_dlc B hB s

example : (20 : Nat) ≤ 5 * 1024 * 1024 := by decide

def lastRootRec : List Rec → Option Bytes
  | [] => none
  | r :: rs =>
    match lastRootRec rs with
    | some x => some x
    | none => match r with | .root a _ => some a | .chunk _ _ => none

theorem lastRoot_placed (rs : List Rec) (off : Nat) : lastRoot (placed rs off) = lastRootRec rs := by
  induction rs generalizing off with
  | nil => rfl
  | cons r rs ih =>
    simp only [placed, lastRoot, lastRootRec, ih]
    cases lastRootRec rs with
    | some x => rfl
    | none => cases r <;> simp [Rec.parsed, kindRoot, kindChunk]

/-- after a crash that leaves the synced records followed by a tail
without valid records, the recovered root is the root of the last synced root record. -/
theorem recovered_root_is_last_synced (B : Nat) (rs : List Rec) (t : Bytes) (h : AllFit B rs) (ht : NoValidRecord B t) :
    ∃ out off, recover B (encAll rs ++ t) = .ok out off ∧ lastRoot out = lastRootRec rs :=
  ⟨_, _, recover_torn_tail B rs t h ht, lastRoot_placed rs 0⟩

/-- for every sequence of writer operations (chunk writes with buffer-full
flushes and the 64 MiB self-commit, root commits with index flushes, capacity errors), at the
moment of every acknowledgement `Ack(r)` the journal file — as produced by the `WriteAt`s so far —
lies entirely below the fsync watermark, and it is the base file followed by the encoding of whole
records ending in the root record for `r`. -/
theorem ack_implies_durable (s0 : WState) (d0 : Disk) (ops : List Op)
    (hb : s0.buf = []) (hl : d0.file.length = s0.off) (hlog : s0.log = [])
    (pre post : List Ev) (r : Bytes) (h : (run s0 ops).2 = pre ++ Ev.ack r :: post) :
    (diskAfter d0 pre).durable = (diskAfter d0 pre).file.length ∧
    ∃ recs ts, (diskAfter d0 pre).file = d0.file ++ encAll (recs ++ [Rec.root r ts]) := by
  have hinv : Inv d0.file s0 d0 := ⟨hl, by simp [hb, hlog, encAll]⟩
  obtain ⟨nl, a⟩ := run_adv ops s0 d0 hinv
  have := a.acks
  rw [h, acksDurable_append] at this
  exact this.2.1

example : ∃ evs, (run { cap := 100, maxNovel := 0, threshold := 1000 } [.chunk (zeros 20) [1, 2], .commit (zeros 20)]).2 = evs ∧
    evs.length = 5 := ⟨_, rfl, by decide⟩

theorem lastRootRec_append_root (recs : List Rec) (r : Bytes) (ts : Nat) :
    lastRootRec (recs ++ [Rec.root r ts]) = some r := by
  induction recs with
  | nil => rfl
  | cons x xs ih => simp [lastRootRec, ih]

/-- writer and recovery together.  Start from an empty journal, run any
operations; crash at any later time with the acknowledged prefix intact and *any* tail in which no
CRC-valid record starts: recovery succeeds and shows exactly the acknowledged root `r` (the
in-flight suffix is discarded silently), with every acknowledged record in its place
(`hfit`: those records fit the buffer size `B`; assumed, not derived from `ops`). -/
theorem acked_root_survives_crash (B : Nat) (s0 : WState) (ops : List Op)
    (hb : s0.buf = []) (ho : s0.off = 0) (hlog : s0.log = [])
    (pre post : List Ev) (r : Bytes) (h : (run s0 ops).2 = pre ++ Ev.ack r :: post)
    (t : Bytes) (ht : NoValidRecord B t)
    (hfit : ∀ recs ts, (diskAfter ⟨[], 0⟩ pre).file = encAll (recs ++ [Rec.root r ts]) → AllFit B (recs ++ [Rec.root r ts])) :
    ∃ out off, recover B ((diskAfter ⟨[], 0⟩ pre).file.take (diskAfter ⟨[], 0⟩ pre).durable ++ t) = .ok out off ∧
      lastRoot out = some r := by
  obtain ⟨hd, recs, ts, hf⟩ := ack_implies_durable s0 ⟨[], 0⟩ ops hb (by simp [ho]) hlog pre post r h
  simp only [List.nil_append] at hf
  rw [hd, List.take_length, hf]
  have hfit' := hfit recs ts hf
  refine ⟨_, _, recover_torn_tail B _ t hfit' ht, ?_⟩
  rw [lastRoot_placed, lastRootRec_append_root]

end DoltVerif.C03
