import DoltVerif.Lemmas.JournalWriter
import DoltVerif.Lemmas.JournalIndexView
/-! C04 — The journal index file never changes what the database contains.  Over `Model/JournalIndex.lean`
(transliteration of `processIndexRecords`, `readJournalIndex`, `corruptIndexRecovery`, `bootstrapJournal`).  The full
statement `C04_full` is false of the code and of the model: the batch checksum covers only the addr16s, see
`index_ranges_unprotected` and the finding `journal-index-offset-unprotected`, replayed by the `journalindex` harness. -/
namespace DoltVerif.C04
open DoltVerif.Journal

/-- observable equality of two bootstraps over the same journal: same outcome class, same root,
same bytes for every address -/
def viewEq (journal : Bytes) : BootOut → BootOut → Prop
  | .ok b1, .ok b2 => b1.root = b2.root ∧ ∀ a, b1.read journal a = b2.read journal a
  | .dataLoss o1, .dataLoss o2 => o1 = o2
  | .fatal e1, .fatal e2 => e1 = e2
  | _, _ => False

/-- the property as stated: for ANY index content, same view as with no index.  Not provable: false. -/
def C04_full : Prop :=
  ∀ (B mx : Nat) (j idx : Bytes) (cw : Bool), viewEq j (bootstrap B mx j (some idx) cw) (bootstrap B mx j none cw)

theorem batchCrc_blind (ls : List Lookup) (f g : Lookup → Nat) :
    batchCrc (ls.map (fun l => { l with off := f l, len := g l })) = batchCrc ls := by
  rw [batchCrc, List.foldl_map]
  rfl

/-- the validation of an index batch (checksum, contiguity, root hash
at the batch end) gives the same verdict whatever offsets and lengths its lookups carry — the
mechanism by which a checksummed-but-wrong index changes what is readable (finding
`journal-index-offset-unprotected`, reproduced on the real code by the `journalindex` harness). -/
theorem index_ranges_unprotected (journal : Bytes) (prev : Nat) (m : Meta) (ls : List Lookup) (f g : Lookup → Nat) :
    acceptBatch journal prev m (ls.map (fun l => { l with off := f l, len := g l })) = acceptBatch journal prev m ls := by
  unfold acceptBatch
  rw [batchCrc_blind]

example : acceptBatch [] 0 ⟨0, 0, (batchCrc [⟨zeros 16, 5, 7⟩]).toNat, []⟩ [⟨zeros 16, 999, 1⟩] =
    acceptBatch [] 0 ⟨0, 0, (batchCrc [⟨zeros 16, 5, 7⟩]).toNat, []⟩ [⟨zeros 16, 5, 7⟩] :=
  index_ranges_unprotected [] 0 _ [⟨zeros 16, 5, 7⟩] (fun _ => 999) (fun _ => 1)

/-- a read-only bootstrap performs no file operation at all — for any journal
(torn, damaged) and any index content (missing, stale, corrupt). -/
theorem readonly_no_writes (B mx : Nat) (j : Bytes) (idx : Option Bytes) :
    match bootstrap B mx j idx false with
    | .ok b => b.ops = []
    | _ => True := by
  unfold bootstrap
  cases idx with
  | none =>
    simp only []
    cases recoverFrom B j 0 <;> simp
  | some data =>
    simp only []
    cases readIndex j data with
    | error e => simp only []; cases recoverFrom B j 0 <;> simp
    | ok r => simp only []; cases recoverFrom B j r.indexed <;> simp

/-- same contents, ignoring the file operations -/
def sameState : BootOut → BootOut → Prop
  | .ok b1, .ok b2 => b1.root = b2.root ∧ b1.cached = b2.cached ∧ b1.novel = b2.novel ∧ b1.off = b2.off
  | .dataLoss o1, .dataLoss o2 => o1 = o2
  | .fatal e1, .fatal e2 => e1 = e2
  | _, _ => False

theorem sameState_of_nothing_loaded (B mx : Nat) (j data : Bytes) (cw : Bool)
    (h : ∀ r, readIndex j data = .ok r → r.lookups = [] ∧ r.indexed = 0) :
    sameState (bootstrap B mx j (some data) cw) (bootstrap B mx j none cw) := by
  unfold bootstrap
  cases hr : readIndex j data with
  | error e => simp only [hr]; cases recoverFrom B j 0 <;> simp [sameState]
  | ok r =>
    obtain ⟨hl, hi⟩ := h r hr
    simp only [hr, hl, hi]
    cases recoverFrom B j 0 <;> simp [sameState]

/-- whenever the index fails validation — unknown tag, wrong checksum,
non-contiguous batch, root hash mismatch at a batch end (stale, foreign, random, bit-flipped
addr16/meta) — the bootstrap state is exactly the index-free one (`corruptIndexRecovery`). -/
theorem rejected_index_harmless (B mx : Nat) (j data : Bytes) (cw : Bool) (e : IdxErr)
    (h : readIndex j data = .error e) :
    sameState (bootstrap B mx j (some data) cw) (bootstrap B mx j none cw) :=
  sameState_of_nothing_loaded B mx j data cw fun _ hr => nomatch h.symm.trans hr

/-- an index that ends before its first complete batch (missing meta,
truncated inside the first batch, empty file) is ignored. -/
theorem unaccepted_index_harmless (B mx : Nat) (j data : Bytes) (cw : Bool) (safe : Nat)
    (h : readIndex j data = .ok ⟨[], 0, safe⟩) :
    sameState (bootstrap B mx j (some data) cw) (bootstrap B mx j none cw) :=
  sameState_of_nothing_loaded B mx j data cw fun r hr => by cases h.symm.trans hr; exact ⟨rfl, rfl⟩

/-- the accepted part of an index describes the journal prefix `rs1`: it ends at the end of `rs1`
and its lookups are the ranges a replay of `rs1` computes (addr16, payload offset, payload length) -/
def RangesFaithful (rs1 : List Rec) (r : IdxOk) : Prop :=
  r.indexed = (encAll rs1).length ∧ r.lookups = (rangesOf (placed rs1 0)).map toLookup

/-- a journal whose prefix `rs1` is well-formed, followed by ANY bytes `g` (more records,
a torn tail, garbage), bootstrapped with an index whose accepted part is faithful to `rs1`, gives
the same outcome as the index-free bootstrap: same error class, same root, and the same bytes for
every address that no stored address aliases on its first 16 bytes.  (`hroot`: the replayed part
holds a root record — what `acceptBatch`'s `peekRoot` at the batch end checks.) -/
theorem C04_partial (B mx : Nat) (rs1 : List Rec) (g idx : Bytes) (cw : Bool) (r : IdxOk)
    (hfit : AllFit B rs1) (hidx : readIndex (encAll rs1 ++ g) idx = .ok r) (hf : RangesFaithful rs1 r)
    (hroot : ∀ recs2 off, recoverFrom B (encAll rs1 ++ g) (encAll rs1).length = .ok recs2 off → (lastRoot recs2).isSome) :
    match bootstrap B mx (encAll rs1 ++ g) (some idx) cw, bootstrap B mx (encAll rs1 ++ g) none cw with
    | .ok b1, .ok b2 => b1.root = b2.root ∧
        ∀ a, NoAlias (rangesOf (placed rs1 0)) a → b1.read (encAll rs1 ++ g) a = b2.read (encAll rs1 ++ g) a
    | .dataLoss o1, .dataLoss o2 => o1 = o2
    | .fatal e1, .fatal e2 => e1 = e2
    | _, _ => False := by
  obtain ⟨hi, hl⟩ := hf
  unfold bootstrap
  simp only [hidx, hi]
  rw [recoverFrom_boundary B rs1 g hfit]
  cases hL : recoverFrom B (encAll rs1 ++ g) (encAll rs1).length with
  | fatal e => simp only []
  | dataLoss off => simp only []
  | ok recs2 off =>
    have hr := hroot recs2 off hL
    simp only []
    constructor
    · obtain ⟨v, hv⟩ := Option.isSome_iff_exists.mp hr
      rw [lastRoot_append, hv, Option.some_or]
    · intro a ha
      simp only [Boot.read, Boot.get, rangesOf_append, lookupRange_append, hl]
      cases hn : lookupRange (rangesOf recs2) a with
      | some e => rfl
      | none =>
        simp only []
        rw [cached_faithful (rangesOf (placed rs1 0)) a ha]
        cases lookupRange (rangesOf (placed rs1 0)) a <;> rfl

/-- for every sequence of writer operations on a fresh journal, the
lookups handed to the index writer are, in order, exactly the ranges a replay of the records
written computes.  Since this holds for every operation sequence it holds for every prefix of one,
i.e. for the index as it stood at any earlier flush (stale index) or cut at any batch boundary. -/
theorem index_written_by_writer_faithful (s0 : WState) (ops : List Op)
    (hb : s0.buf = []) (ho : s0.off = 0) (hlog : s0.log = []) (hops : ∀ op ∈ ops, OpFits op) :
    lookupsOf (run s0 ops).2 = (rangesOf (placed (run s0 ops).1.log 0)).map toLookup := by
  obtain ⟨nl, a⟩ := run_adv (base := []) ops s0 ⟨[], 0⟩ ⟨ho.symm, by simp [hb, hlog, encAll]⟩
  rw [a.lookups hops, a.log, hlog, List.nil_append, show s0.offset = 0 by simp [WState.offset, hb, ho]]

example : OpFits (.chunk (zeros 20) [1, 2, 3]) ∧ OpFits (.commit (zeros 20)) :=
  ⟨(by decide : chunkRecSz 3 < 4294967296), trivial⟩


theorem not_C04_full_of_foreign_lookup (B mx : Nat) (j data : Bytes) (l : Lookup) (safe : Nat) (recs : List (Nat × Parsed))
    (off : Nat) (a : Bytes) (hidx : readIndex j data = .ok ⟨[l], 0, safe⟩) (hrec : recoverFrom B j 0 = .ok recs off)
    (hnov : lookupRange (rangesOf recs) a = none) (hl : l.a16 = a.take 16) :
    ¬ C04_full := by
  intro hfull
  have h := hfull B mx j data false
  simp only [bootstrap, hidx, hrec, viewEq] at h
  have := h.2 a
  simp [Boot.read, Boot.get, hnov, hl] at this

/-- the refuting witness of `C04_full`: a one-record journal and a well-formed, checksummed index
batch whose only lookup names an address the journal does not contain -/
theorem not_C04_full : ¬ C04_full := by
  have hfit : (Rec.root (zeros 20) 0).Fits := ⟨rfl, by decide⟩
  have hjl := Rec.length_encode_root (zeros 20) 0 hfit
  have hrec := recover_of_not_validAt 100 [Rec.root (zeros 20) 0] []
    (by intro r hr; rw [List.mem_singleton.mp hr]; exact ⟨hfit, by rw [hjl]; decide⟩) (noValidRecord_nil 100 0)
  rw [List.append_nil, dlc_short (by decide),
    show encAll [Rec.root (zeros 20) 0] = (Rec.root (zeros 20) 0).encode from List.append_nil _, hjl] at hrec
  have hidx := readIndex_single (Rec.root (zeros 20) 0).encode ⟨zeros 16, 0, 4⟩
    ⟨0, 0, (batchCrc [⟨zeros 16, 0, 4⟩]).toNat, zeros 20⟩ ⟨rfl, by decide, by decide⟩
    ⟨rfl, by decide, by decide, UInt32.toNat_lt _⟩ (acceptBatch_of _ _ _ _ rfl rfl (peekRoot_root _ 0 hfit))
  have hnov : lookupRange (rangesOf (placed [Rec.root (zeros 20) 0] 0)) (zeros 20) = none := rfl
  have hl : zeros 16 = (zeros 20).take 16 := rfl
  exact not_C04_full_of_foreign_lookup 100 0 _ _ _ _ _ 40 (zeros 20) hidx hrec hnov hl

end DoltVerif.C04
