import DoltVerif.Lemmas.ManFsStep
import DoltVerif.Lemmas.ManText
/-! C05 — The manifest is replaced atomically and never names a missing table file.  Over `Model/ManFs.lean` (lemmas:
`Lemmas/ManFs.lean`, `Lemmas/ManFsStep.lean`).  A *schedule* is any `List Step`: an arbitrary interleaving of single
file-system operations of any number of writers (`fileManifest.Update` / `UpdateGCGen`; `journalManifest.Update` of the
process that owns the LOCK), grace pruners, table-file landings, unlocked unlinkers (conjoin cleanup, legacy
`PruneTableFiles`) and crashes. -/
namespace DoltVerif.C05
open DoltVerif.ManFs

/-- every unlocked unlink of the schedule happens at a state where it is safe (`CSafe`: the name is not in the
visible manifest and no writer past `checkNewSpecsPresent` is about to publish it), and every journal-manifest update
validates at a state where the table files it names are in the directory (`StepSafe`) -/
def SafeRun : Sys → List Step → Prop
  | _, [] => True
  | s, st :: sts => StepSafe s st ∧ SafeRun (s.step st) sts

theorem inv_run (s : Sys) (hi : Inv s) (sts : List Step) (hs : SafeRun s sts) : Inv (s.run sts) := by
  induction sts generalizing s with
  | nil => exact hi
  | cons st sts ih => exact ih _ (inv_step s hi st hs.1) hs.2

/-- no unlocked unlink and no journal-manifest update occurs in the schedule -/
def NoUnlinkNoJw : List Step → Prop
  | [] => True
  | .cUnlink _ _ :: _ => False
  | .jw _ :: _ => False
  | _ :: sts => NoUnlinkNoJw sts

/-- `StepSafe` constrains those two kinds of step only -/
theorem safe_of_noUnlinkNoJw (s : Sys) (sts : List Step) (h : NoUnlinkNoJw sts) : SafeRun s sts := by
  induction sts generalizing s with
  | nil => trivial
  | cons st sts ih =>
    cases st <;> first | exact ⟨trivial, ih _ h⟩ | exact absurd h (by simp [NoUnlinkNoJw])

/-- in every reachable state the file named `manifest` is absent or a complete,
fsynced manifest — whatever writers, pruners and crashes did before. -/
theorem manifest_never_partial (sts : List Step) (hs : SafeRun Sys.init sts) :
    (Sys.init.run sts).fs.vis.manifest = none ∨ ∃ m, (Sys.init.run sts).fs.vis.manifest = some (.complete m true) :=
  (inv_run _ inv_init sts hs).fs.vis_good.1

/-- … and so is what any crash (keeping any prefix of the pending directory operations) leaves behind -/
theorem manifest_never_partial_after_crash (s : Sys) (hi : Inv s) (k : Nat) :
    (s.fs.crashPrefix k).manifest = none ∨ ∃ m, (s.fs.crashPrefix k).manifest = some (.complete m true) :=
  (hi.fs.crash_good k).1

/-- a crash at any point keeps either the manifest of the last directory fsync (`dur`, the
old one) or the one currently visible (the new one) — never anything else, never a mixture. -/
theorem crash_old_or_new (s : Sys) (hi : Inv s) (k : Nat) :
    (s.fs.crashPrefix k).manifest = s.fs.dur.manifest ∨ (s.fs.crashPrefix k).manifest = s.fs.vis.manifest := by
  rw [hi.fs.crashPrefix_eq]; exact hi.fs.oldnew k

/-- and the two differ only while one writer stands between its `Rename` and its `SyncDirectoryHandle` -/
theorem old_ne_new_only_inside_update (s : Sys) (hi : Inv s) (h : s.fs.dur.manifest ≠ s.fs.vis.manifest) :
    ∃ a w, s.actors a = .writer w ∧ w.pc = .renamed ∧ s.lock = some a := by
  rcases hi.ren with hn | ⟨a, w, ha, hpc⟩
  · exact absurd (hn.vis hi.fs.coh).symm h
  · exact ⟨a, w, ha, hpc, hi.excl a (by rw [ha]; exact writer_holds (by rw [hpc]; decide))⟩

/-- `Inv` is inductive — preserved by every step of every actor (any number of writers,
pruners, landings, crashes; unlocked unlinks under `StepSafe`) — and implies that every table file the visible
manifest names is in the directory. -/
theorem refs_present_inv (s : Sys) (hi : Inv s) (st : Step) (hs : StepSafe s st) :
    Inv (s.step st) ∧ ∀ t ∈ (s.step st).fs.vis.specs, t ∈ (s.step st).fs.vis.tables :=
  ⟨inv_step s hi st hs, (inv_step s hi st hs).fs.vis_good.2⟩

theorem refs_present (sts : List Step) (hs : SafeRun Sys.init sts) :
    ∀ t ∈ (Sys.init.run sts).fs.vis.specs, t ∈ (Sys.init.run sts).fs.vis.tables :=
  (inv_run _ inv_init sts hs).fs.vis_good.2

/-- ordered-metadata crash model: after a crash that keeps any prefix of the pending
directory operations, the manifest is complete and every table file it names is there. -/
theorem durable_refs_present (s : Sys) (hi : Inv s) (k : Nat) : GoodDir (s.fs.crashPrefix k) := hi.fs.crash_good k

/-- the state after the crash step satisfies the invariant again (recovery needs no repair) -/
theorem crash_recovers (s : Sys) (hi : Inv s) (k : Nat) : Inv (s.step (.crash k)) := inv_step s hi (.crash k) trivial

/-- when a grace pruner's unlink changes the directory, the file is not
named by the manifest (which it read under the LOCK it still holds, and which is still the visible one),
nor by the handle's own upstream view, and it was in the snapshot. -/
theorem prune_deletes_only_unreferenced (s : Sys) (hi : Inv s) (a : Nat) (n : Name)
    (hch : (s.step (.pUnlink a n)).fs.pend ≠ s.fs.pend) :
    ∃ p, s.actors a = .pruner p ∧ s.lock = some a ∧ n ∉ s.fs.vis.specs ∧ n ∉ p.upstream ∧ n ∈ p.cands := by
  simp only [Sys.step] at hch
  split at hch
  · rename_i p hp
    split at hch
    · rename_i hc
      obtain ⟨hk, hcand, hnk⟩ := hc
      have hnk' : n ∉ p.keep := by simpa using hnk
      refine ⟨p, hp, hi.excl a (by rw [hp]; simp [Actor.holds, hk]), ?_, ?_, by simpa using hcand⟩
      · intro hin; exact hnk' ((hi.pr a p hp hk).1 n hin)
      · intro hup; exact hnk' ((hi.pr a p hp hk).2 n hup)
    · exact absurd rfl hch
  · exact absurd rfl hch

/-- In a journaling store the process takes the LOCK when it opens the store (`jAcquire`) and keeps it; its
`journalManifest.Update` (`spawnJournalWriter`, steps `jw`) neither locks per call nor runs `checkNewSpecsPresent`.
`lifetime_lock_excludes`: while that process owns the LOCK, no other actor can be inside a manifest update or inside
the unlink phase of a grace prune. -/
theorem lifetime_lock_excludes (s : Sys) (hi : Inv s) (o b : Nat) (hl : s.lock = some o) (hne : b ≠ o) :
    (s.actors b).holds = false := by
  cases h : (s.actors b).holds with
  | false => rfl
  | true => have := hi.excl b h; rw [hl] at this; exact absurd (by simpa using this.symm) hne

/-- the invariant (hence `refs_present`, `manifest_never_partial`, `crash_old_or_new`,
`durable_refs_present`) is preserved by every step of a journal-manifest update under the explicit hypothesis that
replaces the missing `checkNewSpecsPresent`: when the update validates, the table files it names are in the directory
(`StepSafe s (.jw a)`).  The exclusive lifetime lock gives no such guarantee by itself — see the refutation below. -/
theorem journal_refs_present (s : Sys) (hi : Inv s) (a : Nat)
    (hsafe : ∀ w, s.actors a = .writer w → w.journal = true → w.pc = .compared → ∀ t ∈ w.new.specs, t ∈ s.fs.vis.tables) :
    Inv (s.step (.jw a)) ∧ ∀ t ∈ (s.step (.jw a)).fs.vis.specs, t ∈ (s.step (.jw a)).fs.vis.tables :=
  refs_present_inv s hi (.jw a) hsafe

/-- the statement for journal updates without that hypothesis -/
def journal_refs_present_unrestricted_full : Prop :=
  ∀ sts : List Step, (∀ a n, Step.cUnlink a n ∉ sts) → ∀ t ∈ (Sys.init.run sts).fs.vis.specs, t ∈ (Sys.init.run sts).fs.vis.tables

/-- It is false: a journal-manifest update that names a table file which is not there is published (the file
manifest's update would have been refused by `checkNewSpecsPresent`). -/
theorem journal_refs_present_unrestricted_refuted : ¬ journal_refs_present_unrestricted_full := by
  intro h
  have := h [.jAcquire 0, .spawnJournalWriter 0 0 { lock := 1, root := 1, gcGen := 0, specs := [1] } false,
             .jw 0, .jw 0, .jw 0, .jw 0, .jw 0, .jw 0, .jw 0, .jw 0] (by intro a n h; simp at h) 1 (by decide)
  revert this
  decide +kernel

-- the same update by a file-manifest writer is refused; with the table landed first the journal update is fine and
-- keeps the LOCK
example :
    (Sys.init.run [.spawnWriter 0 0 { lock := 1, root := 1, gcGen := 0, specs := [1] } false,
      .w 0, .w 0, .w 0, .w 0, .w 0, .w 0, .w 0, .w 0, .w 0, .w 0]).fs.vis.manifest = none ∧
    (let s := Sys.init.run [.jAcquire 0, .land 1, .spawnJournalWriter 0 0 { lock := 1, root := 1, gcGen := 0, specs := [1] } false,
      .jw 0, .jw 0, .jw 0, .jw 0, .jw 0, .jw 0, .jw 0, .jw 0, .jw 0, .jw 0]
     s.fs.vis.specs = [1] ∧ s.fs.vis.tables = [1] ∧ s.lock = some 0) := by decide +kernel

/-- `parseManifest (writeManifest m) = m` for the v5 text format, for every manifest whose
nbfVers is non-empty and contains no ':', whose lock (non-zero), root and gcGen and spec names are 32-character base32
strings, given a decimal codec of the chunk counts that round-trips and emits no ':' (strconv.FormatUint/ParseUint; a
parameter).  Field order, separator and slice positions are tied to the source by `Tie.ManifestSteps.text_model`. -/
theorem manifest_text_roundtrip (cd : ManText.DecCodec) (hc : ManText.Codec.OK cd) (m : ManText.Man) (hm : m.Valid) :
    ∃ text, ManText.write cd m = .ok text ∧ ManText.parse cd text = .ok m :=
  ManText.parse_write cd hc m hm

/-- `strings.Split ∘ strings.Join = id` on fields without the separator -/
theorem manifest_split_join (fs : List ManText.Str) (h : fs ≠ []) (hs : ∀ f ∈ fs, ManText.sep ∉ f) :
    ManText.split (ManText.join fs) = fs := ManText.split_join fs h hs

-- a concrete manifest through a toy (unary) count codec: the hypotheses are satisfiable and the functions compute
example :
    let cd : ManText.DecCodec := { enc := fun n => List.replicate n 'x', dec := fun s => if s.all (· == 'x') then some s.length else none }
    let h (c : Char) : ManText.Str := List.replicate 32 c
    let m : ManText.Man := { nbfVers := "__DOLT__".toList, lock := h 'a', root := h 'b', gcGen := h '0', specs := [{ name := h 'c', count := 3 }] }
    (match ManText.write cd m with
     | .ok t => (match ManText.parse cd t with | .ok m' => decide (m' = m) | .error _ => false)
     | .error _ => false) = true := by decide +kernel

-- what the hypotheses exclude; design/C05.md has the replays on the implementation

/-- the invariant statement without the `StepSafe` restriction on unlocked unlinks -/
def refs_present_unrestricted_full : Prop :=
  ∀ sts : List Step, ∀ t ∈ (Sys.init.run sts).fs.vis.specs, t ∈ (Sys.init.run sts).fs.vis.tables

/-- An unlink that does not take the manifest LOCK (conjoin's cleanup func, legacy `PruneTableFiles`) breaks
the invariant: a writer has passed `checkNewSpecsPresent` for table 1, the unlocked unlinker removes 1, the
writer renames its manifest into place. -/
theorem refs_present_unrestricted_refuted : ¬ refs_present_unrestricted_full := by
  intro h
  have := h [.land 1, .spawnWriter 0 0 { lock := 1, root := 1, gcGen := 0, specs := [1] } false,
             .w 0, .w 0, .w 0, .w 0, .w 0, .w 0, .w 0, .spawnCleaner 1 [1], .cUnlink 1 1, .w 0] 1 (by decide)
  revert this
  decide +kernel

/-- the simplest instance: a handle that has not rebased runs the legacy prune after somebody else's commit -/
example :
    let s := Sys.init.run [.land 1, .spawnWriter 0 0 { lock := 1, root := 1, gcGen := 0, specs := [1] } false,
      .w 0, .w 0, .w 0, .w 0, .w 0, .w 0, .w 0, .w 0, .w 0, .w 0, .spawnCleaner 1 [1], .cUnlink 1 1]
    s.fs.vis.specs = [1] ∧ s.fs.vis.tables = [] := by decide +kernel

/-- the durable-view statement in the *unordered* crash model (any subsequence of the pending directory
operations may survive) -/
def durable_refs_present_subset_full : Prop :=
  ∀ sts : List Step, SafeRun Sys.init sts → ∀ mask, GoodDir ((Sys.init.run sts).fs.crashSubset mask)

/-- It is false: the table file's rename is not followed by a directory fsync of its own
(`Tie.ManifestSteps.table_file_landing`), so between the manifest `Rename` and its `SyncDirectoryHandle` both
renames are pending; if only the later one reaches the disk the manifest names a missing file. -/
theorem durable_refs_present_subset_refuted : ¬ durable_refs_present_subset_full := by
  intro h
  have := (h [.land 1, .spawnWriter 0 0 { lock := 1, root := 1, gcGen := 0, specs := [1] } false,
              .w 0, .w 0, .w 0, .w 0, .w 0, .w 0, .w 0, .w 0]
            (safe_of_noUnlinkNoJw _ _ (by simp [NoUnlinkNoJw])) [false, true]).2 1 (by decide)
  revert this
  decide +kernel

/-- in the unordered crash model the durable view is still good when
every table file named by the durable manifest or by a pending manifest rename already has a durable directory
entry and no pending unlink (i.e. if table files were directory-fsynced before the manifest naming them is
renamed — which the code does not do). -/
theorem durable_refs_present_subset_partial (fs : Fs)
    (hdur : GoodDir fs.dur)
    (hren : ∀ f, .renameMan f ∈ fs.pend → ∃ m, f = .complete m true ∧ ∀ t ∈ m.specs, t ∈ fs.dur.tables ∧ DirOp.unlinkTable t ∉ fs.pend)
    (hds : ∀ t ∈ fs.dur.specs, DirOp.unlinkTable t ∉ fs.pend) (mask : List Bool) :
    GoodDir (fs.crashSubset mask) := by
  let Prot : Name → Prop := fun t => t ∈ fs.dur.tables ∧ DirOp.unlinkTable t ∉ fs.pend
  let P : Dir → Prop := fun d =>
    ((d.manifest = none ∨ ∃ m, d.manifest = some (.complete m true)) ∧ ∀ t ∈ d.specs, Prot t) ∧ ∀ t, Prot t → t ∈ d.tables
  have hP : P (fs.dur.replay (maskOps fs.pend mask)) := by
    -- `P` holds of the durable directory and every surviving operation preserves it
    refine List.foldlRecOn (motive := P) _ Dir.apply ?_ fun d hd o ho => ?_
    · exact ⟨⟨hdur.1, fun t ht => ⟨hdur.2 t ht, hds t ht⟩⟩, fun t ht => ht.1⟩
    · have hop := (maskOps_sublist _ _).subset ho
      cases o with
      | renameMan f =>
        obtain ⟨m, rfl, hm⟩ := hren f hop
        exact ⟨⟨Or.inr ⟨m, rfl⟩, by simpa [Dir.apply, Dir.specs] using hm⟩, by simpa [Dir.apply] using hd.2⟩
      | addTable n =>
        refine ⟨⟨by simpa [Dir.apply] using hd.1.1, ?_⟩, fun t ht => mem_apply_add d n t (hd.2 t ht)⟩
        intro t ht; rw [specs_apply_other _ _ (by intro f e; cases e)] at ht; exact hd.1.2 t ht
      | unlinkTable n =>
        refine ⟨⟨by simpa [Dir.apply] using hd.1.1, ?_⟩, ?_⟩
        · intro t ht; rw [specs_apply_other _ _ (by intro f e; cases e)] at ht; exact hd.1.2 t ht
        · intro t ht
          exact mem_apply_unlink d n t (hd.2 t ht) (by intro e; subst e; exact ht.2 hop)
  have hg : GoodDir (fs.dur.replay (maskOps fs.pend mask)) := ⟨hP.1.1, fun t ht => hP.2 t (hP.1.2 t ht)⟩
  simp only [Fs.crashSubset, GoodDir.tear hg]
  exact hg

-- one Update, run without interruption, is the compare-and-swap C02 assumes

/-- the writer's ten program steps in a row -/
def runWriter (s : Sys) (a : Nat) : Sys := s.run (List.replicate 10 (.w a))

-- with the matching lock and the new table present the manifest is replaced …
example :
    let s := Sys.init.run [.land 1, .land 2, .spawnWriter 0 0 { lock := 1, root := 1, gcGen := 0, specs := [1] } false]
    let s1 := runWriter s 0
    let s2 := runWriter (s1.step (.spawnWriter 1 1 { lock := 2, root := 2, gcGen := 0, specs := [1, 2] } false)) 1
    s1.fs.vis.manifest = some (.complete { lock := 1, root := 1, gcGen := 0, specs := [1] } true) ∧
    s2.fs.vis.manifest = some (.complete { lock := 2, root := 2, gcGen := 0, specs := [1, 2] } true) ∧
    s2.lock = none ∧ s2.fs.pend = [] := by decide +kernel

-- … with a stale lock, or a missing table file, nothing changes
example :
    let s := runWriter (Sys.init.run [.land 1, .spawnWriter 0 0 { lock := 1, root := 1, gcGen := 0, specs := [1] } false]) 0
    (runWriter (s.step (.spawnWriter 1 7 { lock := 2, root := 2, gcGen := 0, specs := [1] } false)) 1).fs.vis = s.fs.vis ∧
    (runWriter (s.step (.spawnWriter 1 1 { lock := 2, root := 2, gcGen := 0, specs := [1, 9] } false)) 1).fs.vis = s.fs.vis := by
  decide +kernel

end DoltVerif.C05
