import DoltVerif.Lemmas.ManStoreStep
import DoltVerif.Lemmas.ManStoreClosure
/-! C07 — Committed state never contains dangling references.  Over `Model/ManStore.lean` (the model of C02; `env.refs` is
what the `getAddrs` callback reports): the gates (what a flush, a commit, a has-cache insertion check), the closure step of
an acknowledged commit, the run-level statements from the invariant `RInv` of `Lemmas/ManStoreClosure*.lean` for schedules
satisfying `SafeAdds`, and the refutation of the statement without that restriction. -/
namespace DoltVerif.C07
open DoltVerif.ManStore

def Handle.inNovel (h : Handle) (a : Addr) : Bool := h.novel.any (·.contains a)

def Closed (env : Env) (S : Addr → Prop) : Prop := ∀ a, S a → ∀ b ∈ env.refs a, S b

def Persisted (s : Sys) (a : Addr) : Prop := s.disk.persisted a = true

instance (s : Sys) (a : Addr) : Decidable (Persisted s a) := by unfold Persisted; infer_instance

/-- a dangling reference in the memtable makes the flush check fail -/
theorem flushOk_false_of_dangling (env : Env) (h : Handle) (m : Mem) (c r : Addr) (hc : c ∈ m.chunks) (hr : r ∈ env.refs c)
    (h1 : h.hasCache.contains r = false) (h2 : m.chunks.contains r = false) (h3 : h.inTables r = false) :
    flushOk env h m = false := by
  cases hf : flushOk env h m with
  | false => rfl
  | true =>
    rcases (flushOk_iff env h m).1 hf c hc r hr with h | h | h
    · rw [List.contains_iff_mem.2 h] at h1; cases h1
    · rw [List.contains_iff_mem.2 h] at h2; cases h2
    · rw [h] at h3; cases h3

/-- and the flush check fails only for a dangling reference (no spurious rejections) -/
theorem dangling_of_flushOk_false (env : Env) (h : Handle) (m : Mem) (hf : flushOk env h m = false) :
    ∃ c ∈ m.chunks, ∃ r ∈ env.refs c,
      h.hasCache.contains r = false ∧ m.chunks.contains r = false ∧ h.inTables r = false := by
  unfold flushOk at hf
  rw [List.all_eq_false] at hf
  obtain ⟨c, hc, hf⟩ := hf
  rw [Bool.not_eq_true, List.all_eq_false] at hf
  obtain ⟨r, hr, hf⟩ := hf
  simp only [Bool.not_eq_true, Bool.or_eq_false_iff] at hf
  exact ⟨c, hc, r, hr, hf.1.1, hf.1.2, hf.2⟩

/-- the memtable flush of a commit fails exactly when a non-empty memtable fails
the reference check -/
theorem flush_rejects_iff_dangling (env : Env) (h : Handle) :
    h.flushForCommit env = none ↔ ∃ m, h.mem = some m ∧ m.chunks.isEmpty = false ∧ flushOk env h m = false := by
  fun_cases Handle.flushForCommit env h <;> simp_all

/-- a commit whose memtable has a dangling reference, or whose new root is neither
the empty hash, nor vouched for by the has-cache, nor present, returns `ErrDanglingRef`, throws the memtable
away, and never reaches `manifest.Update` (no commit is parked) — so, by C02
`failed_commit_changes_nothing`, the persisted manifest is untouched. -/
theorem dangling_commit_rejected (env : Env) (h : Handle) (cur last : Addr) (hl : h.upstream.root = last)
    (hd : h.flushForCommit env = none ∨ ∃ h1, h.flushForCommit env = some h1 ∧ h1.rootDangling cur = true) :
    (h.prepare env cur last).2 = .err .dangling ∧ (h.prepare env cur last).1.mem = none ∧
    (h.prepare env cur last).1.pc = h.pc := by
  have hp := prepare_prepared env h cur last
  generalize h.prepare env cur last = x at hp ⊢
  cases hp with
  | mismatch hne => exact absurd hl hne
  | dangling => exact ⟨rfl, rfl, rfl⟩
  | rootDangling h1 _ hf => exact ⟨rfl, rfl, (flushForCommit_fields env h h1 hf).2⟩
  | parked h1 _ hf hnd =>
    rcases hd with hn | ⟨h1', hs, hr⟩
    · rw [hn] at hf; cases hf
    · rw [hs] at hf; cases hf; rw [hr] at hnd; cases hnd

/-- system level: the step of a rejected commit leaves the manifest alone -/
theorem rejected_commit_changes_nothing (env : Env) (s : Sys) (hi : Inv s) (i : Nat) (cur last : Addr) :
    (s.next env (.cstart i cur last)).1.disk.manifest = s.disk.manifest :=
  (next_facts env s hi (.cstart i cur last)).manifest
    (ackOf_eq_none fun _ h => nomatch h) rfl

/-- a commit that gets as far as `manifest.Update` has a root that is empty,
vouched for by the has-cache, or present in the handle's memtable/tables. -/
theorem parked_commit_is_checked (env : Env) (h : Handle) (cur last : Addr)
    (hp : (h.prepare env cur last).2 = .parked) :
    ∃ h1, h.flushForCommit env = some h1 ∧ (cur = 0 ∨ h1.hasCache.contains cur = true ∨ h1.has cur = true) := by
  have hx := prepare_prepared env h cur last
  generalize h.prepare env cur last = x at hx hp
  cases hx with
  | mismatch | dangling | rootDangling => cases hp
  | parked h1 _ hf hnd => exact ⟨h1, hf, rootDangling_false.1 hnd⟩

/-- `hascache_sound` (flush step): if every address the has-cache vouches for is in a table of the handle, this
still holds after a successful flush — the pending refs are cached only once the memtable they may point into
has landed (`addPendingRefsToHasCache` after `append`). -/
theorem hascache_sound_flush (env : Env) (h : Handle) (m : Mem) (x : Option Mem) (hok : flushOk env h m = true)
    (hs : ∀ a ∈ h.hasCache, h.inTables a = true) :
    ∀ a ∈ (flushed env h m x).hasCache, (flushed env h m x).inTables a = true := by
  intro a ha
  simp only [flushed, List.mem_append, List.mem_flatMap] at ha
  rcases ha with ha | ⟨c, hc, hr⟩
  · exact (inTables_flushed env h m x a).2 (Or.inl (hs a ha))
  · rcases (flushOk_iff env h m).1 hok c hc a hr with h1 | h2
    · exact (inTables_flushed env h m x a).2 (Or.inl (hs a h1))
    · exact (inTables_flushed env h m x a).2 h2.symm

/-- `hascache_sound` (root step): `errorIfDangling` caches the new root only if it is present -/
theorem hascache_sound_root (h : Handle) (cur : Addr) (hnd : h.rootDangling cur = false)
    (hs : ∀ a ∈ h.hasCache, h.has a = true) : ∀ a ∈ (h.noteRoot cur).hasCache, h.has a = true := by
  intro a ha
  obtain ⟨c, e, hc⟩ := noteRoot_eq h cur
  rw [e] at ha
  rcases hc a ha with h1 | ⟨rfl, hne⟩
  · exact hs a h1
  · rcases rootDangling_false.1 hnd with h0 | h1 | h2
    · exact absurd h0 hne
    · exact hs a (List.contains_iff_mem.1 h1)
    · exact h2

/-- the opposite order would be unsound: a failed flush changes nothing in the has-cache (the memtable is
dropped, and nothing it referenced was cached) -/
theorem rejected_flush_keeps_hascache (env : Env) (h : Handle) (cur last : Addr)
    (hn : h.flushForCommit env = none) :
    (h.prepare env cur last).1.hasCache = h.hasCache := by
  have hp := prepare_prepared env h cur last
  generalize h.prepare env cur last = x at hp ⊢
  cases hp with
  | mismatch | dangling => rfl
  | rootDangling h1 _ hf | parked h1 _ hf => rw [hn] at hf; cases hf

/-- when a commit is acknowledged by writing `new`, the new persisted set is closed,
provided (the hypotheses the run-level invariant supplies): the old persisted set is closed, the table files
named before are still named (`hmono`, from lock equality), every chunk of a newly named table has its refs
in a newly named table or in the old persisted set (`hnovel`, from the ref check at flush). -/
theorem closure_step_partial (env : Env) (d : Disk) (new : Contents)
    (hclosed : Closed env (fun a => d.persisted a = true))
    (hmono : ∀ t ∈ d.specs, t ∈ new.specs)
    (hnovel : ∀ t ∈ new.specs, t ∉ d.specs → ∀ a ∈ t, ∀ b ∈ env.refs a,
        (∃ u ∈ new.specs, b ∈ u) ∨ d.persisted b = true) :
    Closed env (fun a => ({ d with manifest := some new } : Disk).persisted a = true) :=
  P_closed_write hclosed hmono fun t ht hold a hat b hb =>
    (hnovel t ht hold a hat b hb).elim (fun ⟨u, hu, hbu⟩ => (P_iff _ b).2 ⟨u, hu, hbu⟩) (P_mono hmono)

theorem mem_insertT (t : Table) (l : List Table) (x : Table) : x ∈ insertT t l ↔ x = t ∨ x ∈ l :=
  ManStore.mem_insertT t l x

theorem parked_specs (h : Handle) (cur last : Addr) :
    ∀ p, (h.park cur last).pc = some p → p.new.specs = h.toSpecs := by
  intro p hp; simp [Handle.park] at hp; subst hp; rfl

/-- The chunk half of C02 ("acknowledged commits persist"), at the level of spec lists: a manifest whose specs are
`h.toSpecs` — which is what a parked commit asks for (`parked_specs`) — names every chunk the handle holds in its
tables (every non-empty novel table and every upstream table); root and lock play no part. -/
theorem acked_chunks_persist (h : Handle) (a : Addr) (ha : h.inTables a = true) (d : Disk) :
    ({ d with manifest := some { root := 0, lock := none, specs := h.toSpecs } } : Disk).persisted a = true :=
  (P_iff _ a).2 ((toSpecs_covers h a).2 ((inTables_iff h a).1 ha))

/-- every `AddTableFilesToManifest` of the schedule is made by a handle that has a root to check against and
nothing of its own that is not persisted yet (empty memtable, no novel tables): the two shapes in which the
store's own reference check lets a dangling reference through (both refuted below, both replayed on the
implementation). -/
def SafeAdds (env : Env) : Sys → List Op → Prop
  | _, [] => True
  | s, op :: ops => AddSafe s op ∧ SafeAdds env (s.next env op).1 ops

theorem rinv_run (env : Env) (s : Sys) (hr : RInv env s) (ops : List Op) (hs : SafeAdds env s ops) : RInv env (s.run env ops) := by
  induction ops generalizing s with
  | nil => exact hr
  | cons op ops ih => exact ih _ (rinv_next env s hr op hs.1) hs.2

/-- for every schedule of the atomic steps of any number of handles (puts with arbitrary
children, flushes at arbitrary memtable sizes, commits with right and stale `last`, rejected commits, retries,
lock time-outs, rebases, opens/closes, `WriteTableFile`, safe `AddTableFilesToManifest`), the chunk set named by
the persisted manifest is closed under references … -/
theorem persisted_closed (env : Env) (ops : List Op) (hs : SafeAdds env Sys.init ops) :
    Closed env (Persisted (Sys.init.run env ops)) :=
  (rinv_run env _ (rinv_init env) ops hs).closed

/-- … and contains the root -/
theorem root_present (env : Env) (ops : List Op) (hs : SafeAdds env Sys.init ops) :
    (Sys.init.run env ops).disk.root = 0 ∨ Persisted (Sys.init.run env ops) (Sys.init.run env ops).disk.root :=
  (rinv_run env _ (rinv_init env) ops hs).root

inductive Reach (env : Env) (a : Addr) : Addr → Prop
  | refl : Reach env a a
  | step {b c : Addr} : Reach env a b → c ∈ env.refs b → Reach env a c

/-- whenever a root is committed, every chunk reachable from it is in the store. -/
theorem root_closure_present (env : Env) (ops : List Op) (hs : SafeAdds env Sys.init ops) (hroot : (Sys.init.run env ops).disk.root ≠ 0)
    (a : Addr) (ha : Reach env (Sys.init.run env ops).disk.root a) : Persisted (Sys.init.run env ops) a := by
  induction ha with
  | refl => exact (root_present env ops hs).resolve_left hroot
  | step _ hc ih => exact persisted_closed env ops hs _ ih _ hc

/-- the has-cache of every handle only vouches for chunks that are in one of its novel tables or persisted
(`hascache_sound`, run level) -/
theorem hascache_sound (env : Env) (ops : List Op) (hs : SafeAdds env Sys.init ops) (i : Nat) (a : Addr)
    (ha : a ∈ ((Sys.init.run env ops).hs i).hasCache) :
    Handle.inNovel ((Sys.init.run env ops).hs i) a = true ∨ Persisted (Sys.init.run env ops) a :=
  ((rinv_run env _ (rinv_init env) ops hs).hs i).cache a ha

-- conjoin: step-level only, the run-level induction excludes it (design/C07.md)

/-- the manifest a conjoin writes names exactly the chunks the manifest it rewrites named: the conjoinees (all named by
`cur`) are replaced by their concatenation -/
theorem conjoin_same_chunks (cs : List Table) (cur : Contents) (hsub : ∀ t ∈ cs, t ∈ cur.specs) (a : Addr) :
    (∃ t ∈ (conjoinContents cs (conjoinedTable cs) cur).specs, a ∈ t) ↔ ∃ t ∈ cur.specs, a ∈ t := by
  simp only [conjoinContents, conjoinedTable, List.mem_append, List.mem_filter, List.mem_singleton]
  constructor
  · rintro ⟨t, (⟨ht, _⟩ | rfl), ha⟩
    · exact ⟨t, ht, ha⟩
    · obtain ⟨u, hu, hau⟩ := List.mem_flatten.1 ha
      exact ⟨u, hsub u hu, hau⟩
  · rintro ⟨t, ht, ha⟩
    by_cases hc : t ∈ cs
    · exact ⟨cs.flatten, Or.inr rfl, List.mem_flatten.2 ⟨t, hc, ha⟩⟩
    · exact ⟨t, Or.inl ⟨ht, by simpa using hc⟩, ha⟩

/-- when a conjoin lands on a directory whose manifest is `cur` (the attempt that
succeeds is always made against the manifest that is on disk), the persisted chunk set is unchanged — so it stays
closed under references, and the (unchanged) root stays in it. -/
theorem conjoin_step_preserves_closure (env : Env) (d : Disk) (cs : List Table) (cur : Contents)
    (hm : d.manifest = some cur) (hsub : ∀ t ∈ cs, t ∈ cur.specs)
    (hclosed : Closed env (fun a => d.persisted a = true)) :
    (∀ a, ({ d with manifest := some (conjoinContents cs (conjoinedTable cs) cur) } : Disk).persisted a = d.persisted a) ∧
    Closed env (fun a => ({ d with manifest := some (conjoinContents cs (conjoinedTable cs) cur) } : Disk).persisted a = true) ∧
    ({ d with manifest := some (conjoinContents cs (conjoinedTable cs) cur) } : Disk).root = d.root := by
  have key : ∀ a, ({ d with manifest := some (conjoinContents cs (conjoinedTable cs) cur) } : Disk).persisted a = d.persisted a :=
    fun a => Bool.eq_iff_iff.2 <| (P_iff _ a).trans <| (conjoin_same_chunks cs cur hsub a).trans <| by
      rw [← specs_of_manifest hm]; exact (P_iff d a).symm
  refine ⟨key, ?_, by simp [Disk.root, hm, conjoinContents]⟩
  intro a ha b hb
  rw [key] at ha ⊢
  exact hclosed a ha b hb

/-- the statement without the `SafeAdds` restriction -/
def persisted_closed_unrestricted : Prop :=
  ∀ (env : Env) (ops : List Op), Closed env (Persisted (Sys.init.run env ops))

/-- `AddTableFilesToManifest` into a store that has no root yet skips the reference check, so a file whose chunk
1 references the never-written chunk 2 is accepted, and `Commit(1, 0)` then persists a root with a missing
child.  (Replayed on the implementation by `nbsrefs`: known finding
`C07/addtablefiles-into-uninitialized-store-skips-refcheck`.) -/
theorem persisted_closed_unrestricted_refuted : ¬ persisted_closed_unrestricted := by
  intro h
  have := h { refs := fun a => if a = 1 then [2] else [], size := fun _ => 10 }
    [.openH 0 100, .writeTable [1], .addTables 0 [[1]], .cstart 0 1 0, .cresume 0] 1 (by decide) 2 (by decide)
  revert this
  decide +kernel

def memWitnessEnv : Env := { refs := fun a => if a = 6 then [5] else if a = 7 then [6] else [], size := fun _ => 10 }
def memWitnessOps : List Op :=
  [.openH 0 1000, .put 0 3, .cstart 0 3 0, .cresume 0, .put 0 5, .writeTable [6], .addTables 0 [[6]],
   .openH 1 1000, .put 1 7, .cstart 1 7 3, .cresume 1]

/-- the second shape: the store's reference check for added table files also accepts a reference that only the
handle's own *unflushed memtable* satisfies.  Handle 0 (root 3 committed) puts chunk 5, adds a table file whose
chunk 6 references 5; handle 1 commits a root 7 → 6.  The persisted root reaches 5, which is nowhere on disk.
(Replays on the implementation: design/C07.md.) -/
theorem addtables_memtable_ref_refuted :
    ¬ (∀ (env : Env) (ops : List Op), (Sys.init.run env ops).disk.root ≠ 0 →
        ∀ a, Reach env (Sys.init.run env ops).disk.root a → Persisted (Sys.init.run env ops) a) := by
  intro h
  have hroot : (Sys.init.run memWitnessEnv memWitnessOps).disk.root = 7 := by decide +kernel
  have := h memWitnessEnv memWitnessOps (by rw [hroot]; decide) 5
    (by rw [hroot]; exact .step (.step .refl (by decide : 6 ∈ memWitnessEnv.refs 7)) (by decide : 5 ∈ memWitnessEnv.refs 6))
  revert this
  decide +kernel

/-- with a root already present and nothing unpersisted the same addition is refused -/
example :
    let env : Env := { refs := fun a => if a = 1 then [2] else [], size := fun _ => 10 }
    ((Sys.init.run env [.openH 0 100, .put 0 3, .cstart 0 3 0, .cresume 0, .writeTable [1]]).next env (.addTables 0 [[1]])).2
      = .err .dangling := by decide +kernel

end DoltVerif.C07
