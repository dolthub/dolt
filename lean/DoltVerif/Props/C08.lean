import DoltVerif.Lemmas.Gc
/-! C08 — Garbage collection keeps everything that is still reachable.  Over `Model/Gc.lean` (the phase protocol of
`ValueStore.GC` with the keeper and concurrent sessions), for all schedules: any interleaving of the collector's phase steps
with the sessions' `put` / `read` / `commit` (a step the protocol blocks or refuses makes `run` return `none`), any walker
`refs`, any marking result that is a closed superset of the roots, any number of cycles.  What the walker omits is C09's. -/
namespace DoltVerif.C08
open DoltVerif.Gc

/-- a store at rest -/
def WellFormed (refs : Addr → List Addr) (s : St) : Prop :=
  s.phase = .noGC ∧ (∀ a ∈ s.chunks, ∀ b ∈ refs a, b ∈ s.chunks) ∧ s.root ∈ s.chunks ∧ s.written = []

theorem wellFormed_inv {refs : Addr → List Addr} {s : St} (h : WellFormed refs s) : Inv refs s := by
  obtain ⟨hp, hc, hr, hw⟩ := h
  exact ⟨hc, hr, by simp [hw], (absurd hp ·), by simp [hp], by simp [hp]⟩

/-- After any schedule (any number of collections, any interleaving of
session steps with the phases), everything reachable through the walker from the current root is
present. -/
theorem gc_keeps_reachable (refs : Addr → List Addr) (s s' : St) (sched : List Step)
    (hwf : WellFormed refs s) (hrun : run refs s sched = some s') :
    ∀ a, Reach refs s'.root a → a ∈ s'.chunks := by
  have hi := inv_run sched (wellFormed_inv hwf) hrun
  intro a hr
  exact reach_in hi.closed hr hi.root_mem

/-- Every chunk a session wrote since the current / last collection
began — and everything reachable from it — is present after any continuation of the schedule,
in particular after the swap.  (Stronger than "…and committed afterwards": retained whether or not
it is committed.) -/
theorem gc_keeps_concurrent_writes (refs : Addr → List Addr) (s s' : St) (sched : List Step)
    (hwf : WellFormed refs s) (hrun : run refs s sched = some s') :
    ∀ c ∈ s'.written, ∀ a, Reach refs c a → a ∈ s'.chunks := by
  have hi := inv_run sched (wellFormed_inv hwf) hrun
  intro c hc a hr
  exact reach_in hi.closed hr (hi.written_mem c hc)

/-- a chunk written during a cycle that ran to completion is in the swapped-in store -/
theorem written_survives_swap (refs : Addr → List Addr) (s s1 s2 : St) (pre : List Step) (E : List Addr)
    (hwf : WellFormed refs s) (h1 : run refs s pre = some s1) (h2 : step refs s1 (.swap E) = some s2) :
    ∀ c ∈ s1.written, c ∈ s2.chunks := by
  have hi2 := inv_step (.swap E) (inv_run pre (wellFormed_inv hwf) h1) h2
  intro c hc
  have : s2.written = s1.written := by
    simp only [step, Option.ite_none_right_eq_some, Option.some.injEq] at h2
    exact h2.2 ▸ rfl
  exact hi2.written_mem c (this ▸ hc)

/-- DESIGN.md's `gc_values_unchanged`: a collection never adds an address that was not present or written
by a session: what `swap` installs is a subset of the store before it (content addressing then
gives identical bytes — in the model, content is a function of the address). -/
theorem swap_subset (refs : Addr → List Addr) (s s' : St) (E : List Addr) (hi : Inv refs s)
    (h : step refs s (.swap E) = some s') : ∀ a ∈ s'.chunks, a ∈ s.chunks := by
  simp only [step, Bool.and_eq_true, decide_eq_true_eq, subset_iff, Option.ite_none_right_eq_some,
    Option.some.injEq] at h
  obtain ⟨⟨⟨hp, hE⟩, _⟩, rfl⟩ := h
  intro a ha
  exact (List.mem_append.mp ha).elim (hi.marked_mem (by simp [hp]) a) (hE a)

/-- the keeper blocks in the finalizing phase: no session step is enabled there -/
theorem finalizing_blocks_sessions (refs : Addr → List Addr) (s : St) (h : s.phase = .finalizing) (c : Addr) :
    step refs s (.put c) = none ∧ step refs s (.read c) = none ∧ step refs s (.commit c) = none := by
  simp [step, h]

/-! non-vacuity: a full cycle with a concurrent writer.  Store {1,2,3,9}, root 1 → 2 → 3, 9 is
garbage.  During the old-gen phase a session writes 5 (→ 3) and commits root 6 (→ 5) written
during the new-gen phase; the cycle finishes; 9 is gone, 1..3, 5, 6 are kept. -/
def exRefs : Addr → List Addr
  | 1 => [2] | 2 => [3] | 5 => [3] | 6 => [5] | _ => []

def exInit : St := ⟨[1, 2, 3, 9], 1, .noGC, [], [], [], [], []⟩

def exSched : List Step :=
  [.begin [] [], .put 5, .markOld [], .toNewGen, .markNew [5, 3, 1, 2], .put 6, .commit 6,
   .drain [6, 5, 3], .finalize [], .swap []]

example : WellFormed exRefs exInit := by unfold WellFormed; decide
example : (run exRefs exInit exSched).map (fun s => (s.chunks.eraseDups, s.root)) = some ([6, 5, 3, 1, 2], 6) := by
  rfl
/-- a session step during finalizing is refused (blocked), so that schedule is not executable -/
example : run exRefs exInit [.begin [] [], .markOld [], .toNewGen, .markNew [1, 2, 3], .finalize [], .put 5] = none := by
  decide
/-- a mark result that forgets a reachable chunk is refused -/
example : run exRefs exInit [.begin [] [], .markOld [], .toNewGen, .markNew [1, 2]] = none := by decide

end DoltVerif.C08
