import DoltVerif.Gen.Fbs
import DoltVerif.Gen.Walk
import DoltVerif.Gen.Loads
import DoltVerif.Model.Walk
/-! C09 — The reference walker reports every address an object can dereference.  About the tables regenerated from the Go
source (`Gen.Walk`: what `SerialMessage.WalkAddrs` / `message.WalkAddresses` hand to the callback; `Gen.Loads`: which fields
the loaders turn into hashes and read; `Gen.Fbs`: the schemas) and the reviewed classification of `Model/Walk.lean`; field-level
facts are decided over the finite tables and lifted to all objects by `Walk.lift_cover`; only the one on tuple encodings is partial. -/
namespace DoltVerif.C09
open DoltVerif DoltVerif.Walk

abbrev walked : List Fld := walkedFields Gen.Walk.direct Gen.Walk.msgDirect
abbrev loads : List Fld := loadFields Gen.Loads.extracts Gen.Loads.workingSetReads

/-- Full, no exemption list: every field a loader dereferences — every field from which loader
code builds a hash, and every field of a stored working set that `doltdb.newWorkingSet` reads
through `datas.WorkingSetHead / MergeState / RebaseState` — is reported by the walker. -/
theorem walk_covers_loads : ∀ f ∈ loads, f ∈ walked := by
  decide +kernel

/-- nothing a loader reads is missing from the walker -/
theorem nothing_missing : missing walked loads = [] :=
  List.filter_eq_nil_iff.mpr fun f hf => by simp [walk_covers_loads f hf]

/-- the working-set chain specifically: all seven addresses
`doltdb.newWorkingSet` dereferences are walked -/
theorem working_set_loads_walked :
    ∀ r ∈ Gen.Loads.workingSetReads, fst2 r ∈ walked :=
  fun _ hr => walk_covers_loads _ (List.mem_append_right _ (List.mem_map_of_mem hr))

/-- the chain extraction did see the rebase and merge state (guards against a vacuous table) -/
theorem working_set_chain_complete :
    ("RebaseState", "onto_commit_addr") ∈ Gen.Loads.workingSetReads.map fst2 ∧
    ("RebaseState", "pre_working_root_addr") ∈ Gen.Loads.workingSetReads.map fst2 ∧
    ("MergeState", "pre_merge_head_commit_addr") ∈ Gen.Loads.workingSetReads.map fst2 ∧
    ("MergeState", "from_commit_addr") ∈ Gen.Loads.workingSetReads.map fst2 ∧
    ("MergeState", "pre_working_root_addr") ∈ Gen.Loads.workingSetReads.map fst2 ∧
    ("WorkingSet", "working_root_addr") ∈ Gen.Loads.workingSetReads.map fst2 ∧
    ("WorkingSet", "staged_root_addr") ∈ Gen.Loads.workingSetReads.map fst2 := by
  decide +kernel

/-- Full, no exemption list: every address-typed field of the schema (incl. the hash
strings `merge_state.pending_commit_hashes`) is walked. -/
theorem walk_covers_address_fields : ∀ f ∈ addressFields, f ∈ walked := by
  decide +kernel

/-- every embedded-message field is walked by recursion -/
theorem walk_covers_embedded : ∀ f ∈ embeddedFields, f ∈ Gen.Walk.embedded := by
  decide +kernel

/-- every tuple-items field is walked through an offsets field, or is on the reviewed exempt list -/
theorem walk_covers_tuple_fields :
    ∀ f ∈ tupleFields, (∃ m ∈ Gen.Walk.msgDirect, m.1 = f.1 ∧ m.2.1 = f.2 ∧ m.2.2 ≠ "") ∨ f ∈ tupleExempt := by
  decide +kernel

/-- every sub-table that holds address or embedded fields is descended into by the walker -/
theorem walk_covers_subtables :
    ∀ s ∈ subtableFields Gen.Fbs.tables, s.2.2 ∈ tablesWithAddrs → s ∈ Gen.Walk.subtables := by
  decide +kernel

/-- every sub-table the loaders descend into and that holds addresses is one the walker descends into -/
theorem walk_covers_loader_descents :
    ∀ d ∈ Gen.Loads.descends, (∃ s ∈ subtableFields Gen.Fbs.tables, s.1 = d.1 ∧ s.2.1 = d.2.1 ∧ s.2.2 ∈ tablesWithAddrs) →
      (∃ s ∈ Gen.Walk.subtables, s.1 = d.1 ∧ s.2.1 = d.2.1) :=
  fun _ _ ⟨s, hs, ht, hf, ha⟩ => ⟨s, walk_covers_subtables s hs ha, ht, hf⟩

/-- every kind of stored message has a case in `SerialMessage.WalkAddrs`; kinds delegated to
`message.WalkAddresses` have a walker there; the kinds that report nothing have no address,
embedded or tuple field -/
theorem kinds_covered :
    (∀ p ∈ Gen.Fbs.fileIds, p.2 ∈ Gen.Walk.caseKinds ∨ p.2 ∈ nonChunkTables) ∧
    (∀ k ∈ Gen.Walk.delegated, k ∈ Gen.Walk.msgDispatch.map (·.1)) ∧
    (∀ k ∈ Gen.Walk.noRefs, k ∉ (addressFields ++ embeddedFields ++ tupleFields).map (·.1)) := by
  decide +kernel

/-- FULL statement about tuple encodings: every encoding that holds an address is enumerated by the
iterators the node serializer uses to fill `value_address_offsets`.  FALSE on the current tree
(`Witness.leaf_encodings_full_refuted`). -/
def leaf_encodings_covered_full : Prop :=
  ∀ e ∈ Gen.Walk.isAddrEncs ++ Gen.Walk.isAdaptiveEncs,
    e ∈ Gen.Walk.iterAddressEncs ++ Gen.Walk.iterAdaptiveEncs

/-- proved part: … or it is the listed known omission (`ExtendedAddrEnc`, Doltgres extended types) -/
theorem leaf_encodings_covered_partial :
    ∀ e ∈ Gen.Walk.isAddrEncs ++ Gen.Walk.isAdaptiveEncs,
      e ∈ Gen.Walk.iterAddressEncs ++ Gen.Walk.iterAdaptiveEncs ∨ e ∈ knownMissingEncs := by
  decide +kernel

theorem lift_full {walked loads : List Fld} (h : ∀ f ∈ loads, f ∈ walked) (o : Obj) (a : Addr)
    (ha : a ∈ fieldsAddrs loads o) : a ∈ walk walked o :=
  (lift_cover (exempt := []) (fun f hf => .inl (h f hf)) o a ha).resolve_right
    fun ⟨_, hf, _⟩ => nomatch hf

/-- Full: for every object `o` (any assignment of address lists to fields, every
optional field populated or not) every non-empty address that loading `o` reads is reported by the
walker. -/
theorem obj_level (o : Obj) (a : Addr) (h : a ∈ loadReads loads o) : a ∈ walk walked o :=
  lift_full walk_covers_loads o a h

/-- `obj_level` in schema form: every non-empty address stored in an address-typed field is
reported by the walker. -/
theorem obj_level_address_fields (o : Obj) (a : Addr) (h : a ∈ fieldsAddrs addressFields o) :
    a ∈ walk walked o :=
  lift_full walk_covers_address_fields o a h

/-! non-vacuity: a working set in the middle of a revert *and* a rebase (every optional field
populated by a distinct address): everything loading it reads is reported. -/
def exampleWs : Obj := ⟨[(("WorkingSet", "working_root_addr"), [1]), (("WorkingSet", "staged_root_addr"), [2]),
  (("MergeState", "pre_working_root_addr"), [3]), (("MergeState", "from_commit_addr"), [4]),
  (("MergeState", "pre_merge_head_commit_addr"), [5]), (("MergeState", "pending_commit_hashes"), [8, 9]),
  (("RebaseState", "pre_working_root_addr"), [6]), (("RebaseState", "onto_commit_addr"), [7])]⟩

example : (loadReads loads exampleWs).eraseDups.length = 7 ∧
    (∀ a ∈ loadReads loads exampleWs, a ∈ walk walked exampleWs) ∧
    (∀ a ∈ [1, 2, 3, 4, 5, 6, 7, 8, 9], a ∈ walk walked exampleWs) := by
  decide +kernel

end DoltVerif.C09
