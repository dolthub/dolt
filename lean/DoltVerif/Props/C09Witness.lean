import DoltVerif.Props.C09
/-! C09 — refuting witness for the one statement that is only partial: tuple encodings (known finding
`walk-missing:ProllyTreeNode.value_items[ExtendedAddrEnc]`).  `val.IsAddrEncoding` lists `ExtendedAddrEnc`,
`val.IterAddressFields` does not, so `writeAddressOffsets` never records such a field and `walkProllyMapAddresses` never
reports it.  This module stops compiling when the iterator is repaired; it is then taken out of checks/C09.json. -/
namespace DoltVerif.C09.Witness
open DoltVerif DoltVerif.Walk DoltVerif.C09

/-- exactly this encoding is missing (nothing else) -/
theorem missing_encodings_exactly :
    (Gen.Walk.isAddrEncs ++ Gen.Walk.isAdaptiveEncs).filter
      (fun e => !(Gen.Walk.iterAddressEncs ++ Gen.Walk.iterAdaptiveEncs).contains e) = ["ExtendedAddrEnc"] := by
  decide +kernel

theorem leaf_encodings_full_refuted : ¬ leaf_encodings_covered_full := fun h =>
  have hm := List.mem_filter.mp (missing_encodings_exactly ▸ List.mem_singleton_self "ExtendedAddrEnc")
  absurd (List.contains_iff_mem.mpr (h _ hm.1)) (by simpa using hm.2)

end DoltVerif.C09.Witness
