import DoltVerif.Lemmas.CorruptLookup
import DoltVerif.Lemmas.CorruptArchive
import DoltVerif.Lemmas.CorruptFormats
import DoltVerif.Model.CorruptWitness
/-! C10 — Corrupted storage files are reported, never misread.  The models (`Model/Corrupt{Table,Formats,Archive}.lean`) are
PANIC-FAITHFUL: where the Go code would slice or index out of range they return `.error .panicWouldOccur`.  Here:
`parse_total_no_panic_X` for the parsers that are total on arbitrary bytes; for the others the full statement (`…_full : Prop`),
its refutation by a crashing file (`…_full_false`; replayed by the `corrupt` harness, corpus/C10) and the strongest partial one. -/
namespace DoltVerif.C10
open DoltVerif.Corrupt DoltVerif.Corrupt.Table

/-- `ReadTableFooter` never indexes out of range, whatever the bytes and their number. -/
theorem parse_total_no_panic_tableFooter (b : Bytes) : readTableFooter b ≠ .error .panicWouldOccur :=
  (readTableFooter_outcome b).ne_panic

/-- `parseTableIndex` is total and panic-free on arbitrary byte strings of arbitrary length. -/
theorem parse_total_no_panic_tableIndex (b : Bytes) : parseTableIndex b ≠ .error .panicWouldOccur :=
  (parseTableIndex_outcome b).ne_panic

/-- the archive footer parser (`loadFooter` + `buildArchiveFooter`) on an arbitrary file -/
theorem parse_total_no_panic_archiveFooter (file : Bytes) : Archive.loadFooter file ≠ .error .panicWouldOccur :=
  (Archive.loadFooter_outcome file).ne_panic

theorem newCompressedChunk_ok {buff p : Bytes} (h : newCompressedChunk buff = .ok p) :
    p = buff.take (sub64 buff.length checksumSize) ∧
      beNat ((buff.drop (sub64 buff.length checksumSize)).take 4) = crc32c p := by
  rw [newCompressedChunk_eq buff _ rfl] at h
  generalize sub64 buff.length checksumSize = n at h ⊢
  by_cases h1 : n ≤ buff.length
  · by_cases h4 : 4 ≤ buff.length - n
    · by_cases hc : beNat ((buff.drop n).take 4) ≠ crc32c (buff.take n)
      · rw [if_pos h1, if_pos h4, if_pos hc] at h; cases h
      · rw [if_pos h1, if_pos h4, if_neg hc] at h
        cases h
        exact ⟨rfl, Decidable.of_not_not hc⟩
    · rw [if_pos h1, if_neg h4] at h; cases h
  · rw [if_neg h1] at h; cases h

/-- a successful table-file read returns a non-empty payload `p` that sits in the
file at the (offset, length) the index gives for the address and passes `NewCompressedChunk`; the
chunk handed to the caller is `dec p` (snappy) — nothing else is verified. -/
theorem get_checked (o : Open) (h p : Bytes) (hg : o.get h = .ok (some p)) :
    ∃ off len buff, o.idx.lookup h = .ok (some (off, len)) ∧ readAt o.kind o.data off len = .ok buff ∧
      newCompressedChunk buff = .ok p ∧ p ≠ [] :=
  get_eq_some.mp hg

/-- the payload of a successful read is followed in the file by its own CRC-32C -/
theorem get_checked_crc (o : Open) (h p : Bytes) (hg : o.get h = .ok (some p)) :
    ∃ off len buff, o.idx.lookup h = .ok (some (off, len)) ∧ readAt o.kind o.data off len = .ok buff ∧
      p = buff.take (sub64 buff.length checksumSize) ∧
      beNat ((buff.drop (sub64 buff.length checksumSize)).take 4) = crc32c p ∧ p ≠ [] := by
  obtain ⟨off, len, buff, hl, hr, hc, hp⟩ := get_checked o h p hg
  have := newCompressedChunk_ok hc
  exact ⟨off, len, buff, hl, hr, this.1, this.2, hp⟩

/-- corruption confined to the data region (same index,
same reader) gives an error or the same bytes as the intact file, *provided* CRC-32C behaves as an
ideal checksum on the damage (`hideal`: a record of the damaged data that passes
`NewCompressedChunk` is the record the intact file has at that place). -/
theorem intact_index_correct_data_partial (o o' : Open) (h p : Bytes)
    (hidx : o'.idx = o.idx) (hkind : o'.kind = o.kind)
    (hideal : ∀ off len buff', readAt o.kind o'.data off len = .ok buff' →
      (∃ q, newCompressedChunk buff' = .ok q) → readAt o.kind o.data off len = .ok buff')
    (hg : o'.get h = .ok (some p)) : o.get h = .ok (some p) := by
  obtain ⟨off, len, buff, hl, hr, hc, hp⟩ := get_checked o' h p hg
  rw [hidx] at hl
  rw [hkind] at hr
  exact get_eq_some.mpr ⟨off, len, buff, hl, hideal off len buff hr ⟨p, hc⟩, hc, hp⟩

/-- without `hideal` the statement is `C10`-style false only through CRC collisions; the hypothesis
is satisfiable (take the undamaged file itself) -/
example (o : Open) (h p : Bytes) (hg : o.get h = .ok (some p)) : o.get h = .ok (some p) :=
  intact_index_correct_data_partial o o h p rfl rfl (fun _ _ _ hr _ => hr) hg

-- Bool-valued observers, so that concrete files can be checked by `decide +kernel`

def okPayload (r : R (Option Bytes)) (p : Bytes) : Bool :=
  match r with
  | .ok (some q) => q == p
  | _ => false

theorem okPayload_eq {r : R (Option Bytes)} {p : Bytes} (h : okPayload r p = true) : r = .ok (some p) := by
  revert h
  fun_cases okPayload r p
  case case1 q => intro h; rw [eq_of_beq h]
  case case2 => nofun

def panicsAfter {α β : Type} (r : R α) (k : α → R β) : Bool :=
  match r with
  | .ok a => isPanic (k a)
  | .error _ => false

theorem panicsAfter_eq {α β : Type} {r : R α} {k : α → R β} (h : panicsAfter r k = true) :
    ∃ a, r = .ok a ∧ k a = .error .panicWouldOccur := by
  cases r with
  | error e => cases h
  | ok a => exact ⟨a, rfl, isPanic_eq h⟩

/-- the snappy encoding of the 1-byte chunk "A" -/
def wPayload : Bytes := [0x01, 0x00, 0x41]
def wPrefix : Bytes := [1, 2, 3, 4, 5, 6, 7, 8]
def wSuffix (last : UInt8) : Bytes := [9, 10, 11, 12, 13, 14, 15, 16, 17, 18, 19, last]
/-- a valid one-chunk table file: record, prefix tuple (ordinal `ord`), length `len`, suffix, footer -/
def wTable (ord : UInt8) (len : UInt8) (last : UInt8) : Bytes :=
  wPayload ++ natBE 4 (crc32c wPayload) ++ wPrefix ++ [ord, 0, 0, 0] ++ [0, 0, 0, len] ++ wSuffix last
    ++ [0, 0, 0, 1] ++ [0, 0, 0, 0, 0, 0, 0, 1] ++ magic
def wAddr (last : UInt8) : Bytes := wPrefix ++ wSuffix last

/-- the valid file reads back (non-vacuity of everything below) -/
theorem wTable_reads : (openFile (wTable 0 7 20) 1 >>= fun o => o.get (wAddr 20)) = .ok (some wPayload) := by
  apply okPayload_eq; decide +kernel

/-- **C10 at full strength** for table files: whatever the bytes of the file, a successful read of
address `h` returns a chunk whose content hashes to `h` (`H` = SHA-512/20, `dec` = snappy). -/
def C10_full (H : Bytes → Bytes) (dec : Bytes → Option Bytes) : Prop :=
  ∀ (file : Bytes) (mcount : Nat) (o : Open) (h p d : Bytes),
    openFile file mcount = .ok o → o.get h = .ok (some p) → dec p = some d → H d = h

/-- `C10_full` is false for EVERY hash function: the table-file index (prefixes, ordinals, lengths,
suffixes) carries no checksum, and a read verifies CRC-32C of the payload, not `H d = h`.  One
flipped suffix bit (20 → 21) makes the never-stored address `wAddr 21` answer with the bytes stored
under `wAddr 20`.  (DESIGN.md §11(e); confirmed on the real code by the `corrupt` harness, known
shape `tablefile-index-unchecksummed`.) -/
theorem C10_full_false (H : Bytes → Bytes) (dec : Bytes → Option Bytes) (hd : ∃ d, dec wPayload = some d) :
    ¬ C10_full H dec := by
  intro hfull
  obtain ⟨d, hd⟩ := hd
  have key : ∀ last : UInt8, (openFile (wTable 0 7 last) 1 >>= fun o => o.get (wAddr last)) = .ok (some wPayload) →
      H d = wAddr last := by
    intro last h
    obtain ⟨o, ho, hg⟩ := bind_eq_ok h
    exact hfull _ 1 o _ _ d ho hg hd
  have h20 := key 20 wTable_reads
  have h21 := key 21 (by apply okPayload_eq; decide +kernel)
  have : wAddr 20 = wAddr 21 := h20.symm.trans h21
  exact absurd this (by decide)

/-- the table-index accessors at full strength: lookups never panic -/
def lookup_no_panic_full : Prop :=
  ∀ (file : Bytes) (mcount : Nat) (o : Open) (h : Bytes), openFile file mcount = .ok o →
    o.has h ≠ .error .panicWouldOccur ∧ o.get h ≠ .error .panicWouldOccur

/-- FALSE: the ordinal read from a prefix tuple is never compared with the chunk count
(`entrySuffixMatches`: `ti.suffixes[ord*12 : ord*12+12]`), and a record length below 4 underflows
`uint64(len(buff)) - checksumSize` in `NewCompressedChunk`.  Both crashing files are one-byte
corruptions of the valid file `wTable 0 7 20`; both crash the real code (harness keys
`panic:table:nbs.onHeapTableIndex.entrySuffixMatches`, `panic:table:nbs.NewCompressedChunk`). -/
theorem lookup_no_panic_full_false : ¬ lookup_no_panic_full := by
  intro hfull
  obtain ⟨o, ho, hp⟩ := panicsAfter_eq (r := openFile (wTable 2 7 20) 1) (k := fun o => o.has (wAddr 20))
    (by decide +kernel)
  exact (hfull _ 1 o (wAddr 20) ho).1 hp

/-- the second crashing file: chunk length 3 in the index → `NewCompressedChunk` slices `buff[2^64-1:]` -/
theorem get_panics_on_short_length :
    (openFile (wTable 0 3 20) 1 >>= fun o => o.get (wAddr 20)) = .error .panicWouldOccur := by
  apply isPanic_eq; decide +kernel

/-- on a well-shaped index (`WF`: what `newOnHeapTableIndex` builds,
see `openFile_wf`) `has` and `get` never panic **provided** every ordinal stored in a prefix tuple
is below the chunk count and every record length is ≥ 4 — the two checks the Go code does not
make (`lookup_no_panic_full_false` shows each is needed). -/
theorem lookup_no_panic_partial (o : Open) (h : Bytes) (w : WF o.idx)
    (hord : TableIndex.OrdinalsInRange o.idx) (hlen : RecordLengthsOk o.idx) :
    o.has h ≠ .error .panicWouldOccur ∧ o.get h ≠ .error .panicWouldOccur :=
  ⟨(Open.has_outcome w hord h).ne_panic, (Open.get_outcome w hord hlen h).ne_panic⟩

/-- the same for a table file opened by the store's own path: the shape `WF` is what the parser
builds (`openFile_wf`; `hsmall` excludes the indexes of about 2^30 chunks (28 GiB) on which the uint32 product
`chunks1*offsetSize` wraps), and the two missing guards are the decidable checks
`ordinalsInRangeB` / `lengthsOkB` over the parsed index. -/
theorem lookup_no_panic_partial_file (file : Bytes) (m : Nat) (o : Open) (h : Bytes)
    (hopen : openFile file m = .ok o) (hsmall : (m - m / 2) * offsetSize < two32)
    (hord : ordinalsInRangeB o.idx = true) (hlen : lengthsOkB o.idx = true) :
    o.has h ≠ .error .panicWouldOccur ∧ o.get h ≠ .error .panicWouldOccur :=
  lookup_no_panic_partial o h (openFile_wf hopen hsmall) (ordinalsInRangeB_sound hord) (lengthsOkB_sound hlen)

/-- both guards hold for the valid witness file -/
example : (match openFile (wTable 0 7 20) 1 with
    | .ok o => ordinalsInRangeB o.idx && lengthsOkB o.idx
    | .error _ => false) = true := by decide +kernel
/-- each of the two crashing files violates exactly one of the two guards -/
example : (match openFile (wTable 2 7 20) 1 with
    | .ok o => !ordinalsInRangeB o.idx && lengthsOkB o.idx
    | .error _ => false) = true := by decide +kernel
example : (match openFile (wTable 0 3 20) 1 with
    | .ok o => ordinalsInRangeB o.idx && !lengthsOkB o.idx
    | .error _ => false) = true := by decide +kernel

/-- `parseManifest` (version prefix loop, v4 and v5 bodies, `parseSpecs`) is total and panic-free
on arbitrary bytes: every `slices[i]` follows the field-count guard and every hash field goes
through `hash.MaybeParse`.  (Up to dolt commit `47e44ad` the root went through `hash.Parse`, which
panics on a malformed hash: the statement was false and the file `wManifest` below crashed every open
of the database, see design/C10.md.) -/
theorem parse_total_no_panic_manifest (b : Bytes) : Manifest.parseManifest b ≠ .error .panicWouldOccur :=
  (Manifest.parseManifest_outcome b).ne_panic

def zeros32 : Bytes := List.replicate 32 0x30
/-- `5:x:<lock>:<root with a NUL byte>:<gcgen>` -/
def wManifest : Bytes :=
  [0x35, 0x3a, 0x78, 0x3a] ++ zeros32 ++ [0x3a] ++ (List.replicate 31 0x30 ++ [0]) ++ [0x3a] ++ zeros32

/-- it is reported as an error (and its well-formed variant parses) -/
example : (match Manifest.parseManifest wManifest with | .error .badHash => true | _ => false) = true := by
  decide +kernel
example : (match Manifest.parseManifest
    ([0x35, 0x3a, 0x78, 0x3a] ++ zeros32 ++ [0x3a] ++ zeros32 ++ [0x3a] ++ zeros32) with | .ok _ => true | _ => false) = true := by
  decide +kernel

section ArchiveIndex
open DoltVerif.Corrupt.Archive

/-- the archive open path (footer + index sections) on an arbitrary file: the four index sections
are read through section readers at offsets computed in wrapping uint64 arithmetic; whatever the
footer claims, loading ends in a read error or an index, never in a panic.  (Allocation of
`byteSpanCount+1` / `chunkCount` elements is not modelled: up to 32 GiB, the
`archive:index-region:oom` finding.) -/
theorem parse_total_no_panic_archiveIndex (file : Bytes) : loadIndex file ≠ .error .panicWouldOccur :=
  (loadIndex_outcome file).ne_panic

/-- archive reads at full strength: `get` never panics on an opened archive -/
def archive_get_no_panic_full : Prop :=
  ∀ (file : Bytes) (x : Index) (h : Bytes), loadIndex file = .ok x → Archive.get x file h ≠ .error .panicWouldOccur

/-- the valid hand-assembled archive reads back (`Witness.arcFile`; the harness opens the same
bytes with the real reader on every run) -/
theorem witness_archive_reads :
    (match loadIndex Witness.arcFile >>= fun x => Archive.get x Witness.arcFile Witness.arcAddr with
      | .ok (.snappy p) => p == Witness.payload | _ => false) = true := by decide +kernel

/-- FALSE: span ends are never checked (not against each other, not against the file size): with
the first byte of the span index set to 0xFF the span length is 0xFF00000000000000 and
`readByteSpan` calls `make([]byte, …)` with it (`makeslice: len out of range`); a span of length 0
trips the `Sample(0)` assertion of `fileReaderAt.ReadAtWithStats` instead.  Replayed on the real
reader by the harness (key `archive:index-region:panic`). -/
theorem archive_get_no_panic_full_false : ¬ archive_get_no_panic_full := by
  intro hfull
  obtain ⟨x, hl, hp⟩ := panicsAfter_eq (r := loadIndex Witness.arcFileBad)
    (k := fun x => Archive.get x Witness.arcFileBad Witness.arcAddr) (by decide +kernel)
  exact hfull _ x _ hl hp

/-- on an archive opened by the store's path, `has` (prefix search +
suffix walk) never panics — even when the prefixes are damaged and no longer sorted:
`prollyBinSearch` re-establishes `lo < target ≤ hi` by explicit comparisons, so the interpolated
index stays in range and `bits.Div64` never overflows (`prollyBinSearch_outcome`, for every
slice); the accessors are bounds-checked.  The panics of archive reads start after the lookup:
`archive_get_no_panic_full_false`. -/
theorem archive_has_no_panic (file : Bytes) (x : Index) (h : Bytes) (hl : loadIndex file = .ok x) :
    x.has h ≠ .error .panicWouldOccur :=
  (has_outcome ((loadIndex_outcome file).of_ok hl) h).ne_panic

example : (match loadIndex Witness.arcFile with | .ok x => (match x.has Witness.arcAddr with | .ok b => b | _ => false) | _ => false) = true := by
  decide +kernel

end ArchiveIndex

/-- `processIndexRecords` is total and panic-free on arbitrary bytes: the fixed-size arrays are
decoded only after `io.ReadFull` delivered all of their bytes. -/
theorem parse_total_no_panic_journalIndex (b : Bytes) : JIndex.process b ≠ .error .panicWouldOccur :=
  (JIndex.loop_outcome (b.length + 1) b b.length 0 0 0 [] []).ne_panic

/-- one lookup followed by one meta record: one batch, truncation offset = 1+28+1+40 -/
example : (match JIndex.process ([0] ++ List.replicate 28 7 ++ [1] ++ List.replicate 40 9) with
    | .ok (bs, off, false) => bs.length == 1 && off == 70
    | _ => false) = true := by decide +kernel

def journal_scan_no_panic_full : Prop :=
  ∀ (data : Bytes) (buffSize : Nat), (Journal.scan data buffSize).2 ≠ some .panicWouldOccur

/-- a 9-byte record `len=9 | tag=addr | crc`: the CRC is valid, the address field is missing -/
def wRecord : Bytes := [0, 0, 0, 9, 2] ++ natBE 4 (crc32c [0, 0, 0, 9, 2])

/-- FALSE: `readJournalRecord` trusts the field layout of any record whose CRC-32C matches
(`buf = buf[journalRecAddrSz:]`, `readUint64(buf)` without length checks).  A 9-byte journal is
enough to crash journal bootstrap (harness key `panic:jrn:nbs.readJournalRecord`). -/
theorem journal_scan_no_panic_full_false : ¬ journal_scan_no_panic_full := by
  intro h; exact h wRecord 1048576 (by decide +kernel)

/-- the record scan of journal bootstrap never panics
**provided** every record of the file that passes `validateJournalRecord` has a well-formed field
layout (`Journal.fieldsOk`: an address field has its 20 bytes, a timestamp field its 8, the walk
ends on the 4 checksum bytes) — the check `readJournalRecord` does not make.  Inside the scan
`validateJournalRecord` itself is panic-free (`Journal.validate_outcome`: its `uint32`
underflow needs a length field below 4, which the scan never passes). -/
theorem journal_scan_no_panic_partial (data : Bytes) (buffSize : Nat) (hg : Journal.ScanGuard data) :
    (Journal.scan data buffSize).2 ≠ some .panicWouldOccur :=
  Journal.scanLoop_no_panic data buffSize hg _ _ _

/-- the guard is decidable per record: a root-hash record shape passes, the witness record fails -/
example : Journal.fieldsOk 10 ([1, 1, 2] ++ List.replicate 20 7 ++ [4] ++ List.replicate 8 0 ++ [0, 0, 0, 0]) = true := by decide +kernel
example : Journal.fieldsOk 10 (wRecord.drop 4) = false := by decide +kernel

/-- `validateJournalRecord` on its own underflows `off -= journalRecChecksumSz` for a length field
below 4 (unreachable from `processJournalRecordsReader`, which passes `len(buf) = length field`). -/
theorem validate_standalone_panics : Journal.validate [0, 0, 0, 1, 0, 0, 0, 0] 0 = .error .panicWouldOccur := by
  apply isPanic_eq; decide +kernel

end DoltVerif.C10
