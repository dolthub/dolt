/-
C11 — Prolly maps behave as sorted dictionaries.  Over `Model/Cursor.lean` (read paths), `Model/MutableMap.lean`
(pending edits, checkpoint / revert / flush / stash) and `Model/Mutate.lean` (flush = `ApplyMutations`); the
specification is `Spec/SortedDict.lean`.
-/
import DoltVerif.Lemmas.MutMapRefine
import DoltVerif.Lemmas.MutContent
import DoltVerif.Lemmas.OrdinalPath
import DoltVerif.Lemmas.SeekP
import DoltVerif.Lemmas.MergeIter
namespace DoltVerif.C11
open DoltVerif.Prolly DoltVerif.SortedDict

variable {κ ν β : Type}

/-- how `closedRange` (and the Range constructors built on it) set `BoundsAreEqual`: only when
both bounds bind, are inclusive and carry values that compare equal for every key -/
def FieldOk (fcmp : FieldCmp κ β) (f : RangeField β) : Prop :=
  f.boundsAreEqual = true → f.lo.binding = true ∧ f.hi.binding = true ∧
    ∀ i t, fcmp i t f.hi.value = fcmp i t f.lo.value

/-- **A key that `Matches` a range is inside the `[start, stop)` cursor window the iterators
search for** (`aboveStart ∧ belowStop`), for every comparator and every combination of
inclusive / exclusive / unbound / equal bounds: the `filteredIter` never needs an item outside
the window. -/
theorem range_predicates_consistent (fcmp : FieldCmp κ β) (t : κ) :
    ∀ (r : List (RangeField β)) (i : Nat), (∀ f ∈ r, FieldOk fcmp f) →
      rangeMatches fcmp t i r = true → aboveStart fcmp t i r = true ∧ belowStop fcmp t i r = true := by
  intro r i
  fun_induction rangeMatches fcmp t i r with
  | case1 => exact fun _ _ => ⟨rfl, rfl⟩
  | case2 i f fs heq ih => -- equal bounds: the field compares equal, the next field decides
    intro hok h
    simp only [Bool.and_eq_true, beq_iff_eq] at h
    obtain ⟨hlo, hhi, hv⟩ := hok f (by simp) heq
    have ih := ih (fun g hg => hok g (by simp [hg])) h.2
    simp [aboveStart, belowStop, hlo, hhi, hv, h.1, heq, ih.1, ih.2]
  | case3 i f fs heq okLo okHi _ => -- a proper interval: this field alone decides
    intro _ h
    have heq' : f.boundsAreEqual = false := by simpa using heq
    simp only [okLo, okHi, Bool.and_eq_true, Bool.or_eq_true, Bool.not_eq_true'] at h
    obtain ⟨⟨h1, h2⟩, _⟩ := h
    unfold aboveStart belowStop
    constructor
    · by_cases hb : f.lo.binding = true
      · simp only [hb, Bool.not_true, Bool.false_eq_true, if_false, heq']
        rcases h1 with h1 | h1
        · simp [hb] at h1
        · revert h1; cases fcmp i t f.lo.value <;> exact id
      · simp [hb]
    · by_cases hb : f.hi.binding = true
      · simp only [hb, Bool.not_true, Bool.false_eq_true, if_false, heq']
        rcases h2 with h2 | h2
        · simp [hb] at h2
        · revert h2; cases fcmp i t f.hi.value <;> exact id
      · simp [hb]

/-- non-vacuity: a two-field range `field0 = 5 ∧ 2 ≤ field1 < 9` over pairs of numbers -/
example : rangeMatches (fun i (t : Nat × Nat) v => compare (if i == 0 then t.1 else t.2) v) (5, 7) 0
    [⟨⟨5, true, true⟩, ⟨5, true, true⟩, true⟩, ⟨⟨2, true, true⟩, ⟨9, true, false⟩, false⟩] = true := by decide

/-- **The binary search of `searchForKey` is a linear scan**: for every total-preorder comparator
and strictly increasing node keys it returns the number of keys strictly below the probe
(first index whose key is ≥ the probe, `Count` if none). -/
theorem search_refines {cmp : κ → κ → Ordering} (hc : TotalPreorder cmp) (k : κ) (keys : List κ)
    (hs : keys.Pairwise (fun a b => cmp a b = .lt)) :
    searchForKey cmp k keys = (keys.takeWhile (fun x => cmp k x == .gt)).length :=
  searchForKey_eq_takeWhile hc k keys hs

/-- well-formed tree: every stored parent item describes its child (non-empty child, stored last
key, stored subtree count) and the content is strictly sorted.  Uniform depth is by construction. -/
structure WF [Inhabited κ] (cmp : κ → κ → Ordering) (t : Tree κ ν) : Prop where
  node : WFNode t.height t.root
  sorted : Sorted cmp t.flatten

/-- **`Get`/`Has` refine dictionary lookup, for every tree height**: for every total-preorder
comparator, every well-formed tree and every probe (present, absent between present keys, below
the first, above the last), the per-level binary search over the stored last keys followed by
the leaf search returns exactly the dictionary's entry. -/
theorem get_refines [Inhabited κ] {cmp : κ → κ → Ordering} (hc : TotalPreorder cmp) (t : Tree κ ν)
    (h : WF cmp t) (k : κ) : t.get cmp k = SortedDict.lookup cmp t.flatten k :=
  Tree.get_refines hc t h.node h.sorted k

/-- **`Get` on a single-node map is dictionary lookup** (`get_refines` at height 0): for every
total-preorder comparator, every strictly sorted leaf and every probe — present, absent between
present keys, below the first or above the last. -/
theorem get_refines_leaf {cmp : κ → κ → Ordering} (hc : TotalPreorder cmp) (leaf : List (κ × ν))
    (hs : Sorted cmp leaf) (k : κ) :
    (⟨0, leaf⟩ : Tree κ ν).get cmp k = SortedDict.lookup cmp leaf k := by
  haveI : Inhabited κ := ⟨k⟩
  exact Tree.get_refines hc ⟨0, leaf⟩ trivial hs k

/-- number of keys strictly below `k` in the dictionary -/
def rank (cmp : κ → κ → Ordering) (kvs : List (κ × ν)) (k : κ) : Nat :=
  (kvs.takeWhile (fun kv => cmp k kv.1 == .gt)).length

/-- **a cursor positioned by any monotone key predicate lands on the predicate's boundary** (`searchForKey`,
`rangeStartSearchFn`, `rangeStopSearchFn`):
its ordinal is the number of entries whose key does not yet satisfy the predicate. -/
theorem seek_ordinal_refines [Inhabited κ] {cmp : κ → κ → Ordering} (hc : TotalPreorder cmp) (t : Tree κ ν)
    (h : WF cmp t) (hne : t.height = 0 ∨ t.root ≠ []) (p : κ → Bool) (hp : Mono cmp p) :
    t.seekOrdinal (psearch p) = some (rankP p t.flatten) := by
  obtain ⟨path, h1, h2, _⟩ := seek_spec hc hp t.height t.root h.node h.sorted hne
  unfold Tree.seekOrdinal
  rw [h1]; exact h2

theorem rankP_searchForKey (cmp : κ → κ → Ordering) (k : κ) (l : List (κ × ν)) :
    rankP (fun x => cmp k x != .gt) l = rank cmp l k := by
  unfold rankP rank
  have : (fun kv : κ × ν => !(cmp k kv.1 != .gt)) = (fun kv => cmp k kv.1 == .gt) := by
    funext kv; cases cmp k kv.1 <;> rfl
  rw [this]

theorem atKey_pos [Inhabited κ] {cmp : κ → κ → Ordering} (hc : TotalPreorder cmp) (t : Tree κ ν)
    (h : WF cmp t) (hne : t.height = 0 ∨ t.root ≠ []) (k : κ) :
    ∃ path, t.atKeyPath cmp k = some path ∧ Pos t.height t.root path (rank cmp t.flatten k) := by
  obtain ⟨path, h1, h2⟩ := seek_pos hc (mono_searchForKey hc k) t.height t.root h.node h.sorted hne
  exact ⟨path, h1, rankP_searchForKey cmp k t.flatten ▸ h2⟩

/-- **`GetOrdinalForKey` refines the dictionary rank, for every tree height**: walking the stored
subtree counts of the preceding siblings at every level (`getOrdinalOfCursor`) gives the number of
keys strictly below the probe — also for probes above the last key (= `Count`). -/
theorem ordinal_refines [Inhabited κ] {cmp : κ → κ → Ordering} (hc : TotalPreorder cmp) (t : Tree κ ν)
    (h : WF cmp t) (hne : t.height = 0 ∨ t.root ≠ []) (k : κ) :
    t.ordinalForKey cmp k = some (rank cmp t.flatten k) := by
  rw [← rankP_searchForKey]
  exact seek_ordinal_refines hc t h hne _ (mono_searchForKey hc k)

/-- **`GetKeyRangeCardinality(start, stop)` refines the dictionary**: rank of `stop` minus rank of
`start`, 0 for an inverted range. -/
theorem cardinality_refines [Inhabited κ] {cmp : κ → κ → Ordering} (hc : TotalPreorder cmp) (t : Tree κ ν)
    (h : WF cmp t) (hne : t.height = 0 ∨ t.root ≠ []) (a b : κ) :
    t.keyRangeCardinality cmp (some a) (some b)
      = some (rank cmp t.flatten b - rank cmp t.flatten a) := by
  obtain ⟨pa, hpa, hA⟩ := atKey_pos hc t h hne a
  obtain ⟨pb, hpb, hB⟩ := atKey_pos hc t h hne b
  unfold Tree.keyRangeCardinality Tree.keyRangePaths
  simp only [bind, Option.bind, pure, hpa, hpb, hA.ordinal h.node, hB.ordinal h.node, Option.some.injEq]
  split <;> omega

/-- non-vacuity: a two-level tree over numbers -/
def exTree : Tree Nat String :=
  ⟨1, [mkInner 3 2 [((1 : Nat), "a"), (3, "b")], mkInner 9 1 [((9 : Nat), "c")]]⟩

example : WF compare exTree where
  node := by
    intro it hit
    rcases List.mem_cons.mp hit with h | hit
    · subst h; exact ⟨List.cons_ne_nil _ _, rfl, rfl, trivial⟩
    · rcases List.mem_cons.mp hit with h | hit
      · subst h; exact ⟨List.cons_ne_nil _ _, rfl, rfl, trivial⟩
      · cases hit
  sorted := by
    show List.Pairwise _ [((1 : Nat), "a"), (3, "b"), (9, "c")]
    decide

/-- `ordinal_refines` at height 0, with the rank written out -/
theorem ordinal_refines_leaf {cmp : κ → κ → Ordering} (hc : TotalPreorder cmp) (leaf : List (κ × ν))
    (hs : Sorted cmp leaf) (k : κ) :
    (⟨0, leaf⟩ : Tree κ ν).ordinalForKey cmp k = some (leaf.takeWhile (fun kv => cmp k kv.1 == .gt)).length := by
  haveI : Inhabited κ := ⟨k⟩
  exact ordinal_refines hc ⟨0, leaf⟩ ⟨trivial, hs⟩ (Or.inl rfl) k

example : (⟨0, [(1, "a"), (3, "b"), (7, "c")]⟩ : Tree Nat String).flatten = [(1, "a"), (3, "b"), (7, "c")] := rfl

/-- `compareCursors` agrees with the ordinals of the two cursors, and a non-empty iterator starts
on an item.  True for any two cursor positions in a well-formed tree (`pos_cursors_consistent`), in
particular for two cursors obtained by searches (`search_cursors_consistent`);
false for `newCursorAtKey` past the last key against `newCursorPastEnd` — known finding
`prollymap/iter-key-range/start-past-last-key-open-stop`. -/
def CursorsConsistent (t : Tree κ ν) (lo hi : List Nat) : Prop :=
  (cmpPath lo hi ≠ .lt → ∀ a b, pathOrdinal t.height t.root lo = some a → pathOrdinal t.height t.root hi = some b → b ≤ a)
  ∧ (cmpPath lo hi = .lt → (pathItem t.height t.root lo).isSome = true)

theorem iterPaths_eq_slice (t : Tree κ ν) (lo hi : List Nat) (a b : Nat)
    (ha : pathOrdinal t.height t.root lo = some a) (hb : pathOrdinal t.height t.root hi = some b)
    (hcur : CursorsConsistent t lo hi) : t.iterPaths lo hi = some (t.slice a b) := by
  fun_cases Tree.iterPaths t lo hi with
  | case1 hge => -- `compare(lo, hi) >= 0`: the iterator is empty, and so is the slice
    have hle := hcur.1 (by simpa using hge) _ _ ha hb
    rw [Tree.slice, if_neg (by omega)]
  | case2 _ _ a' b' hb' ha' => rw [Option.some.inj (ha.symm.trans ha'), Option.some.inj (hb.symm.trans hb')]
  | case3 hlt hno => -- no panic: `lo` is on an item
    obtain ⟨kv, hkv⟩ := Option.isSome_iff_exists.mp (hcur.2 (by simpa using hlt))
    exact (hno kv a b hkv ha hb).elim

/-- `Map.IterRange(rng)` yields exactly the entries whose key
`Matches` the range, in order — for every bound kind, including empty and inverted ranges (then
`[]`) — given that the range's start/stop predicates are monotone along the key order (true for
lexicographic tuple comparators, C15) and the two cursors are consistent (`CursorsConsistent`). -/
theorem iterRange_refines_partial [Inhabited κ] {cmp : κ → κ → Ordering} (hc : TotalPreorder cmp) (t : Tree κ ν)
    (h : WF cmp t) (hne : t.height = 0 ∨ t.root ≠ []) (fcmp : FieldCmp κ β) (r : List (RangeField β))
    (hok : ∀ f ∈ r, FieldOk fcmp f)
    (hLo : Mono cmp (fun k => aboveStart fcmp k 0 r)) (hHi : Mono cmp (fun k => !belowStop fcmp k 0 r))
    (lo hi : List Nat)
    (hlo : seekPath (rangeStartSearch fcmp r) t.height t.root = some lo)
    (hhi : seekPath (rangeStopSearch fcmp r) t.height t.root = some hi)
    (hcur : CursorsConsistent t lo hi) :
    t.iterRange fcmp r = some (t.flatten.filter (fun kv => rangeMatches fcmp kv.1 0 r)) := by
  have ha := (seek_spec_of hc hLo t.height t.root h.node h.sorted hne lo (rangeStartSearch_eq_psearch fcmp r ▸ hlo)).1
  have hb := (seek_spec_of hc hHi t.height t.root h.node h.sorted hne hi (rangeStopSearch_eq_psearch fcmp r ▸ hhi)).1
  unfold Tree.iterRange
  rw [hlo, hhi]
  simp only [iterPaths_eq_slice t lo hi _ _ ha hb hcur, Option.map_some]
  exact congrArg some (window_filter (pLo := fun k => aboveStart fcmp k 0 r) hHi t.flatten h.sorted
    (fun kv => rangeMatches fcmp kv.1 0 r)
    (fun x hx => by
      obtain ⟨h1, h2⟩ := range_predicates_consistent fcmp x.1 r 0 hok hx
      exact ⟨h1, by simp [h2]⟩))

theorem pos_cursors_consistent [Inhabited κ] (t : Tree κ ν) (hwf : WFNode t.height t.root) {lo hi : List Nat} {a b : Nat}
    (hl : Pos t.height t.root lo a) (hh : Pos t.height t.root hi b) : CursorsConsistent t lo hi := by
  have hcmp := hl.cmp hh
  constructor
  · intro hnlt a' b' ha' hb'
    cases (hl.ordinal hwf).symm.trans ha'
    cases (hh.ordinal hwf).symm.trans hb'
    exact Nat.le_of_not_lt (fun hlt => hnlt (hcmp.mpr hlt))
  · intro hlt
    rw [hl.item, List.getElem?_eq_getElem (Nat.lt_of_lt_of_le (hcmp.mp hlt) hh.le)]
    rfl

theorem search_cursors_consistent [Inhabited κ] {cmp : κ → κ → Ordering} (hc : TotalPreorder cmp) (t : Tree κ ν)
    (h : WF cmp t) (hne : t.height = 0 ∨ t.root ≠ []) {pLo pHi : κ → Bool} (hLo : Mono cmp pLo) (hHi : Mono cmp pHi)
    (lo hi : List Nat) (hlo : seekPath (psearch pLo) t.height t.root = some lo)
    (hhi : seekPath (psearch pHi) t.height t.root = some hi) : CursorsConsistent t lo hi := by
  obtain ⟨lo', hlo', hL⟩ := seek_pos hc hLo t.height t.root h.node h.sorted hne
  obtain ⟨hi', hhi', hH⟩ := seek_pos hc hHi t.height t.root h.node h.sorted hne
  cases hlo.symm.trans hlo'
  cases hhi.symm.trans hhi'
  exact pos_cursors_consistent t h.node hL hH

theorem iterPaths_of_pos [Inhabited κ] (t : Tree κ ν) (hwf : WFNode t.height t.root) {lo hi : List Nat} {a b : Nat}
    (hl : Pos t.height t.root lo a) (hh : Pos t.height t.root hi b) : t.iterPaths lo hi = some (t.slice a b) :=
  iterPaths_eq_slice t lo hi a b (hl.ordinal hwf) (hh.ordinal hwf) (pos_cursors_consistent t hwf hl hh)

/-- the tree part of a range iterator: the window between the two cursor ordinals -/
theorem range_iterPaths [Inhabited κ] {cmp : κ → κ → Ordering} (hc : TotalPreorder cmp) (t : Tree κ ν)
    (h : WF cmp t) (hne : t.height = 0 ∨ t.root ≠ []) {pLo pHi : κ → Bool} (hLo : Mono cmp pLo) (hHi : Mono cmp pHi) :
    ∃ lo hi, seekPath (psearch pLo) t.height t.root = some lo ∧ seekPath (psearch pHi) t.height t.root = some hi ∧
      t.iterPaths lo hi = some (t.slice (rankP pLo t.flatten) (rankP pHi t.flatten)) := by
  obtain ⟨lo, hlo, hL⟩ := seek_pos hc hLo t.height t.root h.node h.sorted hne
  obtain ⟨hi, hhi, hH⟩ := seek_pos hc hHi t.height t.root h.node h.sorted hne
  exact ⟨lo, hi, hlo, hhi, iterPaths_of_pos t h.node hL hH⟩

/-- On every well-formed map `Map.IterRange(rng)` yields exactly the
entries whose key `Matches` the range, in key order — for every bound kind (inclusive, exclusive,
unbounded, equal bounds), including empty and inverted ranges (`[]`) — provided the range's
start/stop predicates are monotone along the key order (true for lexicographic tuple comparators;
C15).  `compareCursors` and the iterator's first dereference are covered by
`search_cursors_consistent`. -/
theorem iterRange_refines [Inhabited κ] {cmp : κ → κ → Ordering} (hc : TotalPreorder cmp) (t : Tree κ ν)
    (h : WF cmp t) (hne : t.height = 0 ∨ t.root ≠ []) (fcmp : FieldCmp κ β) (r : List (RangeField β))
    (hok : ∀ f ∈ r, FieldOk fcmp f)
    (hLo : Mono cmp (fun k => aboveStart fcmp k 0 r)) (hHi : Mono cmp (fun k => !belowStop fcmp k 0 r)) :
    t.iterRange fcmp r = some (t.flatten.filter (fun kv => rangeMatches fcmp kv.1 0 r)) := by
  obtain ⟨lo, hlo, _, _⟩ := seek_spec hc hLo t.height t.root h.node h.sorted hne
  obtain ⟨hi, hhi, _, _⟩ := seek_spec hc hHi t.height t.root h.node h.sorted hne
  exact iterRange_refines_partial hc t h hne fcmp r hok hLo hHi lo hi hlo hhi
    (search_cursors_consistent hc t h hne hLo hHi lo hi hlo hhi)

/-- **`IterKeyRange(start, stop)` with both bounds refines the dictionary**: the entries from the
first key ≥ `start` up to (not including) the first key ≥ `stop`; `[]` when the range is empty or
inverted. -/
theorem iterKeyRange_refines [Inhabited κ] {cmp : κ → κ → Ordering} (hc : TotalPreorder cmp) (t : Tree κ ν)
    (h : WF cmp t) (hne : t.height = 0 ∨ t.root ≠ []) (a b : κ) :
    t.iterKeyRange cmp (some a) (some b) = some (t.slice (rank cmp t.flatten a) (rank cmp t.flatten b)) := by
  obtain ⟨lo, hlo, hL⟩ := atKey_pos hc t h hne a
  obtain ⟨hi, hhi, hH⟩ := atKey_pos hc t h hne b
  unfold Tree.iterKeyRange Tree.keyRangePaths
  simp only [hlo, hhi, bind, Option.bind, pure]
  exact iterPaths_of_pos t h.node hL hH

/-- **`IterAll` yields exactly the dictionary, in key order** (cursor at start … `newCursorPastEnd`);
`IterAllReverse` yields it reversed. -/
theorem iterAll_refines [Inhabited κ] {cmp : κ → κ → Ordering} (hc : TotalPreorder cmp) (t : Tree κ ν) (h : WF cmp t)
    (hne : t.height = 0 ∨ t.root ≠ []) : t.iterAll = some t.flatten := by
  by_cases hroot : t.root = []
  · obtain ⟨ht, root⟩ := t
    simp only at hroot hne
    subst hroot
    have h0 : ht = 0 := by rcases hne with h0 | h0; exact h0; exact absurd rfl h0
    subst h0
    rfl
  · exact t.iterPaths_to_end h.node hne (startPath_pos t.height t.root h.node hne)
      (List.length_pos_iff.mpr (flatten_ne_nil t.height t.root h.node hroot))

theorem iterAllReverse_refines [Inhabited κ] {cmp : κ → κ → Ordering} (hc : TotalPreorder cmp) (t : Tree κ ν)
    (h : WF cmp t) (hne : t.height = 0 ∨ t.root ≠ []) : t.iterAllReverse = some t.flatten.reverse := by
  unfold Tree.iterAllReverse; rw [iterAll_refines hc t h hne]; rfl

/-- **`IterKeyRange(nil, stop)`**: everything below the first key ≥ `stop` -/
theorem iterKeyRange_open_start [Inhabited κ] {cmp : κ → κ → Ordering} (hc : TotalPreorder cmp) (t : Tree κ ν)
    (h : WF cmp t) (hne : t.height = 0 ∨ t.root ≠ []) (b : κ) :
    t.iterKeyRange cmp none (some b) = some (t.slice 0 (rank cmp t.flatten b)) := by
  obtain ⟨hi, hhi, hH⟩ := atKey_pos hc t h hne b
  unfold Tree.iterKeyRange Tree.keyRangePaths
  simp only [hhi, bind, Option.bind, pure]
  exact iterPaths_of_pos t h.node (startPath_pos t.height t.root h.node hne) hH

/-- **`IterKeyRange(start, nil)`**: everything from the first key ≥ `start` — PROVIDED some key is
≥ `start` (`hsome`).  Without it this is the known finding
`prollymap/iter-key-range/start-past-last-key-open-stop`: `newCursorPastEnd` is not a search cursor,
`compareCursors` says `lo < hi` and the iterator dereferences a past-the-end cursor (the model
returns `none` = panic there, as the code does). -/
theorem iterKeyRange_open_stop [Inhabited κ] {cmp : κ → κ → Ordering} (hc : TotalPreorder cmp) (t : Tree κ ν)
    (h : WF cmp t) (hne : t.height = 0 ∨ t.root ≠ []) (a : κ)
    (hsome : rank cmp t.flatten a < t.flatten.length) :
    t.iterKeyRange cmp (some a) none = some (t.flatten.drop (rank cmp t.flatten a)) := by
  obtain ⟨lo, hlo, hL⟩ := atKey_pos hc t h hne a
  unfold Tree.iterKeyRange Tree.keyRangePaths
  simp only [hlo, bind, Option.bind, pure]
  exact t.iterPaths_to_end h.node hne hL hsome

/-- `GetKeyRangeCardinality` with open ends -/
theorem cardinality_refines_open [Inhabited κ] {cmp : κ → κ → Ordering} (hc : TotalPreorder cmp) (t : Tree κ ν)
    (h : WF cmp t) (hne : t.height = 0 ∨ t.root ≠ []) (k : κ) :
    t.keyRangeCardinality cmp none (some k) = some (rank cmp t.flatten k) ∧
    t.keyRangeCardinality cmp (some k) none = some (t.flatten.length - rank cmp t.flatten k) ∧
    t.keyRangeCardinality cmp none none = some t.flatten.length := by
  obtain ⟨pk, hp, hK⟩ := atKey_pos hc t h hne k
  have hk := hK.ordinal h.node
  have h0 := (startPath_pos t.height t.root h.node hne).ordinal h.node
  have hN : pathOrdinal t.height t.root (pastEndPath t.height t.root) = some t.flatten.length :=
    pastEndPath_ordinal t.height t.root h.node hne
  have hle : rank cmp t.flatten k ≤ t.flatten.length := hK.le
  unfold Tree.keyRangeCardinality Tree.keyRangePaths
  simp only [bind, Option.bind, pure, hp, h0, hk, hN, Option.some.injEq]
  refine ⟨by simp, by split <;> omega, by simp⟩

/-- **`IterOrdinalRange(start, stop)` refines the dictionary**: for `start < stop ≤ Count` it
yields exactly the entries at positions `start … stop-1` (cursor at ordinal `start`, stop cursor at
ordinal `stop`, `newCursorPastEnd` when `stop = Count`); the degenerate and error cases are as
the code has them (`stop = start` ⇒ empty, `stop < start` ⇒ invalid bounds, `stop > Count` ⇒ out
of bounds). -/
theorem iterOrdinalRange_refines [Inhabited κ] {cmp : κ → κ → Ordering} (t : Tree κ ν) (h : WF cmp t)
    (hne : t.height = 0 ∨ t.root ≠ []) (start stop : Nat) :
    t.iterOrdinalRange start stop =
      if stop = start then .ok []
      else if stop < start then .error .invalidBounds
      else if stop > t.flatten.length then .error .outOfBounds
      else .ok ((t.flatten.drop start).take (stop - start)) := by
  have hcount : t.count = t.flatten.length := treeCount_eq_length t.height t.root h.node
  unfold Tree.iterOrdinalRange
  by_cases h1 : stop = start
  · simp [h1]
  · by_cases h2 : stop < start
    · simp [h1, h2]
    · by_cases h3 : stop > t.flatten.length
      · simp [h1, h2, h3, hcount]
      · have hlt : start < stop := by omega
        have hstart : start < t.flatten.length := by omega
        simp only [h1, h2, hcount, h3, if_false]
        obtain ⟨lo, hlo1, hlo2, hlo3⟩ := t.atOrdinal_spec h.node hne start (Nat.le_of_lt hstart)
        obtain ⟨hi, hhi1, hhi2, _⟩ := t.atOrdinal_spec h.node hne stop (Nat.le_of_not_lt h3)
        simp only [hlo1, hhi1, hlo3 hstart, List.getElem?_eq_getElem hstart, hlo2, hhi2, Tree.slice, hlt, if_true]

/-- **a bulk-built map is a well-formed tree holding exactly its content** -/
theorem build_wf {σ : Type} [Inhabited κ] {cmp : κ → κ → Ordering} (C : Cfg σ κ ν) (X : List (κ × ν)) (t : Tree κ ν)
    (hsorted : Sorted cmp X) (hok : ∀ n, (C n).chunkOk (levelItems C n X) = true) (hb : build C X = .ok t) :
    WF cmp t ∧ t.flatten = X := by
  obtain ⟨hfl, hwf⟩ := Prolly.build_good C X t hb
  exact ⟨⟨hwf, by rw [hfl]; exact hsorted⟩, hfl⟩

/-- Flushing a sorted edit batch into a (canonical, NoOverflowBoundary)
map gives a well-formed tree that holds exactly `applyEdits content batch` — so every read
refinement above (`get_refines`, `ordinal_refines`, …) applies to the flushed map again.  Same
hypotheses and success-path form as `C12.mutate_canonical_partial`; both rest on
`Prolly.mutate_canonical_core`. -/
theorem applyMutations_wf {σ : Type} [Inhabited κ] [BEq κ] [BEq ν] [LawfulBEq κ] [LawfulBEq ν]
    {C : Cfg σ κ ν} {cmp : κ → κ → Ordering} {X : List (κ × ν)} {es : Edits κ ν}
    (H : MutHyp C cmp X es) (hs : SingleOk C)
    (hok' : ∀ n, (C n).chunkOk (levelItems C n (applyEdits cmp X es)) = true)
    (t t1 t2 : Tree κ ν) (hb : build C X = .ok t)
    (h1 : applyMutations C cmp t es = .ok t1) (h2 : build C (applyEdits cmp X es) = .ok t2) :
    WF cmp t1 ∧ t1.flatten = applyEdits cmp X es := by
  have heq := mutate_canonical_core H hs t t1 t2 hb h1 h2
  rw [heq]
  exact build_wf C _ t2 (applyEdits_sorted H.cmp_ok es X H.sorted H.edits_sorted) hok' h2

/-- **Flushing without any assumption on how the map was built**: flushing a sorted
batch into ANY well-formed map (stored keys/counts right, children non-empty, content sorted, no
empty internal root) gives — when `append` does not panic — a well-formed map that holds exactly
`applyEdits content batch`.  No canonicity, no NoOverflowBoundary: the content is right even in the
giant-item shapes where the tree shape is history dependent (C12's known finding). -/
theorem applyMutations_wf_any {σ : Type} [Inhabited κ] [BEq κ] [BEq ν] [LawfulBEq κ] [LawfulBEq ν]
    (C : Cfg σ κ ν) {cmp : κ → κ → Ordering} (hc : TotalPreorder cmp) (t : Tree κ ν) (h : WF cmp t)
    (hne : t.height = 0 ∨ t.root ≠ []) (es : Edits κ ν) (hes : es.Pairwise (fun a b => cmp a.1 b.1 = .lt))
    (t1 : Tree κ ν) (h1 : applyMutations C cmp t es = .ok t1) :
    WF cmp t1 ∧ t1.flatten = applyEdits cmp t.flatten es ∧ (t1.height = 0 ∨ t1.root ≠ []) := by
  obtain ⟨hfl, hwf, hshape⟩ := applyMutations_good C hc t h.node hne h.sorted es hes t1 h1
  exact ⟨⟨hwf, by rw [hfl]; exact applyEdits_sorted hc es _ h.sorted hes⟩, hfl, hshape⟩

/-- **Revert restores the pending edits of the checkpoint**: whatever is put or deleted after
`Checkpoint()`, `Revert()` leaves exactly the edit list that was checkpointed — *as long as the
list itself is what is reverted*, i.e. no flush happened in between and the list was not empty
(see `empty_checkpoint_is_no_checkpoint`). -/
theorem editlog_checkpoint_revert (l : EditLog κ ν) (es : List (κ × Option ν)) :
    ((es.foldl (fun (a : EditLog κ ν) e => a.put e.1 e.2) l.checkpoint).revert).log = l.log := by
  have hlog : ∀ (es : List (κ × Option ν)) (a : EditLog κ ν),
      (es.foldl (fun (a : EditLog κ ν) e => a.put e.1 e.2) a).log = a.log ++ es ∧
      (es.foldl (fun (a : EditLog κ ν) e => a.put e.1 e.2) a).cp = a.cp := by
    intro es
    induction es with
    | nil => intro a; simp
    | cons e es ih =>
      intro a
      rw [List.foldl_cons]
      obtain ⟨h1, h2⟩ := ih (a.put e.1 e.2)
      refine ⟨?_, ?_⟩
      · rw [h1]; simp [EditLog.put]
      · rw [h2]; rfl
  obtain ⟨h1, h2⟩ := hlog es l.checkpoint
  show List.take _ _ = l.log
  rw [h1, h2]
  simp [EditLog.checkpoint]

/-- a checkpoint of an empty edit list is indistinguishable from no checkpoint -/
theorem empty_checkpoint_is_no_checkpoint (l : EditLog κ ν) (h : l.log = []) :
    l.checkpoint.hasCheckpoint = false := by
  simp [EditLog.checkpoint, EditLog.hasCheckpoint, h]

/-! ### the full refinement statement, and the two histories that refute it

`view (run ops) = SortedDict.run ops` for every `maxPending` is FALSE of the code that exists
(and of the model, which follows the code).  Both witnesses are replayed on dolt by the harness
(corpus/C11/revert-after-empty-checkpoint.json, corpus/C11/repeated-revert.json). -/

/-- revert is only specified relative to a checkpoint -/
def RevertAfterCheckpoint : List (MOp κ ν) → Bool → Bool
  | [], _ => true
  | .checkpoint :: os, _ => RevertAfterCheckpoint os true
  | .revert :: os, seen => seen && RevertAfterCheckpoint os seen
  | _ :: os, seen => RevertAfterCheckpoint os seen

/-- FULL STATEMENT (false): after any operation sequence and for any flush threshold the
mutable map presents the entries of the sorted dictionary. -/
def mutable_refines_full : Prop :=
  ∀ (σ κ ν : Type) [BEq κ] [BEq ν] [Inhabited κ] (C : Cfg σ κ ν) (cmp : κ → κ → Ordering)
    (base : List (κ × ν)) (t : Tree κ ν) (maxPending : Nat) (ops : List (MOp κ ν)),
    build C base = .ok t → RevertAfterCheckpoint ops false = true →
    ((MutMap.run C cmp { tree := t, maxPending := maxPending } ops).toOption.map (MutMap.content cmp))
      = some (SortedDict.run cmp base ops)

namespace Witness
def never : Splitter Unit (ItemH Nat Nat n) := ⟨(), fun _ _ => ((), false)⟩
def C : Cfg Unit Nat Nat := fun n => { sp := never, weight := fun _ => 1, cap := 1000, leaf := n == 0 }
def run (mp : Nat) (ops : List (MOp Nat Nat)) : Option (List (Nat × Nat)) :=
  match build C [] with
  | .ok t => (MutMap.run C compare { tree := t, maxPending := mp } ops).toOption.map (MutMap.content compare)
  | .error _ => none

/-- checkpoint with nothing pending, one put (flushed at once: maxPending = 0), revert: the put survives -/
def opsA : List (MOp Nat Nat) := [.checkpoint, .put 1 10, .revert]
theorem witnessA : run 0 opsA = some [(1, 10)] ∧ SortedDict.run compare [] opsA = [] := by decide

/-- a flush between checkpoint and revert, then an edit, then a second revert: the edit survives -/
def opsB : List (MOp Nat Nat) := [.put 1 10, .checkpoint, .put 2 20, .put 3 30, .revert, .put 4 40, .revert]
theorem witnessB : run 2 opsB = some [(1, 10), (4, 40)] ∧ SortedDict.run compare [] opsB = [(1, 10)] := by decide
end Witness

theorem mutable_refines_refuted : ¬ mutable_refines_full := by
  intro h
  cases hb : build Witness.C ([] : List (Nat × Nat)) with
  | error e =>
    have : (build Witness.C ([] : List (Nat × Nat))).toOption.isSome = true := by decide
    rw [hb] at this
    exact absurd this (by simp [Except.toOption])
  | ok t =>
    have h1 := h Unit Nat Nat Witness.C compare [] t 0 Witness.opsA hb (by decide)
    have h2 := Witness.witnessA
    unfold Witness.run at h2
    rw [hb] at h2
    obtain ⟨h2a, h2b⟩ := h2
    simp only at h2a
    rw [h2a, h2b] at h1
    exact absurd h1 (by decide)

/-- For every flush threshold `maxPending` and every sequence of
puts, deletes, checkpoints and reverts that avoids the two shapes of the known findings
(`SafeRun`: no checkpoint of an empty pending list; no revert before a checkpoint or on a pending
list shared with the stash), the mutable map presents exactly the sorted dictionary — whatever
mix of buffered and flushed edits the threshold forces, including flushes between a checkpoint
and its revert (the stash path).  `FlushRefines C cmp P`: each flush of a tree satisfying the
tree invariant `P` yields a tree that holds the edited content and satisfies `P` again
(`flushRefines_wf` proves it for `P` = `GoodTree cmp`). -/
theorem mutable_refines_partial {σ : Type} [BEq κ] [BEq ν] [Inhabited κ] {C : Cfg σ κ ν} {cmp : κ → κ → Ordering}
    {P : Tree κ ν → Prop} (hc : TotalPreorder cmp) (hf : FlushRefines C cmp P) (t : Tree κ ν) (hP : P t)
    (hs : Sorted cmp t.flatten) (maxPending : Nat) (ops : List (MOp κ ν)) (m' : MutMap κ ν)
    (hsafe : SafeRun C cmp { tree := t, maxPending := maxPending } false ops)
    (hrun : MutMap.run C cmp { tree := t, maxPending := maxPending } ops = .ok m') :
    m'.content cmp = SortedDict.run cmp t.flatten ops := by
  obtain ⟨_, hinv⟩ := mutable_run_inv hc hf ops _ m' _ false (MInv.init t hP hs maxPending) hsafe hrun
  exact hinv.cur

/-- the tree invariant every flush preserves -/
def GoodTree [Inhabited κ] (cmp : κ → κ → Ordering) (t : Tree κ ν) : Prop :=
  WF cmp t ∧ (t.height = 0 ∨ t.root ≠ [])

theorem flushRefines_wf {σ : Type} [Inhabited κ] [BEq κ] [BEq ν] [LawfulBEq κ] [LawfulBEq ν]
    (C : Cfg σ κ ν) {cmp : κ → κ → Ordering} (hc : TotalPreorder cmp) : FlushRefines C cmp (GoodTree cmp) := by
  intro tr t' es hP _ hes hap
  obtain ⟨h1, h2, h3⟩ := applyMutations_wf_any C hc tr hP.1 hP.2 es hes t' hap
  exact ⟨h2, h1, h3⟩

/-- `mutable_refines_partial` with the flush obligation discharged —
for every well-formed starting map, every flush threshold and every operation sequence that
avoids the two known checkpoint shapes (`SafeRun`), the mutable map presents exactly the sorted
dictionary. -/
theorem mutable_refines_safe {σ : Type} [Inhabited κ] [BEq κ] [BEq ν] [LawfulBEq κ] [LawfulBEq ν]
    {C : Cfg σ κ ν} {cmp : κ → κ → Ordering} (hc : TotalPreorder cmp) (t : Tree κ ν) (hgood : GoodTree cmp t)
    (maxPending : Nat) (ops : List (MOp κ ν)) (m' : MutMap κ ν)
    (hsafe : SafeRun C cmp { tree := t, maxPending := maxPending } false ops)
    (hrun : MutMap.run C cmp { tree := t, maxPending := maxPending } ops = .ok m') :
    m'.content cmp = SortedDict.run cmp t.flatten ops :=
  mutable_refines_partial hc (flushRefines_wf C hc) t hgood hgood.1.sorted maxPending ops m' hsafe hrun

/-- **`MutableMap.Get`/`Has` refine the dictionary lookup on the presented content**: the pending
edit for the key, if any, decides (a pending delete hides the tree's entry, a pending put replaces
it); otherwise the tree's entry — for every well-formed static tree and every pending list. -/
theorem mget_refines [Inhabited κ] {cmp : κ → κ → Ordering} (hc : TotalPreorder cmp) (m : MutMap κ ν)
    (hgood : GoodTree cmp m.tree) (k : κ) :
    m.get cmp k = SortedDict.lookup cmp (m.content cmp) k := by
  have hview := viewL_sorted (ν := ν) hc m.edits.log
  have hl := lookup_applyEdits hc k (viewL cmp m.edits.log) m.tree.flatten hgood.1.sorted hview
  have hget : m.edits.get cmp k = SortedDict.lookup cmp (viewL cmp m.edits.log) k := rfl
  show _ = SortedDict.lookup cmp (applyEdits cmp m.tree.flatten (viewL cmp m.edits.log)) k
  unfold MutMap.get
  rw [hl, hget, get_refines hc m.tree hgood.1 k]
  cases SortedDict.lookup cmp (viewL cmp m.edits.log) k with
  | none => rfl
  | some e =>
    obtain ⟨k', ov⟩ := e
    cases ov <;> rfl

/-- **`MutableMap.IterRange` refines the range query on the presented content**: the tree's range
iterator merged with the pending edits' range iterator (`mutableMapIter`: the pending edit wins on
equal keys, pending deletes drop the entry) and filtered by `Matches` yields exactly the entries of
`applyEdits tree-content pending-edits` that match — every bound kind, empty and inverted ranges
included.  Hypotheses as for `iterRange_refines`, plus `Matches` not separating keys that compare
equal. -/
theorem mrange_refines [Inhabited κ] {cmp : κ → κ → Ordering} (hc : TotalPreorder cmp) (m : MutMap κ ν)
    (hgood : GoodTree cmp m.tree) (fcmp : FieldCmp κ β) (r : List (RangeField β))
    (hok : ∀ f ∈ r, FieldOk fcmp f)
    (hLo : Mono cmp (fun k => aboveStart fcmp k 0 r)) (hHi : Mono cmp (fun k => !belowStop fcmp k 0 r))
    (hcongr : ∀ a b, cmp a b = .eq → rangeMatches fcmp a 0 r = rangeMatches fcmp b 0 r) :
    m.iterRange cmp fcmp r = some ((m.content cmp).filter (fun kv => rangeMatches fcmp kv.1 0 r)) := by
  obtain ⟨lo, hi, hlo, hhi, hit⟩ := range_iterPaths hc m.tree hgood.1 hgood.2 hLo hHi
  have key := mergeIter_windows_filter hc (pLo := fun k => aboveStart fcmp k 0 r) hHi m.tree.flatten hgood.1.sorted
    (viewL cmp m.edits.log) (viewL_sorted hc m.edits.log) (fun k => rangeMatches fcmp k 0 r) hcongr
    (fun x hx => by
      obtain ⟨h1, h2⟩ := range_predicates_consistent fcmp x r 0 hok hx
      exact ⟨h1, by simp [h2]⟩)
  simp only [Bool.not_not] at key
  unfold MutMap.iterRange
  rw [rangeStartSearch_eq_psearch, rangeStopSearch_eq_psearch, hlo, hhi]
  simp only [hit]
  exact congrArg some key

/-- **`MutableMap.IterAll`** (= `IterRange` of the empty range) yields the presented content -/
theorem mall_refines [Inhabited κ] {cmp : κ → κ → Ordering} (hc : TotalPreorder cmp) (m : MutMap κ ν)
    (hgood : GoodTree cmp m.tree) (fcmp : FieldCmp κ β) :
    m.iterRange cmp fcmp ([] : List (RangeField β)) = some (m.content cmp) := by
  have h := mrange_refines hc m hgood fcmp ([] : List (RangeField β)) (by intro f hf; cases hf)
    (fun _ _ _ _ => rfl) (fun _ _ _ h => by simp [belowStop] at h) (fun _ _ _ => rfl)
  rw [h]
  simp [rangeMatches]

/-- **reads after any safe history**: after every operation sequence satisfying `SafeRun`, for
every flush threshold, `MutableMap.Get` answers what the sorted dictionary answers. -/
theorem mget_after_run {σ : Type} [Inhabited κ] [BEq κ] [BEq ν] [LawfulBEq κ] [LawfulBEq ν]
    {C : Cfg σ κ ν} {cmp : κ → κ → Ordering} (hc : TotalPreorder cmp) (t : Tree κ ν) (hgood : GoodTree cmp t)
    (maxPending : Nat) (ops : List (MOp κ ν)) (m' : MutMap κ ν)
    (hsafe : SafeRun C cmp { tree := t, maxPending := maxPending } false ops)
    (hrun : MutMap.run C cmp { tree := t, maxPending := maxPending } ops = .ok m') (k : κ) :
    m'.get cmp k = SortedDict.lookup cmp (SortedDict.run cmp t.flatten ops) k := by
  obtain ⟨_, hinv⟩ := mutable_run_inv hc (flushRefines_wf C hc) ops _ m' _ false
    (MInv.init t hgood hgood.1.sorted maxPending) hsafe hrun
  rw [mget_refines hc m' hinv.goodTree k]
  have : m'.content cmp = SortedDict.run cmp t.flatten ops := hinv.cur
  rw [this]

theorem mrange_after_run {σ : Type} [Inhabited κ] [BEq κ] [BEq ν] [LawfulBEq κ] [LawfulBEq ν]
    {C : Cfg σ κ ν} {cmp : κ → κ → Ordering} (hc : TotalPreorder cmp) (t : Tree κ ν) (hgood : GoodTree cmp t)
    (maxPending : Nat) (ops : List (MOp κ ν)) (m' : MutMap κ ν)
    (hsafe : SafeRun C cmp { tree := t, maxPending := maxPending } false ops)
    (hrun : MutMap.run C cmp { tree := t, maxPending := maxPending } ops = .ok m')
    (fcmp : FieldCmp κ β) (r : List (RangeField β)) (hok : ∀ f ∈ r, FieldOk fcmp f)
    (hLo : Mono cmp (fun k => aboveStart fcmp k 0 r)) (hHi : Mono cmp (fun k => !belowStop fcmp k 0 r))
    (hcongr : ∀ a b, cmp a b = .eq → rangeMatches fcmp a 0 r = rangeMatches fcmp b 0 r) :
    m'.iterRange cmp fcmp r
      = some ((SortedDict.run cmp t.flatten ops).filter (fun kv => rangeMatches fcmp kv.1 0 r)) := by
  obtain ⟨_, hinv⟩ := mutable_run_inv hc (flushRefines_wf C hc) ops _ m' _ false
    (MInv.init t hgood hgood.1.sorted maxPending) hsafe hrun
  rw [mrange_refines hc m' hinv.goodTree fcmp r hok hLo hHi hcongr]
  have : m'.content cmp = SortedDict.run cmp t.flatten ops := hinv.cur
  rw [this]

/-- Corollary: under the same hypotheses, whatever is put or deleted between a checkpoint and
the revert — flushes included — the map is back at the checkpointed content. -/
theorem checkpoint_revert_partial {σ : Type} [BEq κ] [BEq ν] [Inhabited κ] {C : Cfg σ κ ν} {cmp : κ → κ → Ordering}
    {P : Tree κ ν → Prop} (hc : TotalPreorder cmp) (hf : FlushRefines C cmp P) (base : List (κ × ν))
    (hs : Sorted cmp base) (t : Tree κ ν) (hP : P t) (ht : t.flatten = base) (maxPending : Nat)
    (ops₁ ops₂ : List (MOp κ ν)) (m' : MutMap κ ν)
    (hno : ∀ o ∈ ops₂, o matches .put _ _ | .del _)
    (hsafe : SafeRun C cmp { tree := t, maxPending := maxPending } false (ops₁ ++ [.checkpoint] ++ ops₂ ++ [.revert]))
    (hrun : MutMap.run C cmp { tree := t, maxPending := maxPending } (ops₁ ++ [.checkpoint] ++ ops₂ ++ [.revert]) = .ok m') :
    m'.content cmp = SortedDict.run cmp base ops₁ := by
  subst ht
  rw [mutable_refines_partial hc hf t hP hs maxPending _ m' hsafe hrun]
  unfold SortedDict.run
  simp only [List.foldl_append, List.foldl_cons, List.foldl_nil, Dict.step]
  -- puts and deletes do not touch the checkpointed content
  have : ∀ (ops : List (MOp κ ν)) (d : Dict κ ν), (∀ o ∈ ops, o matches .put _ _ | .del _) →
      (ops.foldl (Dict.step cmp) d).cp = d.cp := by
    intro ops
    induction ops with
    | nil => intro d _; rfl
    | cons o os ih =>
      intro d h
      rw [List.foldl_cons, ih _ (fun x hx => h x (List.mem_cons_of_mem _ hx))]
      have ho := h o List.mem_cons_self
      cases o with
      | put _ _ | del _ => rfl
      | checkpoint | revert => cases ho
  rw [this ops₂ _ hno]

/-- non-vacuity of `SafeRun`: a history with a flush between a checkpoint and its revert
(`maxPending = 1`: the third put flushes and moves the checkpoint into the stash), then more edits
and a fresh checkpoint — and the model's content equals the dictionary's -/
def Witness.opsSafe : List (MOp Nat Nat) :=
  [.put 1 10, .checkpoint, .put 2 20, .put 3 30, .revert, .put 4 40, .put 5 50, .checkpoint, .del 1, .revert]

example : SafeRun Witness.C compare { tree := ⟨0, []⟩, maxPending := 1 } false Witness.opsSafe :=
  safeRun_of_safeRunB _ _ _ _ _ (by decide)

example : Witness.run 1 Witness.opsSafe = some (SortedDict.run compare [] Witness.opsSafe) := by decide

end DoltVerif.C11
