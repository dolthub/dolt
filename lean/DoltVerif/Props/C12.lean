/-
C12 — Tree shape and root hash depend only on content.  Over `Model/Chunker.lean` (abstract chunker over an abstract
boundary oracle, capacity rule, degenerate rule, stack of chunkers, canonical root) and `Model/Mutate.lean`
(`ApplyMutations` with resynchronisation).  Hash = structural identity of the tree.
-/
import DoltVerif.Lemmas.TreeLevels
namespace DoltVerif.C12
open DoltVerif.Prolly DoltVerif.SortedDict

variable {σ α : Type}

/-- **Key lemma (resynchronisation).**  A greedy chunker whose whole state is reset at a boundary
is suffix-determined from any boundary: if two item sequences `old` and `new` both leave the
chunker at a boundary, the chunks produced for a common `tail` are the same, and equal to the
chunks of `tail` alone.  Holds for every splitter, capacity and level kind. -/
theorem resync_sound (L : LevelCfg σ α) (old new tail : List α)
    (ho : (L.feed L.fresh old).2 = L.fresh) (hn : (L.feed L.fresh new).2 = L.fresh) :
    L.chunk (old ++ tail) = L.chunk old ++ L.chunk tail ∧
    L.chunk (new ++ tail) = L.chunk new ++ L.chunk tail :=
  L.resync old new tail ho hn

/-- chunking never loses, duplicates or reorders items -/
theorem chunk_flatten (L : LevelCfg σ α) (xs : List α) : (L.chunk xs).flatten = xs :=
  L.chunk_flatten xs

/-- no empty node is ever written (unless `append` panics, which `chunkOk` flags) -/
theorem chunk_nonempty (L : LevelCfg σ α) (xs : List α) (hok : L.chunkOk xs = true) :
    ∀ c ∈ L.chunk xs, c ≠ [] :=
  L.chunk_nonempty xs hok

/-- **One level of `ApplyMutations` is canonical.**  For every dirty-marking of the old nodes
that is sound (a node marked clean is unchanged and closed; for the marking `ApplyMutations`
uses this is `Prolly.levels_sound`, under `MutHyp`), and wherever the chunker happens to
resynchronise, the nodes left at this level are exactly those a bulk build produces for the edited item sequence. -/
theorem level_canonical (L : LevelCfg σ α) (rs : List (Region α)) (hne : rs ≠ []) (hs : L.Sound rs) :
    (L.incr L.fresh rs).flatMap Out.chunks = L.chunk (rs.flatMap (·.new)) :=
  L.incr_eq_chunk rs hs

/-- **One level of `ApplyMutations` keeps the content**, canonical or not: concatenating the
nodes left at the level gives exactly the edited item sequence — no item lost, duplicated or
reordered, with no assumption on the old nodes (it also holds in the capacity-boundary case
where the shape is wrong). -/
theorem level_content_preserved (L : LevelCfg σ α) (rs : List (Region α)) (hne : rs ≠ [])
    (hcu : CleanUnchanged rs) :
    ((L.incr L.fresh rs).flatMap Out.chunks).flatten = rs.flatMap (·.new) := by
  have := (L.incr_run rs L.fresh).flatten (Or.inr hne) hcu
  simpa [LevelCfg.fresh] using this

/-- **The leaf level of `ApplyMutations` sees exactly the edited dictionary**: handing every leaf
the edits up to its last key (the last leaf also those beyond) and applying them leaf by leaf is
applying the whole sorted batch to the whole content — for every total-preorder comparator, any
number of non-empty leaves with strictly sorted content, any batch.  With `level_canonical` /
`level_content_preserved` this is the level-0 instance of "the edited tree holds the edited
content". -/
theorem leaf_partition {κ ν : Type} [BEq κ] [BEq ν] [Inhabited κ] {cmp : κ → κ → Ordering}
    (hc : TotalPreorder cmp) (leaves : List (NodeH κ ν 0)) (es : Edits κ ν) (hne : leaves ≠ [])
    (hleaf : ∀ l ∈ leaves, l ≠ []) (hs : Sorted cmp (leaves.flatten : List (κ × ν))) :
    ((leafRegions cmp leaves es false true).flatMap (·.new) : List (κ × ν)) = applyEdits cmp leaves.flatten es :=
  leafRegions_content hc leaves es false true hne hleaf hs

/-- **History independence at one level.**  Two edit histories over possibly different old node
lists (different ancestors, different batching, different resync points) that arrive at the same
item sequence leave identical nodes at this level. -/
theorem level_history_independent (L : LevelCfg σ α) (rs₁ rs₂ : List (Region α))
    (h₁ : rs₁ ≠ []) (h₂ : rs₂ ≠ []) (s₁ : L.Sound rs₁) (s₂ : L.Sound rs₂)
    (hsame : rs₁.flatMap (·.new) = rs₂.flatMap (·.new)) :
    (L.incr L.fresh rs₁).flatMap Out.chunks = (L.incr L.fresh rs₂).flatMap Out.chunks := by
  rw [L.incr_eq_chunk rs₁ s₁, L.incr_eq_chunk rs₂ s₂, hsame]

/-- non-vacuity of `Sound` / `level_history_independent`: with a splitter that cuts after every
second item, the nodes `[1,2] [3,4]` (second one edited to `[3,5]`) and the nodes `[1,2,3,5]`
re-chunked from scratch give the same level -/
example :
    let L : LevelCfg Nat Nat := { sp := ⟨0, fun s _ => (s + 1, s + 1 == 2)⟩, weight := fun _ => 1, cap := 100, leaf := true }
    (L.incr L.fresh [⟨[1, 2], [1, 2], false⟩, ⟨[3, 4], [3, 5], true⟩]).flatMap Out.chunks = L.chunk [1, 2, 3, 5] := by
  decide

/-- **Nodes built without the capacity rule are reusable.**  If no `append` of a level hit
`!hasCapacity`, every node of the level, fed to a reset chunker on its own, is reproduced exactly
and leaves the chunker reset (the last node: is reproduced by the final flush).  This is the
soundness condition `level_canonical` needs for the nodes `ApplyMutations` skips. -/
theorem built_nodes_reusable (L : LevelCfg σ α) (xs : List α) (hno : L.feedNoOvf L.fresh xs = true) :
    L.Canon (L.chunk xs) :=
  L.chunk_canon xs hno

/-! ### the full statement, and why it is only partially provable: a capacity boundary is not a
function of the node it ends

A node that ended because the *next* pair did not fit (`chunker.append`, constraint (2)) is not
closed: whether it ends there depends on the size of the item that follows it.  `ApplyMutations`
nevertheless reuses such a node when the edit starts in the following node.  The model does the
same (it is the code that exists), so the full statement is false of the model, with the witness
below; the harness replays the same witness on dolt with the production splitter
(corpus/C12/overflow-boundary-real-splitter.json). -/

/-- lawful comparator: a strict total order up to `.eq`-classes; only `mutate_canonical_full` is stated
with it (the proved theorems take `TotalPreorder`, through `MutHyp.cmp_ok`) -/
structure LawfulCmp {κ : Type} (cmp : κ → κ → Ordering) : Prop where
  refl : ∀ a, cmp a a = .eq
  symm : ∀ a b, cmp a b = .lt ↔ cmp b a = .gt
  trans : ∀ a b c, cmp a b = .lt → cmp b c = .lt → cmp a c = .lt
  eq_lt : ∀ a b c, cmp a b = .eq → cmp b c = .lt → cmp a c = .lt
  lt_eq : ∀ a b c, cmp a b = .lt → cmp b c = .eq → cmp a c = .lt

def SortedEdits {κ ν : Type} (cmp : κ → κ → Ordering) (es : Edits κ ν) : Prop :=
  es.Pairwise (fun a b => cmp a.1 b.1 = .lt)

/-- the tree as observed from outside: node structure, stored subtree counts, content -/
def observe {κ ν : Type} (t : Tree κ ν) : List (List Nat) × List (List Nat) × List (κ × ν) :=
  (t.shape, t.counts, t.flatten)

/-- FULL STATEMENT (false, see `mutate_canonical_refuted`): editing a bulk-built tree gives the
bulk-built tree of the edited content, for every splitter family, capacity and sorted batch. -/
def mutate_canonical_full : Prop :=
  ∀ (σ κ ν : Type) [BEq κ] [BEq ν] [Inhabited κ] (C : Cfg σ κ ν) (cmp : κ → κ → Ordering)
    (kvs : List (κ × ν)) (es : Edits κ ν) (t : Tree κ ν),
    LawfulCmp cmp → Sorted cmp kvs → SortedEdits cmp es → build C kvs = .ok t →
    (applyMutations C cmp t es).toOption.map observe
      = (build C (applyEdits cmp kvs es)).toOption.map observe

namespace Witness
/-- a splitter that never asks for a boundary: every boundary below comes from the capacity rule -/
def never : Splitter Unit α := ⟨(), fun _ _ => ((), false)⟩

def C : Cfg Unit Nat Nat
  | 0 => { sp := never, weight := fun kv => kv.2, cap := 10, leaf := true }
  | _+1 => { sp := never, weight := fun _ => 1, cap := 10, leaf := false }

def base : List (Nat × Nat) := [(1, 3), (2, 9), (3, 1)]
def edits : Edits Nat Nat := [(2, some 1)]
def treeOf (r : Except BuildErr (Tree Nat Nat)) := r.toOption.map observe

/-- bulk build of the base: the pair (2,9) does not fit after (1,3) → two leaves -/
example : treeOf (build C base) = some ([[2], [1, 2]], [[1, 2]], base) := by decide
/-- bulk build of the edited content: one leaf -/
example : treeOf (build C (applyEdits compare base edits)) = some ([[3]], [], [(1, 3), (2, 1), (3, 1)]) := by decide
/-- editing the base tree: the first leaf is reused, the result keeps two leaves -/
theorem edited_differs :
    (match build C base with
      | .ok t => treeOf (applyMutations C compare t edits)
      | .error _ => none) = some ([[2], [1, 2]], [[1, 2]], [(1, 3), (2, 1), (3, 1)]) := by decide
end Witness

theorem natCmpLawful : LawfulCmp (compare : Nat → Nat → Ordering) where
  refl a := by simp
  symm a b := by simp [Nat.compare_eq_lt, Nat.compare_eq_gt]
  trans a b c := by simp only [Nat.compare_eq_lt]; omega
  eq_lt a b c := by simp only [Nat.compare_eq_lt, Nat.compare_eq_eq]; omega
  lt_eq a b c := by simp only [Nat.compare_eq_lt, Nat.compare_eq_eq]; omega

/-- the full statement is false: same content, different trees -/
theorem mutate_canonical_refuted : ¬ mutate_canonical_full := by
  intro h
  cases hbb : build Witness.C Witness.base with
  | error e =>
    have : (build Witness.C Witness.base).toOption.isSome = true := by decide
    rw [hbb] at this
    exact absurd this (by simp [Except.toOption])
  | ok t =>
    have h1 := h Unit Nat Nat Witness.C compare Witness.base Witness.edits t natCmpLawful
      (by unfold Sorted; decide) (by unfold SortedEdits; decide) hbb
    have h2 := Witness.edited_differs
    rw [hbb] at h2
    simp only [Witness.treeOf] at h2
    rw [h2] at h1
    revert h1
    decide

section TreeLevel
variable {σ κ ν : Type} [Inhabited κ] [BEq κ] [BEq ν] [LawfulBEq κ] [LawfulBEq ν]

/-- Let `t` be the bulk-built tree of a sorted non-empty content
`X`, in which no node ended because the next item did not fit (`MutHyp.no_overflow`, the
NoOverflowBoundary hypothesis — exactly what `mutate_canonical_refuted` shows cannot be dropped).
Then for every sorted edit batch, every splitter family and capacity, `ApplyMutations t es`
— wherever its chunkers resynchronise, whichever nodes it reuses, and whether the tree grows or
shrinks in height — returns the bulk-built tree of the edited content.  Stated on the success
path of both sides (`h1`, `h2`); `hok'` excludes the `append` panics on the edited content (unused:
`h2` excludes them at every level the build passes) and `SingleOk` says a lone item at an internal
level forms one node. -/
theorem mutate_canonical_partial {C : Cfg σ κ ν} {cmp : κ → κ → Ordering} {X : List (κ × ν)} {es : Edits κ ν}
    (H : MutHyp C cmp X es) (hs : SingleOk C)
    (hok' : ∀ n, (C n).chunkOk (levelItems C n (applyEdits cmp X es)) = true)
    (t t1 t2 : Tree κ ν) (hb : build C X = .ok t)
    (h1 : applyMutations C cmp t es = .ok t1) (h2 : build C (applyEdits cmp X es) = .ok t2) : t1 = t2 :=
  mutate_canonical_core H hs t t1 t2 hb h1 h2

/-- the same from the empty tree (no hypothesis on an old tree is needed; `hs` and `hok'` are unused) -/
theorem mutate_canonical_from_empty {C : Cfg σ κ ν} {cmp : κ → κ → Ordering} {es : Edits κ ν} (hs : SingleOk C)
    (hok' : ∀ n, (C n).chunkOk (levelItems C n (applyEdits cmp [] es)) = true) (t1 t2 : Tree κ ν)
    (h1 : applyMutations C cmp ⟨0, []⟩ es = .ok t1) (h2 : build C (applyEdits cmp [] es) = .ok t2) : t1 = t2 :=
  mutate_canonical_empty t1 t2 h1 h2

/-- a construction history: batches applied one after the other through `ApplyMutations` -/
def runHistory (C : Cfg σ κ ν) (cmp : κ → κ → Ordering) (t : Tree κ ν) : List (Edits κ ν) → Except BuildErr (Tree κ ν)
  | [] => .ok t
  | es :: rest =>
    match applyMutations C cmp t es with
    | .ok t' => runHistory C cmp t' rest
    | .error e => .error e

def contentAfter (cmp : κ → κ → Ordering) (X : List (κ × ν)) (bs : List (Edits κ ν)) : List (κ × ν) :=
  bs.foldl (applyEdits cmp) X

/-- every step of the history satisfies the hypotheses of `mutate_canonical_partial` -/
def GoodHistory (C : Cfg σ κ ν) (cmp : κ → κ → Ordering) : List (κ × ν) → List (Edits κ ν) → Prop
  | _, [] => True
  | X, es :: rest =>
    (X = [] ∨ MutHyp C cmp X es) ∧
    (∀ n, (C n).chunkOk (levelItems C n (applyEdits cmp X es)) = true) ∧
    (∃ t', build C (applyEdits cmp X es) = .ok t') ∧
    GoodHistory C cmp (applyEdits cmp X es) rest

/-- **a whole history ends in the bulk-built tree of its final content** -/
theorem history_canonical_partial {C : Cfg σ κ ν} {cmp : κ → κ → Ordering} (hs : SingleOk C) :
    ∀ (bs : List (Edits κ ν)) (X : List (κ × ν)) (t t' : Tree κ ν), build C X = .ok t →
      GoodHistory C cmp X bs → runHistory C cmp t bs = .ok t' → build C (contentAfter cmp X bs) = .ok t' := by
  intro bs X t
  fun_induction runHistory C cmp t bs generalizing X with
  | case1 t => intro t' hb _ hr; cases hr; exact hb  -- no batch left
  | case2 t es rest t1 h1 ih =>
    -- the batch goes through: its result is the bulk-built tree of the new content
    intro t' hb ⟨hX, _, ⟨t2, h2⟩, hrest⟩ hr
    have heq : t1 = t2 := by
      rcases hX with hX | hX
      · subst hX
        rw [build_nil] at hb
        cases hb
        exact mutate_canonical_empty t1 t2 h1 h2
      · exact mutate_canonical_core hX hs t t1 t2 hb h1 h2
    rw [← heq] at h2
    exact ih (applyEdits cmp X es) t' h2 hrest hr
  | case3 => intro _ _ _ hr; cases hr  -- the batch fails

/-- Two construction histories — different starting contents,
different batchings, insertions, deletions, re-insertions, height growing and shrinking — that
satisfy the NoOverflowBoundary hypothesis at every step and end in the same content end in the
same tree (same root hash, identical chunks: the tree is its own structural identity). -/
theorem history_independent_partial {C : Cfg σ κ ν} {cmp : κ → κ → Ordering} (hs : SingleOk C)
    (X₁ X₂ : List (κ × ν)) (bs₁ bs₂ : List (Edits κ ν)) (t₁ t₂ t₁' t₂' : Tree κ ν)
    (hb₁ : build C X₁ = .ok t₁) (hb₂ : build C X₂ = .ok t₂)
    (hg₁ : GoodHistory C cmp X₁ bs₁) (hg₂ : GoodHistory C cmp X₂ bs₂)
    (hr₁ : runHistory C cmp t₁ bs₁ = .ok t₁') (hr₂ : runHistory C cmp t₂ bs₂ = .ok t₂')
    (hsame : contentAfter cmp X₁ bs₁ = contentAfter cmp X₂ bs₂) : t₁' = t₂' := by
  have h1 := history_canonical_partial hs bs₁ X₁ t₁ t₁' hb₁ hg₁ hr₁
  have h2 := history_canonical_partial hs bs₂ X₂ t₂ t₂' hb₂ hg₂ hr₂
  rw [hsame, h2] at h1
  cases h1; rfl

/-- What a patcher must deliver at its top level `h` for the patched tree to be canonical: the old
nodes it walks (`rs`, from whichever source tree it splices them) with
* `sound`: every node it keeps **unchanged** (a spliced range patch = a whole subtree taken from
  the other side, or a skipped node of the destination) is *closed* for this level's chunker —
  fed alone to a reset chunker it reproduces itself AND leaves the chunker reset; only the very
  last region may be merely *whole* (ended by the final flush of `Done`);
* `items`: the edited items of the regions, concatenated, are the level-`h` items of the merged
  content `X'`.
The known finding `MergeMaps/canonical-shape` violates `sound`: the range patch for the source's
**last** leaf (a node ended by `Done`'s flush, whole but not closed) is spliced in while the
destination still has later keys, i.e. not as the last region. -/
structure PatchLevel (C : Cfg σ κ ν) (h : Nat) (X' : List (κ × ν)) (rs : List (Region (ItemH κ ν h))) : Prop where
  nonempty : rs ≠ []
  sound : (C h).Sound rs
  items : rs.flatMap (·.new) = levelItems C h X'

omit [BEq κ] [BEq ν] [LawfulBEq κ] [LawfulBEq ν] in
/-- Corollary interface for C14: a patcher that satisfies
`PatchLevel` at its top level returns the bulk-built tree of the merged content — on the
success path, with `SingleOk`, as for `mutate_canonical_partial`; `hok'` (no `append` panic on the
merged content) is unused there as here: `h2` excludes the panics. -/
theorem patch_canonical_partial {C : Cfg σ κ ν} (hs : SingleOk C) (X' : List (κ × ν))
    (hok' : ∀ n, (C n).chunkOk (levelItems C n X') = true)
    (h : Nat) (rs : List (Region (ItemH κ ν h))) (hp : PatchLevel C h X' rs)
    (f : Nat) (t1 t2 : Tree κ ν)
    (h1 : rootOf C f h (((C h).incr (C h).fresh rs).flatMap Out.chunks) = .ok t1)
    (h2 : build C X' = .ok t2) : t1 = t2 :=
  regions_canonical hs X' h rs hp.sound hp.items t1 t2 (rootOf_roots C f h _ t1 h1) h2

end TreeLevel

/-! non-vacuity of `MutHyp` / `mutate_canonical_partial`: a two-level tree over numbers, boundary
after every second item, weightless items (so the capacity rule never fires) -/
namespace Example
def every2 {α : Type} : Splitter Nat α := ⟨0, fun s _ => (s + 1, s + 1 == 2)⟩
def C : Cfg Nat Nat Nat := fun n => { sp := every2, weight := fun _ => 0, cap := 10, leaf := n == 0 }
def X : List (Nat × Nat) := [(1, 10), (2, 20), (3, 30), (4, 40), (5, 50)]
def es : Edits Nat Nat := [(3, none), (6, some 60)]

theorem size_zero (n : Nat) (cur : List (ItemH Nat Nat n)) : (C n).size cur = 0 := by
  unfold LevelCfg.size
  induction cur with
  | nil => rfl
  | cons x xs ih => simp only [List.map_cons, List.sum_cons, ih]; rfl

theorem noOvf (n : Nat) : ∀ (xs : List (ItemH Nat Nat n)) (st : St Nat (ItemH Nat Nat n)),
    (C n).feedNoOvf st xs = true
  | [], _ => rfl
  | x :: xs, st => by
    simp only [LevelCfg.feedNoOvf, Bool.and_eq_true, Bool.not_eq_true']
    refine ⟨?_, noOvf n xs _⟩
    simp only [LevelCfg.overflow, size_zero]
    show decide (10 < 0 + 0) = false
    rfl

theorem natTotal : TotalPreorder (compare : Nat → Nat → Ordering) where
  swap_lt a b := by simp [Nat.compare_eq_lt, Nat.compare_eq_gt]
  le_trans a b c := by simp only [ne_eq, Nat.compare_eq_gt]; omega

example : MutHyp C compare X es where
  cmp_ok := natTotal
  sorted := by unfold Sorted; decide
  edits_sorted := by decide
  nonempty := by decide
  no_overflow n := noOvf n _ _

example : SingleOk C := singleOk_of C (fun _ => rfl) (fun _ _ => Nat.zero_le _)

/-- the hypothesis `PatchLevel.sound` separates exactly the node kind of the C14 finding: the last
leaf of a tree (ended by the flush of `Done`) is whole but NOT closed, so it may be spliced in
unchanged only as the last region -/
example : (C 0).Whole [((5 : Nat), (50 : Nat))] ∧ ¬ (C 0).Closed [((5 : Nat), (50 : Nat))] := by
  constructor
  · show (C 0).chunk [((5 : Nat), (50 : Nat))] = [[(5, 50)]]
    rfl
  · intro hcl
    have h1 : (((C 0).feed (C 0).fresh [((5 : Nat), (50 : Nat))]).1 : List (List (Nat × Nat))) = [[(5, 50)]] := by
      have := congrArg Prod.fst hcl; exact this
    have h2 : (((C 0).feed (C 0).fresh [((5 : Nat), (50 : Nat))]).1 : List (List (Nat × Nat))) = [] := rfl
    rw [h2] at h1; cases h1

/-- the edited tree and the bulk-built tree of the edited content, computed -/
example : (match build C X with
    | .ok t => (applyMutations C compare t es).toOption.map observe
    | .error _ => none) = (build C (applyEdits compare X es)).toOption.map observe := by decide
end Example

end DoltVerif.C12
