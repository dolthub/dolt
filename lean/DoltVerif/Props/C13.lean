import DoltVerif.Lemmas.ProllyDiffSearch
import DoltVerif.Lemmas.ProllyDiffSpec
/-!
C13 — Diffs report exactly the changed keys.  Statements are about `Model/ProllyDiff.lean` (the cursor machine of diff.go /
node_cursor.go, tied to the source by `Tie/ProllyDiff.lean` and to behaviour by the `prollydiff` harness), for runs that do
not run out of fuel.  Hypotheses: `Tree.WF store` (content addressing: that equal addresses mean equal subtrees is a
hypothesis, never an axiom), a reflexive key order; the range theorems also `Tree.KeysOK` and `MonoP` start/stop predicates.
-/
namespace DoltVerif.C13
open DoltVerif.ProllyDiff

theorem side_roots {store} {t : Tree} (hw : t.WF store) :
    Side store (fun _ => true) (startOrNil t) (cursorPastEnd t) ∧ rem (startOrNil t) = t.flatten := by
  obtain ⟨pc, pr⟩ := pastEnd_spec hw
  have hcut : ∀ R, CutOK (fun _ => true) (rem (cursorPastEnd t)) R := fun R => by
    rw [pr]; exact ⟨by simp, Or.inl ⟨R, by simp, by simp⟩⟩
  by_cases hc : t.count = 0
  · simp only [startOrNil, hc, if_true]
    exact ⟨⟨⟨trivial, by simp, fun _ => rfl⟩, pc.good, trivial, by simp [valid], hcut _⟩,
      by rw [WF_count_zero hw hc]; rfl⟩
  · simp only [startOrNil, hc, if_false]
    obtain ⟨sc, sr⟩ := atStart_spec hw
    exact ⟨⟨sc.good, pc.good, sc.leaf, fun _ => shape_eq_iff.mp (sc.shape.trans pc.shape.symm), hcut _⟩, sr⟩

/-- Whole key space: for all well-formed Merkle trees `a b` — related or
unrelated, of any heights, either side empty — every run of the real differ's algorithm
(`DifferFromRoots` + repeated `Next`, with subtree skipping) that terminates within its fuel
reports exactly the merge walk `specDiff` of the two flattened key-value lists (what that walk is in terms
of membership when the lists are sorted — each differing key once, ascending, with the right From/To/type,
and nothing else — is `specDiff_mem`, `specDiff_ascending` in `Lemmas/ProllyDiffSpec.lean`, used in
`differ_reports_exactly_changed`). -/
theorem differ_refines {store} (cmp : Bytes → Bytes → Ordering) (hrefl : ∀ k, cmp k k = .eq) (cam : Bool)
    (a b : Tree) (ha : a.WF store) (hb : b.WF store) (evs : List Event)
    (h : diffRoots cmp cam a b = some evs) :
    evs = specDiff cmp cam a.flatten b.flatten := by
  obtain ⟨sa, ra⟩ := side_roots ha
  obtain ⟨sb, rb⟩ := side_roots hb
  have := diffLoop_spec hrefl cam _ _ _ _ _ _ evs sa sb h
  rw [ra, rb, tw_true, tw_true] at this
  exact this

/-- The `Differ` started from *any* four proper cursors (start/stop in
each tree) whose stops cut both trees at the same key predicate `below` reports the merge walk of
the two windows `takeWhile below` of what remains at the start cursors.  This is the statement
behind `DifferFromCursors` / `DiffKeyRangeOrderedTrees`: a stop cursor that falls inside a skipped
common subtree still ends the diff at the right key, because both stops are cut by the same
predicate. -/
theorem differ_window_refines {store} {below : Bytes → Bool} (cmp : Bytes → Bytes → Ordering)
    (hrefl : ∀ k, cmp k k = .eq) (cam : Bool) (sfuel fuel : Nat) (f t fs ts : Cur) (evs : List Event)
    (sf : Side store below f fs) (st : Side store below t ts)
    (h : diffLoop cmp cam sfuel fuel f t fs ts = some evs) :
    evs = specDiff cmp cam (tw below (rem f)) (tw below (rem t)) :=
  diffLoop_spec hrefl cam sfuel fuel f t fs ts evs sf st h

/-- The property in its own words, whole key space: on two
well-formed trees whose contents are strictly ascending under a lawful key order, the differ
reports an event `e` iff `e` is "removed x" for a pair of `a` with no partner key in `b`, "added y"
for a pair of `b` with no partner in `a`, or "modified x y" for partner pairs whose value bytes
differ (or any partner pair when all rows count as modified) — and the reported keys strictly
ascend, so no key is reported twice. -/
theorem differ_reports_exactly_changed {store} {cmp : Bytes → Bytes → Ordering} (ol : OrdLaws cmp) (cam : Bool)
    (a b : Tree) (ha : a.WF store) (hb : b.WF store) (sa : Sorted cmp a.flatten) (sb : Sorted cmp b.flatten)
    (evs : List Event) (h : diffRoots cmp cam a b = some evs) :
    (∀ e, e ∈ evs ↔ DiffSpec cmp cam a.flatten b.flatten e) ∧
    evs.Pairwise (fun e1 e2 => cmp e1.key e2.key = .lt) := by
  have := differ_refines cmp ol.refl cam a b ha hb evs h
  subst this
  exact ⟨specDiff_mem ol cam _ _ sa sb, specDiff_ascending ol cam _ _ sa sb⟩

/-- the differ started from proper start/stop cursors positioned at the first `pS` / first `pE` pair
of each tree reports the merge walk of the pairs with `pS ∧ ¬pE` -/
theorem differ_cursors_refines {store} (cmp : Bytes → Bytes → Ordering) (hrefl : ∀ k, cmp k k = .eq)
    (pS pE : Bytes → Bool) (a b : Tree) (fa fsa fb fsb : Cur)
    (ca : CurAt store a fa) (csa : CurAt store a fsa) (cb : CurAt store b fb) (csb : CurAt store b fsb)
    (ra : rem fa = a.flatten.dropWhile (fun kv => !pS kv.1)) (rsa : rem fsa = a.flatten.dropWhile (fun kv => !pE kv.1))
    (rb : rem fb = b.flatten.dropWhile (fun kv => !pS kv.1)) (rsb : rem fsb = b.flatten.dropWhile (fun kv => !pE kv.1))
    (ma1 : MonoP pS a.flatten) (ma2 : MonoP pE a.flatten) (mb1 : MonoP pS b.flatten) (mb2 : MonoP pE b.flatten)
    (sfuel fuel : Nat) (evs : List Event) (h : diffLoop cmp false sfuel fuel fa fb fsa fsb = some evs) :
    evs = specDiff cmp false (a.flatten.filter (fun kv => pS kv.1 && !pE kv.1))
      (b.flatten.filter (fun kv => pS kv.1 && !pE kv.1)) := by
  have sa := side_of ca csa ra rsa ma2
  have sb := side_of cb csb rb rsb mb2
  have := diffLoop_spec hrefl false sfuel fuel _ _ _ _ evs sa sb h
  rw [ra, rb, window_eq_filter ma1 ma2, window_eq_filter mb1 mb2] at this
  exact this

/-- `DifferFromCursors`, e.g. `RangeDiffMaps`: for all well-formed trees
and all pairs of key predicates that are monotone along both trees (first false, then true — which
is what a range bound is on a sorted map, `monotone_on_sorted`), the differ whose start/stop cursors
are found by per-node binary search on the slot keys (with `keepInBounds`) reports exactly the
merge walk of the pairs with `pStart ∧ ¬pStop` — wherever the range ends fall: inside a subtree
shared by both trees, on a node boundary, before the first or after the last key, or inverted
(then the filter is empty and so is the diff). -/
theorem differ_range_refines {store} (cmp : Bytes → Bytes → Ordering) (hrefl : ∀ k, cmp k k = .eq)
    (pStart pStop : Bytes → Bool) (a b : Tree) (ha : a.WF store) (hb : b.WF store) (hka : a.KeysOK) (hkb : b.KeysOK)
    (ma1 : MonoP pStart a.flatten) (ma2 : MonoP pStop a.flatten) (mb1 : MonoP pStart b.flatten) (mb2 : MonoP pStop b.flatten)
    (evs : List Event) (h : diffSearch cmp pStart pStop a b = some evs) :
    evs = specDiff cmp false (a.flatten.filter (fun kv => pStart kv.1 && !pStop kv.1))
      (b.flatten.filter (fun kv => pStart kv.1 && !pStop kv.1)) :=
  have sa := search_spec pStart ha hka ma1
  have ea := search_spec pStop ha hka ma2
  have sb := search_spec pStart hb hkb mb1
  have eb := search_spec pStop hb hkb mb2
  differ_cursors_refines cmp hrefl pStart pStop a b _ _ _ _ sa.1 ea.1 sb.1 eb.1 sa.2 ea.2 sb.2 eb.2
    ma1 ma2 mb1 mb2 _ _ evs h

/-- `prolly.RangeDiffMaps` before the callback filter: the events are the
merge walk of the pairs inside the range, for every single-field `Range` (any bound kinds,
inverted or not, any `BoundsAreEqual` flag) whose two predicates are monotone along the trees. -/
theorem rangeDiff_refines {store} (cmp : Bytes → Bytes → Ordering) (hrefl : ∀ k, cmp k k = .eq) (r : Range)
    (a b : Tree) (ha : a.WF store) (hb : b.WF store) (hka : a.KeysOK) (hkb : b.KeysOK)
    (ma1 : MonoP (r.aboveStart cmp) a.flatten) (ma2 : MonoP (fun k => !r.belowStop cmp k) a.flatten)
    (mb1 : MonoP (r.aboveStart cmp) b.flatten) (mb2 : MonoP (fun k => !r.belowStop cmp k) b.flatten)
    (evs : List Event) (h : diffRange cmp r a b = some evs) :
    evs = specDiff cmp false (a.flatten.filter (fun kv => r.aboveStart cmp kv.1 && r.belowStop cmp kv.1))
      (b.flatten.filter (fun kv => r.aboveStart cmp kv.1 && r.belowStop cmp kv.1)) := by
  have := differ_range_refines cmp hrefl _ _ a b ha hb hka hkb ma1 ma2 mb1 mb2 evs h
  simpa using this

/-- the start / stop predicates of `DiffKeyRangeOrderedTrees` -/
def keyPred (cmp : Bytes → Bytes → Ordering) (dflt : Bool) : Option Bytes → Bytes → Bool
  | none, _ => dflt
  | some k, s => cmp k s != .gt

/-- a start or stop cursor of `DiffKeyRangeOrderedTrees`: `newCursorAtKey` for a key, `dflt` for a nil key -/
def krCur (cmp : Bytes → Bytes → Ordering) (dflt : Tree → Cur) (key : Option Bytes) (t : Tree) : Cur :=
  match key with
  | none => dflt t
  | some k => cursorFromSearch (fun s => cmp k s != .gt) t

theorem diffKeyRange_eq (cmp : Bytes → Bytes → Ordering) (start stop : Option Bytes) (a b : Tree) :
    diffKeyRange cmp start stop a b =
      diffLoop cmp false (skipFuel a b) (loopFuel a b) (krCur cmp cursorAtStart start a) (krCur cmp cursorAtStart start b)
        (krCur cmp cursorPastEnd stop a) (krCur cmp cursorPastEnd stop b) := by
  cases start <;> cases stop <;> rfl

theorem krCur_spec {store} (cmp : Bytes → Bytes → Ordering) {dflt : Tree → Cur} {d : Bool} (key : Option Bytes) {t : Tree}
    (hw : t.WF store) (hk : t.KeysOK) (hm : MonoP (keyPred cmp d key) t.flatten)
    (hd : CurAt store t (dflt t) ∧ rem (dflt t) = t.flatten.dropWhile (fun _ => !d)) :
    CurAt store t (krCur cmp dflt key t) ∧
    rem (krCur cmp dflt key t) = t.flatten.dropWhile (fun kv => !keyPred cmp d key kv.1) := by
  cases key with
  | none => exact hd
  | some k => exact search_spec _ hw hk hm

/-- `prolly.DiffMapsKeyRange`: events = merge walk of the pairs with
`start ≤ key < stop` (nil start = from the first key, nil stop = to the end). -/
theorem keyRangeDiff_refines {store} (cmp : Bytes → Bytes → Ordering) (hrefl : ∀ k, cmp k k = .eq)
    (start stop : Option Bytes) (a b : Tree) (ha : a.WF store) (hb : b.WF store) (hka : a.KeysOK) (hkb : b.KeysOK)
    (ma1 : MonoP (keyPred cmp true start) a.flatten) (ma2 : MonoP (keyPred cmp false stop) a.flatten)
    (mb1 : MonoP (keyPred cmp true start) b.flatten) (mb2 : MonoP (keyPred cmp false stop) b.flatten)
    (evs : List Event) (h : diffKeyRange cmp start stop a b = some evs) :
    evs = specDiff cmp false (a.flatten.filter (fun kv => keyPred cmp true start kv.1 && !keyPred cmp false stop kv.1))
      (b.flatten.filter (fun kv => keyPred cmp true start kv.1 && !keyPred cmp false stop kv.1)) := by
  rw [diffKeyRange_eq] at h
  have hs : ∀ {t : Tree}, t.WF store →
      CurAt store t (cursorAtStart t) ∧ rem (cursorAtStart t) = t.flatten.dropWhile (fun _ => !true) :=
    fun hw => ⟨(atStart_spec hw).1, by rw [(atStart_spec hw).2]; exact (dropWhile_const_false _).symm⟩
  have he : ∀ {t : Tree}, t.WF store →
      CurAt store t (cursorPastEnd t) ∧ rem (cursorPastEnd t) = t.flatten.dropWhile (fun _ => !false) :=
    fun hw => ⟨(pastEnd_spec hw).1, by rw [(pastEnd_spec hw).2]; exact (dropWhile_const_true _).symm⟩
  obtain ⟨c1, r1⟩ := krCur_spec cmp start ha hka ma1 (hs ha)
  obtain ⟨c2, r2⟩ := krCur_spec cmp start hb hkb mb1 (hs hb)
  obtain ⟨c3, r3⟩ := krCur_spec cmp stop ha hka ma2 (he ha)
  obtain ⟨c4, r4⟩ := krCur_spec cmp stop hb hkb mb2 (he hb)
  exact differ_cursors_refines cmp hrefl _ _ a b _ _ _ _ c1 c3 c2 c4 r1 r3 r2 r4 ma1 ma2 mb1 mb2 _ _ evs h

/-- discharges the `MonoP` hypotheses above: a range bound is an upward-closed key predicate, and the map is sorted -/
theorem monotone_on_sorted {cmp : Bytes → Bytes → Ordering} {p : Bytes → Bool}
    (hup : ∀ x y, p x = true → cmp x y = .lt → p y = true) {l : List KV} (hs : Sorted cmp l) : MonoP p l :=
  monoP_iff.mpr (List.Pairwise.imp (fun h hx => hup _ _ hx h) hs)

/-- `differ_reports_exactly_changed` for `diffSearch` with any two upward-closed start/stop predicates -/
theorem range_differ_reports_exactly_changed {store} {cmp : Bytes → Bytes → Ordering} (ol : OrdLaws cmp)
    (pStart pStop : Bytes → Bool) (a b : Tree) (ha : a.WF store) (hb : b.WF store) (hka : a.KeysOK) (hkb : b.KeysOK)
    (sa : Sorted cmp a.flatten) (sb : Sorted cmp b.flatten)
    (hup1 : ∀ x y, pStart x = true → cmp x y = .lt → pStart y = true)
    (hup2 : ∀ x y, pStop x = true → cmp x y = .lt → pStop y = true)
    (evs : List Event) (h : diffSearch cmp pStart pStop a b = some evs) :
    (∀ e, e ∈ evs ↔ DiffSpec cmp false (a.flatten.filter (fun kv => pStart kv.1 && !pStop kv.1))
        (b.flatten.filter (fun kv => pStart kv.1 && !pStop kv.1)) e) ∧
    evs.Pairwise (fun e1 e2 => cmp e1.key e2.key = .lt) := by
  have := differ_range_refines cmp ol.refl pStart pStop a b ha hb hka hkb
    (monotone_on_sorted hup1 sa) (monotone_on_sorted hup2 sa) (monotone_on_sorted hup1 sb) (monotone_on_sorted hup2 sb) evs h
  subst this
  exact ⟨specDiff_mem ol false _ _ (sorted_filter _ sa) (sorted_filter _ sb),
    specDiff_ascending ol false _ _ (sorted_filter _ sa) (sorted_filter _ sb)⟩

/-- `skipCommon` / `skipCommonParents` (equal `(key, addr)` parent items ⇒ both
cursors jump past that subtree, recursively upwards) move both cursors past one and the same list
of key-value pairs `L` — no event can be lost by skipping — and leave proper cursors of the same
trees behind.  Uses content addressing (`Tree.WF store`). -/
theorem skip_sound {store} (fuel : Nat) (f t f' t' : Cur) (pnew : Bool)
    (hf : Good store f) (ht : Good store t) (h : skipCommon fuel f t pnew = some (f', t')) :
    Good store f' ∧ Good store t' ∧ ∃ L, rem f = L ++ rem f' ∧ rem t = L ++ rem t' :=
  let sp := skipCommon_spec fuel f t pnew f' t' hf ht h
  ⟨sp.gf, sp.gt, sp.common.elim fun L hL => ⟨L, hL.1, hL.2.1⟩⟩

/-- On proper cursors of one tree `c.Valid() && c.compare(stop) < 0`
says exactly that strictly more pairs remain at `c` than at `stop`. -/
theorem cursor_compare_sound {store} {c s : Cur} (hc : Good store c) (hs : Good store s) (hlf : AtLeaf c)
    (hl : c.length = s.length) (hr : c.getLast?.map (·.nd) = s.getLast?.map (·.nd)) :
    active c s = true ↔ (rem s).length < (rem c).length :=
  active_iff hc hs hlf hl hr

/-- `cursor.advance` passes exactly the current pair. -/
theorem advance_sound {store} (c : Cur) (hc : Good store c) (hl : AtLeaf c) (hv : valid c = true) :
    ∃ kv, curKV c = some kv ∧ rem c = kv :: rem (advance c) ∧ Good store (advance c) := by
  obtain ⟨kv, hk, hr, g, _⟩ := advance_leaf hc hl hv
  exact ⟨kv, hk, hr, g⟩

/-- `makeDiffCallBack` (equal value descriptors) drops exactly the
Modified events whose two values are equal as tuples; everything else passes, in order. -/
theorem canonical_tuple_filter (veq : Bytes → Bytes → Bool) (evs : List Event) (e : Event) :
    e ∈ callbackFilter true veq evs ↔
      e ∈ evs ∧ ¬ (∃ f t, e.type = .modified ∧ e.from? = some f ∧ e.to? = some t ∧ veq f t = true) := by
  simp only [callbackFilter, Bool.not_true, Bool.false_eq_true, if_false, List.mem_filter]
  constructor
  · rintro ⟨h1, h2⟩
    refine ⟨h1, ?_⟩
    rintro ⟨f, t, ht, hf, hto, hv⟩
    simp [ht, hf, hto, hv] at h2
  · rintro ⟨h1, h2⟩
    refine ⟨h1, ?_⟩
    split
    · rename_i f t ht hf hto
      cases hv : veq f t
      · rfl
      · exact absurd ⟨f, t, ht, hf, hto, hv⟩ h2
    · rfl

theorem callbackFilter_off (veq : Bytes → Bytes → Bool) (evs : List Event) : callbackFilter false veq evs = evs := by
  simp [callbackFilter]

def exLeaf1 : Tree := .leaf [([1], [10]), ([2], [20])]
def exLeaf2 : Tree := .leaf [([3], [30])]
def exLeaf2' : Tree := .leaf [([3], [31]), ([4], [40])]
def exA : Tree := .node [([2], 1, exLeaf1), ([3], 2, exLeaf2)]
def exB : Tree := .node [([2], 1, exLeaf1), ([4], 3, exLeaf2')]
def exStore : Addr → Option Tree := fun n => if n = 1 then some exLeaf1 else if n = 2 then some exLeaf2 else if n = 3 then some exLeaf2' else none
def exCmp : Bytes → Bytes → Ordering := fun x y => compare x y

example : exA.WF exStore ∧ exB.WF exStore := by
  simp [exA, exB, exLeaf1, exLeaf2, exLeaf2', exStore, Tree.WF, WFCs, firstHeight, Tree.height, Tree.count]

/-- a pair sharing a subtree, differing in the other: the run terminates and reports the change -/
example : diffRoots ciCompare false exA exB = some [Event.modified ([3], [30]) ([3], [31]), Event.added ([4], [40])] := by
  decide +kernel

example : specDiff ciCompare false exA.flatten exB.flatten = [Event.modified ([3], [30]) ([3], [31]), Event.added ([4], [40])] := by
  decide +kernel

end DoltVerif.C13
