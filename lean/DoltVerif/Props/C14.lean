import DoltVerif.Lemmas.ProllyMergeSendR2
import DoltVerif.Lemmas.ProllyMergeAddN
import DoltVerif.Lemmas.ProllyMergeRefute
import DoltVerif.Lemmas.ProllyMergeSpecP
import DoltVerif.Lemmas.ProllyMergeLeafSend
import DoltVerif.Props.C13
/-!
C14 — Three-way tree merges follow key-wise merge semantics (`Model/ProllyMerge.lean`; `Tie/ProllyMerge.lean`, harness `prollymerge`).
For all inputs: the three-way differ's edits applied to left are the key-wise merge `mergeKeyTW`; R2, `SendPatches` over
`GenSound` generators denotes the key-wise merge; R3, `ApplyPatches` realises a tiled stream.  R1, a `PatchGenerator` is
`GenSound`: single-leaf trees and the empty base; false for a non-empty base at height 1 (`*_full`: harness only).
-/
namespace DoltVerif.C14
open DoltVerif.ProllyDiff DoltVerif.ProllyMerge

/-- key-wise classification of what the three-way differ must output, in terms of the two key-wise
diffs base→left and base→right (`DiffSpec`, see C13): a key changed only on the left / only on the
right gives the corresponding one-sided edit; a key changed on both sides gives the `dsMatch`
verdict (convergent / divergent resolved / delete conflict / clash conflict). -/
def Classified (cmp : Bytes → Bytes → Ordering) (resolve : ResolveCb) (lsc rsc : Bool) (B L R : List KV) (d : TWDiff) : Prop :=
  (∃ el, DiffSpec cmp lsc B L el ∧ d = newLeftEdit el ∧ ∀ er, DiffSpec cmp rsc B R er → cmp el.key er.key ≠ .eq) ∨
  (∃ er, DiffSpec cmp rsc B R er ∧ d = newRightEdit er ∧ ∀ el, DiffSpec cmp lsc B L el → cmp el.key er.key ≠ .eq) ∨
  (∃ el er, DiffSpec cmp lsc B L el ∧ DiffSpec cmp rsc B R er ∧ d = matchEdit resolve el er ∧ cmp el.key er.key = .eq)

theorem differ3_streams {store} {cmp : Bytes → Bytes → Ordering} (ol : OrdLaws cmp) (resolve : ResolveCb) (lsc rsc : Bool)
    (base left right : Tree) (hb : base.WF store) (hl : left.WF store) (hr : right.WF store)
    (ds : List TWDiff) (h : threeWayDiffer cmp resolve lsc rsc base left right = some ds) :
    ds = twNext cmp resolve (specDiff cmp lsc base.flatten left.flatten) (specDiff cmp rsc base.flatten right.flatten) := by
  unfold threeWayDiffer at h
  cases hdl : diffRoots cmp lsc base left with
  | none => simp [hdl] at h
  | some dl =>
    cases hdr : diffRoots cmp rsc base right with
    | none => simp [hdl, hdr] at h
    | some dr =>
      simp [hdl, hdr] at h
      rw [← h, C13.differ_refines cmp ol.refl lsc base left hb hl dl hdl, C13.differ_refines cmp ol.refl rsc base right hb hr dr hdr]

/-- for all well-formed (base, left, right) with strictly ascending
contents under a lawful key order, every run of the three-way differ (two `DifferFromRoots` differs
with subtree skipping feeding the `Next` state machine) that stays within its fuel outputs exactly
the classified changes — `d` is output iff it is the classification of a key changed on either
side — with strictly ascending keys (so every such key exactly once). -/
theorem differ3_classifies {store} {cmp : Bytes → Bytes → Ordering} (ol : OrdLaws cmp) (resolve : ResolveCb) (lsc rsc : Bool)
    (base left right : Tree) (hb : base.WF store) (hl : left.WF store) (hr : right.WF store)
    (sb : Sorted cmp base.flatten) (sl : Sorted cmp left.flatten) (sr : Sorted cmp right.flatten)
    (ds : List TWDiff) (h : threeWayDiffer cmp resolve lsc rsc base left right = some ds) :
    (∀ d, d ∈ ds ↔ Classified cmp resolve lsc rsc base.flatten left.flatten right.flatten d) ∧
    ds.Pairwise (fun d1 d2 => cmp d1.key d2.key = .lt) := by
  have hds := differ3_streams ol resolve lsc rsc base left right hb hl hr ds h
  subst hds
  have a1 : AscE cmp (specDiff cmp lsc base.flatten left.flatten) := specDiff_ascending ol lsc _ _ sb sl
  have a2 : AscE cmp (specDiff cmp rsc base.flatten right.flatten) := specDiff_ascending ol rsc _ _ sb sr
  have m1 := specDiff_mem ol lsc _ _ sb sl
  have m2 := specDiff_mem ol rsc _ _ sb sr
  refine ⟨fun d => ?_, twNext_ascending ol resolve _ _ a1 a2⟩
  rw [twNext_mem ol resolve _ _ a1 a2 d]
  -- `Classified` is `TWSpec` of the two key-wise diffs, with membership in them spelled `DiffSpec`
  simp only [Classified, TWSpec, ← m1, ← m2, exists_and_left]

/-- `ThreeWayDiffer.Next` over any two ascending diff streams outputs, for
each key of either stream, exactly one result — the left edit, the right edit or the match verdict
— in ascending key order. -/
theorem next_state_machine {cmp : Bytes → Bytes → Ordering} (ol : OrdLaws cmp) (resolve : ResolveCb)
    (dl dr : List Event) (al : AscE cmp dl) (ar : AscE cmp dr) :
    (∀ d, d ∈ twNext cmp resolve dl dr ↔ TWSpec cmp resolve dl dr d) ∧
    (twNext cmp resolve dl dr).Pairwise (fun d1 d2 => cmp d1.key d2.key = .lt) :=
  ⟨twNext_mem ol resolve dl dr al ar, twNext_ascending ol resolve dl dr al ar⟩

/-- the `dsMatch` case analysis — both deleted ⇒ convergent delete; exactly one
deleted ⇒ the resolver decides between delete-resolved and delete-conflict; same type and same
bytes ⇒ convergent; otherwise the resolver decides between modify-resolved (with its merged value)
and modify-conflict, and a conflict never carries a merged value. -/
theorem match_verdicts (resolve : ResolveCb) (l r : Event) :
    ((l.to? = none ∧ r.to? = none) → (matchEdit resolve l r).op = (newConvergentEdit l).op) ∧
    ((l.to? = none ∧ r.to? ≠ none ∨ l.to? ≠ none ∧ r.to? = none) →
      (matchEdit resolve l r).op = if (resolve l.to? r.to? l.from?).isSome then .divergentDeleteResolved else .divergentDeleteConflict) ∧
    ((l.to? ≠ none ∧ r.to? ≠ none ∧ l.type = r.type ∧ l.to? = r.to?) → (matchEdit resolve l r).op = (newConvergentEdit l).op) ∧
    ((l.to? ≠ none ∧ r.to? ≠ none ∧ ¬ (l.type = r.type ∧ l.to? = r.to?)) →
      (matchEdit resolve l r).op = (if (resolve l.to? r.to? l.from?).isSome then .divergentModifyResolved else .divergentModifyConflict) ∧
      (matchEdit resolve l r).merged = resolve l.to? r.to? l.from?) := by
  refine ⟨?_, ?_, ?_, ?_⟩
  · rintro ⟨h1, h2⟩; simp [matchEdit, h1, h2]
  · rintro (⟨h1, h2⟩ | ⟨h1, h2⟩)
    · cases hr : r.to? with
      | none => exact absurd hr h2
      | some v => simp [matchEdit, h1, hr]; cases resolve none (some v) l.from? <;> simp
    · cases hl : l.to? with
      | none => exact absurd hl h1
      | some v => simp [matchEdit, h2, hl]; cases resolve (some v) none l.from? <;> simp
  · rintro ⟨h1, h2, h3, h4⟩
    cases hl : l.to? with
    | none => exact absurd hl h1
    | some v =>
      cases hr : r.to? with
      | none => exact absurd hr h2
      | some w => rw [hl, hr] at h4; simp [matchEdit, hl, hr, h3, h4]
  · rintro ⟨h1, h2, h3⟩
    cases hl : l.to? with
    | none => exact absurd hl h1
    | some v =>
      cases hr : r.to? with
      | none => exact absurd hr h2
      | some w =>
        have : ¬ (l.type = r.type ∧ v = w) := by intro ⟨a, b⟩; exact h3 ⟨a, by rw [hl, hr, b]⟩
        simp only [matchEdit, hl, hr, Option.isNone_some, Bool.and_self, Bool.false_eq_true, if_false, Bool.or_self]
        have hc : (decide (l.type = r.type) && (some v == some w)) = false := by
          by_cases ht : l.type = r.type
          · have : v ≠ w := fun e => this ⟨ht, e⟩
            simp [ht, this]
          · simp [ht]
        simp only [hc, Bool.false_eq_true, if_false]
        cases resolve (some v) (some w) l.from? <;> simp

/-- The key-level merge path, "applying the three-way differ's edits to left":
for all well-formed triples with strictly ascending contents, after folding the three-way differ's
results over left's content, a key maps to the `effect` of the (unique) result for that key —
right's value for a right-only add/modify, nothing for a right-only delete, the merged value for a
resolved divergent modify, and left's own mapping in every other case — and a key without a result
maps to what it mapped to in left. -/
theorem tw_merge_lookup {store} {cmp : Bytes → Bytes → Ordering} (ol : OrdLaws cmp) (resolve : ResolveCb)
    (base left right : Tree) (hb : base.WF store) (hl : left.WF store) (hr : right.WF store)
    (sb : Sorted cmp base.flatten) (sl : Sorted cmp left.flatten) (sr : Sorted cmp right.flatten)
    (ds : List TWDiff) (h : threeWayDiffer cmp resolve false false base left right = some ds) (k : Bytes) :
    (∀ d ∈ ds, cmp k d.key = .eq →
      lookupKV cmp k (ds.foldl (applyTW cmp) left.flatten) = effect d (lookupKV cmp k left.flatten)) ∧
    ((∀ d ∈ ds, cmp k d.key ≠ .eq) →
      lookupKV cmp k (ds.foldl (applyTW cmp) left.flatten) = lookupKV cmp k left.flatten) := by
  have asc := (differ3_classifies ol resolve false false base left right hb hl hr sb sl sr ds h).2
  have fl := foldl_applyTW_lookup ol k ds left.flatten sl asc
  constructor
  · intro d hd hk
    rw [fl, find_of_asc_mem ol TWDiff.key k ds asc d hd hk]
  · intro hno
    have : ds.find? (fun d' => cmp k d'.key == .eq) = none := by
      rw [List.find?_eq_none]
      intro d hd
      simpa using hno d hd
    rw [fl, this]

/-- key-wise specification of the merge through the three-way differ: what a key maps to in the
merged content as a function of what it maps to in base, left and right only -/
def mergeKeyTW (resolve : ResolveCb) (b l r : Option KV) : Option KV :=
  match changeD b l, changeD b r with
  | _, none => l                                          -- right did not change the key
  | none, some er => effect (newRightEdit er) l           -- only right changed it: take right's
  | some el, some er => effect (matchEdit resolve el er) l -- both changed it: the `dsMatch` verdict

/-- Key-wise merge semantics of the three-way-differ path: for all
well-formed triples with strictly ascending contents under a lawful order and every key `k`, the
merged content maps `k` to `mergeKeyTW` of what base, left and right map `k` to: unchanged on the
right ⇒ left's mapping; changed only on the right ⇒ right's mapping (or nothing for a delete);
changed on both sides ⇒ the resolver's merged value when it resolves a modify/modify divergence,
left's mapping otherwise (convergent, conflicts, delete divergences). -/
theorem tw_merge_keywise {store} {cmp : Bytes → Bytes → Ordering} (ol : OrdLaws cmp) (resolve : ResolveCb)
    (base left right : Tree) (hb : base.WF store) (hl : left.WF store) (hr : right.WF store)
    (sb : Sorted cmp base.flatten) (sl : Sorted cmp left.flatten) (sr : Sorted cmp right.flatten)
    (ds : List TWDiff) (h : threeWayDiffer cmp resolve false false base left right = some ds) (k : Bytes) :
    lookupKV cmp k (ds.foldl (applyTW cmp) left.flatten) =
      mergeKeyTW resolve (lookupKV cmp k base.flatten) (lookupKV cmp k left.flatten) (lookupKV cmp k right.flatten) := by
  have hds := differ3_streams ol resolve false false base left right hb hl hr ds h
  subst hds
  have a1 : AscE cmp (specDiff cmp false base.flatten left.flatten) := specDiff_ascending ol false _ _ sb sl
  have a2 : AscE cmp (specDiff cmp false base.flatten right.flatten) := specDiff_ascending ol false _ _ sb sr
  have asc := twNext_ascending ol resolve _ _ a1 a2
  -- the result for key `k` is that of the walk's tag at `k`: left's and right's change of `k`
  have hfind : (twNext cmp resolve (specDiff cmp false base.flatten left.flatten)
      (specDiff cmp false base.flatten right.flatten)).find? (fun d => cmp k d.key == .eq) =
      (tagOf (changeD (lookupKV cmp k base.flatten) (lookupKV cmp k left.flatten))
        (changeD (lookupKV cmp k base.flatten) (lookupKV cmp k right.flatten))).map (twOf resolve) := by
    rw [Option.map_eq_bind]
    refine find_at_key ol TWDiff.key k asc ?_
    rw [twNext_eq_walk, ← List.filterMap_eq_map]
    exact filterMap_walk_at_key ol a1 a2 (specDiff_at_key ol sb sl k) (specDiff_at_key ol sb sr k) _ _ (twOf_key resolve)
  rw [foldl_applyTW_lookup ol k _ _ sl asc, hfind]
  unfold mergeKeyTW
  cases changeD (lookupKV cmp k base.flatten) (lookupKV cmp k left.flatten) <;>
    cases changeD (lookupKV cmp k base.flatten) (lookupKV cmp k right.flatten)
  · rfl
  · rfl
  · exact effect_left _ _
  · rfl

/-- a key whose three-way verdict is a conflict (delete conflict or clash
conflict — the resolver said "not ok") keeps exactly left's mapping in the merged content; so do
left-only and convergent changes. -/
theorem conflict_keeps_left {store} {cmp : Bytes → Bytes → Ordering} (ol : OrdLaws cmp) (resolve : ResolveCb)
    (base left right : Tree) (hb : base.WF store) (hl : left.WF store) (hr : right.WF store)
    (sb : Sorted cmp base.flatten) (sl : Sorted cmp left.flatten) (sr : Sorted cmp right.flatten)
    (ds : List TWDiff) (h : threeWayDiffer cmp resolve false false base left right = some ds)
    (d : TWDiff) (hd : d ∈ ds) (k : Bytes) (hk : cmp k d.key = .eq)
    (hop : d.op = .divergentDeleteConflict ∨ d.op = .divergentModifyConflict ∨ d.op = .divergentDeleteResolved ∨
      d.op = .leftAdd ∨ d.op = .leftModify ∨ d.op = .leftDelete ∨
      d.op = .convergentAdd ∨ d.op = .convergentModify ∨ d.op = .convergentDelete) :
    lookupKV cmp k (ds.foldl (applyTW cmp) left.flatten) = lookupKV cmp k left.flatten := by
  rw [(tw_merge_lookup ol resolve base left right hb hl hr sb sl sr ds h k).1 d hd hk]
  unfold effect
  rcases hop with h | h | h | h | h | h | h | h | h <;> simp [h]

/-- the verdict is a conflict exactly when the resolver refuses (both sides changed the key to
different results): then no merged value is produced -/
theorem conflict_iff_resolver_refuses (resolve : ResolveCb) (l r : Event) (hl : l.to? ≠ none) (hr : r.to? ≠ none)
    (hne : ¬ (l.type = r.type ∧ l.to? = r.to?)) :
    (matchEdit resolve l r).op = .divergentModifyConflict ↔ resolve l.to? r.to? l.from? = none := by
  have := (match_verdicts resolve l r).2.2.2 ⟨hl, hr, hne⟩
  rw [this.1]
  cases resolve l.to? r.to? l.from? <;> simp

theorem content_determined_by_lookups {cmp : Bytes → Bytes → Ordering} (ol : OrdLaws cmp) {a b : List KV}
    (sa : Sorted cmp a) (sb : Sorted cmp b) (h : ∀ k, lookupKV cmp k a = lookupKV cmp k b) : a = b :=
  sorted_ext ol sa sb h

/-- the two key-wise specifications agree when both handlers always report a conflict, as soon as
base and right spell the key with the same bytes -/
theorem spec_paths_agree (b l r : Option KV) (hbr : ∀ a ∈ b, ∀ y ∈ r, a.1 = y.1) :
    (mergeKey (fun _ _ => none) b l r).1 = mergeKeyTW (fun _ _ _ => none) b l r := by
  unfold mergeKey mergeKeyTW
  cases hcr : changeOf b r with
  | none =>
    have : changeD b r = none := (changeD_none_iff b r).mpr hcr
    rw [this]
  | some er =>
    have hd : ∃ er', changeD b r = some er' := by
      cases hx : changeD b r with
      | none => rw [(changeD_none_iff b r).mp hx] at hcr; simp at hcr
      | some e => exact ⟨e, rfl⟩
    obtain ⟨er', hdr⟩ := hd
    rw [hdr]
    cases hcl : changeOf b l with
    | some el =>
      have hdl : ∃ el', changeD b l = some el' := by
        cases hx : changeD b l with
        | none => rw [(changeD_none_iff b l).mp hx] at hcl; simp at hcl
        | some e => exact ⟨e, rfl⟩
      obtain ⟨el', hdl⟩ := hdl
      rw [hdl]
      simp only [effect_matchEdit_conflict]
      split <;> rfl
    | none =>
      have : changeD b l = none := (changeD_none_iff b l).mpr hcl
      rw [this]
      simp only []
      -- only right changed the key: right's mapping, spelled with base's key bytes on the differ path
      cases b with
      | none =>
        cases r with
        | none => simp [changeD] at hdr
        | some y => simp [changeD] at hdr; subst hdr; simp [effect, newRightEdit, Event.added]
      | some a =>
        cases r with
        | none => simp [changeD] at hdr; subst hdr; simp [effect, newRightEdit, Event.removed]
        | some y =>
          have hk := hbr a (by simp) y (by simp)
          simp only [changeD] at hdr
          by_cases hv : a.2 = y.2
          · simp [hv] at hdr
          · simp [hv] at hdr; subst hdr
            simp [effect, newRightEdit, Event.modified]
            exact Prod.ext hk.symm rfl

/-- Obligation R3 of the range-patch part: applying one range patch
`(keyBelowStart, endKey] ↦ subtree` (or `↦ nothing` for a removed range) to a strictly ascending
content replaces exactly the keys of that interval by the subtree's pairs and leaves every other key
as it was. -/
theorem range_patch_lookup {cmp : Bytes → Bytes → Ordering} (ol : OrdLaws cmp) (p : Patch) (hp : p.level ≠ 0) {l : List KV} (sl : Sorted cmp l)
    (ins : List KV) (hto : ins = match p.to? with | some (.sub _ t) => t.flatten | _ => [])
    (hlohi : ∀ a, p.keyBelowStart = some a → cmp a p.endKey ≠ .gt)
    (hins : ∀ x ∈ ins, (∀ a, p.keyBelowStart = some a → cmp a x.1 = .lt) ∧ cmp x.1 p.endKey ≠ .gt) (k : Bytes) :
    lookupKV cmp k (applyPatch cmp l p) =
      if (∀ a, p.keyBelowStart = some a → cmp a k = .lt) ∧ cmp k p.endKey ≠ .gt then lookupKV cmp k ins
      else lookupKV cmp k l := by
  subst hto
  exact range_patch_lookup' ol p hp sl hins k

/-- R3: `ApplyPatches` over any *tiled* stream of point and range
patches (`Tiles`: every patch well-formed — a range patch carries strictly ascending pairs inside
`(keyBelowStart, endKey]` —, each patch starts after the previous one ends) applied to a strictly
ascending content yields a strictly ascending content whose every key has `patchedValue`. -/
theorem apply_tiled_stream {cmp : Bytes → Bytes → Ordering} (ol : OrdLaws cmp) (ps : List Patch) (l : List KV)
    (sl : Sorted cmp l) (ht : Tiles cmp ps) :
    Sorted cmp (applyPatches cmp l ps) ∧ ∀ k, lookupKV cmp k (applyPatches cmp l ps) = patchedValue cmp ps l k :=
  apply_tiled ol ps l sl ht

/-- R3 as consumer: a stream that denotes the merge, applied by
`ApplyPatches`, gives exactly the key-wise merge. -/
theorem patch_merge_refines_of_stream {cmp : Bytes → Bytes → Ordering} (ol : OrdLaws cmp) (collide : Collide) (B L R : List KV)
    (sl : Sorted cmp L) (ps : List Patch) (cs : List Collision) (h : StreamDenotesMerge cmp collide B L R ps cs) :
    Sorted cmp (applyPatches cmp L ps) ∧
    (∀ k, lookupKV cmp k (applyPatches cmp L ps) = (mergeKey collide (lookupKV cmp k B) (lookupKV cmp k L) (lookupKV cmp k R)).1) ∧
    (∀ c, c ∈ cs ↔ ∃ k, (mergeKey collide (lookupKV cmp k B) (lookupKV cmp k L) (lookupKV cmp k R)).2 = some c) ∧
    cs.Pairwise (fun c1 c2 => cmp c1.left.key c2.left.key = .lt) := by
  obtain ⟨s1, s2⟩ := apply_tiled_stream ol ps L sl h.tiles
  exact ⟨s1, fun k => by rw [s2 k, h.value k], h.coll, h.collAsc⟩

theorem R1_leaf_points {cmp : Bytes → Bytes → Ordering} (ol : OrdLaws cmp) (fuel : Nat) (kb kx : List KV)
    (sb : Sorted cmp kb) (sx : Sorted cmp kx) (d : PG) (hd : pgFromRoots (.leaf kb) (.leaf kx) = .ok d)
    (store : Addr → Option Tree := fun _ => none) :
    ∃ Inv, GenSound cmp store fuel kb kx Inv ∧ Inv d .start ∧ ∀ d p t, Inv d (.at p t) → p.level = 0 :=
  ⟨LeafInv cmp kb kx, leaf_genSound ol store fuel sb sx, pgFromRoots_leaf kb kx d hd, fun _ _ _ => LeafInv.level⟩

/-- R1 for the leaf-patch-only generator: for sorted
single-leaf `base`, `x` the generator built by `PatchGeneratorFromRoots` has a sound invariant — so the
`GenSound` interface is satisfiable. -/
theorem R1_leaf {cmp : Bytes → Bytes → Ordering} (ol : OrdLaws cmp) (fuel : Nat) (kb kx : List KV)
    (sb : Sorted cmp kb) (sx : Sorted cmp kx) (d : PG) (hd : pgFromRoots (.leaf kb) (.leaf kx) = .ok d)
    (store : Addr → Option Tree := fun _ => none) :
    ∃ Inv, GenSound cmp store fuel kb kx Inv ∧ Inv d .start :=
  let ⟨Inv, g, i, _⟩ := R1_leaf_points ol fuel kb kx sb sx d hd store
  ⟨Inv, g, i⟩

/-- R1 and R2 composed for the leaf-patch-only generator: for sorted single-leaf trees the
stream `SendPatches` emits is `StreamDenotesMerge`.  No byte-exact key order is assumed: `R2Ctx.spelled` holds because
right's generator emits point patches only (`R1_leaf_points`, `spelled_of_points`). -/
theorem stream_denotes_merge_leaf {cmp : Bytes → Bytes → Ordering} (ol : OrdLaws cmp) (collide : Collide) (kb kl kr : List KV)
    (sb : Sorted cmp kb) (sl : Sorted cmp kl) (sr : Sorted cmp kr)
    (content : List KV) (ps : List Patch) (cs : List Collision)
    (h : threeWayMerge cmp collide (.leaf kb) (.leaf kl) (.leaf kr) = .ok (content, ps, cs)) :
    StreamDenotesMerge cmp collide kb kl kr ps cs := by
  obtain ⟨ld, rd, h1, h2, h3, _⟩ := threeWayMerge_ok h
  obtain ⟨InvL, gl, il, _⟩ := R1_leaf_points ol (mergeFuel (.leaf kb) (.leaf kl) (.leaf kr)) kb kl sb sl ld h1
  obtain ⟨InvR, gr, ir, hpts⟩ := R1_leaf_points ol (mergeFuel (.leaf kb) (.leaf kl) (.leaf kr)) kb kr sb sr rd h2
  exact sendPatches_value ⟨ol, collide, _, _, kb, kl, kr, sb, sl, sr, InvL, InvR, gl, gr,
    fun _ _ _ _ hi hc _ h2 => spelled_of_points ol sb sr gr hpts hi hc h2⟩ ld rd il ir ps cs h3

/-- for all sorted single-leaf (base, left, right) — the
two `PatchGenerator`s then only produce point patches — and every collision handler, every run of
`ThreeWayMerge` (`PatchGeneratorFromRoots` ×2 → `SendPatches` with `getNextAndSplitIfAtEnd` →
`ApplyPatches`) that stays within its fuel returns

* a strictly ascending content in which every key `k` maps to `mergeKey` of what base, left and
  right map `k` to (`sorted_ext`: this determines the content uniquely, it *is* the key-wise merge):
  right-only changes applied, identical changes kept, differently changed keys resolved by the
  handler, left's value kept on a conflict;
* exactly the collisions the key-wise specification prescribes — `c` is handed to the handler iff
  some key is changed on both sides to different results with `c` as the pair of changes —, each
  once, in ascending key order;
* point patches only (the stream is `sendSpec` of the two merge walks: `threeWayMerge_leaf`). -/
theorem patch_merge_refines_leaf {cmp : Bytes → Bytes → Ordering} (ol : OrdLaws cmp) (collide : Collide) (kb kl kr : List KV)
    (sb : Sorted cmp kb) (sl : Sorted cmp kl) (sr : Sorted cmp kr)
    (content : List KV) (ps : List Patch) (cs : List Collision)
    (h : threeWayMerge cmp collide (.leaf kb) (.leaf kl) (.leaf kr) = .ok (content, ps, cs)) :
    Sorted cmp content ∧
    (∀ k, lookupKV cmp k content = (mergeKey collide (lookupKV cmp k kb) (lookupKV cmp k kl) (lookupKV cmp k kr)).1) ∧
    (∀ c, c ∈ cs ↔ ∃ k, (mergeKey collide (lookupKV cmp k kb) (lookupKV cmp k kl) (lookupKV cmp k kr)).2 = some c) ∧
    cs.Pairwise (fun c1 c2 => cmp c1.left.key c2.left.key = .lt) ∧
    (∀ p ∈ ps, p.level = 0) := by
  obtain ⟨h1, h2, h3, h4⟩ := patch_merge_refines_of_stream ol collide kb kl kr sl ps cs
    (stream_denotes_merge_leaf ol collide kb kl kr sb sl sr content ps cs h)
  obtain ⟨hps, rfl⟩ := threeWayMerge_leaf ol.refl collide kb kl kr content ps cs h
  have e : ps = _ := congrArg Prod.fst hps
  exact ⟨h1, h2, h3, h4, e ▸ sendSpec_level collide _ _⟩

/-- for sorted single-leaf (base, left, right) under a byte-exact key order
(keys that compare equal are equal) and conflict-reporting handlers on both interfaces, the
patch-based merge and the three-way differ's edits applied to left produce the same map. -/
theorem merge_paths_agree_leaf {cmp : Bytes → Bytes → Ordering} (ol : OrdLaws cmp) (hexact : ∀ a b, cmp a b = .eq → a = b)
    (kb kl kr : List KV) (sb : Sorted cmp kb) (sl : Sorted cmp kl) (sr : Sorted cmp kr)
    (content : List KV) (ps : List Patch) (cs : List Collision) (ds : List TWDiff)
    (h1 : threeWayMerge cmp (fun _ _ => none) (.leaf kb) (.leaf kl) (.leaf kr) = .ok (content, ps, cs))
    (h2 : threeWayDiffer cmp (fun _ _ _ => none) false false (.leaf kb) (.leaf kl) (.leaf kr) = some ds) :
    content = ds.foldl (applyTW cmp) kl := by
  obtain ⟨sc, hlook, _⟩ := patch_merge_refines_leaf ol _ kb kl kr sb sl sr content ps cs h1
  have store : Addr → Option Tree := fun _ => none
  have wb : (Tree.leaf kb).WF store := by simpa [Tree.WF] using sorted_nodup ol sb
  have wl : (Tree.leaf kl).WF store := by simpa [Tree.WF] using sorted_nodup ol sl
  have wr : (Tree.leaf kr).WF store := by simpa [Tree.WF] using sorted_nodup ol sr
  have asc := (differ3_classifies ol _ false false _ _ _ wb wl wr sb sl sr ds h2).2
  have stw : Sorted cmp (ds.foldl (applyTW cmp) kl) := foldl_applyTW_sorted ol ds kl sl
  apply sorted_ext ol sc stw
  intro k
  have tw := tw_merge_keywise ol _ _ _ _ wb wl wr sb sl sr ds h2 k
  simp only [Tree.flatten] at tw
  rw [hlook k, tw]
  apply spec_paths_agree
  intro a ha y hy
  simp at ha hy
  have h1 := (lookup_some_iff ol k sb a).mp ha
  have h2 := (lookup_some_iff ol k sr y).mp hy
  exact hexact _ _ (ol.eq_trans (ol.eq_symm h1.2) h2.2)

/-- R1 as a hypothesis: the generator `PatchGeneratorFromRoots base x` is sound across level
changes — there is an invariant, holding initially, that is `GenSound`.  It holds for single-leaf
trees (`R1_leaf`) and for the empty base (`R1_empty_base`); as stated, for all trees, it is false
(`R1_GeneratorSound_false`). -/
def R1_GeneratorSound (cmp : Bytes → Bytes → Ordering) : Prop :=
  ∀ (store : Addr → Option Tree) (fuel : Nat) (base x : Tree) (d : PG),
    base.WF store → x.WF store → base.KeysOK → x.KeysOK → Sorted cmp base.flatten → Sorted cmp x.flatten →
    pgFromRoots base x = .ok d →
    ∃ Inv, GenSound cmp store fuel base.flatten x.flatten Inv ∧ Inv d .start

/-- over two generators with `GenSound` invariants and a byte-exact
key order, `SendPatches` (all four level combinations: the interval tests, the same-`To` shortcut,
split-first / split-both, `getNextAndSplitIfAtEnd`, the final drain) emits a stream that denotes the
key-wise merge: it is tiled, gives every key the merge's value, and hands the handler exactly the
merge's collisions in ascending key order.  Loop invariant (`J` in `Lemmas/ProllyMergeSendR2`, key by key `At` in
`Lemmas/ProllyMergeSendKey`): what has been sent is tiled and ends before right's current patch; at and
after the start of left's current patch nothing sent changes left's mapping; every key below both
current patches has the merge's value and its collision (if any) has been handed out; a key in
`[rightStart, leftStart)` was not changed by left or changed to what right has (so the merge is right's mapping),
a key in `[leftStart, rightStart)` likewise with the sides exchanged (the merge is left's), with no collision in either.
The byte-exact order is used only where a right range patch rewrites a key neither side changed. -/
theorem R2_SendPatchesSound {cmp : Bytes → Bytes → Ordering} (ol : OrdLaws cmp) (hexact : ∀ a b, cmp a b = .eq → a = b)
    (collide : Collide) (store : Addr → Option Tree) (fuel : Nat) (B L R : List KV) (ld rd : PG)
    (InvL InvR : PG → GenPos → Prop) (ps : List Patch) (cs : List Collision)
    (sb : Sorted cmp B) (sl : Sorted cmp L) (sr : Sorted cmp R)
    (gl : GenSound cmp store fuel B L InvL) (gr : GenSound cmp store fuel B R InvR)
    (hil : InvL ld .start) (hir : InvR rd .start)
    (h : sendPatches cmp collide fuel ld rd = .ok (ps, cs)) :
    StreamDenotesMerge cmp collide B L R ps cs :=
  sendPatches_value ⟨ol, collide, store, fuel, B, L, R, sb, sl, sr, InvL, InvR, gl, gr,
    fun _ _ _ _ _ _ => spelled_of_exact ol hexact sb sl sr⟩ ld rd hil hir ps cs h

/-- The `GenSound` interface of R2 is inhabited and the two parts compose: feeding the invariants `R1_leaf` constructs into the general `R2_SendPatchesSound` gives
`StreamDenotesMerge` for every `SendPatches` run over generators of sorted single-leaf trees. -/
theorem R2_over_R1_leaf {cmp : Bytes → Bytes → Ordering} (ol : OrdLaws cmp) (hexact : ∀ a b, cmp a b = .eq → a = b)
    (collide : Collide) (fuel : Nat) (kb kl kr : List KV)
    (sb : Sorted cmp kb) (sl : Sorted cmp kl) (sr : Sorted cmp kr) (ld rd : PG)
    (hld : pgFromRoots (.leaf kb) (.leaf kl) = .ok ld) (hrd : pgFromRoots (.leaf kb) (.leaf kr) = .ok rd)
    (ps : List Patch) (cs : List Collision) (h : sendPatches cmp collide fuel ld rd = .ok (ps, cs)) :
    StreamDenotesMerge cmp collide kb kl kr ps cs := by
  obtain ⟨InvL, gl, il⟩ := R1_leaf ol fuel kb kl sb sl ld hld
  obtain ⟨InvR, gr, ir⟩ := R1_leaf ol fuel kb kr sb sr rd hrd
  exact R2_SendPatchesSound ol hexact collide _ fuel kb kl kr ld rd InvL InvR ps cs sb sl sr gl gr il ir h

/-- The interval tests of R2, on their own: the comparisons the range branches of
`SendPatches` make decide interval overlap correctly — `left.EndKey ≤ right.KeyBelowStart` (nil as
minimum) ⇒ no key of left's interval lies in right's; a point key `x` against a range patch:
`x ≤ KeyBelowStart` ⇒ outside, `x > EndKey` ⇒ outside, otherwise inside (so the range must be split);
equal `To` addresses ⇒ equal pairs (content addressing). -/
theorem sendPatches_interval_tests {cmp : Bytes → Bytes → Ordering} (ol : OrdLaws cmp) :
    (∀ (l r : Patch), r.level ≠ 0 → ordLE (cmpNilMin cmp (some l.endKey) r.keyBelowStart) = true →
      ∀ k, l.covers cmp k = true → r.covers cmp k = false) ∧
    (∀ (x : Bytes) (r : Patch), r.level ≠ 0 →
      (ordLE (cmpNilMin cmp (some x) r.keyBelowStart) = true → r.covers cmp x = false) ∧
      (cmp x r.endKey = .gt → r.covers cmp x = false) ∧
      (ordLE (cmpNilMin cmp (some x) r.keyBelowStart) = false → cmp x r.endKey ≠ .gt → r.covers cmp x = true)) ∧
    (∀ (store : Addr → Option Tree) (a b : Addr) (ta tb : Tree), store a = some ta → store b = some tb →
      (PVal.sub a ta).beq (PVal.sub b tb) = true → ta.flatten = tb.flatten) :=
  ⟨fun _ _ hr h _ hl => disjoint_of_end_le_start ol hr h hl,
   fun x _ hr => point_range_decision ol x hr,
   fun _ _ _ _ _ ha hb h => same_address_same_pairs ha hb h⟩

/-- the full statement for one triple follows from `GenSound` invariants
for the two generators of that triple (R2 and R3 are proved). -/
theorem patch_merge_refines_of_gens {cmp : Bytes → Bytes → Ordering} (ol : OrdLaws cmp) (hexact : ∀ a b, cmp a b = .eq → a = b)
    (collide : Collide) (store : Addr → Option Tree) (base left right : Tree)
    (sb : Sorted cmp base.flatten) (sl : Sorted cmp left.flatten) (sr : Sorted cmp right.flatten)
    (gl : ∀ fuel ld, pgFromRoots base left = .ok ld → ∃ Inv, GenSound cmp store fuel base.flatten left.flatten Inv ∧ Inv ld .start)
    (gr : ∀ fuel rd, pgFromRoots base right = .ok rd → ∃ Inv, GenSound cmp store fuel base.flatten right.flatten Inv ∧ Inv rd .start)
    (content : List KV) (ps : List Patch) (cs : List Collision)
    (h : threeWayMerge cmp collide base left right = .ok (content, ps, cs)) :
    Sorted cmp content ∧
    (∀ k, lookupKV cmp k content =
      (mergeKey collide (lookupKV cmp k base.flatten) (lookupKV cmp k left.flatten) (lookupKV cmp k right.flatten)).1) ∧
    (∀ c, c ∈ cs ↔ ∃ k, (mergeKey collide (lookupKV cmp k base.flatten) (lookupKV cmp k left.flatten)
      (lookupKV cmp k right.flatten)).2 = some c) ∧
    cs.Pairwise (fun c1 c2 => cmp c1.left.key c2.left.key = .lt) := by
  obtain ⟨ld, rd, h1, h2, h3, rfl⟩ := threeWayMerge_ok h
  obtain ⟨InvL, gl', il⟩ := gl (mergeFuel base left right) ld h1
  obtain ⟨InvR, gr', ir⟩ := gr (mergeFuel base left right) rd h2
  exact patch_merge_refines_of_stream ol collide _ _ _ sl ps cs
    (R2_SendPatchesSound ol hexact collide store (mergeFuel base left right) base.flatten left.flatten
      right.flatten ld rd InvL InvR ps cs sb sl sr gl' gr' il ir h3)

/-- The patch-merge statement (content = key-wise merge at every key,
collisions = the specification's in key order) for ALL well-formed trees under a byte-exact key order
follows from R1 alone — R2 (`R2_SendPatchesSound`) and R3 (`apply_tiled_stream`) are proved. -/
theorem patch_merge_refines_of_R1 {cmp : Bytes → Bytes → Ordering} (ol : OrdLaws cmp) (hexact : ∀ a b, cmp a b = .eq → a = b)
    (collide : Collide) (r1 : R1_GeneratorSound cmp)
    (store : Addr → Option Tree) (base left right : Tree)
    (hb : base.WF store) (hl : left.WF store) (hr : right.WF store)
    (kb : base.KeysOK) (kl : left.KeysOK) (kr : right.KeysOK)
    (sb : Sorted cmp base.flatten) (sl : Sorted cmp left.flatten) (sr : Sorted cmp right.flatten)
    (content : List KV) (ps : List Patch) (cs : List Collision)
    (h : threeWayMerge cmp collide base left right = .ok (content, ps, cs)) :
    Sorted cmp content ∧
    (∀ k, lookupKV cmp k content =
      (mergeKey collide (lookupKV cmp k base.flatten) (lookupKV cmp k left.flatten) (lookupKV cmp k right.flatten)).1) ∧
    (∀ c, c ∈ cs ↔ ∃ k, (mergeKey collide (lookupKV cmp k base.flatten) (lookupKV cmp k left.flatten)
      (lookupKV cmp k right.flatten)).2 = some c) ∧
    cs.Pairwise (fun c1 c2 => cmp c1.left.key c2.left.key = .lt) :=
  patch_merge_refines_of_gens ol hexact collide store base left right sb sl sr
    (fun fuel ld h1 => r1 store fuel base left ld hb hl kb kl sb sl h1)
    (fun fuel rd h2 => r1 store fuel base right rd hb hr kb kr sb sr h2) content ps cs h

/-- R1 for the empty base and a tree of ANY height: the generator built by
`PatchGeneratorFromRoots` for `empty → x` has a `GenSound` invariant.  The `to` cursor is an in-bounds path
in `x`; with `x.flatten = D ++ I ++ A` (pairs before / of / after the cursor's current item) a patch at
level > 0 is `(lastKey D, key] ↦ item subtree` (its address resolves in the store, its last key is the slot
key), at level 0 the item's pair; `Next` climbs while at a node's end and advances (`D := D ++ I`, nothing of
`x` lies between), `split` pushes the item's child (`D` unchanged) — at every level, so nested splits of
range patches into lower range patches are covered. -/
theorem R1_empty_base {cmp : Bytes → Bytes → Ordering} (ol : OrdLaws cmp) (store : Addr → Option Tree) (fuel : Nat)
    (x : Tree) (hx : x.WF store) (kx : x.KeysOK) (sx : Sorted cmp x.flatten) (d : PG)
    (hd : pgFromRoots (.leaf []) x = .ok d) :
    ∃ Inv, GenSound cmp store fuel (Tree.leaf []).flatten x.flatten Inv ∧ Inv d .start := by
  by_cases hc : x.count = 0
  · cases x with
    | node cs =>
      simp only [Tree.WF] at hx
      simp only [Tree.count] at hc
      exact absurd (List.length_eq_zero_iff.mp hc) hx.1
    | leaf kvs =>
      simp only [Tree.flatten] at sx ⊢
      exact R1_leaf ol fuel [] kvs (by simp [Sorted]) sx d hd store
  · have hpos : 0 < x.count := Nat.pos_of_ne_zero hc
    refine ⟨AddInvN x, ?_, ?_⟩
    · simp only [Tree.flatten]
      exact addN_genSound ol hx kx sx hpos fuel
    · have h0 : (Tree.leaf ([] : List KV)).count = 0 := rfl
      simp [pgFromRoots, h0, hc, descendTo, level, bind, Except.bind, pure, Except.pure] at hd
      exact hd.symm

/-- `R1_empty_base` for `x` of height ≤ 1 (a leaf, or a root of leaf
children) — the smallest class with RANGE patches: one level-1 added range per root slot with `keyBelowStart` =
the last key below the previous slots, `split` descends into the slot's leaf and emits its pairs as point
patches, `Next` at a leaf's last pair climbs back to the root slot after it. -/
theorem R1_empty_base_height1 {cmp : Bytes → Bytes → Ordering} (ol : OrdLaws cmp) (store : Addr → Option Tree) (fuel : Nat)
    (x : Tree) (hx : x.WF store) (kx : x.KeysOK) (sx : Sorted cmp x.flatten) (hh : x.height ≤ 1) (d : PG)
    (hd : pgFromRoots (.leaf []) x = .ok d) :
    ∃ Inv, GenSound cmp store fuel (Tree.leaf []).flatten x.flatten Inv ∧ Inv d .start :=
  R1_empty_base ol store fuel x hx kx sx d hd

/-- Unconditional, all heights: for the empty base and ANY two
well-formed sorted trees, under a byte-exact key order, `ThreeWayMerge` (two range-patch generators,
`SendPatches` with all its range branches, `ApplyPatches`) returns a strictly ascending content that maps
every key to the key-wise merge, and hands the handler exactly the merge's collisions in key order. -/
theorem patch_merge_refines_empty_base {cmp : Bytes → Bytes → Ordering} (ol : OrdLaws cmp)
    (hexact : ∀ a b, cmp a b = .eq → a = b) (collide : Collide) (store : Addr → Option Tree) (left right : Tree)
    (hl : left.WF store) (hr : right.WF store) (kl : left.KeysOK) (kr : right.KeysOK)
    (sl : Sorted cmp left.flatten) (sr : Sorted cmp right.flatten)
    (content : List KV) (ps : List Patch) (cs : List Collision)
    (h : threeWayMerge cmp collide (.leaf []) left right = .ok (content, ps, cs)) :
    Sorted cmp content ∧
    (∀ k, lookupKV cmp k content =
      (mergeKey collide (lookupKV cmp k (Tree.leaf []).flatten) (lookupKV cmp k left.flatten) (lookupKV cmp k right.flatten)).1) ∧
    (∀ c, c ∈ cs ↔ ∃ k, (mergeKey collide (lookupKV cmp k (Tree.leaf []).flatten) (lookupKV cmp k left.flatten)
      (lookupKV cmp k right.flatten)).2 = some c) ∧
    cs.Pairwise (fun c1 c2 => cmp c1.left.key c2.left.key = .lt) :=
  patch_merge_refines_of_gens ol hexact collide store (.leaf []) left right (by simp [Sorted, Tree.flatten]) sl sr
    (fun fuel ld h1 => R1_empty_base ol store fuel left hl kl sl ld h1)
    (fun fuel rd h2 => R1_empty_base ol store fuel right hr kr sr rd h2) content ps cs h

/-- Unconditional: for the empty base and ANY two
well-formed sorted trees of height ≤ 1 (range patches, splits, the same-`To` shortcut and collisions all
occur), under a byte-exact key order, `ThreeWayMerge` returns a strictly ascending content that maps every
key to the key-wise merge, and hands the handler exactly the merge's collisions in key order. -/
theorem patch_merge_refines_empty_base_height1 {cmp : Bytes → Bytes → Ordering} (ol : OrdLaws cmp)
    (hexact : ∀ a b, cmp a b = .eq → a = b) (collide : Collide) (store : Addr → Option Tree) (left right : Tree)
    (hl : left.WF store) (hr : right.WF store) (kl : left.KeysOK) (kr : right.KeysOK)
    (sl : Sorted cmp left.flatten) (sr : Sorted cmp right.flatten) (hhl : left.height ≤ 1) (hhr : right.height ≤ 1)
    (content : List KV) (ps : List Patch) (cs : List Collision)
    (h : threeWayMerge cmp collide (.leaf []) left right = .ok (content, ps, cs)) :
    Sorted cmp content ∧
    (∀ k, lookupKV cmp k content =
      (mergeKey collide (lookupKV cmp k (Tree.leaf []).flatten) (lookupKV cmp k left.flatten) (lookupKV cmp k right.flatten)).1) ∧
    (∀ c, c ∈ cs ↔ ∃ k, (mergeKey collide (lookupKV cmp k (Tree.leaf []).flatten) (lookupKV cmp k left.flatten)
      (lookupKV cmp k right.flatten)).2 = some c) ∧
    cs.Pairwise (fun c1 c2 => cmp c1.left.key c2.left.key = .lt) :=
  patch_merge_refines_empty_base ol hexact collide store left right hl hr kl kr sl sr content ps cs h

/-- R1 restricted to well-formed trees of
height ≤ 1 with an arbitrary base; false (`R1_height1_false`).  True instances: `R1_leaf` (both trees a single leaf), `R1_empty_base`
(empty base, any height).  For a non-empty base against a root of leaf children it is FALSE for the code as
transliterated (and the real code behaves the same, design/C14.md "second defect"): after a modified range
that ends at `to`'s last key, `advanceFromPreviousPatch` sends a removed range although the `from` node
straddles `previousKey`, and `split` of a removed range does not skip the keys ≤ `previousKey`.  It would hold
for the repaired `split` (design/C14-dataloss-fix-candidate.diff). -/
def R1_height1 (cmp : Bytes → Bytes → Ordering) : Prop :=
  ∀ (store : Addr → Option Tree) (fuel : Nat) (base x : Tree) (d : PG),
    base.WF store → x.WF store → base.KeysOK → x.KeysOK → Sorted cmp base.flatten → Sorted cmp x.flatten →
    base.height ≤ 1 → x.height ≤ 1 →
    pgFromRoots base x = .ok d →
    ∃ Inv, GenSound cmp store fuel base.flatten x.flatten Inv ∧ Inv d .start

/-- for trees of height ≤ 1 the full statement follows from
`R1_height1` alone. -/
theorem patch_merge_refines_height1_of_R1h1 {cmp : Bytes → Bytes → Ordering} (ol : OrdLaws cmp)
    (hexact : ∀ a b, cmp a b = .eq → a = b) (collide : Collide) (r1 : R1_height1 cmp)
    (store : Addr → Option Tree) (base left right : Tree)
    (hb : base.WF store) (hl : left.WF store) (hr : right.WF store)
    (kb : base.KeysOK) (kl : left.KeysOK) (kr : right.KeysOK)
    (sb : Sorted cmp base.flatten) (sl : Sorted cmp left.flatten) (sr : Sorted cmp right.flatten)
    (hhb : base.height ≤ 1) (hhl : left.height ≤ 1) (hhr : right.height ≤ 1)
    (content : List KV) (ps : List Patch) (cs : List Collision)
    (h : threeWayMerge cmp collide base left right = .ok (content, ps, cs)) :
    Sorted cmp content ∧
    (∀ k, lookupKV cmp k content =
      (mergeKey collide (lookupKV cmp k base.flatten) (lookupKV cmp k left.flatten) (lookupKV cmp k right.flatten)).1) ∧
    (∀ c, c ∈ cs ↔ ∃ k, (mergeKey collide (lookupKV cmp k base.flatten) (lookupKV cmp k left.flatten)
      (lookupKV cmp k right.flatten)).2 = some c) ∧
    cs.Pairwise (fun c1 c2 => cmp c1.left.key c2.left.key = .lt) :=
  patch_merge_refines_of_gens ol hexact collide store base left right sb sl sr
    (fun fuel ld h1 => r1 store fuel base left ld hb hl kb kl sb sl hhb hhl h1)
    (fun fuel rd h2 => r1 store fuel base right rd hb hr kb kr sb sr hhb hhr h2) content ps cs h

/-- `R1_height1` fails for the byte order on single-byte keys — witness
base `[1,2,3,4 | 5,6,7,8]`, x `[1,2,3,4' | 5,6]` (both well-formed, key-consistent, strictly ascending, height
1): the transliterated generator emits `(_,4]`, `(4,6]`, `(6,8] removed`, and `split` of the last yields
`removed 5` although key 5 is unchanged, so no invariant satisfies `GenSound` (`Refute.no_genSound`, by
evaluation of `pgNext` ×3 and `pgSplit`). -/
theorem R1_height1_false : ¬ R1_height1 Refute.cmpB := by
  intro r1
  exact Refute.no_genSound (r1 Refute.store 6 Refute.base Refute.xx Refute.d0 Refute.wf_base Refute.wf_xx
    Refute.keys_base Refute.keys_xx Refute.sorted_base Refute.sorted_xx Refute.height_base Refute.height_xx Refute.roots)

/-- hence the unrestricted named hypothesis `R1_GeneratorSound` is
false as stated as well; `patch_merge_refines_of_R1` remains a true implication, and the unconditional
results are `patch_merge_refines_leaf` and `patch_merge_refines_empty_base`. -/
theorem R1_GeneratorSound_false : ¬ R1_GeneratorSound Refute.cmpB := fun r1 =>
  R1_height1_false fun store fuel base x d hb hx kb kx sb sx _ _ h => r1 store fuel base x d hb hx kb kx sb sx h

/-- the instrumented loop that computes the input-shape
flag of the known finding `MergeMaps/tail-truncation-data-loss` (`sendLoopF`: was `split` called on a removed
range whose `from` child starts at or below `previousKey`?) goes through exactly the states of the
transliterated `SendPatches` loop — the flag is a statement about the unchanged code's run on that input. -/
theorem straddle_flag_loop_is_sendPatches_loop (cmp : Bytes → Bytes → Ordering) (collide : Collide) (fuel n : Nat) (s : SP) (fl : Bool) :
    (sendLoopF cmp collide fuel n s fl).map (·.1) = sendLoop cmp collide fuel n s := by
  -- Both bodies are the same tree of tests with `step >>= loop n` at every leaf, so no case of the body is
  -- looked at: dropping the flag is pushed through the tests (`apply_ite`) and the steps (`map_bind_M`) down to the
  -- recursive calls, where it is the induction hypothesis.
  induction n generalizing s fl with
  | zero => rfl
  | succ n ih =>
    unfold sendLoopF sendLoop
    rcases s.left with _ | ⟨left, lt⟩
    · rfl
    rcases s.right with _ | ⟨right, rt⟩
    · rfl
    simp only [apply_ite (Except.map _), map_bind_M, ih]
    cases cmp left.endKey right.endKey <;> simp only [map_bind_M, ih]

/-- the full refinement of the chunk-level patch merge (range patches, splits) to the key-wise
specification, up to the bytes of keys that compare equal (a side that only re-cases a key has not
changed it, but a range patch carries its bytes along).  NOT proved; the `prollymerge` harness
compares, on every generated triple, the model's patch stream with the real `SendPatches` stream
patch by patch, the model's merged content with the real merged map and with `merge3Lists`, and the
collision calls with the spec's. -/
def patch_merge_refines_full : Prop :=
  ∀ (store : Addr → Option Tree) (cmp : Bytes → Bytes → Ordering) (collide : Collide) (base left right : Tree),
    OrdLaws cmp → (∀ a b, cmp a b = .eq → a = b) →
    base.WF store → left.WF store → right.WF store → base.KeysOK → left.KeysOK → right.KeysOK →
    Sorted cmp base.flatten → Sorted cmp left.flatten → Sorted cmp right.flatten →
    ∀ content ps cs, threeWayMerge cmp collide base left right = .ok (content, ps, cs) →
      (content, cs) = merge3Lists cmp collide base.flatten left.flatten right.flatten

/-- patch merge = applying the three-way differ's edits to left (for handlers that agree on both
interfaces); NOT proved, compared by the harness on the implementation and on the model. -/
def merge_paths_agree_full : Prop :=
  ∀ (store : Addr → Option Tree) (cmp : Bytes → Bytes → Ordering) (base left right : Tree),
    OrdLaws cmp → (∀ a b, cmp a b = .eq → a = b) →
    base.WF store → left.WF store → right.WF store → base.KeysOK → left.KeysOK → right.KeysOK →
    Sorted cmp base.flatten → Sorted cmp left.flatten → Sorted cmp right.flatten →
    ∀ content ps cs ds, threeWayMerge cmp (fun _ _ => none) base left right = .ok (content, ps, cs) →
      threeWayDiffer cmp (fun _ _ _ => none) false false base left right = some ds →
      content = ds.foldl (applyTW cmp) left.flatten

example : threeWayDiffer ciCompare (fun _ _ _ => none) false false C13.exA C13.exB C13.exA =
    some [newLeftEdit (Event.modified ([3], [30]) ([3], [31])), newLeftEdit (Event.added ([4], [40]))] := by
  have h1 : diffRoots ciCompare false C13.exA C13.exB = some [Event.modified ([3], [30]) ([3], [31]), Event.added ([4], [40])] := by decide
  have h2 : diffRoots ciCompare false C13.exA C13.exA = some [] := by decide
  simp [threeWayDiffer, h1, h2, twNext]

/-- a leaf-level triple with one collision (key 1 changed differently on both sides, handler reports a
conflict ⇒ left's value stays) and one right-only addition (key 2) -/
example :
    (match threeWayMerge ciCompare (fun _ _ => none) (.leaf [([1], [10])]) (.leaf [([1], [11])]) (.leaf [([1], [12]), ([2], [20])]) with
     | .ok (content, ps, cs) => decide (content = [([1], [11]), ([2], [20])]) && ps.length == 1 && cs.length == 1
     | .error _ => false) = true := by
  decide

end DoltVerif.C14
