import DoltVerif.Lemmas.ValCodecKeys
import DoltVerif.Lemmas.ValCodecDate
import DoltVerif.Lemmas.ValCodecDecimal
/-!
C15 — Tuple encodings round-trip and sort like the SQL values they encode.
Statements are about `Model/ValCodec.lean`, a transliteration of `go/store/val` tied to the Go source by
`Tie/ValCodec.lean` (regenerated constants, size table, compare dispatch) and by the `valcodec` correspondence harness.
-/
namespace DoltVerif.C15
open DoltVerif.ValCodec

theorem roundtrip_int8 (v : Int8) : readI8 (writeI8 v) = .ok v := readI8_writeI8 v
theorem roundtrip_uint8 (v : UInt8) : readU8 (writeU8 v) = .ok v := readU8_writeU8 v
theorem roundtrip_int16 (v : Int16) : readI16 (writeI16 v) = .ok v := readI16_writeI16 v
theorem roundtrip_uint16 (v : UInt16) : readU16 (writeU16 v) = .ok v := readU16_writeU16 v
theorem roundtrip_int32 (v : Int32) : readI32 (writeI32 v) = .ok v := readI32_writeI32 v
theorem roundtrip_uint32 (v : UInt32) : readU32 (writeU32 v) = .ok v := readU32_writeU32 v
theorem roundtrip_int64 (v : Int64) : readI64 (writeI64 v) = .ok v := readI64_writeI64 v
theorem roundtrip_uint64 (v : UInt64) : readU64 (writeU64 v) = .ok v := readU64_writeU64 v

example : readI32 (writeI32 (-2)) = .ok (-2) ∧ writeI32 (-2) = [0xfe, 0xff, 0xff, 0xff] := by decide

/-! `enum` is `uint16`; `bit64`, `set` are `uint64`; `time`, `datetime` are `int64` (µs). -/

theorem order_int8 (a b : Int8) :
    compareEnc .int8 (writeI8 a) (writeI8 b) = .ok (specCmpInt a.toInt b.toInt) :=
  compare_decoded (readI8_writeI8 a) (readI8_writeI8 b) (cmp3_i8 a b)
theorem order_uint8 (a b : UInt8) :
    compareEnc .uint8 (writeU8 a) (writeU8 b) = .ok (specCmpInt a.toNat b.toNat) :=
  compare_decoded (readU8_writeU8 a) (readU8_writeU8 b) (cmp3_u8 a b)
theorem order_int16 (a b : Int16) :
    compareEnc .int16 (writeI16 a) (writeI16 b) = .ok (specCmpInt a.toInt b.toInt) :=
  compare_decoded (readI16_writeI16 a) (readI16_writeI16 b) (cmp3_i16 a b)
theorem order_uint16 (a b : UInt16) :
    compareEnc .uint16 (writeU16 a) (writeU16 b) = .ok (specCmpInt a.toNat b.toNat) :=
  compare_decoded (readU16_writeU16 a) (readU16_writeU16 b) (cmp3_u16 a b)
theorem order_enum (a b : UInt16) :
    compareEnc .enum (writeU16 a) (writeU16 b) = .ok (specCmpInt a.toNat b.toNat) :=
  compare_decoded (readU16_writeU16 a) (readU16_writeU16 b) (cmp3_u16 a b)
theorem order_int32 (a b : Int32) :
    compareEnc .int32 (writeI32 a) (writeI32 b) = .ok (specCmpInt a.toInt b.toInt) :=
  compare_decoded (readI32_writeI32 a) (readI32_writeI32 b) (cmp3_i32 a b)
theorem order_uint32 (a b : UInt32) :
    compareEnc .uint32 (writeU32 a) (writeU32 b) = .ok (specCmpInt a.toNat b.toNat) :=
  compare_decoded (readU32_writeU32 a) (readU32_writeU32 b) (cmp3_u32 a b)
theorem order_int64 (a b : Int64) :
    compareEnc .int64 (writeI64 a) (writeI64 b) = .ok (specCmpInt a.toInt b.toInt) :=
  compare_decoded (readI64_writeI64 a) (readI64_writeI64 b) (cmp3_i64 a b)
theorem order_time (a b : Int64) :
    compareEnc .time (writeI64 a) (writeI64 b) = .ok (specCmpInt a.toInt b.toInt) :=
  compare_decoded (readI64_writeI64 a) (readI64_writeI64 b) (cmp3_i64 a b)
theorem order_datetime (a b : Int64) :
    compareEnc .datetime (writeI64 a) (writeI64 b) = .ok (specCmpInt a.toInt b.toInt) :=
  compare_decoded (readI64_writeI64 a) (readI64_writeI64 b) (cmp3_i64 a b)
theorem order_uint64 (a b : UInt64) :
    compareEnc .uint64 (writeU64 a) (writeU64 b) = .ok (specCmpInt a.toNat b.toNat) :=
  compare_decoded (readU64_writeU64 a) (readU64_writeU64 b) (cmp3_u64 a b)
theorem order_bit64 (a b : UInt64) :
    compareEnc .bit64 (writeU64 a) (writeU64 b) = .ok (specCmpInt a.toNat b.toNat) :=
  compare_decoded (readU64_writeU64 a) (readU64_writeU64 b) (cmp3_u64 a b)
theorem order_set (a b : UInt64) :
    compareEnc .set (writeU64 a) (writeU64 b) = .ok (specCmpInt a.toNat b.toNat) :=
  compare_decoded (readU64_writeU64 a) (readU64_writeU64 b) (cmp3_u64 a b)

/-- numeric order and little-endian byte order differ: 256 > 255 although `[0,1] < [255,0]` bytewise -/
example : compareEnc .uint16 (writeU16 256) (writeU16 255) = .ok .gt ∧
    bytesCompare (writeU16 256) (writeU16 255) = .lt := by decide
example : compareEnc .int32 (writeI32 (-1)) (writeI32 1) = .ok .lt := by decide

/-! ## year: one byte, offset 1901, token 255 for year 0.  Exhaustive over the whole table. -/

/-- the domain of `writeYear` -/
def yearDomain (v : Int16) : Prop := v = 0 ∨ (1901 ≤ v.toInt ∧ v.toInt ≤ 2155)

theorem year_table_write : ∀ k : Fin 255,
    (writeYear (Int16.ofNat (1901 + k.val)) >>= readYear) = .ok (Int16.ofNat (1901 + k.val)) := by
  decide +kernel

/-- decode then encode is the identity on all 256 bytes: together with `roundtrip_year` the encoding
is a bijection between the domain and the bytes -/
theorem year_table_read : ∀ b : Fin 256,
    (readYear [UInt8.ofNat b.val] >>= writeYear) = .ok [UInt8.ofNat b.val] := by decide +kernel

theorem yearDomain_cases {v : Int16} (h : yearDomain v) :
    v = 0 ∨ ∃ k : Fin 255, v = Int16.ofNat (1901 + k.val) := by
  rcases h with h | ⟨h1, h2⟩
  · exact .inl h
  · refine .inr ⟨⟨(v.toInt - 1901).toNat, by omega⟩, ?_⟩
    apply Int16.toInt_inj.1
    rw [Int16.toInt_ofNat_of_lt (by simp only []; omega)]
    simp only []; omega

theorem roundtrip_year (v : Int16) (h : yearDomain v) : (writeYear v >>= readYear) = .ok v := by
  rcases yearDomain_cases h with h | ⟨k, hk⟩
  · subst h; decide
  · rw [hk]; exact year_table_write k

/-- outside the domain `writeYear` panics (nothing is silently stored) -/
theorem writeYear_rejects (v : Int16) (h : ¬ yearDomain v) : writeYear v = .error .yearRange := by
  simp only [yearDomain, not_or, not_and, Int.not_le] at h
  have h0 : (v == 0) = false := by simpa using h.1
  have hb : (v.toInt < minYear || v.toInt > maxYear) = true := by
    simp only [Bool.or_eq_true, decide_eq_true_eq]
    unfold minYear maxYear
    omega
  simp only [writeYear, h0, hb]; rfl

theorem order_year (a b : Int16) (ha : yearDomain a) (hb : yearDomain b) :
    (do let x ← writeYear a; let y ← writeYear b; compareEnc .year x y) = .ok (specCmpInt a.toInt b.toInt) := by
  obtain ⟨x, hx, rx⟩ := bind_eq_ok (roundtrip_year a ha)
  obtain ⟨y, hy, ry⟩ := bind_eq_ok (roundtrip_year b hb)
  rw [hx, hy]
  exact compare_decoded rx ry (cmp3_i16 a b)

example : yearDomain 2024 ∧ writeYear 2024 = .ok [123] ∧ writeYear 0 = .ok [255] := by
  refine ⟨.inr (by decide), by decide, by decide⟩

theorem roundtrip_bytes (v : Bytes) : readByteString (writeByteString v) = .ok v := readByteString_write v

/-- `StringEnc`/`ByteStringEnc` compare like the byte strings they encode (the 0 terminator is not
part of the comparison: `"a" < "a\x00"`), and `bytes.Compare` is the lexicographic order
(`bytesCompare_lt_iff`, `bytesCompare_eq_iff`) -/
theorem order_string (a b : Bytes) :
    compareEnc .string (writeByteString a) (writeByteString b) = .ok (bytesCompare a b) :=
  compare_decoded (readByteString_write a) (readByteString_write b) rfl
theorem order_bytes (a b : Bytes) :
    compareEnc .bytes (writeByteString a) (writeByteString b) = .ok (bytesCompare a b) :=
  compare_decoded (readByteString_write a) (readByteString_write b) rfl
theorem bytes_order_is_lexicographic (a b : Bytes) :
    (bytesCompare a b = .lt ↔ a < b) ∧ (bytesCompare a b = .eq ↔ a = b) ∧ (bytesCompare a b = .gt ↔ b < a) :=
  ⟨bytesCompare_lt_iff, bytesCompare_eq_iff, bytesCompare_gt_iff⟩

theorem order_hash128 (a b : Bytes) (ha : a.length = 16) (hb : b.length = 16) :
    compareEnc .hash128 a b = .ok (bytesCompare a b) :=
  compare_decoded (readRaw_ok ha) (readRaw_ok hb) rfl
theorem order_addr (e : Enc) (he : e = .bytesAddr ∨ e = .commitAddr ∨ e = .stringAddr ∨ e = .jsonAddr ∨ e = .geomAddr)
    (a b : Bytes) (ha : a.length = 20) (hb : b.length = 20) :
    compareEnc e a b = .ok (bytesCompare a b) := by
  rcases he with h | h | h | h | h <;> subst h <;> exact compare_decoded (readRaw_ok ha) (readRaw_ok hb) rfl
theorem order_cell (a b : Bytes) (ha : a.length = 17) (hb : b.length = 17) :
    compareEnc .cell a b = .ok (bytesCompare a b) :=
  compare_decoded (readRaw_ok ha) (readRaw_ok hb) rfl

example : compareEnc .string (writeByteString [97]) (writeByteString [97, 0]) = .ok .lt := by decide

/-- **tuple_roundtrip**: every field of a built tuple reads back as the value it was built from
(fields past the stored count — the dropped NULL suffix and columns added later — read as NULL;
`normField` only turns the non-nil empty slice, which no encoding produces, into NULL), and the
stored count is the length without the trailing NULLs.  `newTuple fs = .ok t` holds exactly under
the size conditions `BuildOk` (`newTuple_of_ok`). -/
theorem tuple_roundtrip (fs : List Field) (t : Bytes) (h : newTuple fs = .ok t) :
    (∀ i, getField t i = .ok (normField ((fs[i]?).join))) ∧
    tupleCount t = .ok (trimNullSuffix fs).length := by
  obtain ⟨hok, rfl⟩ := newTuple_ok h
  exact ⟨getField_built fs hok, tupleCount_layout _ hok.length_lt⟩

example : newTuple [some [1], none, some [2, 3], none] = .ok [1, 2, 3, 1, 0, 1, 0, 3, 0] ∧
    getField [1, 2, 3, 1, 0, 1, 0, 3, 0] 2 = .ok (some [2, 3]) ∧
    getField [1, 2, 3, 1, 0, 1, 0, 3, 0] 1 = .ok none := by decide +kernel

/-- the field list a tuple is built from determines it only up to trailing NULLs … -/
theorem tuple_canonical (fs gs : List Field) (h : trimNullSuffix fs = trimNullSuffix gs) :
    newTuple fs = newTuple gs := by
  unfold newTuple; rw [h]

/-- … in particular appending NULL columns does not change a single byte -/
theorem tuple_trailing_nulls (fs : List Field) (k : Nat) :
    newTuple (fs ++ List.replicate k none) = newTuple fs :=
  tuple_canonical _ _ (trim_append_replicate fs k)

/-- no field is the non-nil empty slice (true of every field written by a `Put*` of an encoding:
`encoding_nonempty` below) -/
def NonEmptyFields (fs : List Field) : Prop := ∀ f ∈ fs, f ≠ some []

theorem getField_nonEmpty {fs : List Field} {t : Bytes} (h : newTuple fs = .ok t) (hf : NonEmptyFields fs)
    (i : Nat) : getField t i = .ok ((fs[i]?).join) := by
  rw [(tuple_roundtrip fs t h).1 i, normField_id]
  exact fun e => hf _ (List.mem_of_getElem? (Option.join_eq_some_iff.1 e)) rfl

/-- **canonical form**: two tuples built without non-nil empty slices (`NonEmptyFields`) that *read*
the same (every field, through `GetField`) are the same bytes — however they were built (`NewTuple`,
`TupleBuilder.Build/BuildPermissive`, any put order, any number of trailing NULL columns). -/
theorem tuple_canonical_decode (fs gs : List Field) (s t : Bytes)
    (hs : newTuple fs = .ok s) (ht : newTuple gs = .ok t)
    (hf : NonEmptyFields fs) (hg : NonEmptyFields gs)
    (hread : ∀ i, getField s i = getField t i) : s = t := by
  rw [← Except.ok.injEq, ← hs, ← ht]
  refine tuple_canonical fs gs (trim_eq_of_getElem? fun i => Except.ok.inj (ε := Err) ?_)
  rw [← getField_nonEmpty hs hf i, hread i, getField_nonEmpty ht hg i]

/-- the hypothesis `NonEmptyFields` is needed: a non-nil empty slice (reachable only through
`PutRaw(i, []byte{})`/`NewTuple` with an empty slice, never through an encoding) is kept by
`trimNullSuffix` but reads back as NULL — two tuples that read the same, with different bytes. -/
theorem canonical_needs_nonempty :
    ∃ fs gs s t, newTuple fs = .ok s ∧ newTuple gs = .ok t ∧ (∀ i, getField s i = getField t i) ∧ s ≠ t := by
  refine ⟨[some [1], some []], [some [1], none], [1, 1, 0, 2, 0], [1, 1, 0], by decide +kernel, by decide +kernel, ?_, by decide +kernel⟩
  intro i
  match i with
  | 0 => decide
  | 1 => decide
  | (n + 2) =>
    rw [getField_past_count (cnt := 2) (by decide) (by omega),
      getField_past_count (cnt := 1) (by decide) (by omega)]

/-- every encoding writes at least one byte -/
theorem encoding_nonempty :
    (∀ v, writeU8 v ≠ []) ∧ (∀ v, writeU16 v ≠ []) ∧ (∀ v, writeU32 v ≠ []) ∧ (∀ v, writeU64 v ≠ []) ∧
    (∀ v, writeI8 v ≠ []) ∧ (∀ v, writeI16 v ≠ []) ∧ (∀ v, writeI32 v ≠ []) ∧ (∀ v, writeI64 v ≠ []) ∧
    (∀ v, writeByteString v ≠ []) ∧ (∀ v, writeDate v ≠ []) ∧ (∀ v, writeDecimal v ≠ []) ∧
    (∀ v b, writeYear v = .ok b → b ≠ []) := by
  have L : ∀ n v, 0 < n → leBytes n v ≠ [] := by
    intro n v hn h; have := leBytes_length n v; rw [h] at this; simp at this; omega
  refine ⟨fun v => L _ _ (by omega), fun v => L _ _ (by omega), fun v => L _ _ (by omega), fun v => L _ _ (by omega),
    fun v => L _ _ (by omega), fun v => L _ _ (by omega), fun v => L _ _ (by omega), fun v => L _ _ (by omega),
    writeByteString_ne_nil, ?_, ?_, ?_⟩
  · intro v; cases v <;> exact L _ _ (by omega)
  · intro v
    fun_cases writeDecimal v with
    | case4 =>  -- finite: the exponent alone is four bytes
      intro h
      have := congrArg List.length h
      simp [writeI32, writeU32, leBytes_length] at this
    | _ => exact L _ _ (by omega)  -- NaN, ±Inf
  · intro v b
    fun_cases writeYear v with
    | case2 => nofun  -- out of range: nothing written
    | _ => intro h; cases h; exact L _ _ (by omega)  -- the zero token, a year

/-- **empty_vs_null**: in a tuple built without non-nil empty slices (`NonEmptyFields`; the encodings write
none, `encoding_nonempty`), a field reads as NULL exactly when it was NULL; in particular the empty string
(`[0]`) is not NULL. -/
theorem empty_vs_null (fs : List Field) (t : Bytes) (h : newTuple fs = .ok t) (hf : NonEmptyFields fs)
    (i : Nat) (hi : i < fs.length) : getField t i = .ok none ↔ fs[i] = none := by
  rw [getField_nonEmpty h hf i, List.getElem?_eq_getElem hi]
  exact ⟨fun e => Except.ok.inj e, fun e => congrArg Except.ok e⟩

example : newTuple [some (writeByteString []), none] = .ok [0, 1, 0] ∧
    getField [0, 1, 0] 0 = .ok (some [0]) ∧ readByteString [0] = .ok [] := by decide +kernel

/-- **tuple_order**: `TupleDesc.Compare` on two built tuples — the raw fixed-offset loop over the
leading NOT NULL fixed-width columns, then `GetField` for the rest — is the comparison of the two
*rows* field by field with `compareField` (NULLs first, then the encoding's comparer; columns a
shorter tuple does not store are NULL), the first difference deciding.
`FastOk`: the NOT NULL fixed-width prefix holds values of exactly their width (`Build`'s NULL
check plus the widths typed `Put*`s write: `fastOk_of_build`; see `fast_path_needs_notnull`). -/
theorem tuple_order (ts : List TType) (xs ys : List Field) (s t : Bytes)
    (hs : newTuple xs = .ok s) (ht : newTuple ys = .ok t) (fx : FastOk ts xs) (fy : FastOk ts ys) :
    compareTuples ts s t = specTupleCompare ts 0 xs ys := by
  obtain ⟨hx, rfl⟩ := newTuple_ok hs
  obtain ⟨hy, rfl⟩ := newTuple_ok ht
  rw [compareTuples_eq_rest ts xs ys hx hy fx fy]
  exact compareRest_spec xs ys _ _ (getField_built xs hx) (getField_built ys hy) ts 0

/-- non-vacuity: (int32 NOT NULL, string NULL) rows (1,"a") < (1,"b"), (1,NULL) < (1,"a"), -1 < 1 -/
example :
    let ts : List TType := [⟨.int32, false⟩, ⟨.string, true⟩]
    FastOk ts [some (writeI32 1), some (writeByteString [97])] ∧
    specTupleCompare ts 0 [some (writeI32 1), some (writeByteString [97])] [some (writeI32 1), some (writeByteString [98])] = .ok .lt ∧
    specTupleCompare ts 0 [some (writeI32 1), none] [some (writeI32 1), some (writeByteString [97])] = .ok .lt ∧
    specTupleCompare ts 0 [some (writeI32 (-1)), none] [some (writeI32 1)] = .ok .lt := by
  refine ⟨?_, by decide +kernel, by decide +kernel, by decide +kernel⟩
  simp only [FastOk, Enc.fixedSize]
  exact ⟨_, _, rfl, by decide, by simp⟩

/-- the precondition is real: with a NULL in a NOT NULL fixed-width column (only `BuildPermissive`
lets that through) the fixed-offset loop compares whatever bytes sit at the offset.  Rows
(NULL, 9) and (1, 0): field-wise NULL < 1, the tuple comparison says greater. -/
theorem fast_path_needs_notnull :
    let ts : List TType := [⟨.int8, false⟩, ⟨.int8, true⟩]
    ∃ s t, newTuple [none, some [9]] = .ok s ∧ newTuple [some [1], some [0]] = .ok t ∧
      compareTuples ts s t = .ok .gt ∧ specTupleCompare ts 0 [none, some [9]] [some [1], some [0]] = .ok .lt := by
  exact ⟨[9, 0, 0, 2, 0], [1, 0, 1, 0, 2, 0], by decide +kernel, by decide +kernel, by decide +kernel, by decide +kernel⟩

/-- **order by key**: for rows whose fields are NULL or have an order key (`keyOf`: integer value,
day number, non-NaN float key, byte string — everything except decimals, NaN floats and the
adaptive/unordered encodings), comparing the tuples is the lexicographic comparison of the key
rows, NULL first. -/
theorem compare_by_key (ts : List TType) (xs ys : List Field) (s t : Bytes)
    (hs : newTuple xs = .ok s) (ht : newTuple ys = .ok t) (fx : FastOk ts xs) (fy : FastOk ts ys)
    (vx : RowValid ts 0 xs) (vy : RowValid ts 0 ys) :
    compareTuples ts s t = .ok (lexCmp (okCmp Key.cmp) (rowKeys ts 0 xs) (rowKeys ts 0 ys)) := by
  rw [tuple_order ts xs ys s t hs ht fx fy, spec_lex ts 0 xs ys vx vy]

/-- **compare_total_preorder** (what the prolly-tree properties C11–C14 need of the key order):
on built tuples of valid rows the comparison never fails and is reflexive, antisymmetric in the
three-way sense (`Compare(t,s) = -Compare(s,t)`), transitive, and tuples that compare equal are
interchangeable in every other comparison. -/
theorem compare_total_preorder (ts : List TType) (xs ys zs : List Field) (s t u : Bytes)
    (hs : newTuple xs = .ok s) (ht : newTuple ys = .ok t) (hu : newTuple zs = .ok u)
    (fx : FastOk ts xs) (fy : FastOk ts ys) (fz : FastOk ts zs)
    (vx : RowValid ts 0 xs) (vy : RowValid ts 0 ys) (vz : RowValid ts 0 zs) :
    compareTuples ts s s = .ok .eq ∧
    (∃ o, compareTuples ts s t = .ok o ∧ compareTuples ts t s = .ok o.swap) ∧
    (∃ o1 o2 o3, compareTuples ts s t = .ok o1 ∧ compareTuples ts t u = .ok o2 ∧ compareTuples ts s u = .ok o3 ∧
      (o1 ≠ .gt → o2 ≠ .gt → o3 ≠ .gt) ∧ (o1 = .lt → o2 = .lt → o3 = .lt) ∧ (o1 = .eq → o3 = o2)) := by
  -- the comparison of key rows is a `Std.TransCmp` (Lemmas/ValCodecOrder): its laws are the clauses
  rw [compare_by_key ts xs xs s s hs hs fx fx vx vx, compare_by_key ts xs ys s t hs ht fx fy vx vy,
    compare_by_key ts ys xs t s ht hs fy fx vy vx, compare_by_key ts ys zs t u ht hu fy fz vy vz,
    compare_by_key ts xs zs s u hs hu fx fz vx vz]
  refine ⟨congrArg _ Std.ReflCmp.compare_self, ⟨_, rfl, congrArg _ Std.OrientedCmp.eq_swap⟩,
    _, _, _, rfl, rfl, rfl, ?_, Std.TransCmp.lt_trans, Std.TransCmp.congr_left⟩
  simp only [← Ordering.isLE_iff_ne_gt]
  exact Std.TransCmp.isLE_trans

theorem int64_equal_iff_identical (a b : Int64) :
    compareEnc .int64 (writeI64 a) (writeI64 b) = .ok .eq ↔ writeI64 a = writeI64 b := by
  rw [order_int64]
  constructor
  · intro h
    rw [Int64.toInt_inj.1 (specCmpInt_eq_iff.1 (Except.ok.inj h))]
  · intro h
    rw [write_inj readI64_writeI64 h, specCmpInt_refl]

/-- floats: on non-NaN bit patterns the comparison is the order of the sign-magnitude keys
(−0 = +0).  That these keys are IEEE-754 `<` is checked by correspondence only (Lean has no
theory of Go's float64). -/
theorem order_float64 (a b : UInt64) (ha : f64IsNaN a = false) (hb : f64IsNaN b = false) :
    compareEnc .float64 (writeU64 a) (writeU64 b) = .ok (specCmpInt (f64Key a) (f64Key b)) :=
  compare_decoded (readU64_writeU64 a) (readU64_writeU64 b) (compareF64_key ha hb)
theorem order_float32 (a b : UInt32) (ha : f32IsNaN a = false) (hb : f32IsNaN b = false) :
    compareEnc .float32 (writeU32 a) (writeU32 b) = .ok (specCmpInt (f32Key a) (f32Key b)) :=
  compare_decoded (readU32_writeU32 a) (readU32_writeU32 b) (compareF32_key ha hb)

/-- with a NaN the Go comparison (`==` false, `<` false, hence 1 both ways) is not an order:
NaN "is greater than" itself.  NaN is not an SQL value (MySQL has none); recorded so that nobody
relies on `compare_total_preorder` for raw NaN bit patterns. -/
theorem float_nan_breaks_order :
    compareEnc .float64 (writeU64 0x7ff8000000000001) (writeU64 0x7ff8000000000001) = .ok .gt := by decide +kernel

/-! ## dates: packed year/month/day, compared as `time.Date` instants -/

/-- the values a DATE column holds: the zero date, or a civil date with a year that fits 16 bits -/
def dateDomain : DateVal → Prop
  | .zero => True
  | .ymd y m d => y < 65536 ∧ ValidYMD y m d

theorem roundtrip_date (v : DateVal) (h : dateDomain v) : readDate (writeDate v) = .ok v := by
  cases v with
  | zero => decide
  | ymd y m d =>
    obtain ⟨hy, hv⟩ := h
    have : ¬ (y = 0 ∧ m = 0 ∧ d = 0) := by have := hv.1; omega
    rw [readDate, writeDate, readU32_writeU32]
    simp only [bind, Except.bind, dateParts_pack y m d hy hv.lt_256.1 hv.lt_256.2, if_neg this]
    rfl

/-- lexicographic order of (year, month, day): the SQL order of dates -/
def ymdCmp (y m d y' m' d' : Nat) : Ordering :=
  if y < y' ∨ (y = y' ∧ (m < m' ∨ (m = m' ∧ d < d'))) then .lt
  else if y = y' ∧ m = m' ∧ d = d' then .eq else .gt

/-- **order_date**: the comparison of two stored civil dates (Go: `time.Date(y,m,d)` instants,
model: `civilDays`) is the order of (year, month, day) -/
theorem order_date (y m d y' m' d' : Nat) (hy : y < 65536) (hy' : y' < 65536)
    (v : ValidYMD y m d) (v' : ValidYMD y' m' d') :
    compareEnc .date (writeDate (.ymd y m d)) (writeDate (.ymd y' m' d')) = .ok (ymdCmp y m d y' m' d') := by
  refine compare_decoded (c := fun l r => cmp3 (dateDays l) (dateDays r))
    (readU32_writeU32 _) (readU32_writeU32 _) ?_
  rw [dateDays_pack hy v, dateDays_pack hy' v', cmp3_int]
  fun_cases ymdCmp y m d y' m' d' with
  | case1 hlt => exact specCmpInt_lt_iff.2 (civilDays_lt v v' hlt)  -- earlier
  | case2 _ heq => obtain ⟨rfl, rfl, rfl⟩ := heq; exact specCmpInt_refl _  -- the same day
  | case3 hlt heq => exact specCmpInt_gt_iff.2 (civilDays_lt v' v (by omega))  -- later

/-- the zero date (`0000-00-00`, stored as 0, read back as `time.Date(0,0,0)` = Nov 30 of year −1)
sorts before every civil date -/
theorem order_date_zero (y m d : Nat) (hy : y < 65536) (v : ValidYMD y m d) :
    compareEnc .date (writeDate .zero) (writeDate (.ymd y m d)) = .ok .lt := by
  refine compare_decoded (c := fun l r => cmp3 (dateDays l) (dateDays r))
    (readU32_writeU32 0) (readU32_writeU32 _) ?_
  rw [dateDays_pack hy v, cmp3_int]
  exact specCmpInt_lt_iff.2 (Int.lt_of_lt_of_le (by decide : dateDays 0 < -366) (civilDays_ge v))

example : ValidYMD 2024 2 29 ∧ dateDomain (.ymd 2024 2 29) ∧
    writeDate (.ymd 2024 2 29) = [29, 2, 0xe8, 7] := by
  have v : ValidYMD 2024 2 29 := ⟨by decide, by decide, by decide, by decide⟩
  exact ⟨v, ⟨by decide, v⟩, by decide⟩

/-! ## decimals: int32 exponent, int8 sign, big-endian magnitude padded to 64-bit words;
comparison = `apd.Decimal.Cmp` (sign, equal exponents, digit positions, aligned coefficients) -/

/-- **roundtrip_decimal**: every finite decimal reads back as written — except −0, whose sign byte is
0 and which therefore reads back as +0 (`apd.Decimal.Sign` is 0 for −0; see the example below) -/
theorem roundtrip_decimal (d : Dec) (hf : d.form = .finite) (hz : d.neg = true → d.coeff ≠ 0) :
    readDecimal (writeDecimal d) = .ok d := readDecimal_writeDecimal d hf hz

/-- **order_decimal**: the stored comparison of two finite decimals is the order of their exact
values `±c·10^e` (`decValueCmp`: both scaled to the smaller exponent, compared as integers).
In particular 1.0 and 1.00 compare equal although their encodings differ. -/
theorem order_decimal (a b : Dec) (ha : a.form = .finite) (hb : b.form = .finite)
    (za : a.neg = true → a.coeff ≠ 0) (zb : b.neg = true → b.coeff ≠ 0) :
    compareEnc .decimal (writeDecimal a) (writeDecimal b) = .ok (decValueCmp a b) :=
  compare_decoded (readDecimal_writeDecimal a ha za) (readDecimal_writeDecimal b hb zb)
    (compareDecimal_finite a b ha hb)

/-- the three special values round-trip and order among themselves as −Inf < +Inf < NaN = NaN -/
theorem decimal_specials :
    readDecimal (writeDecimal ⟨.nan, false, 0, 0⟩) = .ok ⟨.nan, false, 0, 0⟩ ∧
    readDecimal (writeDecimal ⟨.infinite, false, 0, 0⟩) = .ok ⟨.infinite, false, 0, 0⟩ ∧
    readDecimal (writeDecimal ⟨.infinite, true, 0, 0⟩) = .ok ⟨.infinite, true, 0, 0⟩ ∧
    compareDecimal ⟨.infinite, true, 0, 0⟩ ⟨.infinite, false, 0, 0⟩ = .lt ∧
    compareDecimal ⟨.nan, false, 0, 0⟩ ⟨.infinite, false, 0, 0⟩ = .gt ∧
    compareDecimal ⟨.nan, false, 0, 0⟩ ⟨.nan, false, 0, 0⟩ = .eq := by decide +kernel

/-- instances: 1.0 = 1.00 with different bytes, −12.5 < 3, 10^19 (two 64-bit words) round-trips,
−0 reads back as +0 (the one value excluded from `roundtrip_decimal`) -/
example :
    compareEnc .decimal (writeDecimal ⟨.finite, false, 10, -1⟩) (writeDecimal ⟨.finite, false, 100, -2⟩) = .ok .eq ∧
    writeDecimal ⟨.finite, false, 10, -1⟩ ≠ writeDecimal ⟨.finite, false, 100, -2⟩ ∧
    compareEnc .decimal (writeDecimal ⟨.finite, true, 125, -1⟩) (writeDecimal ⟨.finite, false, 3, 0⟩) = .ok .lt ∧
    readDecimal (writeDecimal ⟨.finite, false, 10000000000000000000, -3⟩) = .ok ⟨.finite, false, 10000000000000000000, -3⟩ ∧
    readDecimal (writeDecimal ⟨.finite, true, 0, -2⟩) = .ok ⟨.finite, false, 0, -2⟩ := by decide +kernel

/-- every non-NULL field of a fixed-width column has exactly the column's width (true of every
field written by a typed `Put*`: `PutInt32` writes 4 bytes, `PutDate` 4, `PutCommitAddr` 20 …) -/
def WellSized : List TType → List Field → Prop
  | t :: ts, f :: fs =>
    (match t.enc.fixedSize, f with
      | some sz, some b => b.length = sz
      | _, _ => True) ∧ WellSized ts fs
  | _, _ => True

/-- the precondition of the fixed-offset loop follows from what `Build` checks (no NULL in a NOT
NULL column: `nullCheck`) and from the widths of the fields; nullable or variable-width columns
end the fixed prefix (`makeFixedAccess`), so nothing is required of them -/
theorem fastOk_of_build : ∀ (ts : List TType) (fs : List Field), fs.length = ts.length →
    nullCheck ts fs = true → WellSized ts fs → FastOk ts fs := by
  intro ts fs hl hn hw
  fun_induction FastOk ts fs with
  | case1 | case2 | case3 => trivial  -- the fixed prefix ends: no column left, a nullable one, variable width
  | case4 t ts fs hnull sz hsz ih =>  -- NOT NULL of width `sz`
    cases fs with
    | nil => simp at hl
    | cons f fs =>
      simp only [List.length_cons, Nat.add_right_cancel_iff] at hl
      simp only [nullCheck, Bool.and_eq_true, Bool.or_eq_true] at hn
      obtain ⟨hf, hn'⟩ := hn
      obtain ⟨hw0, hw'⟩ := hw
      cases f with
      | none => exact absurd (hf.resolve_right nofun) hnull
      | some b =>
        simp only [hsz] at hw0
        exact ⟨b, fs, rfl, hw0, ih fs hl hn' hw'⟩

theorem build_ok {b : Builder} {u : Bytes} (hl : b.fields.length = b.types.length) (hb : b.build = .ok u) :
    newTuple b.fields = .ok u ∧ nullCheck b.types b.fields = true := by
  revert hb
  fun_cases Builder.build b with
  | case1 hn => exact fun hb => ⟨by rwa [Builder.buildPermissive, ← hl, List.take_length] at hb, hn⟩
  | case2 => nofun  -- a NULL in a NOT NULL column: `Build` panics

/-- **tuple_order for built rows** (no `FastOk` hypothesis): two rows put into `TupleBuilder`s of
the same descriptor and materialised with the strict `Build` compare, as tuples, exactly like
the rows field by field with NULL first — for every descriptor, whatever its fixed-width NOT NULL
prefix.  What the raw-offset loop of `Compare` assumes is discharged by `Build`'s NULL check and
the field widths (`WellSized`). -/
theorem tuple_order_built (b₁ b₂ : Builder) (s t : Bytes) (hty : b₁.types = b₂.types)
    (l₁ : b₁.fields.length = b₁.types.length) (l₂ : b₂.fields.length = b₂.types.length)
    (h₁ : b₁.build = .ok s) (h₂ : b₂.build = .ok t)
    (w₁ : WellSized b₁.types b₁.fields) (w₂ : WellSized b₂.types b₂.fields) :
    compareTuples b₁.types s t = specTupleCompare b₁.types 0 b₁.fields b₂.fields := by
  obtain ⟨n₁, c₁⟩ := build_ok l₁ h₁
  obtain ⟨n₂, c₂⟩ := build_ok l₂ h₂
  exact tuple_order b₁.types b₁.fields b₂.fields s t n₁ n₂ (fastOk_of_build _ _ l₁ c₁ w₁)
    (hty ▸ fastOk_of_build _ _ l₂ c₂ w₂)

/-- `Builder.new` / `put` keep one field slot per column, so the length hypotheses always hold -/
theorem builder_lengths (ts : List TType) (i : Nat) (bytes : Bytes) (b : Builder)
    (h : b.fields.length = b.types.length) :
    (Builder.new ts).fields.length = (Builder.new ts).types.length ∧
    (b.put i bytes).fields.length = (b.put i bytes).types.length := by
  simp [Builder.new, Builder.put, h]

example :
    let ts : List TType := [⟨.int32, false⟩, ⟨.string, true⟩]
    let b := ((Builder.new ts).put 0 (writeI32 5)).put 1 (writeByteString [97])
    WellSized b.types b.fields ∧ b.build = .ok [5, 0, 0, 0, 97, 0, 4, 0, 2, 0] := by
  refine ⟨?_, by decide +kernel⟩
  exact ⟨by simp [Enc.fixedSize, writeI32, writeU32, leBytes_length], trivial, trivial⟩

end DoltVerif.C15
