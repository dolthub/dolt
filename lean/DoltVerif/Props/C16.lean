import DoltVerif.Lemmas.BigValuesVarint
import DoltVerif.Lemmas.BigValuesWalk
/-! C16 — Large TEXT, BLOB and JSON values are stored faithfully (partial).  About `Model/BigValues.lean`, tied to the source by
`Tie/BigValues.lean` and to the running code by the `bigvalues` harness.  Blob trees only under `FullReads` (true of every production
caller: `Tie.BigValues.readers_are_bytes_readers`; false without: `blob_short_reads_refuted`); `CompareAdaptive` only for values held in one
piece and for trees of the same height (false for all values: `adaptive_compare_refuted`).  JSON serialisation and equality: by correspondence only. -/
namespace DoltVerif.C16
open DoltVerif.BigValues DoltVerif.ValCodec

theorem varint_roundtrip (n : Nat) (hn : n < 2 ^ 64) (rest : Bytes) :
    varintDecode (varintEncode n ++ rest) = some (n, (varintEncode n).length) :=
  BigValues.varint_roundtrip n hn rest

example : varintEncode 240 = [0xF0] ∧ varintEncode 241 = [0xF1, 1] ∧ varintEncode 2288 = [0xF9, 0, 0] ∧
    varintEncode 800000 = [0xFA, 0x0C, 0x35, 0x00] := by decide +kernel

theorem adaptive_roundtrip_inline (v : Bytes) :
    isInlined (inlineEnc v) = true ∧ isOutOfBand (inlineEnc v) = false ∧ isNull (inlineEnc v) = false ∧
    inlinePayload (inlineEnc v) = some v ∧ messageLength (inlineEnc v) = some v.length ∧
    inlineSize (inlineEnc v) = some (v.length + 1) :=
  ⟨rfl, rfl, rfl, rfl, rfl, rfl⟩

theorem adaptive_roundtrip_outofband (n : Nat) (h0 : 0 < n) (hn : n < 2 ^ 64) (addr : Bytes) :
    isOutOfBand (outOfBandEnc n addr) = true ∧ isInlined (outOfBandEnc n addr) = false ∧
    isNull (outOfBandEnc n addr) = false ∧
    messageLength (outOfBandEnc n addr) = some n ∧ outOfBandAddr (outOfBandEnc n addr) = some addr := by
  obtain ⟨b, bs, he, hb⟩ := varint_head_ne_zero n h0 hn
  have hd := BigValues.varint_roundtrip n hn addr
  have hoob : isOutOfBand (outOfBandEnc n addr) = true := by
    simp [outOfBandEnc, he, isOutOfBand, hb]
  have hinl : isInlined (outOfBandEnc n addr) = false := by
    simp [outOfBandEnc, he, isInlined, hb]
  have hnull : isNull (outOfBandEnc n addr) = false := by
    simp [outOfBandEnc, he, isNull]
  refine ⟨hoob, hinl, hnull, ?_, ?_⟩
  · simp only [messageLength, hnull, hinl, Bool.false_eq_true, if_false]
    unfold outOfBandEnc; rw [hd]; rfl
  · simp only [outOfBandAddr, hnull, hinl, Bool.or_self, Bool.false_eq_true, if_false]
    unfold outOfBandEnc; rw [hd]
    simp

/-- boundary: the *empty* value forced out of band is `0 :: addr`, which every reader takes for
an inline value with a 20-byte payload.  (No caller produces it: `BuildPermissive` turns a value
without savings back to inline; checked at SQL level with `TARGET_ROW_SIZE=0`.) -/
theorem empty_out_of_band_reads_inline (addr : Bytes) :
    isInlined (outOfBandEnc 0 addr) = true ∧ inlinePayload (outOfBandEnc 0 addr) = some addr :=
  ⟨rfl, rfl⟩

/-- a value goes out of band at `PutAdaptiveFromInline` exactly when header + payload exceed the
target; with the default target 2048: 2047 bytes stay inline, 2048 go out -/
theorem put_threshold (target len : Nat) : putOutOfBand target len = true ↔ target < len + 1 := by
  simp [putOutOfBand]

theorem put_threshold_default :
    putOutOfBand 2048 2046 = false ∧ putOutOfBand 2048 2047 = false ∧ putOutOfBand 2048 2048 = true ∧
    putOutOfBand 2048 0 = false := by decide

theorem row_fits_inline (target fixed len : Nat) (h : fixed + (len + 1) ≤ target) :
    placeRow target fixed [some len] = [some false] := by
  rw [placeRow_single, if_pos h, putOutOfBand, decide_eq_false (show ¬ len + 1 > target by omega)]

/-- a row that does not fit moves the value out of band as soon as that saves anything
(payload of at least 21 bytes: inline size > 1 + 20) -/
theorem row_overflow_out (target fixed len : Nat) (h : fixed + (len + 1) > target) (hfit : len + 1 ≤ target)
    (hs : 21 ≤ len) : placeRow target fixed [some len] = [some true] := by
  rw [placeRow_single, if_neg (by omega), putOutOfBand, decide_eq_false (show ¬ len + 1 > target by omega),
    if_neg Bool.false_ne_true, decide_eq_true (show len + 1 > 1 + addrLen by unfold addrLen; omega)]

/-- a row that does not fit still leaves a value of at most 20 bytes inline (an address would
not be shorter) -/
theorem row_overflow_small_stays (target fixed len : Nat) (h : fixed + (len + 1) > target) (hfit : len + 1 ≤ target)
    (hs : len ≤ 20) : placeRow target fixed [some len] = [some false] := by
  rw [placeRow_single, if_neg (by omega), putOutOfBand, decide_eq_false (show ¬ len + 1 > target by omega),
    if_neg Bool.false_ne_true, decide_eq_false (show ¬ len + 1 > 1 + addrLen by unfold addrLen; omega)]

example : placeRow 100 10 [some 50, some 60, none, some 30] = [some true, some true, none, some false] := by decide +kernel

theorem build_small (cs : Nat) (data : Bytes) (h0 : data ≠ []) (hle : data.length ≤ cs) (seg : List Nat)
    (hfull : FullReads cs seg) : build cs data seg = some ⟨0, cs / addrLen, [data]⟩ := by
  have hpos : 0 < data.length := List.length_pos_iff.2 h0
  rw [build_full_reads cs data seg hfull]
  unfold build buildWith
  dsimp only
  rw [if_neg (Nat.ne_of_gt hpos), if_pos hle, leafChunks_short _ 0 data hpos (Nat.le_refl _)]

theorem build_large (cs : Nat) (hs : 2 ≤ cs / addrLen) (x : Bytes) (hx : cs < x.length) :
    build cs x [] = some ⟨topLevelOf cs x.length, cs / addrLen, leafChunks cs (x.length + 1) x []⟩ := by
  unfold build buildWith
  dsimp only
  rw [if_neg (by omega), if_neg (by omega), List.take_of_length_le (leaves_fit cs hs x _),
    leafChunks_long cs _ x (cs_pos hs) hx]
  rfl

theorem blob_empty (cs : Nat) (seg : List Nat) : build cs [] seg = none := by simp [build, buildWith]

/-- under `FullReads` the stored tree reads back exactly the bytes written, for
every size and every chunk size with fan-out ≥ 2 -/
theorem blob_roundtrip (cs : Nat) (hs : 2 ≤ cs / addrLen) (data : Bytes) (seg : List Nat) (hfull : FullReads cs seg)
    (t : Tree) (h : build cs data seg = some t) : readTree t = data := by
  rw [build_full_reads cs data seg hfull] at h
  by_cases h0 : data = []
  · rw [h0, blob_empty] at h; cases h
  by_cases hle : data.length ≤ cs
  · rw [build_small cs data h0 hle [] nofun] at h
    cases h
    exact List.append_nil data
  · rw [build_large cs hs data (Nat.lt_of_not_le hle)] at h
    cases h
    exact leafChunks_flatten cs (cs_pos hs) _ _ _ (Nat.lt_succ_self _) nofun

/-- under `FullReads` the tree (hence, by content addressing, its
address) depends on the bytes only, not on how the reader delivers them -/
theorem blob_deterministic_partial (cs : Nat) (data : Bytes) (seg₁ seg₂ : List Nat)
    (h₁ : FullReads cs seg₁) (h₂ : FullReads cs seg₂) : build cs data seg₁ = build cs data seg₂ := by
  rw [build_full_reads cs data seg₁ h₁, build_full_reads cs data seg₂ h₂]

/-- determinism and round trip for any reader that returns at least one byte per `Read`;
both refuted by `blob_short_reads_refuted` -/
def blob_deterministic_full : Prop :=
  ∀ cs data seg₁ seg₂, PositiveReads seg₁ → PositiveReads seg₂ → build cs data seg₁ = build cs data seg₂
def blob_roundtrip_full : Prop :=
  ∀ cs data seg t, PositiveReads seg → build cs data seg = some t → readTree t = data

/-- a reader that returns one byte for its first three reads: different tree, and only the first
`fanout^level` leaves are ever written — 2 of 41 bytes survive.  Replayed on the real
`BlobBuilder` by the harness (`iotest.OneByteReader`: 200 of 10000 bytes); no production caller
can pass such a reader. -/
theorem blob_short_reads_refuted : ¬ blob_deterministic_full ∧ ¬ blob_roundtrip_full := by
  have hp : PositiveReads [1, 1, 1] := fun s hs => by simp at hs; omega
  have hp0 : PositiveReads [] := fun s hs => by simp at hs
  constructor
  · intro h
    have := h 40 (List.replicate 41 7) [1, 1, 1] [] hp hp0
    revert this; decide +kernel
  · intro h
    have := h 40 (List.replicate 41 7) [1, 1, 1] ⟨1, 2, [[7], [7]]⟩ hp (by decide)
    revert this; decide +kernel

/-- a value held in one piece: inline, or a tree of a single leaf (what `build` makes of a value of
at most one chunk, `smallForm_of_build`) -/
inductive SmallForm (p : Bytes) : AVal → Prop
  | inline : SmallForm p (.inl p)
  | single (sz : Nat) : SmallForm p (.oob (some ⟨0, sz, [p]⟩))

theorem smallForm_of_build (cs : Nat) (data : Bytes) (h0 : data ≠ []) (hle : data.length ≤ cs) :
    SmallForm data (.oob (build cs data [])) := by
  rw [build_small cs data h0 hle [] nofun]
  exact .single _

/-- whatever mix of inline and out-of-band
representations, `CompareAdaptive` is `bytes.Compare` of the contents.  This covers every value
that can occur in an index key (keys are limited to 3072 bytes < one chunk). -/
theorem adaptive_compare_small (p q : Bytes) (a b : AVal) (ha : SmallForm p a) (hb : SmallForm q b) :
    compareAdaptive a b = some (bytesCompare p q) := by
  cases ha with
  | inline => cases hb <;> rfl
  | single sz =>
    cases hb with
    | inline => rfl
    | single sz' =>
      rw [compareAdaptive_oob]
      split
      · next e => cases e; rw [bytesCompare_refl]
      · rfl

/-- the statement for all values -/
def adaptive_compare_full : Prop :=
  ∀ cs (x y : Bytes) (rx ry : Bool),
    compareAdaptive (if rx then .inl x else .oob (build cs x [])) (if ry then .inl y else .oob (build cs y []))
      = some (bytesCompare x y)

/-- two out-of-band values of more than one chunk whose blob trees
have the *same height* — any height — compare like their contents.  The single `Next` call is
enough here: `walkN` (the two stacks move in step: equal children are skipped, the first differing
pair is descended into, a side that runs out is exhausted in all its ancestors) shows that it
delivers the first differing pair of leaves, and `leafCmp_flatten` that for aligned fixed-size
chunkings this pair decides the comparison of the whole contents.
Neither this nor `adaptive_compare_small` covers two trees of *different* heights or an inline
value against a tree of more than one chunk; the recorded defect lies there. -/
theorem adaptive_compare_samelevel (cs : Nat) (hs : 2 ≤ cs / addrLen) (x y : Bytes)
    (hx : cs < x.length) (hy : cs < y.length)
    (hlev : topLevelOf cs x.length = topLevelOf cs y.length) :
    compareAdaptive (.oob (build cs x [])) (.oob (build cs y [])) = some (bytesCompare x y) := by
  have hc := cs_pos hs
  rw [build_large cs hs x hx, build_large cs hs y hy, ← hlev,
    compareAdaptive_sameHeight _ (by omega) _ _ _ (leaves_fit cs hs x _) (hlev ▸ leaves_fit cs hs y _),
    leafCmp_flatten cs hc _ _ (leafChunks_aligned cs hc _ x) (leafChunks_aligned cs hc _ y),
    leafChunks_flatten cs hc _ x [] (Nat.lt_succ_self _) nofun,
    leafChunks_flatten cs hc _ y [] (Nat.lt_succ_self _) nofun]

/-- height 1: with chunk size 4000 these are the values of 4001 … 799 999 bytes (`example` below) -/
theorem adaptive_compare_height1 (cs : Nat) (hs : 2 ≤ cs / addrLen) (x y : Bytes)
    (hx : cs < x.length) (hy : cs < y.length)
    (tx : topLevelOf cs x.length = 1) (ty : topLevelOf cs y.length = 1) :
    compareAdaptive (.oob (build cs x [])) (.oob (build cs y [])) = some (bytesCompare x y) :=
  adaptive_compare_samelevel cs hs x y hx hy (tx.trans ty.symm)

example : topLevelOf 4000 4001 = 1 ∧ topLevelOf 4000 799999 = 1 ∧ topLevelOf 4000 800000 = 2 := by decide +kernel

/-- `adaptive_compare_samelevel` with its hypotheses as implications under the quantifiers -/
theorem adaptive_compare_samelevel_full :
    ∀ cs (x y : Bytes), 2 ≤ cs / addrLen → topLevelOf cs x.length = topLevelOf cs y.length →
      cs < x.length → cs < y.length →
      compareAdaptive (.oob (build cs x [])) (.oob (build cs y [])) = some (bytesCompare x y) :=
  fun cs x y hs hl hx hy => adaptive_compare_samelevel cs hs x y hx hy hl

/-- the hypotheses are satisfiable at height 2 (fan-out 2, chunk size 40: 100 and 120 bytes; in
production: 800 000 … 159 999 999 bytes) -/
example : 2 ≤ 40 / addrLen ∧ topLevelOf 40 100 = 2 ∧ topLevelOf 40 120 = 2 ∧
    topLevelOf 4000 800000 = 2 ∧ topLevelOf 4000 159999999 = 2 := by decide +kernel

/-- **the full statement is false of the code** (model = code here: `compareChunkDiffer` looks at one
pair of chunks): a value exactly one chunk long that is a prefix of a longer value compares
*equal* to it, in both directions; likewise two values whose trees have different heights and
share their first chunk.  Chunk size 40 here; the harness replays the same on the real store with
chunk size 4000 (4000 vs 8000 bytes, 4001 vs 800000 bytes).  Known finding
`compare-adaptive/tree-height-mismatch`. -/
theorem adaptive_compare_refuted : ¬ adaptive_compare_full := by
  intro h
  have := h 40 (List.replicate 40 7) (List.replicate 80 7) false false
  revert this; decide +kernel

/-- second shape of the same defect: an inline value of at least one chunk (possible only under a
raised TARGET_ROW_SIZE) is compared with just the first leaf of an out-of-band value.  Known
finding `compare-adaptive/inline-longer-than-chunk`. -/
theorem adaptive_compare_inline_long_refuted :
    compareAdaptive (.inl (List.replicate 50 7)) (.oob (build 40 (List.replicate 50 7) [])) = some .gt := by decide +kernel

/-- whatever offsets the scanner stops at (non-decreasing, inside the text)
and whatever the boundary predicate decides, the leaf blobs written by `processBuffer` + `Done`
concatenate to the text from the chunk start on — for `SerializeJsonToAddr` (start 0): to the whole
serialized document.  No byte is dropped or duplicated at a chunk boundary. -/
theorem json_chunks_concat (boundary : Nat → Bytes → Bool) (text : Bytes) :
    ∀ (locs : List Nat) (start k : Nat), start ≤ text.length → ScanOffsets text.length start locs →
      (jsonChunks boundary text locs start k).flatten = text.drop start := by
  intro locs start k hs hsc
  fun_induction jsonChunks boundary text locs start k with
  | case1 => simp  -- no stop left: the rest is one chunk
  | case2 p ps start k seg _ ih =>  -- a boundary at `p`: `seg` is cut off
    obtain ⟨h1, h2, h3⟩ := hsc
    rw [List.flatten_cons, ih h2 h3]
    have : (text.drop start).drop (p - start) = text.drop p := by
      rw [List.drop_drop, Nat.add_sub_cancel' h1]
    rw [← this]
    exact List.take_append_drop ..
  | case3 p ps start k seg _ ih =>  -- no boundary: the chunk grows on
    exact ih hs (hsc.2.2.of_le hsc.1)

theorem json_chunks_concat_document (boundary : Nat → Bytes → Bool) (text : Bytes) (locs : List Nat)
    (h : ScanOffsets text.length 0 locs) : (jsonChunks boundary text locs 0 0).flatten = text := by
  simpa using json_chunks_concat boundary text locs 0 0 (Nat.zero_le _) h

/-- non-vacuity: text `[1,2,3,4,5,6]`, scanner stops at 2, 4, 6, boundary at the second stop -/
example : jsonChunks (fun k _ => k == 1) [1, 2, 3, 4, 5, 6] [2, 4, 6] 0 0 = [[1, 2, 3, 4], [5, 6]] ∧
    ScanOffsets 6 0 [2, 4, 6] := by
  refine ⟨by decide +kernel, ?_⟩
  exact ⟨by omega, by omega, by omega, by omega, by omega, by omega, trivial⟩

end DoltVerif.C16
