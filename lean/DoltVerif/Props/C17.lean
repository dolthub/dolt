import DoltVerif.Lemmas.JsonDocRoundTrip
import DoltVerif.Lemmas.JsonDocRef
/-! C17 — Stored JSON documents behave like in-memory JSON.  About `Model/JsonDoc*.lean`, tied to the Go sources (dolt and the
go-mysql-server module it builds against) by `Tie/JsonDoc.lean` and the three-way `jsondoc` harness.  Laws of the in-memory
reference; the serialize / parse round trip; splice on the stored text = structural edit where the stored side delegates, and for one
member of a single-chunk object behind scalar members; two merge cases.  `indexed_refines_full` is refuted, `json_merge_spec_full` not proved. -/
namespace DoltVerif.C17
open DoltVerif.JsonDoc

/-- **the change flag is honest**: every in-memory mutation that reports "unchanged" returns the
document it was given (all modes, all paths, all documents) -/
theorem unchanged_returns_same : ∀ (legs : List Leg) (doc v : JsonVal) (mode : Mode) (r : JsonVal),
    walk legs doc v mode = .ok (r, false) → r = doc := by
  intro legs doc v mode
  -- every leaf of `walk` is `.ok (doc, false)`, `.ok (_, true)` or an error; no induction is needed,
  -- since after a recursive call the document handed back with `false` is again `doc` itself
  fun_cases walk legs doc v mode
  all_goals
    try simp only [*]
    intro r h
    cases h <;> rfl

example : walk [.key [0x61]] (.obj [([0x61], nullLit)]) nullLit .insert = .ok (.obj [([0x61], nullLit)], false) := by
  rfl

/-- **a mutation below an existing prefix only rewrites that place**: for every mode, the result of
`walk (key K :: rest)` on an object whose member `K` exists is the object with member `K` replaced by
the result of `walk rest` on that member (and unchanged when that reports no change) -/
theorem walk_descend_key (kvs : List (Bytes × JsonVal)) (K : Bytes) (cur : JsonVal) (l2 : Leg) (r2 : List Leg)
    (v : JsonVal) (mode : Mode) (hg : objGet kvs K = some cur) :
    walk (.key K :: l2 :: r2) (.obj kvs) v mode =
      (match walk (l2 :: r2) cur v mode with
        | .error e => .error e
        | .ok (nv, ch) => if ch then .ok (.obj (objSet kvs K nv), true) else .ok (.obj kvs, false)) := by
  simp only [walk, hg, Option.getD_some]
  cases walk (l2 :: r2) cur v mode with
  | error e => rfl
  | ok p => obtain ⟨nv, ch⟩ := p; cases ch <;> rfl

/-- for the modes that treat an existing member like any inner node (all but REMOVE and ARRAY_INSERT)
the equation of `walk_descend_key` also holds when the member is the last leg -/
theorem walk_key_existing (kvs : List (Bytes × JsonVal)) (K : Bytes) (cur : JsonVal) (rest : List Leg)
    (v : JsonVal) (mode : Mode) (hm : mode ≠ .remove ∧ mode ≠ .arrayInsert) (hg : objGet kvs K = some cur) :
    walk (.key K :: rest) (.obj kvs) v mode =
      (match walk rest cur v mode with
        | .error e => .error e
        | .ok (nv, ch) => if ch then .ok (.obj (objSet kvs K nv), true) else .ok (.obj kvs, false)) := by
  cases rest with
  | cons l2 r2 => exact walk_descend_key kvs K cur l2 r2 v mode hg
  | nil => cases mode <;> simp [walk, hg] at hm ⊢ <;> cases cur <;> rfl

theorem walk_idx_existing (xs : List JsonVal) (n : Nat) (rest : List Leg) (v : JsonVal) (mode : Mode)
    (hm : mode ≠ .remove ∧ mode ≠ .arrayInsert) (hn : n < xs.length) :
    walk (.idx (.nat n) :: rest) (.arr xs) v mode =
      (match walk rest xs[n] v mode with
        | .error e => .error e
        | .ok (nv, ch) => if ch then .ok (.arr (xs.set n nv), true) else .ok (.arr xs, false)) := by
  have hgt : ((xs.length : Int) > (n : Int)) := by omega
  have hget : xs.getD n nullLit = xs[n] := by simp [hn]
  rw [walk]
  simp only [parseIndex_nat_inrange n xs.length hn, hgt, hget, Int.toNat_natCast]
  cases rest with
  | cons l2 r2 => rcases walk (l2 :: r2) xs[n] v mode with e | ⟨nv, _ | _⟩ <;> rfl
  | nil =>
    cases mode <;> try rfl
    · exact absurd rfl hm.1
    · exact absurd rfl hm.2

/-- a path of member names and plain array indexes whose names survive Go's escaping -/
def plainLegs : List Leg → Prop
  | [] => True
  | .key K :: t => rawKey (escapeGo K) = K ∧ plainLegs t
  | .idx (.nat _) :: t => plainLegs t
  | .idx _ :: _ => False

theorem existing_path_induction {P : List Leg → JsonVal → JsonVal → Prop} (nil : ∀ d, P [] d d)
    (key : ∀ K rest kvs cur old, rawKey (escapeGo K) = K → objGet kvs K = some cur → P rest cur old →
      P (.key K :: rest) (.obj kvs) old)
    (idx : ∀ n rest xs old (hn : n < xs.length), P rest xs[n] old → P (.idx (.nat n) :: rest) (.arr xs) old) :
    ∀ (legs : List Leg) (d old : JsonVal), plainLegs legs → refLookup legs d = some old → P legs d old
  | [], d, _, _, hl => by cases hl; exact nil d
  | .key K :: rest, .obj kvs, old, hp, hl => by
    simp only [refLookup] at hl
    cases hg : objGet kvs K with
    | none => simp [hg] at hl
    | some cur =>
      exact key K rest kvs cur old hp.1 hg (existing_path_induction nil key idx rest cur old hp.2 (by simpa [hg] using hl))
  | .idx (.nat n) :: rest, .arr xs, old, hp, hl => by
    rw [refLookup_idx] at hl
    split at hl
    · next hn => exact idx n rest xs old hn (existing_path_induction nil key idx rest _ old hp hl)
    · cases hl
  | .key _ :: _, .lit _, _, _, hl | .key _ :: _, .arr _, _, _, hl | .idx _ :: _, .lit _, _, _, hl
  | .idx _ :: _, .obj _, _, _, hl => by simp [refLookup] at hl
  | .idx .last :: _, _, _, hp, _ | .idx (.lastMinus _) :: _, _, _, hp, _ => hp.elim

/-- the document with the value at an existing path replaced by `nv` -/
def plug : List Leg → JsonVal → JsonVal → JsonVal
  | .key K :: rest, .obj kvs, nv => .obj (objSet kvs K (plug rest ((objGet kvs K).getD nullLit) nv))
  | .idx (.nat n) :: rest, .arr xs, nv => .arr (xs.set n (plug rest (xs.getD n nullLit) nv))
  | _, _, nv => nv

theorem walk_existing (v : JsonVal) (mode : Mode) (hm : mode ≠ .remove ∧ mode ≠ .arrayInsert) :
    ∀ (legs : List Leg) (d old : JsonVal), plainLegs legs → refLookup legs d = some old →
      walk legs d v mode =
        (match walk [] old v mode with
          | .error e => .error e
          | .ok (nv, ch) => if ch then .ok (plug legs d nv, true) else .ok (d, false)) := by
  refine existing_path_induction ?_ ?_ ?_
  · intro d
    rcases h : walk [] d v mode with e | ⟨nv, _ | _⟩
    · rfl
    · rw [unchanged_returns_same [] d v mode nv h]; rfl
    · rfl
  · intro K rest kvs cur old _ hg ih
    rw [walk_key_existing kvs K cur rest v mode hm hg, ih]
    rcases walk [] old v mode with e | ⟨nv, _ | _⟩ <;> simp only [plug, hg, Option.getD_some] <;> rfl
  · intro n rest xs old hn ih
    rw [walk_idx_existing xs n rest v mode hm hn, ih]
    rcases walk [] old v mode with e | ⟨nv, _ | _⟩ <;>
      simp only [plug, List.getD_eq_getElem?_getD, List.getElem?_eq_getElem hn, Option.getD_some] <;> rfl

theorem refLookup_plug (nv : JsonVal) : ∀ (legs : List Leg) (d old : JsonVal), plainLegs legs →
    refLookup legs d = some old → refLookup legs (plug legs d nv) = some nv := by
  refine existing_path_induction (fun d => rfl) ?_ ?_
  · intro K rest kvs cur old hk hg ih
    simpa only [plug, refLookup, hg, Option.getD_some, objGet_objSet kvs K _ hk] using ih
  · intro n rest xs old hn ih
    simpa only [plug, refLookup_idx, List.length_set, hn, dite_true, List.getElem_set_self,
      List.getD_eq_getElem?_getD, List.getElem?_eq_getElem hn, Option.getD_some] using ih

/-- **set, then look up**: on a path that exists, SET succeeds, reports a change, and the same path
then leads to the new value -/
theorem lookup_set : ∀ (legs : List Leg) (d v old : JsonVal), plainLegs legs → refLookup legs d = some old →
    ∃ d', walk legs d v .set = .ok (d', true) ∧ refLookup legs d' = some v :=
  fun legs d v old hp hl =>
    ⟨plug legs d v, by rw [walk_existing v .set (by decide) legs d old hp hl]; rfl, refLookup_plug v legs d old hp hl⟩

example : plainLegs [.key [0x61], .idx (.nat 1)] ∧
    refLookup [.key [0x61], .idx (.nat 1)] (.obj [([0x61], .arr [nullLit, .lit [0x31]])]) = some (.lit [0x31]) := by
  refine ⟨⟨by rfl, trivial⟩, by rfl⟩

/-- **INSERT never touches what exists**: on a path that exists, INSERT returns the document
unchanged with `changed = false` -/
theorem insert_existing : ∀ (legs : List Leg) (d v old : JsonVal), plainLegs legs → refLookup legs d = some old →
    walk legs d v .insert = .ok (d, false) :=
  fun legs d v old hp hl => by rw [walk_existing v .insert (by decide) legs d old hp hl]; rfl

theorem replace_existing : ∀ (legs : List Leg) (d v old : JsonVal), plainLegs legs → refLookup legs d = some old →
    walk legs d v .replace = walk legs d v .set :=
  fun legs d v old hp hl => by
    rw [walk_existing v .replace (by decide) legs d old hp hl, walk_existing v .set (by decide) legs d old hp hl]; rfl

/-- **remove, then look up** (last leg a member name): REMOVE of an existing member succeeds with
`changed = true`, and the path then finds nothing.  (A last leg that is an array index: `remove_index`.) -/
theorem remove_member (kvs : List (Bytes × JsonVal)) (K : Bytes) (old : JsonVal) (hd : distinctKeys kvs)
    (hl : objGet kvs K = some old) :
    walk [.key K] (.obj kvs) nullLit .remove = .ok (.obj (objDel kvs K), true) ∧
    refLookup [.key K] (.obj (objDel kvs K)) = none := by
  constructor
  · simp [walk, hl]
  · simp [refLookup, objGet_objDel kvs K hd]

/-- **REMOVE of an existing cell** erases it: the cells after it move down by one -/
theorem remove_index (xs : List JsonVal) (n : Nat) (hn : n < xs.length) :
    walk [.idx (.nat n)] (.arr xs) nullLit .remove = .ok (.arr (xs.eraseIdx n), true) := by
  have hpi := parseIndex_nat_inrange n xs.length hn
  have hgt : ((xs.length : Int) > (n : Int)) := by omega
  simp [walk, hpi, hgt]

theorem arrayAppend_member (kvs : List (Bytes × JsonVal)) (K : Bytes) (cur v : JsonVal) (hk : rawKey (escapeGo K) = K)
    (hg : objGet kvs K = some cur) :
    ∃ d', walk [.key K] (.obj kvs) v .arrayAppend = .ok (d', true) ∧
      refLookup [.key K] d' = some (match cur with | .arr xs => .arr (xs ++ [v]) | _ => .arr [cur, v]) := by
  cases cur <;>
    exact ⟨_, by rw [walk_key_existing kvs K _ [] v .arrayAppend (by decide) hg]; rfl,
      by simp only [refLookup, objGet_objSet _ _ _ hk]⟩

/-- **ARRAY_INSERT on an existing cell** inserts before it -/
theorem arrayInsert_cell (xs : List JsonVal) (n : Nat) (v : JsonVal) (hn : n < xs.length) :
    walk [.idx (.nat n)] (.arr xs) v .arrayInsert = .ok (.arr (insertAt xs n v), true) := by
  have hpi := parseIndex_nat_inrange n xs.length hn
  have hgt : ((xs.length : Int) > (n : Int)) := by omega
  simp [walk, hpi, hgt]

/-- **round trip**: for every stored-form document (`wfV`: scalars are well-formed literals — a string
literal whose body the string reader reads back, or a token without delimiters — and keys are such
bodies) parsing the stored text gives the document back; with any continuation `r` that is empty or
starts with a delimiter, `parseVal` stops exactly after the value. -/
theorem parse_serialize (d : JsonVal) (h : wfV d) : parse (serialize d) = some d := by
  -- `parse` hands `parseVal` the text length plus two as fuel, and `sz d` is at most the text length
  have := rtV d h ((serialize d).length + 2) [] (by have := sz_le d h; omega) (Or.inl rfl)
  simp only [List.append_nil] at this
  simp [parse, this, skipWs]

theorem parseVal_serialize (d : JsonVal) (h : wfV d) (f : Nat) (r : Bytes) (hf : sz d ≤ f) (hr : restOk r) :
    parseVal f (serialize d ++ r) = some (d, r) := rtV d h f r hf hr

/-- the hypothesis is satisfiable by ordinary documents: string bodies without raw `"` / `\` qualify -/
theorem wf_plain_body (b : Bytes) (h : ∀ c ∈ b, c ≠ 0x22 ∧ c ≠ 0x5c) : bodyOk b := bodyOk_plain b h

example : wfV (.obj [([0x61], .arr [.lit [0x31], .lit [0x22, 0x78, 0x22]])]) := by
  refine ⟨bodyOk_plain _ (by decide), ⟨Or.inr ⟨0x31, [], rfl, by decide, by decide, by decide, by decide, by simp⟩,
    Or.inl ⟨[0x78], rfl, bodyOk_plain _ (by decide)⟩, trivial⟩, trivial⟩

/-- the refinement of DESIGN.md §6 — stored-text splice = structural edit, for all documents.
**Not proved, and false of the code** at the points listed in design/C17.md (the harness replays a
witness of each on every run); kept as the statement the correspondence checks. -/
def indexed_refines_full : Prop :=
  ∀ (mode : Mode) (legs : List Leg) (d v : JsonVal),
    indexedOp mode legs (serialize d) (serialize v) =
      (match refOp mode legs d v with
        | .ok (r, ch) => .ok (serialize r, ch)
        | .error e => .error (.ref e))

/-- witness: `$[1]` on a scalar — in memory the scalar is wrapped into `["x", 9]`, the stored
implementation leaves the document unchanged -/
theorem indexed_refines_full_refuted : ¬ indexed_refines_full := by
  intro h
  have h0 := h .set [.idx (.nat 1)] (.lit [0x22, 0x78, 0x22]) (.lit [0x39])
  have h1 : indexedOp .set [.idx (.nat 1)] (serialize (.lit [0x22, 0x78, 0x22])) (serialize (.lit [0x39])) =
      .ok ([0x22, 0x78, 0x22], false) := by rfl
  have h2 : refOp .set [.idx (.nat 1)] (.lit [0x22, 0x78, 0x22]) (.lit [0x39]) =
      .ok (.arr [.lit [0x22, 0x78, 0x22], .lit [0x39]], true) := by rfl
  rw [h1, h2] at h0
  simp at h0

/-- one half of the merge specification of DESIGN.md §6 (conflict exactly when both sides edit one location
differently, otherwise both edit sets applied): when the left side made no edit the merge succeeds and
reads like the right document — the mirror image of `merge_right_unchanged`.  **Not proved**; compared on
every run, with the recorded deviations (an element added to an empty array is lost / an internal error). -/
def json_merge_spec_full : Prop :=
  ∀ (b l r : JsonVal), jsonEq b l = true → ∃ m, merge3 b l r = .merged m ∧ parse m = parse (serialize r)

/-- the in-memory route on the stored text is the reference, by the round trip -/
theorem viaReference_refines (mode : Mode) (legs : List Leg) (d v : JsonVal) (hd : wfV d) (hv : wfV v) :
    viaReference mode legs (serialize d) (serialize v) =
      (match refOp mode legs d (if mode = .remove then nullLit else v) with
        | .ok (r, ch) => .ok (serialize r, ch)
        | .error e => .error (.ref e)) := by
  unfold viaReference
  rw [parse_serialize d hd]
  by_cases hm : mode = .remove
  · simp only [hm, if_true]
    cases refOp Mode.remove legs d nullLit <;> rfl
  · simp only [hm, if_false, parse_serialize v hv]
    cases refOp mode legs d v <;> rfl

/-- the refinement of DESIGN.md §6 (`indexedOp` on `serialize d` = `serialize` of `refOp` on `d`) for
stored-form documents, in every case where `IndexedJsonDocument` hands the work to the in-memory
implementation: ARRAY_APPEND and ARRAY_INSERT (always), and SET / INSERT / REPLACE / REMOVE on a path the
lexer reports as unsupported (`[last]`, `*`, `**`).  Of the splice cases (plain keys / indexes) only those of
`indexed_refines_single_chunk` and `indexed_refines_remove` are proved; `indexed_refines_full` is refuted. -/
theorem indexed_refines_partial (mode : Mode) (legs : List Leg) (d v : JsonVal) (hd : wfV d) (hv : wfV v)
    (hroot : ¬ (mode = .remove ∧ legs = []))
    (hdel : mode = .arrayAppend ∨ mode = .arrayInsert ∨ (∃ u, legsToLoc legs rootLoc = u ∧ u matches .unsupported)) :
    indexedOp mode legs (serialize d) (serialize v) =
      (match refOp mode legs d (if mode = .remove then nullLit else v) with
        | .ok (r, ch) => .ok (serialize r, ch)
        | .error e => .error (.ref e)) := by
  rw [← viaReference_refines mode legs d v hd hv]
  rcases hdel with rfl | rfl | ⟨u, hu, hm⟩
  · rfl
  · rfl
  · obtain rfl : u = .unsupported := by cases u <;> simp at hm ⊢
    have hne : legs ≠ [] := fun e => by simp [e, legsToLoc] at hu
    cases mode <;> simp [indexedOp, hu, hne]

example : (∃ u, legsToLoc [.key [0x61], .idx .last] rootLoc = u ∧ u matches .unsupported) := ⟨_, rfl, rfl⟩

/-- **`MergeJSON` on non-objects**: when base, left or right is not an object, the merge is "equal, or
conflict" -/
theorem merge_nonobject (b l r : JsonVal) (h : kindOf b ≠ .obj ∨ kindOf l ≠ .obj ∨ kindOf r ≠ .obj) :
    merge3 b l r = if jsonEq l r then .merged (serialize l) else .conflict := by
  have hd : mergeDecide 64 b l r = if jsonEq l r then some (.inr l) else none := by
    rw [show (64 : Nat) = 63 + 1 from rfl, mergeDecide]
    simp only [h, if_true]
  simp only [merge3, hd]
  cases jsonEq l r <;> rfl

/-- **the right side made no edit**: three objects, right equal to the base ⇒ no conflict
and the merged document is the left one, text and all -/
theorem merge_right_unchanged (b l : JsonVal) (hb : kindOf b = .obj) (hl : kindOf l = .obj) :
    merge3 b l b = .merged (serialize l) := by
  have hno : ¬ (kindOf b ≠ .obj ∨ kindOf l ≠ .obj ∨ kindOf b ≠ .obj) := by simp [hb, hl]
  have hself : ∀ fuel, diffVal fuel [] b b = [] := fun fuel => (diff_self fuel).1 [] b
  have hd : mergeDecide 64 b l b = some (.inl []) := by
    rw [show (64 : Nat) = 63 + 1 from rfl, mergeDecide]
    simp only [hno, if_false, hself, threeWay_nil_right, Option.map_some]
  simp only [merge3, hd, applySteps]

example : merge3 (.obj [([0x61], .lit [0x31])]) (.obj [([0x61], .lit [0x32])]) (.obj [([0x61], .lit [0x31])]) =
    .merged [0x7b, 0x22, 0x61, 0x22, 0x3a, 0x32, 0x7d] := by
  rw [merge_right_unchanged _ _ rfl rfl]; rfl

/-- members before `K`: scalar values the scanner passes in one step, keys it reads back exactly, in
ascending byte order below `K`, and (for the reference side) keys that are their own Go strings -/
def PlainPre (K : Bytes) (pre : List (Bytes × Bytes)) : Prop :=
  FlatPre K pre ∧ ∀ ks ∈ pre, rawKey ks.1 = ks.1

/-- splice = structural edit at an existing member `K`, stated on member lists; `indexed_refines_single_chunk` and
`indexed_refines_remove` are its instances in the `membersFrom` form -/
theorem indexed_refines_member (l post : List (Bytes × JsonVal)) (K : Bytes) (old nv : JsonVal)
    (hl : Earlier K l) (hraw : ∀ kv ∈ l, rawKey kv.1 = kv.1) (hK : keyScans K) (hKraw : rawKey K = K)
    (hold : valScans (serialize old)) (hne : K ≠ [] ∧ K ≠ [0x2a] ∧ K ≠ [0x2a, 0x2a]) :
    let d := JsonVal.obj (l ++ (K, old) :: post)
    (indexedOp .set [.key K] (serialize d) (serialize nv) =
        (match refOp .set [.key K] d nv with | .ok (r, ch) => .ok (serialize r, ch) | .error e => .error (.ref e))) ∧
    (indexedOp .replace [.key K] (serialize d) (serialize nv) =
        (match refOp .replace [.key K] d nv with | .ok (r, ch) => .ok (serialize r, ch) | .error e => .error (.ref e))) ∧
    (indexedLookup [.key K] (serialize d) = .ok ((refLookup [.key K] d).map serialize)) ∧
    (∀ v, indexedOp .remove [.key K] (serialize d) v =
        (match refOp .remove [.key K] d nullLit with | .ok (r, ch) => .ok (serialize r, ch) | .error e => .error (.ref e))) := by
  intro d
  have hloc := legsToLoc_key K hne
  have hbelow : ∀ kv ∈ l, bytesCmp (rawKey kv.1) K = .lt := fun kv hkv => by rw [hraw kv hkv]; exact (hl kv hkv).2.2
  have hget : objGet (l ++ (K, old) :: post) K = some old := objGet_members K _ post hKraw _ hbelow
  have hset : objSet (l ++ (K, old) :: post) K nv = l ++ (K, nv) :: post := objSet_members K _ nv post hKraw _ hbelow
  have hdel : objDel (l ++ (K, old) :: post) K = l ++ post := objDel_members K _ post hKraw _ hbelow
  obtain ⟨hrep, hs'⟩ := iReplace_member l K old post (serialize nv) hl hK hold
  have hser : serialize (.obj (l ++ (K, nv) :: post)) = lead l K ++ (serialize nv ++ afterVal post []) := by
    simpa using serialize_split l K nv post []
  refine ⟨?_, ?_, ?_, fun v => ?_⟩
  · have href : refOp .set [.key K] d nv = .ok (.obj (l ++ (K, nv) :: post), true) :=
      hset ▸ walk_key_existing _ K _ [] nv .set (by decide) hget
    simp only [indexedOp, hloc, href, hser]
    exact hs'
  · have href : refOp .replace [.key K] d nv = .ok (.obj (l ++ (K, nv) :: post), true) :=
      hset ▸ walk_key_existing _ K _ [] nv .replace (by decide) hget
    simp only [indexedOp, hloc, href, hser]
    exact hrep
  · have href : refLookup [.key K] d = some old := by simp [refLookup, d, hget]
    simp only [indexedLookup, hloc, href]
    exact iLookup_member l K old post hl hK hold
  · have href : refOp .remove [.key K] d nullLit = .ok (.obj (l ++ post), true) := by
      simp [refOp, walk, d, hget, hdel]
    simp only [indexedOp, hloc, href]
    simpa [d] using iRemove_member l K old post hl hK hold

/-- **the scan locates the member** (flat object, single chunk): on the stored text of an object whose members before
`K` are scalars in ascending key order, `AdvanceToLocation(K)` reports "found" and stands exactly at the
value of `K`: the text passed is everything before that value, the text ahead is the value and the rest -/
theorem scan_locates (pre : List (Bytes × Bytes)) (K sK : Bytes) (post : List (Bytes × JsonVal))
    (hpre : FlatPre K pre) (hK : keyScans K) :
    ∃ done', advanceTo (mkScanner (serialize (.obj (membersFrom pre K sK post)))) (keyLoc .startOfValue K) false =
        .ok (true, atValue done' K sK post []) ∧
      done'.reverse = 0x7b :: (preText pre ++ (0x22 :: K ++ [0x22, 0x3a])) :=
  ⟨(lead (pre.map mem) K).reverse, scan_member (pre.map mem) K (.lit sK) post hpre.earlier hK false,
    by simp only [lead, List.reverse_reverse, lead_flat]⟩

theorem PlainPre.raw {K : Bytes} {pre : List (Bytes × Bytes)} (h : PlainPre K pre) :
    ∀ kv ∈ pre.map mem, rawKey kv.1 = kv.1 := by
  intro kv hkv
  obtain ⟨ks, hks, rfl⟩ := List.mem_map.mp hkv
  exact h.2 ks hks

/-- **splice = structural edit for LOOKUP, SET and REPLACE** of an
existing member `K` of a stored object, single chunk.  Hypotheses (each one a point where the
correspondence showed the refinement to fail otherwise): the members before `K` are scalars with keys
the scanner reads back unescaped, in ascending byte order (`FlatPre`), keys are their own Go strings
(`rawKey k = k`: no escapes), `K` is a plain non-empty key other than `*` / `**`, and the current value
of `K` is a scalar the scanner passes in one step.  The members after `K` are arbitrary. -/
theorem indexed_refines_single_chunk (pre : List (Bytes × Bytes)) (K sK : Bytes) (post : List (Bytes × JsonVal))
    (nv : JsonVal) (hpre : PlainPre K pre) (hK : keyScans K) (hKraw : rawKey K = K) (hs : valScans sK)
    (hne : K ≠ [] ∧ K ≠ [0x2a] ∧ K ≠ [0x2a, 0x2a]) :
    let d := JsonVal.obj (membersFrom pre K sK post)
    (indexedOp .set [.key K] (serialize d) (serialize nv) =
        (match refOp .set [.key K] d nv with | .ok (r, ch) => .ok (serialize r, ch) | .error e => .error (.ref e))) ∧
    (indexedOp .replace [.key K] (serialize d) (serialize nv) =
        (match refOp .replace [.key K] d nv with | .ok (r, ch) => .ok (serialize r, ch) | .error e => .error (.ref e))) ∧
    (indexedLookup [.key K] (serialize d) = .ok ((refLookup [.key K] d).map serialize)) :=
  have h := indexed_refines_member (pre.map mem) post K (.lit sK) nv hpre.1.earlier hpre.raw hK hKraw hs hne
  ⟨h.1, h.2.1, h.2.2.1⟩

/-- the hypotheses are met by ordinary members: a key without `"` / `\` is read back exactly … -/
theorem keyScans_plain : ∀ (k : Bytes), (∀ c ∈ k, c ≠ 0x22 ∧ c ≠ 0x5c) → keyScans k :=
  fun k h => ⟨fun r => skipKey_eq_strBody _ ▸ bodyOk_plain k h r, unescapeKey_plain k fun c hc => (h c hc).2⟩

/-- … and a number / `true` / `false` / `null` token is passed in one step -/
theorem valScans_token (c : UInt8) (t : Bytes) (h1 : c ≠ 0x22) (h2 : c ≠ 0x5b) (h3 : c ≠ 0x7b)
    (ht : ∀ x ∈ t, isStop x = false) : valScans (c :: t) := by
  intro done r p hr hp
  have tw := span_run (fun x => !isStop x) t r (fun x hx => by simp [ht x hx])
    (hr.imp_right fun ⟨c', t', e, hc'⟩ => ⟨c', t', e, by simp [hc']⟩)
  simp only [List.cons_append, Scanner.advance, hp, h1, h2, h3, if_false, Scanner.pass, tw.1, tw.2]

example : PlainPre [0x62] [([0x61], [0x31])] ∧ keyScans [0x62] ∧ valScans [0x32] := by
  refine ⟨⟨?_, ?_⟩, keyScans_plain _ (by decide), valScans_token 0x32 [] (by decide) (by decide) (by decide) (by simp)⟩
  · intro ks h; simp at h; subst h
    exact ⟨keyScans_plain _ (by decide), valScans_token 0x31 [] (by decide) (by decide) (by decide) (by simp), by decide⟩
  · intro ks h; simp at h; subst h; rfl

/-- **splice = structural edit for REMOVE**: removing an existing member `K` (first, middle or last)
of a flat-prefixed stored object is the structural deletion — the member's text and exactly one adjacent
comma go.  Same hypotheses as for SET / REPLACE / LOOKUP. -/
theorem indexed_refines_remove (pre : List (Bytes × Bytes)) (K sK : Bytes) (post : List (Bytes × JsonVal))
    (v : Bytes) (hpre : PlainPre K pre) (hK : keyScans K) (hKraw : rawKey K = K) (hs : valScans sK)
    (hne : K ≠ [] ∧ K ≠ [0x2a] ∧ K ≠ [0x2a, 0x2a]) :
    let d := JsonVal.obj (membersFrom pre K sK post)
    indexedOp .remove [.key K] (serialize d) v =
      (match refOp .remove [.key K] d nullLit with | .ok (r, ch) => .ok (serialize r, ch) | .error e => .error (.ref e)) :=
  (indexed_refines_member (pre.map mem) post K (.lit sK) nullLit hpre.1.earlier hpre.raw hK hKraw hs hne).2.2.2 v

example : indexedOp .remove [.key [0x62]] (serialize (.obj [([0x61], .lit [0x31]), ([0x62], .lit [0x32]), ([0x63], .lit [0x33])])) [] =
    .ok (serialize (.obj [([0x61], .lit [0x31]), ([0x63], .lit [0x33])]), true) := by rfl

end DoltVerif.C17
