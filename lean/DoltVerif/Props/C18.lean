import DoltVerif.Lemmas.DagClosure
/-!
C18 — Commit metadata describes the commit graph exactly.

Statements are about `Model/Dag.lean` (`addCommit` = `newCommitForValue` + `commit_flatbuffer` +
`writeFbCommitParentClosure`), for **every** graph reachable by any sequence of `addCommit`s
(`Built g`): any number of parents, duplicates, criss-cross, several roots.  Tied to the Go source by
`Tie/Dag.lean` and by the `commitgraph` harness (every height / closure iteration compared, plus a
brute-force BFS oracle).
-/
namespace DoltVerif.C18
open DoltVerif.Dag

/-- **height_spec.**  In every reachable graph a root commit has height 1, every parent is lower
than its child, and a commit with parents is exactly one higher than one of them — i.e.
`height c = 1 + max (heights of parents)` (0 for no parents).  Duplicated parents change nothing. -/
theorem height_spec {g : Graph} (hb : Built g) {c : Addr} {cc : Commit} (hc : lookup g c = some cc) :
    (cc.parents = [] → cc.height = 1) ∧
    (∀ p ∈ cc.parents, ∃ pc, lookup g p = some pc ∧ pc.height < cc.height) ∧
    (cc.parents ≠ [] → ∃ p ∈ cc.parents, ∃ pc, lookup g p = some pc ∧ cc.height = pc.height + 1) := by
  have hi := hb.inv
  obtain ⟨hm, rfl⟩ := lookup_some hc
  have hh := (stored_spec hi hm).2.1
  refine ⟨?_, ?_, ?_⟩
  · intro hnil
    rw [hh, parentsOf, hnil]
    rfl
  · intro p hp
    obtain ⟨pc, hpc⟩ := parent_stored hi ⟨cc, hc, hp⟩
    exact ⟨pc, hpc, height_parent_lt hi ⟨cc, hc, hp⟩ hpc hc⟩
  · intro hne
    rcases maxHeight_attained ((parentsOf g cc).map (·.height)) with h0 | hmem
    · -- max = 0 is impossible: every stored commit has height ≥ 1
      exfalso
      obtain ⟨p, hp⟩ := List.exists_mem_of_ne_nil _ hne
      obtain ⟨pc, hpc, _⟩ := (isParent_iff hi hm).1 ⟨cc, hc, hp⟩
      exact Nat.not_succ_le_zero 0 (Nat.le_trans (Dag.height_pos hi (mem_of_mem_parentsOf hpc))
        (h0 ▸ le_maxHeight (List.mem_map.2 ⟨pc, hpc, rfl⟩)))
    · obtain ⟨pc, hpc, hpe⟩ := List.mem_map.1 hmem
      exact ⟨pc.addr, (mem_parentsOf.1 hpc).1, pc, (mem_parentsOf.1 hpc).2, by rw [hh, ← hpe]⟩

/-- every stored commit has height at least 1 -/
theorem height_pos {g : Graph} (hb : Built g) {c : Addr} {cc : Commit} (hc : lookup g c = some cc) :
    1 ≤ cc.height := by
  exact Dag.height_pos hb.inv (lookup_some hc).1

/-- **height_one_iff_root.**  Height 1 is carried by the root commits and by nothing else: a commit
with at least one parent has height ≥ 2. -/
theorem height_one_iff_root {g : Graph} (hb : Built g) {c : Addr} {cc : Commit} (hc : lookup g c = some cc) :
    cc.height = 1 ↔ cc.parents = [] := by
  obtain ⟨h0, _, h2⟩ := height_spec hb hc
  refine ⟨fun h1 => ?_, h0⟩
  by_cases hp : cc.parents = []
  · exact hp
  · obtain ⟨_, _, pc, hpc, hh⟩ := h2 hp
    have := height_pos hb hpc
    omega

/-- **height_above_ancestors.**  Heights strictly increase along every ancestor chain. -/
theorem height_above_ancestors {g : Graph} (hb : Built g) {a c : Addr} (h : Anc g a c)
    {ac cc : Commit} (ha : lookup g a = some ac) (hc : lookup g c = some cc) : ac.height < cc.height :=
  height_anc_lt hb.inv h ha hc

/-- **closure_exact.**  The closure stored with a commit lists exactly its proper ancestors, each
with its height: `⊆` (nothing but ancestors, with the right heights) and `⊇` (no ancestor is
missing), in strictly ascending `(height, addr)` order (hence without duplicates, and the reverse
iteration used by the merge-base walk is strictly descending). -/
theorem closure_exact {g : Graph} (hb : Built g) {c : Addr} {cc : Commit} (hc : lookup g c = some cc) :
    (∀ k : Key, k ∈ cc.closure ↔ ∃ a ac, Anc g a c ∧ lookup g a = some ac ∧ k = (ac.height, a)) ∧
    cc.closure.Pairwise klt := by
  obtain ⟨hm, rfl⟩ := lookup_some hc
  refine ⟨fun k => ?_, closure_sorted hb.inv cc hm⟩
  -- `closure_mem_iff` with the key `ac.key` of the commit stored under `a` written `(ac.height, a)`
  rw [closure_mem_iff hb.inv cc hm]
  exact exists_congr fun a => exists_congr fun ac => and_congr_right fun _ => and_congr_right fun h2 => by
    rw [Commit.key, (lookup_some h2).2]

/-- the closure has no duplicate keys -/
theorem closure_nodup {g : Graph} (hb : Built g) {c : Addr} {cc : Commit} (hc : lookup g c = some cc) :
    cc.closure.Nodup := by
  have := (closure_exact hb hc).2
  exact this.imp (fun {a b} h heq => by subst heq; exact klt_irrefl _ h)

theorem closure_empty_iff_root {g : Graph} (hb : Built g) {c : Addr} {cc : Commit} (hc : lookup g c = some cc) :
    cc.closure = [] ↔ cc.parents = [] := by
  obtain ⟨hm, rfl⟩ := lookup_some hc
  have hi := hb.inv
  -- the closure is made from the stored parents, and holds at least their keys
  rw [(stored_spec hi hm).2.2, List.eq_nil_iff_forall_not_mem, List.eq_nil_iff_forall_not_mem]
  constructor
  · intro h p hp
    obtain ⟨pc, hpc, _⟩ := (isParent_iff hi hm).1 ⟨cc, hc, hp⟩
    exact h pc.key (mem_parentClosure.2 ⟨pc, hpc, .inl rfl⟩)
  · intro h k hk
    obtain ⟨p, hp, _⟩ := mem_parentClosure.1 hk
    exact h p.addr (mem_parentsOf.1 hp).1

/-- graphs reachable from `g` by further commits -/
inductive Reach (g : Graph) : Graph → Prop
  | refl : Reach g g
  | step {g' g'' : Graph} {a : Addr} {ps : List Addr} : Reach g g' → addCommit g' a ps = .ok g'' → Reach g g''

theorem Reach.built {g g' : Graph} (hb : Built g) (hr : Reach g g') : Built g' := by
  induction hr with
  | refl => exact hb
  | step _ hadd ih => exact .add ih hadd

theorem Reach.sub {g g' : Graph} (hr : Reach g g') : SubGraph g g' := by
  induction hr with
  | refl => exact id
  | step _ hadd ih => exact fun h => sub_addCommit hadd (ih h)

/-- **addr_stable.**  Whatever is committed later, the value stored under an existing address is
the same commit (same parents, height and closure): no operation rewrites a commit, and a new
commit never takes an address that is in use. -/
theorem addr_stable {g g' : Graph} (hb : Built g) (hr : Reach g g') {x : Addr} {xc : Commit}
    (hx : lookup g x = some xc) : lookup g' x = some xc ∧ Built g' :=
  ⟨hr.sub hx, hr.built hb⟩

/-- …and therefore its ancestor set never changes either. -/
theorem ancestors_stable {g g' : Graph} (hb : Built g) (hr : Reach g g') {a c : Addr}
    (hc : (lookup g c).isSome) : Anc g' a c ↔ Anc g a c := by
  obtain ⟨cc, hcc⟩ := Option.isSome_iff_exists.1 hc
  exact ⟨anc_of_sub hb.inv hr.sub hcc, Anc.mono hr.sub⟩

/-- non-vacuity: root 10; 20,30 on it; criss-cross 40 = (20,30), 50 = (30,20); 60 = octopus with a
duplicate parent (40,50,20,40) -/
def sample : List (Addr × List Addr) :=
  [(60, [40, 50, 20, 40]), (50, [30, 20]), (40, [20, 30]), (30, [10]), (20, [10]), (10, [])]

example : (build sample).toOption.map (fun g => g.map (fun c => (c.addr, c.height, c.closure))) =
    some [(60, 4, [(1, 10), (2, 20), (2, 30), (3, 40), (3, 50)]),
          (50, 3, [(1, 10), (2, 20), (2, 30)]), (40, 3, [(1, 10), (2, 20), (2, 30)]),
          (30, 2, [(1, 10)]), (20, 2, [(1, 10)]), (10, 1, [])] := by decide +kernel

theorem built_of_build : ∀ {h : List (Addr × List Addr)} {g : Graph}, build h = .ok g → Built g := by
  intro h
  fun_induction build h with
  | case1 => rintro g ⟨⟩; exact .nil
  | case2 a ps rest g0 hg0 ih => exact fun hb => .add (ih hg0) hb
  | case3 => nofun

def sampleGraph : Graph := match build sample with | .ok g => g | .error _ => []

theorem sample_ok : build sample = .ok sampleGraph := by rfl

example : Built sampleGraph ∧ ∃ cc, lookup sampleGraph 60 = some cc ∧ cc.parents = [40, 50, 20, 40] ∧
    cc.closure.length = 5 := ⟨built_of_build sample_ok, by decide +kernel⟩

end DoltVerif.C18
