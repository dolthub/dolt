import DoltVerif.Lemmas.DagLca
import DoltVerif.Lemmas.DagParents
import DoltVerif.Props.C18
/-!
C19 — Merge bases and ancestor specs resolve as the commit graph dictates.

Statements are about `Model/Dag.lean`: `findCommonAncestor` (= `datas.FindCommonAncestor`: closure
merge-walk, delegating to the parents-list walk when a commit has no closure), `viaParents`
(= `findCommonAncestorUsingParentsList`), `getAncestor` (= `doltdb.Commit.GetAncestor`) and
`canFastForward` (= `Commit.CanFastForwardTo`), for every graph reachable by any sequence of
commits.
-/
namespace DoltVerif.C19
open DoltVerif.Dag

/-- the specification of a merge base: a common ancestor that is maximal in `(height, addr)` order
among all common ancestors — or nothing, exactly when no common ancestor exists -/
def LcaSpec (g : Graph) (c1 c2 : Addr) : Option Addr → Prop
  | some a => ∃ ac, lookup g a = some ac ∧ Common g c1 c2 a ∧
      ∀ b bc, Common g c1 c2 b → lookup g b = some bc → bc.key = ac.key ∨ klt bc.key ac.key
  | none => ∀ a, ¬ Common g c1 c2 a

/-- there is at most one answer satisfying `LcaSpec` -/
theorem lcaSpec_unique {g : Graph} {c1 c2 : Addr} {r r' : Option Addr}
    (h : LcaSpec g c1 c2 r) (h' : LcaSpec g c1 c2 r') : r = r' := by
  cases r with
  | none =>
    cases r' with
    | none => rfl
    | some b => obtain ⟨_, _, hc, _⟩ := h'; exact absurd hc (h b)
  | some a =>
    obtain ⟨ac, hla, hca, hmax⟩ := h
    cases r' with
    | none => exact absurd hca (h' a)
    | some b =>
      obtain ⟨bc, hlb, hcb, hmax'⟩ := h'
      rcases hmax b bc hcb hlb with e | e
      · have : bc.addr = ac.addr := congrArg Prod.snd e
        rw [← (lookup_some hlb).2, ← (lookup_some hla).2, this]
      · rcases hmax' a ac hca hla with e' | e'
        · exact absurd (e' ▸ e) (klt_irrefl _)
        · exact absurd e (klt_asymm e')

theorem eq_of_ancStar_closure_empty {g : Graph} (hb : Built g) {c : Commit} (hm : c ∈ g) (he : c.closure.isEmpty = true)
    {a : Addr} (h : AncStar g a c.addr) : a = c.addr := by
  rcases h with ⟨e, _⟩ | h
  · exact e
  · obtain ⟨ac, hla⟩ := anc_stored hb.inv h
    have := (closure_mem_iff hb.inv c hm _).2 ⟨a, ac, h, hla, rfl⟩
    rw [List.isEmpty_iff.1 he] at this
    cases this

theorem parentsSpec_root {g : Graph} (hb : Built g) {c1 c2 : Commit} (h1 : c1 ∈ g) (h2 : c2 ∈ g)
    (he : c1.closure.isEmpty = true ∨ c2.closure.isEmpty = true) {r : Option Addr}
    (h : ParentsSpec g c1.addr c2.addr r) : LcaSpec g c1.addr c2.addr r := by
  cases r with
  | none => exact h
  | some a =>
    obtain ⟨ac, hla, hca, _⟩ := h
    refine ⟨ac, hla, hca, ?_⟩
    intro b bc hcb hlb
    have : b = a := by
      rcases he with he | he
      · rw [eq_of_ancStar_closure_empty hb h1 he hcb.1, eq_of_ancStar_closure_empty hb h1 he hca.1]
      · rw [eq_of_ancStar_closure_empty hb h2 he hcb.2, eq_of_ancStar_closure_empty hb h2 he hca.2]
    subst this
    rw [hla] at hlb
    cases hlb
    exact .inl rfl

/-- the common keys of the two descending lists are the keys of the common ancestors, so the greatest
common key is the `LcaSpec` answer -/
theorem mergeWalk_lcaSpec {g : Graph} (hi : Inv g) {c1 c2 : Commit} (h1 : c1 ∈ g) (h2 : c2 ∈ g) :
    LcaSpec g c1.addr c2.addr (mergeWalk (descKeys c1) (descKeys c2)) := by
  have mem : ∀ {b bc}, Common g c1.addr c2.addr b → lookup g b = some bc →
      bc.key ∈ descKeys c1 ∧ bc.key ∈ descKeys c2 := fun hcb hlb =>
    ⟨(descKeys_mem_iff hi h1).2 ⟨_, _, hcb.1, hlb, rfl⟩, (descKeys_mem_iff hi h2).2 ⟨_, _, hcb.2, hlb, rfl⟩⟩
  have hs := mergeWalk_spec (descKeys c1) (descKeys c2) (descKeys_desc hi h1) (descKeys_desc hi h2)
    (descKeys_addr_key hi h1 h2)
  generalize mergeWalk (descKeys c1) (descKeys c2) = r at hs
  cases r with
  | none =>
    intro a hca
    obtain ⟨ac, hla⟩ := ancStar_stored hi hca.1
    exact hs _ (mem hca hla).1 (mem hca hla).2
  | some a =>
    obtain ⟨k, hk1, hk2, rfl, hmax⟩ := hs
    obtain ⟨a, ac, hs1, hla, rfl⟩ := (descKeys_mem_iff hi h1).1 hk1
    obtain ⟨a', ac', hs2, hla', hk'⟩ := (descKeys_mem_iff hi h2).1 hk2
    obtain ⟨_, rfl⟩ := lookup_some hla
    obtain ⟨_, rfl⟩ := lookup_some hla'
    have : ac'.addr = ac.addr := (congrArg Prod.snd hk').symm
    rw [this] at hs2
    exact ⟨ac, hla, ⟨hs1, hs2⟩, fun b bc hcb hlb => hmax _ (mem hcb hlb).1 (mem hcb hlb).2⟩

/-- **lca_sound_complete.**  On every reachable graph and every pair of stored commits,
`FindCommonAncestor` never fails; when it returns `a`, `a` is a common ancestor (or one of the
commits itself) and no common ancestor is higher — indeed none is larger in `(height, addr)`
order; it returns nothing only if the two commits share no ancestor at all. -/
theorem lca_sound_complete {g : Graph} (hb : Built g) {c1 c2 : Commit} (h1 : c1 ∈ g) (h2 : c2 ∈ g) :
    ∃ r, findCommonAncestor g c1 c2 = .ok r ∧ LcaSpec g c1.addr c2.addr r := by
  have walk : ∀ he, ∃ r, viaParents g c1 c2 = .ok r ∧ LcaSpec g c1.addr c2.addr r := fun he =>
    let ⟨r, hr, hs⟩ := viaParents_spec hb.inv h1 h2
    ⟨r, hr, parentsSpec_root hb h1 h2 he hs⟩
  fun_cases findCommonAncestor g c1 c2
  · exact walk (.inl ‹_›)   -- `c1` carries no closure
  · exact walk (.inr ‹_›)   -- `c2` carries none
  · exact ⟨_, rfl, mergeWalk_lcaSpec hb.inv h1 h2⟩

theorem lca_eq_of_spec {g : Graph} (hb : Built g) {c1 c2 : Commit} (h1 : c1 ∈ g) (h2 : c2 ∈ g) {r : Option Addr}
    (hs : LcaSpec g c1.addr c2.addr r) : findCommonAncestor g c1 c2 = .ok r := by
  obtain ⟨r', hr, hs'⟩ := lca_sound_complete hb h1 h2
  rw [hr, lcaSpec_unique hs' hs]

/-- no common ancestor is higher than the merge base (the property's wording) -/
theorem lca_highest {g : Graph} (hb : Built g) {c1 c2 : Commit} (h1 : c1 ∈ g) (h2 : c2 ∈ g) {a : Addr}
    (h : findCommonAncestor g c1 c2 = .ok (some a)) :
    ∃ ac, lookup g a = some ac ∧ AncStar g a c1.addr ∧ AncStar g a c2.addr ∧
      ∀ b bc, AncStar g b c1.addr → AncStar g b c2.addr → lookup g b = some bc → bc.height ≤ ac.height := by
  obtain ⟨r, hr, hs⟩ := lca_sound_complete hb h1 h2
  rw [h] at hr
  cases hr
  obtain ⟨ac, hla, hca, hmax⟩ := hs
  exact ⟨ac, hla, hca.1, hca.2, fun b bc hb1 hb2 hlb => height_le_of_key (hmax b bc ⟨hb1, hb2⟩ hlb)⟩

theorem lcaSpec_symm {g : Graph} {c1 c2 : Addr} {r : Option Addr} (h : LcaSpec g c1 c2 r) : LcaSpec g c2 c1 r := by
  cases r with
  | none => exact fun a ha => h a (common_symm.1 ha)
  | some a =>
    obtain ⟨ac, hla, hca, hmax⟩ := h
    exact ⟨ac, hla, common_symm.1 hca, fun b bc hcb hlb => hmax b bc (common_symm.1 hcb) hlb⟩

/-- **lca_symmetric.**  The merge base does not depend on the argument order, including the choice
among several highest common ancestors (criss-cross histories). -/
theorem lca_symmetric {g : Graph} (hb : Built g) {c1 c2 : Commit} (h1 : c1 ∈ g) (h2 : c2 ∈ g) :
    findCommonAncestor g c1 c2 = findCommonAncestor g c2 c1 := by
  obtain ⟨r, hr, hs⟩ := lca_sound_complete hb h2 h1
  rw [hr, lca_eq_of_spec hb h1 h2 (lcaSpec_symm hs)]

/-- the parents-list walk is sound and complete as well, with the *smallest* address among the
highest common ancestors -/
theorem parents_walk_sound_complete {g : Graph} (hb : Built g) {c1 c2 : Commit} (h1 : c1 ∈ g) (h2 : c2 ∈ g) :
    ∃ r, viaParents g c1 c2 = .ok r ∧ ParentsSpec g c1.addr c2.addr r :=
  viaParents_spec hb.inv h1 h2

/-- each answer is a common ancestor, so neither is higher than the other -/
theorem specs_agree {g : Graph} {c1 c2 : Addr} {r r' : Option Addr}
    (hs : LcaSpec g c1 c2 r) (hs' : ParentsSpec g c1 c2 r') :
    (r = none ↔ r' = none) ∧
    ∀ a b ac bc, r = some a → r' = some b → lookup g a = some ac → lookup g b = some bc → ac.height = bc.height := by
  constructor
  · constructor <;> rintro rfl
    · cases r' with
      | none => rfl
      | some b => obtain ⟨_, _, hc, _⟩ := hs'; exact absurd hc (hs b)
    · cases r with
      | none => rfl
      | some a => obtain ⟨_, _, hc, _⟩ := hs; exact absurd hc (hs' a)
  · rintro a b ac bc rfl rfl hla hlb
    obtain ⟨ac', hla', hca, hmax⟩ := hs
    obtain ⟨bc', hlb', hcb, hmax'⟩ := hs'
    rw [hla] at hla'; cases hla'
    rw [hlb] at hlb'; cases hlb'
    have e1 := height_le_of_key (hmax b bc hcb hlb)
    rcases hmax' a ac hca hla with e | e
    · exact absurd e (Nat.not_lt.2 e1)
    · exact e.1

/-- both algorithms always agree on *whether* there is a merge base and on its height -/
theorem lca_algorithms_agree_height {g : Graph} (hb : Built g) {c1 c2 : Commit} (h1 : c1 ∈ g) (h2 : c2 ∈ g) :
    ∃ r r', findCommonAncestor g c1 c2 = .ok r ∧ viaParents g c1 c2 = .ok r' ∧
      (r = none ↔ r' = none) ∧
      ∀ a b ac bc, r = some a → r' = some b → lookup g a = some ac → lookup g b = some bc → ac.height = bc.height := by
  obtain ⟨r, hr, hs⟩ := lca_sound_complete hb h1 h2
  obtain ⟨r', hr', hs'⟩ := viaParents_spec hb.inv h1 h2
  exact ⟨r, r', hr, hr', specs_agree hs hs'⟩

/-- The design's `lca_algorithms_agree`, as a statement: the two algorithms return the same commit
on every reachable graph. -/
def lca_algorithms_agree_full : Prop :=
  ∀ (g : Graph), Built g → ∀ c1 ∈ g, ∀ c2 ∈ g, viaParents g c1 c2 = findCommonAncestor g c1 c2

/-- criss-cross: root 10; 20 and 30 on it; 40 = merge(20,30); 50 = merge(30,20) -/
def crissCross : List (Addr × List Addr) := [(50, [30, 20]), (40, [20, 30]), (30, [10]), (20, [10]), (10, [])]
def crissCrossGraph : Graph := match build crissCross with | .ok g => g | .error _ => []
theorem crissCross_ok : build crissCross = .ok crissCrossGraph := by rfl

def c40 : Commit := ⟨40, [20, 30], 3, [(1, 10), (2, 20), (2, 30)]⟩
def c50 : Commit := ⟨50, [30, 20], 3, [(1, 10), (2, 20), (2, 30)]⟩

theorem c40_mem : c40 ∈ crissCrossGraph := by decide +kernel
theorem c50_mem : c50 ∈ crissCrossGraph := by decide +kernel

theorem closure_walk_40_50 : findCommonAncestor crissCrossGraph c40 c50 = .ok (some 30) := by
  simp [findCommonAncestor, c40, c50, descKeys, Commit.key, mergeWalk, klt]

theorem parents_walk_40_50 : viaParents crissCrossGraph c40 c50 = .ok (some 20) := by
  rfl

/-- **The full statement is false**: on the criss-cross history the closure walk picks the highest
common ancestor with the *largest* address (30), the parents-list walk the one with the *smallest*
(20).  The witness is replayed on the real code by the `commitgraph` harness on every run
(`witness-crisscross`). -/
theorem lca_algorithms_disagree : ¬ lca_algorithms_agree_full := by
  intro h
  have hb : Built crissCrossGraph := C18.built_of_build crissCross_ok
  have := h crissCrossGraph hb c40 c40_mem c50 c50_mem
  rw [closure_walk_40_50, parents_walk_40_50] at this
  cases this

/-- **lca_algorithms_agree_partial.**  They return the same commit whenever the highest common
ancestor is unique (no tie).  When one of the commits is a root — the only situation in which
`FindCommonAncestor` itself delegates to the parents-list walk on stores that materialise closures —
the root is the only common ancestor there can be (`eq_of_ancStar_closure_empty`). -/
theorem lca_algorithms_agree_partial {g : Graph} (hb : Built g) {c1 c2 : Commit} (h1 : c1 ∈ g) (h2 : c2 ∈ g)
    (huniq : ∀ a b ac bc, Common g c1.addr c2.addr a → Common g c1.addr c2.addr b →
      lookup g a = some ac → lookup g b = some bc → ac.height = bc.height →
      (∀ x xc, Common g c1.addr c2.addr x → lookup g x = some xc → xc.height ≤ ac.height) → a = b) :
    viaParents g c1 c2 = findCommonAncestor g c1 c2 := by
  obtain ⟨r, hr, hs⟩ := lca_sound_complete hb h1 h2
  obtain ⟨r', hr', hs'⟩ := viaParents_spec hb.inv h1 h2
  obtain ⟨hnone, hh⟩ := specs_agree hs hs'
  rw [hr, hr']
  cases r with
  | none => rw [hnone.1 rfl]
  | some a =>
    cases r' with
    | none => cases hnone.2 rfl
    | some b =>
      obtain ⟨ac, hla, hca, hmax⟩ := hs
      obtain ⟨bc, hlb, hcb, _⟩ := hs'
      rw [huniq a b ac bc hca hcb hla hlb (hh a b ac bc rfl rfl hla hlb)
        (fun x xc hcx hlx => height_le_of_key (hmax x xc hcx hlx))]

/-- **spec_walk.**  Resolving a spec is compositional: walking `is ++ js` is walking `is` and then
`js` from where that ended (so `X~2^2` = `(X~2)^2`, `~n` = n first-parent steps, …). -/
theorem spec_walk (g : Graph) (c : Commit) (is js : List Nat) :
    getAncestor g c (is ++ js) = (getAncestor g c is).bind (fun d => getAncestor g d js) := by
  induction is generalizing c with
  | nil => rfl
  | cons i is ih =>
    simp only [List.cons_append, getAncestor]
    cases c.parents[i]? with
    | none => rfl
    | some pa =>
      simp only
      cases lookup g pa with
      | none => rfl
      | some p => exact ih p

/-- instructions are 0-based parent indices (`parseInstructions`): `^k` is instruction `k-1`, `~n` is `n`
instructions 0 -/
theorem spec_walk_step {g : Graph} (hb : Built g) {c : Commit} (hm : c ∈ g) (i : Nat) :
    (c.parents[i]? = none ∧ getAncestor g c [i] = .error .invalidAncestorSpec) ∨
    (∃ p, c.parents[i]? = some p.addr ∧ lookup g p.addr = some p ∧ getAncestor g c [i] = .ok p ∧
      Anc g p.addr c.addr) := by
  have hl := lookup_self_of_inv hb.inv hm
  unfold getAncestor
  cases e : c.parents[i]? with
  | none => exact .inl ⟨rfl, rfl⟩
  | some pa =>
    right
    have hmem : pa ∈ c.parents := List.mem_of_getElem? e
    have hp : IsParent g pa c.addr := ⟨c, hl, hmem⟩
    obtain ⟨p, hp'⟩ := parent_stored hb.inv hp
    have hpa := (lookup_some hp').2
    subst hpa
    refine ⟨p, rfl, hp', ?_, .parent hp⟩
    simp only [hp', getAncestor]

/-- every commit reached by a non-empty walk is a proper ancestor of the start -/
theorem spec_walk_ancestor {g : Graph} (hb : Built g) : ∀ (is : List Nat) {c d : Commit}, c ∈ g →
    getAncestor g c is = .ok d → d ∈ g ∧ (is = [] ∧ d = c ∨ Anc g d.addr c.addr)
  | [], c, d, hm, h => by
    simp only [getAncestor] at h
    cases h
    exact ⟨hm, .inl ⟨rfl, rfl⟩⟩
  | i :: is, c, d, hm, h => by
    rcases spec_walk_step hb hm i with ⟨hn, _⟩ | ⟨p, hp, hlp, _, hanc⟩
    · simp only [getAncestor, hn] at h
      cases h
    · simp only [getAncestor, hp, hlp] at h
      obtain ⟨hdm, hd⟩ := spec_walk_ancestor hb is (lookup_some hlp).1 h
      exact ⟨hdm, .inr (hd.elim (fun e => e.2 ▸ hanc) (·.trans hanc))⟩

/-- every common ancestor is below `c1`, hence lower, or `c1` itself -/
theorem lcaSpec_of_ancestor {g : Graph} (hi : Inv g) {c1 c2 : Addr} {cc1 : Commit}
    (hl1 : lookup g c1 = some cc1) (ha : AncStar g c1 c2) : LcaSpec g c1 c2 (some c1) := by
  refine ⟨cc1, hl1, ⟨ancStar_refl hl1, ha⟩, fun b bc hcb hlb => ?_⟩
  have hh := ancStar_height_le hi hcb.1 hlb hl1
  rcases Nat.lt_or_eq_of_le hh.1 with h | h
  · exact .inr (.inl h)
  · rw [hh.2 h, hl1] at hlb
    cases hlb
    exact .inl rfl

/-- **lca_of_ancestor.**  When `c1` is `c2` itself or one of its ancestors, the merge base of the
two — in either argument order — is `c1`: this is what makes a second `dolt merge` of an already
merged branch a no-op and a merge into a strict descendant a fast-forward.  Holds on every reachable
graph, whichever of the two algorithms `FindCommonAncestor` takes. -/
theorem lca_of_ancestor {g : Graph} (hb : Built g) {c1 c2 : Commit} (h1 : c1 ∈ g) (h2 : c2 ∈ g)
    (ha : AncStar g c1.addr c2.addr) :
    findCommonAncestor g c1 c2 = .ok (some c1.addr) ∧ findCommonAncestor g c2 c1 = .ok (some c1.addr) := by
  have main := lca_eq_of_spec hb h1 h2 (lcaSpec_of_ancestor hb.inv (lookup_self_of_inv hb.inv h1) ha)
  exact ⟨main, (lca_symmetric hb h2 h1).trans main⟩

/-- the merge base of a commit with itself is that commit -/
theorem lca_self {g : Graph} (hb : Built g) {c : Commit} (h : c ∈ g) :
    findCommonAncestor g c c = .ok (some c.addr) :=
  (lca_of_ancestor hb h h (ancStar_refl (lookup_self_of_inv hb.inv h))).1

/-- the instance of `lca_of_ancestor` for 30, a proper ancestor of 50 in the criss-cross graph, by evaluation -/
example : findCommonAncestor crissCrossGraph ⟨30, [10], 2, [(1, 10)]⟩ c50 = .ok (some 30) := by
  simp [findCommonAncestor, c50, descKeys, Commit.key, mergeWalk, klt]

theorem ancStar_antisymm {g : Graph} (hi : Inv g) {a b : Addr} (h1 : AncStar g a b) (h2 : AncStar g b a) : a = b := by
  obtain ⟨ac, ha⟩ := ancStar_stored hi h1
  obtain ⟨bc, hb⟩ := ancStar_stored hi h2
  have x := ancStar_height_le hi h1 ha hb
  exact x.2 (Nat.le_antisymm x.1 (ancStar_height_le hi h2 hb ha).1)

/-- the merge base of a commit and a descendant of it is the commit (`lca_of_ancestor`); were the
merge base one of the two, that one would be an ancestor of the other -/
theorem canFastForward_cases {g : Graph} (hb : Built g) {c n : Commit} (hc : c ∈ g) (hn : n ∈ g) :
    (AncStar g c.addr n.addr → canFastForward g c n = if c.addr = n.addr then .upToDate else .ff) ∧
    (¬ AncStar g c.addr n.addr → AncStar g n.addr c.addr → canFastForward g c n = .ahead) ∧
    (¬ AncStar g c.addr n.addr → ¬ AncStar g n.addr c.addr →
      canFastForward g c n = .no ∨ canFastForward g c n = .noCommon) := by
  have reflc := ancStar_refl (lookup_self_of_inv hb.inv hc)
  unfold canFastForward
  refine ⟨fun hcn => ?_, fun hcn hnc => ?_, fun hcn hnc => ?_⟩
  · rw [(lca_of_ancestor hb hc hn hcn).1]
    exact if_pos rfl
  · rw [(lca_of_ancestor hb hn hc hnc).2]
    have hne : n.addr ≠ c.addr := fun e => hcn (e ▸ reflc)
    exact (if_neg hne).trans (if_pos rfl)
  · obtain ⟨r, hr, hs⟩ := lca_sound_complete hb hc hn
    rw [hr]
    cases r with
    | none => exact .inr rfl
    | some a =>
      obtain ⟨_, _, hca, _⟩ := hs
      have h1 : a ≠ c.addr := fun e => hcn (e ▸ hca.2)
      have h2 : a ≠ n.addr := fun e => hnc (e ▸ hca.1)
      exact .inl ((if_neg h1).trans (if_neg h2))

/-- **ff_iff_ancestor.**  `CanFastForwardTo` answers "yes" (with or without `ErrUpToDate`) exactly
when the current head is the target or one of its ancestors; "up to date" exactly when they are
the same commit; `ErrIsAhead` exactly when the target is a proper ancestor of the head. -/
theorem ff_iff_ancestor {g : Graph} (hb : Built g) {c n : Commit} (hc : c ∈ g) (hn : n ∈ g) :
    ((canFastForward g c n = .ff ∨ canFastForward g c n = .upToDate) ↔ AncStar g c.addr n.addr) ∧
    (canFastForward g c n = .upToDate ↔ c.addr = n.addr) ∧
    (canFastForward g c n = .ahead ↔ (c.addr ≠ n.addr ∧ AncStar g n.addr c.addr)) := by
  obtain ⟨f1, f2, f3⟩ := canFastForward_cases hb hc hn
  -- in each row of the classification the verdict and the facts of the row decide the three equivalences
  by_cases hcn : AncStar g c.addr n.addr
  · by_cases e : c.addr = n.addr
    · simpa [f1 hcn, e] using hcn
    · have hnc : ¬ AncStar g n.addr c.addr := fun h => e (ancStar_antisymm hb.inv hcn h)
      simp [f1 hcn, hcn, e, hnc]
  · have hne : c.addr ≠ n.addr := fun e => hcn (e ▸ ancStar_refl (lookup_self_of_inv hb.inv hc))
    by_cases hnc : AncStar g n.addr c.addr
    · simp [f2 hcn hnc, hcn, hne, hnc]
    · rcases f3 hcn hnc with e | e <;> simp [e, hcn, hne, hnc]

/-! What is stored is never rewritten (`SubGraph`), and the ancestors of a stored commit are stored with
it; so every answer about stored commits is the same in the larger store. -/

theorem lcaSpec_of_sub {g g' : Graph} (hi : Inv g) (hs : SubGraph g g') {c1 c2 : Addr} {cc1 cc2 : Commit}
    (hl1 : lookup g c1 = some cc1) (hl2 : lookup g c2 = some cc2) {r : Option Addr}
    (h : LcaSpec g' c1 c2 r) : LcaSpec g c1 c2 r := by
  have hcom : ∀ a, Common g' c1 c2 a ↔ Common g c1 c2 a := fun a => by
    rw [Common, Common, ancStar_sub_iff hi hs hl1, ancStar_sub_iff hi hs hl2]
  cases r with
  | none => exact fun a hca => h a ((hcom a).2 hca)
  | some a =>
    obtain ⟨ac, hla, hca, hmax⟩ := h
    have hcag := (hcom a).1 hca
    obtain ⟨ac0, hla0⟩ := ancStar_stored hi hcag.1
    rw [hs hla0] at hla
    cases hla
    exact ⟨ac, hla0, hcag, fun b bc hcb hlb => hmax b bc ((hcom b).2 hcb) (hs hlb)⟩

theorem lca_of_sub {g g' : Graph} (hb : Built g) (hb' : Built g') (hs : SubGraph g g') {c1 c2 : Commit}
    (h1 : c1 ∈ g) (h2 : c2 ∈ g) : findCommonAncestor g' c1 c2 = findCommonAncestor g c1 c2 := by
  have hl1 := lookup_self_of_inv hb.inv h1
  have hl2 := lookup_self_of_inv hb.inv h2
  obtain ⟨r', hr', hsp'⟩ := lca_sound_complete hb' (lookup_some (hs hl1)).1 (lookup_some (hs hl2)).1
  rw [hr', lca_eq_of_spec hb h1 h2 (lcaSpec_of_sub hb.inv hs hl1 hl2 hsp')]

theorem getAncestor_of_sub {g g' : Graph} (hi : Inv g) (hs : SubGraph g g') :
    ∀ (is : List Nat) {c : Commit}, c ∈ g → getAncestor g' c is = getAncestor g c is
  | [], _, _ => rfl
  | i :: is, c, hc => by
    unfold getAncestor
    cases hp : c.parents[i]? with
    | none => rfl
    | some pa =>
      obtain ⟨p, hlp⟩ := parent_stored hi ⟨c, lookup_self_of_inv hi hc, List.mem_of_getElem? hp⟩
      simp only [hlp, hs hlp]
      exact getAncestor_of_sub hi hs is (lookup_some hlp).1

/-- for a commit stored in `g`, "ancestor or self" means the same in every later graph -/
theorem ancStar_stable {g g' : Graph} (hb : Built g) (hr : C18.Reach g g') {a c : Addr} {cc : Commit}
    (hc : lookup g c = some cc) : AncStar g' a c ↔ AncStar g a c :=
  ancStar_sub_iff hb.inv hr.sub hc

/-- **lca_stable.**  The merge base of two stored commits is a function of those two commits alone:
whatever is committed afterwards (any number of commits, on any branch), `FindCommonAncestor`
returns the same answer for them — in particular a merge base computed before a concurrent writer
added commits is still the merge base afterwards. -/
theorem lca_stable {g g' : Graph} (hb : Built g) (hr : C18.Reach g g') {c1 c2 : Commit}
    (h1 : c1 ∈ g) (h2 : c2 ∈ g) :
    findCommonAncestor g' c1 c2 = findCommonAncestor g c1 c2 :=
  lca_of_sub hb (hr.built hb) hr.sub h1 h2

/-- **ff_stable.**  Whether one stored commit can be fast-forwarded to another does not depend on
what else has been committed since. -/
theorem ff_stable {g g' : Graph} (hb : Built g) (hr : C18.Reach g g') {c n : Commit}
    (hc : c ∈ g) (hn : n ∈ g) : canFastForward g' c n = canFastForward g c n := by
  unfold canFastForward
  rw [lca_stable hb hr hc hn]

/-- **spec_stable.**  An ancestor spec (`^`, `^k`, `~n` walks) applied to a stored commit resolves
to the same commit — or fails with the same error — in every later graph. -/
theorem spec_stable {g g' : Graph} (hb : Built g) (hr : C18.Reach g g') :
    ∀ (is : List Nat) {c : Commit}, c ∈ g → getAncestor g' c is = getAncestor g c is :=
  getAncestor_of_sub hb.inv hr.sub

/-- **lca_after_merge.**  Right after a commit `m` with parents `ps` is created — a merge commit in
particular — the merge base of `m` and any of its named parents `p` is `p` itself, in both argument
orders: merging the same branch tip again finds nothing to merge (`ErrUpToDate` / `ErrIsAhead` by
`ff_iff_ancestor`).  With `lca_stable` this stays true whatever is committed later. -/
theorem lca_after_merge {g g' : Graph} (hb : Built g) {a : Addr} {ps : List Addr}
    (hadd : addCommit g a ps = .ok g') {p : Commit} (hp : p ∈ g) (hpp : p.addr ∈ ps) :
    ∃ m, lookup g' a = some m ∧ m.parents = ps ∧
      findCommonAncestor g' m p = .ok (some p.addr) ∧ findCommonAncestor g' p m = .ok (some p.addr) := by
  have hb' : Built g' := .add hb hadd
  obtain ⟨m, rfl, rfl, rfl, hfresh, _⟩ := addCommit_ok hadd
  have hlm : lookup (m :: g) m.addr = some m := by rw [lookup_cons, if_pos rfl]
  obtain ⟨e1, e2⟩ := lca_of_ancestor hb' (List.mem_cons_of_mem m hp) List.mem_cons_self
    (.inr (.parent ⟨m, hlm, hpp⟩))
  exact ⟨m, hlm, rfl, e2, e1⟩

/-- non-vacuity of `lca_stable`: one more merge commit on top of the criss-cross graph -/
def crissCrossPlus : Graph := match addCommit crissCrossGraph 60 [40, 50] with | .ok g => g | .error _ => []
theorem crissCrossPlus_ok : addCommit crissCrossGraph 60 [40, 50] = .ok crissCrossPlus := by rfl
example : C18.Reach crissCrossGraph crissCrossPlus ∧ crissCrossPlus.length = 6 ∧
    findCommonAncestor crissCrossPlus c40 c50 = .ok (some 30) :=
  ⟨.step .refl crissCrossPlus_ok, rfl,
   (lca_stable (C18.built_of_build crissCross_ok) (.step .refl crissCrossPlus_ok) c40_mem c50_mem).trans
     closure_walk_40_50⟩

/-- non-vacuity of `lca_after_merge`: the merge commit 60 = (40, 50) and its parent 50 -/
example : ∃ m, lookup crissCrossPlus 60 = some m ∧ m.parents = [40, 50] ∧
    findCommonAncestor crissCrossPlus m c50 = .ok (some 50) ∧ findCommonAncestor crissCrossPlus c50 m = .ok (some 50) :=
  lca_after_merge (C18.built_of_build crissCross_ok) crissCrossPlus_ok c50_mem (by decide)

example : Built crissCrossGraph ∧ c40 ∈ crissCrossGraph ∧ c50 ∈ crissCrossGraph ∧
    findCommonAncestor crissCrossGraph c40 c50 = .ok (some 30) ∧ viaParents crissCrossGraph c40 c50 = .ok (some 20) :=
  ⟨C18.built_of_build crissCross_ok, c40_mem, c50_mem, closure_walk_40_50, parents_walk_40_50⟩

example : (getAncestor crissCrossGraph ⟨50, [30, 20], 3, [(1, 10), (2, 20), (2, 30)]⟩ [1, 0]).toOption.map (·.addr) = some 10 := by decide +kernel

end DoltVerif.C19
