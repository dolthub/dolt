import DoltVerif.Lemmas.RefStore
import DoltVerif.Props.C19
/-!
C20 — Ref updates are linearizable and never lose a concurrent update.

Statements are about `Model/RefStore.lean`: the store root is one register holding the datasets
map; every `database.update(edit)` is the loop {read root; evaluate the edit closure; CAS}, taken
apart into the atomic steps `read` and `attempt`; any number of threads, any operations invoked at any
time, crashes included.  `update_linearizable` and `no_lost_update` quantify over **every** schedule;
the other theorems are about one evaluation of an edit closure or one step.
-/
namespace DoltVerif.C20
open DoltVerif.RefStore DoltVerif.Dag

/-- **update_linearizable.**  For every schedule of atomic steps: the log of completed operations,
read as a *sequential* program from the initial map, is valid — each operation that took effect
(`applied`, logged at its successful CAS, in CAS order) evaluated its edit on exactly the state
the sequential run is in at that point (`pre = cur`) and produced the next state; each failed
operation (`failed`) is an error result of its edit and changes nothing — and the final root is
the result of that sequential run; the roots ever held are exactly its successive states. -/
theorem update_linearizable (os : Objs) (init : DMap) (n : Nat) (sched : List Label) (s : State)
    (h : exec os (State.init init n) sched = some s) :
    Valid os init s.events ∧ final init s.events = s.root ∧ s.hist = roots init s.events := by
  have hg := good_exec (good_init os init n) h
  exact ⟨hg.valid, hg.root_eq, hg.hist_eq⟩

/-- the step that logs an operation's completion makes its thread idle; an idle thread logs nothing
until a new operation is invoked (`idle_cannot_attempt`) -/
theorem complete_once {os : Objs} {s s' : State} {t : Nat} (hs : step os s (.attempt t) = some s')
    (hlog : s'.events.length = s.events.length + 1) (ht : t < s.threads.length) : thread s' t = none := by
  obtain ⟨th, r, k, _, _, h⟩ := step_attempt hs
  rcases h with ⟨e, _, rfl⟩ | ⟨m', _, _, rfl⟩ | ⟨_, _, h3⟩
  · simp [thread, ht]
  · simp [thread, ht]
  · rw [h3] at hlog
    exact absurd hlog (Nat.ne_of_lt (Nat.lt_succ_self _))

/-- an idle thread has no `read` or `attempt` step: it does nothing until an operation is invoked on it -/
theorem idle_cannot_attempt {os : Objs} {s : State} {t : Nat} (h : thread s t = none) :
    step os s (.attempt t) = none ∧ step os s (.read t) = none := by
  simp [step, h]

/-- the expectations a conditional update carries: (dataset, value it must currently hold) -/
def expects : Op → List (Name × Nat)
  | .commit ds e _ => [(ds, e)]
  | .ff ds e _ _ _ _ => [(ds, e)]
  | .tag ds _ => [(ds, 0)]
  | .updateWS ds _ prev => [(ds, prev)]
  | .commitWS c w _ _ pw eh => [(w, pw), (c, eh)]
  | .setHead _ _ _ _ => []
  | .delete _ _ => []
  | .set _ _ => []

theorem guard_ok {c : Bool} {loc : Nat} {e : RefStore.Err} {x : Nat × Except RefStore.Err DMap} {m' : DMap}
    (h : (if c = true then (loc, Except.error e) else x).2 = .ok m') : c = false := by
  cases c
  · rfl
  · cases h

/-- each expectation is the leading guard of the edit closure (`commitWS` has two) -/
theorem succeeds_only_on_expected {os : Objs} {op : Op} {loc : Nat} {m m' : DMap}
    (h : (edit os op loc m).2 = .ok m') : ∀ p ∈ expects op, get m p.1 = p.2 := by
  intro p hp
  cases op with
  | commit | ff | tag | updateWS => cases List.mem_singleton.1 hp; simpa using guard_ok h
  | commitWS c w hh wa pw eh =>
    have h1 := guard_ok h
    rcases List.mem_cons.1 hp with rfl | hp
    · simpa using h1
    · cases List.mem_singleton.1 hp
      simp only [edit, h1, Bool.false_eq_true, if_false] at h
      simpa using guard_ok h
  | setHead | delete | set => cases hp

/-- a delete evaluated with `loc ≠ 0` succeeds only on a map whose branch holds `loc`; in `step`, `loc` is
the value an earlier attempt of the same delete saw (`first`, carried over when its CAS failed) -/
theorem delete_pinned {os : Objs} {ds : Name} {ws : Option Name} {loc : Nat} {m m' : DMap}
    (h : (edit os (.delete ds ws) loc m).2 = .ok m') (hloc : loc ≠ 0) : get m ds = loc := by
  -- `loc ≠ 0`, so `first` is `loc`, and the leading guard compares the branch with it
  simpa [hloc] using guard_ok h

/-- **no_lost_update.**  In every schedule, whenever an operation took effect, the root it replaced
(`pre`, which by `update_linearizable` is the result of everything linearized before it — in
particular of the latest acknowledged update of each dataset) holds, in every dataset the
operation is conditional on, exactly the value the caller expected.  So an acknowledged update is
only ever replaced by an operation that is linearized later *and observed it*; an operation with
a stale expectation fails instead (`stale_fails`). -/
theorem no_lost_update (os : Objs) (init : DMap) (n : Nat) (sched : List Label) (s : State)
    (h : exec os (State.init init n) sched = some s) :
    ∀ t op loc pre post, Event.applied t op loc pre post ∈ s.events → ∀ p ∈ expects op, get pre p.1 = p.2 := by
  intro t op loc pre post hm
  exact succeeds_only_on_expected (valid_applied (update_linearizable os init n sched s h).1 hm)

theorem stale_fails {os : Objs} {op : Op} {loc : Nat} {m : DMap} {p : Name × Nat}
    (hp : p ∈ expects op) (hstale : get m p.1 ≠ p.2) : ∃ e, (edit os op loc m).2 = .error e := by
  cases hres : (edit os op loc m).2 with
  | error e => exact ⟨e, rfl⟩
  | ok m' => exact absurd (succeeds_only_on_expected hres p hp) hstale

theorem commit_effect {os : Objs} {ds : Name} {e hh loc : Nat} {m m' : DMap}
    (h : (edit os (.commit ds e hh) loc m).2 = .ok m') : m' = put m ds hh ∧ get m ds = e := by
  have g1 := guard_ok h
  simp only [edit, g1, Bool.false_eq_true, if_false] at h
  have g2 := guard_ok h
  simp only [g2, Bool.false_eq_true, if_false] at h
  cases h
  exact ⟨rfl, by simpa using g1⟩

theorem buildParents_contains_head {head : Nat} {ps ps' : List Nat} (hh : head ≠ 0)
    (h : buildParents head ps false 0 = .ok ps') : head ∈ ps' := by
  by_cases hps : ps.isEmpty = true
  · simp [buildParents, hh, hps] at h
    subst h; simp
  · by_cases hc : head ∈ ps
    · simp [buildParents, hh, hps, hc] at h
      subst h; exact hc
    · simp [buildParents, hh, hps, hc] at h

theorem ffPre_ok {g : Graph} {e hh : Nat} (h : ffPre g e hh = .ok ()) (he : e ≠ 0) :
    ∃ c n, lookup g e = some c ∧ lookup g hh = some n ∧ findCommonAncestor g c n = .ok (some e) := by
  revert h
  fun_cases ffPre g e hh with
  | case2 _ c n hln hlc hf => exact fun _ => ⟨c, n, hlc, hln, hf⟩   -- the merge base is the head the caller saw
  | case1 h0 => exact absurd h0 he
  | case3 | case4 | case5 | case6 => nofun

/-- **commit_ff_move_to_descendant.**  (a) A successful ordinary `Commit` moves the branch from the
head `e` the caller's snapshot showed to a commit that names `e` as a parent, hence to a proper
descendant.  (b) A successful `FastForward` (pre-check + edit) moves the branch from `e` to a
commit of which `e` is an ancestor-or-self, by C19's soundness of `FindCommonAncestor`. -/
theorem commit_ff_move_to_descendant {g : Graph} (hb : Built g) {os : Objs} :
    (∀ {ds : Name} {e hh loc : Nat} {m m' : DMap} {ps ps' : List Nat} {hc : Commit},
      buildParents e ps false 0 = .ok ps' → e ≠ 0 → lookup g hh = some hc → hc.parents = ps' →
      (edit os (.commit ds e hh) loc m).2 = .ok m' → get m ds = e ∧ m' = put m ds hh ∧ Anc g e hh) ∧
    (∀ {ds : Name} {e hh loc nw : Nat} {ws : Option Name} {ad : Bool} {m m' : DMap},
      ffPre g e hh = .ok () → e ≠ 0 →
      (edit os (.ff ds e hh ws ad nw) loc m).2 = .ok m' → get m ds = e ∧ AncStar g e hh) := by
  constructor
  · intro ds e hh loc m m' ps ps' hc hbp he hl hpar hed
    obtain ⟨h1, h2⟩ := commit_effect hed
    refine ⟨h2, h1, .parent ⟨hc, hl, ?_⟩⟩
    rw [hpar]; exact buildParents_contains_head he hbp
  · intro ds e hh loc nw ws ad m m' hpre he hed
    refine ⟨succeeds_only_on_expected hed (ds, e) (by simp [expects]), ?_⟩
    obtain ⟨c, n, hlc, hln, hf⟩ := ffPre_ok hpre he
    obtain ⟨hcm, rfl⟩ := lookup_some hlc
    obtain ⟨hnm, rfl⟩ := lookup_some hln
    obtain ⟨_, _, _, han, _⟩ := C19.lca_highest hb hcm hnm hf
    exact han

/-- **forced_ops_unconditional.**  The forcing writes succeed from any state: the plain setters
always; `SetHead` without a working-set path whenever the head type does not change (it never
compares the current value with an expectation). -/
theorem forced_ops_unconditional (os : Objs) (loc : Nat) (m : DMap) :
    (∀ ds v, (edit os (.set ds v) loc m).2 = .ok (put m ds v)) ∧
    (∀ ds hh nw, (get m ds = 0 ∨ typeName os (get m ds) = typeName os hh) →
      (edit os (.setHead ds hh none nw) loc m).2 = .ok (put m ds hh)) := by
  constructor
  · intro ds v; rfl
  · intro ds hh nw hcond
    simp only [edit]
    split
    · rename_i hc
      rcases hcond with h0 | ht
      · simp [h0] at hc
      · simp [ht] at hc
    · rfl

/-- non-vacuity: two committers race on one branch; the loser retries and fails -/
def raceSched : List Label :=
  [.invoke 0 (.commit 0 0 11), .invoke 1 (.commit 0 0 22), .read 0, .read 1, .attempt 1, .attempt 0, .read 0, .attempt 0]

example : (exec [] (State.init [0, 0] 2) raceSched).map (fun s => (s.root, s.events.length, s.hist)) =
    some ([22, 0], 2, [[0, 0], [22, 0]]) := by decide +kernel

example : (exec [] (State.init [0, 0] 2) raceSched).map (·.events) =
    some [.applied 1 (.commit 0 0 22) 0 [0, 0] [22, 0], .failed 0 (.commit 0 0 11) 0 [22, 0] 1 0 .mergeNeeded] := by decide +kernel

end DoltVerif.C20
