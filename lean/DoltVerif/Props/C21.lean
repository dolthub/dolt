import DoltVerif.Props.C20
/-!
C21 — A commit and its working-set update land together.

`CommitWithWorkingSet` writes the branch head and the working set inside one edit closure, hence
with one compare-and-swap of the single root register (`Model/RefStore.lean`, `Op.commitWS`).
All statements hold for every schedule of every mix of concurrent operations, crashes included.
-/
namespace DoltVerif.C21
open DoltVerif.RefStore

/-- **guards.**  The combined update succeeds only if the working set is still the one the caller
read (`prevWsHash`) *and* the branch head is still the caller's head; then both keys are written. -/
theorem guards {os : Objs} {c w : Name} {h1 w1 w0 h0 loc : Nat} {m m' : DMap}
    (h : (edit os (.commitWS c w h1 w1 w0 h0) loc m).2 = .ok m') :
    get m w = w0 ∧ get m c = h0 ∧ m' = put (put m c h1) w w1 := by
  have g1 := C20.guard_ok h
  simp only [edit, g1, Bool.false_eq_true, if_false] at h
  have g2 := C20.guard_ok h
  simp only [g2, Bool.false_eq_true, if_false] at h
  cases h
  exact ⟨by simpa using g1, by simpa using g2, rfl⟩

theorem pair_effect {os : Objs} {c w : Name} {h1 w1 w0 h0 loc : Nat} {m m' : DMap}
    (h : (edit os (.commitWS c w h1 w1 w0 h0) loc m).2 = .ok m') (hcw : c ≠ w)
    (hc : c < m.length) (hw : w < m.length) :
    (get m c, get m w) = (h0, w0) ∧ (get m' c, get m' w) = (h1, w1) ∧
    ∀ k, k ≠ c → k ≠ w → get m' k = get m k := by
  obtain ⟨e1, e2, e3⟩ := guards h
  subst e3
  refine ⟨by rw [e1, e2], ?_, ?_⟩
  · rw [get_put_other hcw, get_put_same hc, get_put_same (by rw [length_put]; exact hw)]
  · intro k hkc hkw
    rw [get_put_other hkw, get_put_other hkc]

/-- one step of the system never shows half of a combined update: whatever step is taken while
thread `t` runs `CommitWithWorkingSet`, if that step is `t`'s, the root either stays as it is or
moves from `(h0, w0)` to `(h1, w1)` in both keys at once. -/
theorem pair_step_atomic {os : Objs} {s s' : State} {t : Nat} {th : Thread} {c w : Name} {h1 w1 w0 h0 : Nat}
    (hth : thread s t = some th) (hop : th.op = .commitWS c w h1 w1 w0 h0)
    (hcw : c ≠ w) (hc : c < s.root.length) (hw : w < s.root.length)
    (hs : step os s (.attempt t) = some s') :
    s'.root = s.root ∨
    ((get s.root c, get s.root w) = (h0, w0) ∧ (get s'.root c, get s'.root w) = (h1, w1) ∧
      ∀ k, k ≠ c → k ≠ w → get s'.root k = get s.root k) := by
  obtain ⟨th', r, k, hth', _, h⟩ := step_attempt hs
  rw [hth] at hth'
  cases hth'
  rcases h with ⟨e, _, rfl⟩ | ⟨m', he, hroot, rfl⟩ | ⟨h1, _⟩
  · exact .inl rfl
  · exact .inr (pair_effect (hop ▸ hroot ▸ he) hcw hc hw)
  · exact .inl h1

/-- **pair_atomic.**  In every schedule, every `CommitWithWorkingSet` that took effect found
`(head, ws) = (h0, w0)` and left `(head, ws) = (h1, w1)` — in one root transition; since the roots
ever held are exactly the successive states of the event log (`C20.update_linearizable`), no root
between the two exists, so no reader of any root can see `(h1, w0)` or `(h0, w1)` produced by this
operation; a `CommitWithWorkingSet` that failed produced no root at all. -/
theorem pair_atomic (os : Objs) (init : DMap) (n : Nat) (sched : List Label) (s : State)
    (h : exec os (State.init init n) sched = some s) :
    ∀ t c w h1 w1 w0 h0 loc pre post, Event.applied t (.commitWS c w h1 w1 w0 h0) loc pre post ∈ s.events →
      c ≠ w → c < pre.length → w < pre.length →
      (get pre c, get pre w) = (h0, w0) ∧ (get post c, get post w) = (h1, w1) ∧
      ∀ k, k ≠ c → k ≠ w → get post k = get pre k := by
  intro t c w h1 w1 w0 h0 loc pre post hm hcw hc hw
  exact pair_effect (valid_applied (C20.update_linearizable os init n sched s h).1 hm) hcw hc hw

/-- **pair_crash_atomic.**  A crash at any point — in particular between the read and the CAS of a
`CommitWithWorkingSet`, or after its CAS and before its acknowledgement — leaves the root register
and the log of effects as they are and forgets every in-flight operation.  By `C20.update_linearizable`
the root is then still a state of the event log, i.e. the state before or after the combined update,
never between.  (That the register itself survives a crash as a single value is C02/C03's subject: one
root record in the journal.) -/
theorem pair_crash_atomic {os : Objs} {s s' : State} (hs : step os s .crash = some s') :
    s'.root = s.root ∧ s'.events = s.events ∧ s'.hist = s.hist ∧ ∀ t, thread s' t = none := by
  simp only [step] at hs
  cases hs
  refine ⟨rfl, rfl, rfl, ?_⟩
  intro t
  simp only [thread, List.getElem?_map]
  cases s.threads[t]? <;> rfl

/-- …and the invariants of C20 keep holding after the crash, for whatever runs next. -/
theorem linearizable_across_crashes (os : Objs) (init : DMap) (n : Nat) (sched1 sched2 : List Label) (s : State)
    (h : exec os (State.init init n) (sched1 ++ [.crash] ++ sched2) = some s) :
    Valid os init s.events ∧ final init s.events = s.root :=
  let r := C20.update_linearizable os init n _ s h
  ⟨r.1, r.2.1⟩

/-- non-vacuity: a combined update races with a working-set writer and loses once -/
def pairSched : List Label :=
  [.invoke 0 (.commitWS 0 1 11 51 50 10), .invoke 1 (.updateWS 1 60 50), .read 0, .read 1, .attempt 1,
   .attempt 0, .read 0, .attempt 0]

/-- thread 1 changed the working set first: the combined update retries, sees ws = 60 ≠ 50 and
fails; the head is untouched (never (11, 60) or (11, 50)). -/
example : (exec [] (State.init [10, 50] 2) pairSched).map (fun s => (s.root, s.hist)) =
    some ([10, 60], [[10, 50], [10, 60]]) := by decide +kernel

example : (exec [] (State.init [10, 50] 2)
    [.invoke 0 (.commitWS 0 1 11 51 50 10), .read 0, .crash, .invoke 0 (.commitWS 0 1 11 51 50 10), .read 0, .attempt 0]).map
      (fun s => (s.root, s.hist)) = some ([11, 51], [[10, 50], [11, 51]]) := by decide +kernel

end DoltVerif.C21
