import DoltVerif.Lemmas.TxnStep
/-!
C22 — Each SQL transaction reads a stable snapshot.

Statements about `Model/Txn.lean` for **all** schedules (lists of `(session, statement)` at statement
granularity), any number of sessions, autocommit on and off.
-/
namespace DoltVerif.C22
open DoltVerif.Txn

def OthersOnly (i : Nat) (sched : List (Nat × Stmt)) : Prop := ∀ p ∈ sched, p.1 ≠ i

/-- Frame: whatever other sessions do — write, commit, roll back, create dolt
commits, in any interleaving — the transaction state of session `i` (its start snapshot, its own
working root, its flags) is bit-for-bit unchanged. -/
theorem snapshot_stable (i : Nat) (sched : List (Nat × Stmt)) (w : World) (h : OthersOnly i sched) :
    (run w sched).sess i = w.sess i :=
  run_rel (R := fun w w' => w'.sess i = w.sess i) (fun _ => rfl) (fun h1 h2 => h2.trans h1) sched
    (fun p hp w => step_other w p.1 i p.2 (Ne.symm (h p hp))) w

theorem read_returns_work (w : World) (i : Nat) :
    (step w i .read).2.2 = some ((ensureTx w i).sess i).work := rfl

theorem session_pinned {i : Nat} {sched : List (Nat × Stmt)} {w : World} (h : OthersOnly i sched)
    (ha : (w.sess i).active = true) : (ensureTx (run w sched) i).sess i = w.sess i := by
  have hs := snapshot_stable i sched w h
  rw [ensureTx_of_active _ _ (hs ▸ ha), hs]

/-- Repeatable read: inside an open transaction, two reads of session `i` separated by *any*
schedule of other sessions return the same rows. -/
theorem repeatable_read (i : Nat) (sched : List (Nat × Stmt)) (w : World) (h : OthersOnly i sched)
    (ha : (w.sess i).active = true) :
    (step (run w sched) i .read).2.2 = some (w.sess i).work :=
  congrArg (fun s : Sess => some s.work) (session_pinned h ha)

example : OthersOnly 0 [(1, .write (.ins 5 [none])), (2, .commit)] := by
  intro p hp; simp at hp; rcases hp with rfl | rfl <;> simp

def applyLog (t : Root) (log : List WOp) : Root := log.foldl (fun t op => (applyOp op t).1) t

theorem applyLog_append (t : Root) (log : List WOp) (op : WOp) :
    applyLog t (log ++ [op]) = (applyOp op (applyLog t log)).1 := by
  simp [applyLog]

/-- invariant: an open transaction's working root is its start snapshot with its own successful
writes applied, nothing else -/
def Inv (w : World) : Prop :=
  ∀ i, (w.sess i).active = true → (w.sess i).work = applyLog (w.sess i).snap.working (w.sess i).log

theorem inv_setSess {w : World} {i : Nat} {s : Sess} (hw : Inv w)
    (hs : s.active = true → s.work = applyLog s.snap.working s.log) : Inv (setSess w i s) := by
  intro j hj
  by_cases h : j = i
  · subst h; simp only [setSess_same] at hj ⊢; exact hs hj
  · rw [setSess_other _ _ _ _ h] at hj ⊢; exact hw j hj

theorem moves_inv (i : Nat) : Moves i (fun w w' => Inv w → Inv w') (fun w w' => Inv w → Inv w') where
  refl _ h := h
  trans h1 h2 h := h2 (h1 h)
  start _ _ h := inv_setSess h (fun _ => rfl)
  stop _ _ h := inv_setSess h (fun ha => by simp at ha)
  write w op t heq h := inv_setSess h (fun ha => by
    show t = applyLog (w.sess i).snap.working ((w.sess i).log ++ [op])
    rw [applyLog_append, ← h i ha, heq])
  auto _ _ h := inv_setSess h (h i)
  otherDb _ _ h := h
  skip _ h := h
  commit _ _ _ _ _ h := h
  before h1 h2 h := h2 (h1 h)
  after h1 h2 h := h2 (h1 h)

theorem inv_step {w : World} (hw : Inv w) (i : Nat) (st : Stmt) : Inv (step w i st).1 :=
  (moves_inv i).step w st hw

theorem inv_init : Inv World.init := by intro i h; simp [World.init] at h

theorem inv_run (sched : List (Nat × Stmt)) {w : World} (hw : Inv w) : Inv (run w sched) :=
  run_rel (R := fun w w' => Inv w → Inv w') (fun _ h => h) (fun h1 h2 h => h2 (h1 h)) sched
    (fun p _ _ h => inv_step h p.1 p.2) w hw

/-- In every reachable world, what a session inside a
transaction reads is its start snapshot with its own writes applied — no row version that is
neither committed before its start nor its own. -/
theorem reads_are_snapshot_plus_own_writes (sched : List (Nat × Stmt)) (i : Nat)
    (ha : ((run World.init sched).sess i).active = true) :
    (step (run World.init sched) i .read).2.2 =
      some (applyLog ((run World.init sched).sess i).snap.working ((run World.init sched).sess i).log) := by
  rw [read_returns_work, ensureTx_of_active _ _ ha, inv_run sched inv_init i ha]

/-- a session is not at an autocommit point: it is inside BEGIN or has autocommit off -/
def InOpenTx (s : Sess) : Prop := s.active = true ∧ (s.autocommit && !s.explicit) = false

/-- No dirty reads (1): a write of a session inside an open transaction changes nothing
another session can ever resolve: the branch state, the commit log and every other session are
untouched.  Together with `new_txn_snapshot_is_committed_state` (snapshots are copies of the branch
state) and `snapshot_stable`: uncommitted writes are invisible to everybody else. -/
theorem uncommitted_write_invisible (w : World) (i : Nat) (op : WOp) (h : InOpenTx (w.sess i)) :
    (step w i (.write op)).1.shared = w.shared ∧ (step w i (.write op)).1.commits = w.commits ∧
    ∀ j, j ≠ i → (step w i (.write op)).1.sess j = w.sess j := by
  refine ⟨?_, ?_, fun j hj => step_other w i j _ hj⟩ <;>
  · simp only [step, ensureTx_of_active w i h.1]
    split
    · simp [endStmt, h.2]
    · simp [h.2]

/-- No dirty reads (2): ROLLBACK discards the working copy without touching the branch -/
theorem rollback_discards (w : World) (i : Nat) :
    (step w i .rollback).1.shared = w.shared ∧ (step w i .rollback).1.commits = w.commits ∧
    ((step w i .rollback).1.sess i).active = false := by
  simp [step]

/-- Visibility (1): a transaction that starts (implicitly, first statement) takes as snapshot the
branch state of that moment: everything committed before is visible, nothing else is. -/
theorem new_txn_snapshot_is_committed_state (w : World) (i : Nat) (h : (w.sess i).active = false) :
    ((ensureTx w i).sess i).snap = w.shared ∧ ((ensureTx w i).sess i).work = w.shared.working := by
  simp [ensureTx, h, startTx]

/-- A new transaction pins EVERY database of the provider at the
state of that moment — also a database the session has never referenced (`otherdb`). -/
theorem all_databases_snapshotted_at_start (w : World) (i : Nat) (h : (w.sess i).active = false) :
    ((ensureTx w i).sess i).snapO = w.other ∧ ((ensureTx w i).sess i).workO = w.other := by
  simp [ensureTx, h, startTx]

/-- Inside an open transaction `… AS OF 'HEAD'` / `AS OF '<branch>'`
returns the HEAD root the branch had when the transaction began, whatever dolt commits other sessions
create in between. -/
theorem head_relative_reads_are_pinned (i : Nat) (sched : List (Nat × Stmt)) (w : World)
    (h : OthersOnly i sched) (ha : (w.sess i).active = true) :
    (step (run w sched) i .readHead).2.2 = some (w.sess i).snap.head := by
  exact congrArg (fun s : Sess => some s.snap.head) (session_pinned h ha)

example : (step (run World.init [(0, .begin), (1, .write (.ins 1 [none])), (1, .dcommit)]) 0 .readHead).2.2 = some [] := by decide
example : (run World.init [(0, .begin), (1, .write (.ins 1 [none])), (1, .dcommit)]).shared.head = [(1, [none])] := by decide

theorem readO_returns_workO (w : World) (i : Nat) :
    (step w i .readO).2.2 = some ((ensureTx w i).sess i).workO := rfl

/-- Inside an open transaction, a read of the other database —
the first one or any later one — returns the session's view pinned at transaction start, whatever
other sessions committed to that database in between. -/
theorem other_database_repeatable_read (i : Nat) (sched : List (Nat × Stmt)) (w : World)
    (h : OthersOnly i sched) (ha : (w.sess i).active = true) :
    (step (run w sched) i .readO).2.2 = some (w.sess i).workO := by
  exact congrArg (fun s : Sess => some s.workO) (session_pinned h ha)

/-- a transaction opened by BEGIN that then only reads sees, in the other database, exactly the state
at BEGIN although another session's autocommit write to it was acknowledged in between -/
example : (step (run World.init [(0, .begin), (1, .writeO (.ins 1 [none]))]) 0 .readO).2.2 = some [] := by decide
example : (run World.init [(0, .begin), (1, .writeO (.ins 1 [none]))]).other = [(1, [none])] := by decide

/-- Visibility (2): BEGIN commits the open transaction and the new transaction's snapshot is the
branch state after that commit -/
theorem begin_snapshot_is_committed_state (w : World) (i : Nat) (h : (step w i .begin).2.1 = .ok) :
    ((step w i .begin).1.sess i).snap = (step w i .begin).1.shared ∧
    ((step w i .begin).1.sess i).work = (step w i .begin).1.shared.working := by
  simp only [step] at h ⊢
  cases hc : commitTx w i false with
  | mk w1 r =>
    cases r <;> simp_all [startTx]

/-- Visibility (3): a commit acknowledged while session `i` is inside its transaction (any statement
`st` of another session) is not visible to it: its next read returns its working copy as it was.  A new
transaction sees the whole committed state by `new_txn_snapshot_is_committed_state`. -/
theorem commit_invisible_to_open_txn (w : World) (i j : Nat) (st : Stmt) (hj : j ≠ i)
    (ha : (w.sess i).active = true) :
    (step (step w j st).1 i .read).2.2 = some (w.sess i).work := by
  have := repeatable_read i [(j, st)] w (by intro p hp; simp at hp; subst hp; exact hj) ha
  simpa [run] using this

example : InOpenTx ((step (step World.init 0 .begin).1 0 (.write (.ins 1 [none]))).1.sess 0) := by
  unfold InOpenTx; decide
example : ((run World.init [(0, .begin), (0, .write (.ins 1 [none]))]).sess 0).active = true := by decide

end DoltVerif.C22
