import DoltVerif.Lemmas.Txn
import DoltVerif.Lemmas.TxnStep
/-!
C23 — Concurrent transactions merge at commit and never lose committed writes.

Statements are about `Model/Txn.lean` (`doCommit`, `commitTx`, `step`, `run`): for **all** roots,
sessions and schedules.  `E` = existing branch working set when the commit takes the branch lock,
`S` = the committing transaction's start state, `W` = its own working root.
-/
namespace DoltVerif.C23
open DoltVerif.Txn

/-- A conflict-free `MergeRoots(E, W, base S)` is `E` with the transaction's
changes applied — per key `applyDeltaKey`: untouched rows keep `E`'s value, rows only the transaction
touched take its value, rows both touched are combined cell by cell (`deltaCells`). -/
theorem commit_applies_delta (E W S : Root) (hno : (mergeRoots E W S).2 = []) (k : Key) :
    get (mergeRoots E W S).1 k = applyDeltaKey (get E k) (get W k) (get S k) := by
  rw [get_mergeRoots]
  exact mergedAt_of_no_conflict ((mergeRoots_no_conflict_iff E W S).1 hno k)

example : (mergeRoots [(1, [some (.int 1), none])] [(1, [some (.int 0), some (.str "y")])] [(1, [some (.int 0), none])]).2 = [] := by decide

/-- the working root `doCommit` is about to write, and whether its merge left conflicts -/
def commitWorking (E S : WS) (W : Root) : Root × Bool :=
  if isFF E S then (W, false) else mergedWorking E S W

theorem doCommit_cases (E S : WS) (W St : Root) (dolt : Bool) :
    ((commitWorking E S W).2 = true → doCommit E S W St dolt = none) ∧
    ((commitWorking E S W).2 = false →
      ∃ ws, doCommit E S W St dolt = some ws ∧ ws.working = (commitWorking E S W).1) := by
  unfold doCommit commitWorking
  refine ⟨fun hc => by simp [hc], fun hc => ?_⟩
  simp only [hc, Bool.false_eq_true, if_false]
  cases dolt <;> exact ⟨_, rfl, rfl⟩

/-- the three paths of the working merge: fast-forward, "equal roots" shortcut, three-way merge -/
theorem commitWorking_spec (E S : WS) (W : Root) :
    ((∃ k, KeyConflict (get E.working k) (get W k) (get S.working k)) ∧ (commitWorking E S W).2 = true) ∨
    ((∀ k, ¬ KeyConflict (get E.working k) (get W k) (get S.working k)) ∧ (commitWorking E S W).2 = false ∧
      ∀ k, get (commitWorking E S W).1 k = applyDeltaKey (get E.working k) (get W k) (get S.working k)) := by
  unfold commitWorking
  by_cases hff : isFF E S = true
  · -- nobody committed since the start: `E = S`
    have hes : ∀ k, get E.working k = get S.working k :=
      (rootEq_iff _ _).1 (Bool.and_eq_true _ _ ▸ hff).1
    exact .inr ⟨fun k hk => hk.2.1 (hes k), by simp [hff],
      fun k => by rw [hes k, applyDeltaKey_only_txn]; simp [hff]⟩
  by_cases heq : rootEq E.working W = true
  · have hew := (rootEq_iff _ _).1 heq
    exact .inr ⟨fun k hk => hk.2.2.1 (hew k), by simp [hff, mergedWorking, heq],
      fun k => by rw [hew k, applyDeltaKey_same]; simp [hff, mergedWorking, heq]⟩
  simp only [hff, mergedWorking, heq, Bool.false_eq_true, if_false]
  by_cases hno : (mergeRoots E.working W S.working).2 = []
  · exact .inr ⟨(mergeRoots_no_conflict_iff _ _ _).1 hno, by simp [hno], commit_applies_delta _ _ _ hno⟩
  · refine .inl ⟨Classical.not_forall_not.1 (mt (mergeRoots_no_conflict_iff _ _ _).2 hno), ?_⟩
    simpa [List.isEmpty_iff] using hno

theorem doCommit_spec (E S : WS) (W St : Root) (dolt : Bool) :
    ((∃ k, KeyConflict (get E.working k) (get W k) (get S.working k)) ∧ doCommit E S W St dolt = none) ∨
    ((∀ k, ¬ KeyConflict (get E.working k) (get W k) (get S.working k)) ∧ ∃ ws, doCommit E S W St dolt = some ws ∧
      ∀ k, get ws.working k = applyDeltaKey (get E.working k) (get W k) (get S.working k)) := by
  rcases commitWorking_spec E S W with ⟨hk, hc⟩ | ⟨hk, hc, hg⟩
  · exact .inl ⟨hk, (doCommit_cases E S W St dolt).1 hc⟩
  · obtain ⟨ws, hs, hw⟩ := (doCommit_cases E S W St dolt).2 hc
    exact .inr ⟨hk, ws, hs, hw ▸ hg⟩

theorem doCommit_working (E S : WS) (W St : Root) (dolt : Bool) (ws : WS)
    (h : doCommit E S W St dolt = some ws) (k : Key) :
    get ws.working k = applyDeltaKey (get E.working k) (get W k) (get S.working k) := by
  rcases doCommit_spec E S W St dolt with ⟨_, hn⟩ | ⟨_, ws', hs, hg⟩
  · rw [hn] at h; cases h
  · obtain rfl : ws' = ws := Option.some.inj (hs.symm.trans h)
    exact hg k

/-- No lost write.  After an acknowledged commit (`doCommit = some ws`), for every key `k`:
* rows the transaction did not change keep the value committed by others (`E`) — no committed write
  of another transaction is lost;
* rows the transaction changed that nobody else changed since its start carry the transaction's value;
* rows both changed (present on all three sides, one schema): every cell the transaction changed
  carries the transaction's value and every other cell carries the committed value `E`
  (a cell changed by both was changed to the same value, else the commit is rejected: `conflict_iff`). -/
theorem no_lost_write (E S : WS) (W St : Root) (dolt : Bool) (ws : WS)
    (h : doCommit E S W St dolt = some ws) (k : Key) :
    (get W k = get S.working k → get ws.working k = get E.working k) ∧
    (get E.working k = get S.working k → get ws.working k = get W k) ∧
    (∀ er wr sr : Row, get E.working k = some er → get W k = some wr → get S.working k = some sr →
      er.length = wr.length → wr.length = sr.length →
      ∃ m : Row, get ws.working k = some m ∧
        ∀ c : Nat, m[c]? = if wr[c]? ≠ sr[c]? then wr[c]? else er[c]?) := by
  rw [doCommit_working E S W St dolt ws h k]
  refine ⟨fun h1 => by rw [h1, applyDeltaKey_untouched], fun h1 => by rw [h1, applyDeltaKey_only_txn], ?_⟩
  intro er wr sr he hw hs hl1 hl2
  rw [he, hw, hs]
  unfold applyDeltaKey
  -- the three shortcuts of `applyDeltaKey` agree with the cell-wise combination
  by_cases h1 : wr = sr
  · subst h1; exact ⟨er, by simp, fun c => by simp⟩
  by_cases h2 : er = sr
  · subst h2; refine ⟨wr, by simp [h1], fun c => ?_⟩
    split
    · rfl
    · rename_i hc; exact Classical.not_not.1 hc
  by_cases h3 : er = wr
  · subst h3; exact ⟨er, by simp [h1], fun c => by split <;> rfl⟩
  · exact ⟨deltaCells er wr sr, by simp [h1, h2, h3], fun c => deltaCells_getElem? er wr sr c hl1 hl2⟩

example : doCommit ⟨[(1, [some (.int 1), none])], [], [], false, false⟩ ⟨[(1, [some (.int 0), none])], [], [], false, false⟩
    [(1, [some (.int 0), some (.str "y")])] [] false ≠ none := by decide

/-- A commit is rejected for data reasons exactly when some key is in conflict in
the property's sense (`KeyConflict`): the transaction and a transaction committed since its start
both changed the row, differently, and it is a delete against a modification, two different inserts
of the key, or a cell both changed to different values.  (Independent of the staged root and of the
fast-forward / equal-roots shortcuts.) -/
theorem conflict_iff (E S : WS) (W St : Root) (dolt : Bool) :
    doCommit E S W St dolt = none ↔ ∃ k, KeyConflict (get E.working k) (get W k) (get S.working k) := by
  rcases doCommit_spec E S W St dolt with ⟨hk, hn⟩ | ⟨hk, ws, hs, _⟩
  · simp [hn, hk]
  · simp [hs, hk]

example : doCommit ⟨[(1, [some (.int 1)])], [], [], false, false⟩ ⟨[(1, [some (.int 0)])], [], [], false, false⟩ [(1, [some (.int 2)])] [] false = none := by decide
example : KeyConflict (some [some (.int 1)]) (some [some (.int 2)]) (some [some (.int 0)]) := by
  simp [KeyConflict, rowsConflict, cellConflict]

/-- A commit (`commitTx`: COMMIT, or the implicit commit of autocommit / BEGIN / SET autocommit=1)
answered with the retryable error leaves the
branch (working, staged, head) and the commit log exactly as they were, leaves every other session
untouched, and rolls the session back (no transaction open, working copy discarded). -/
theorem conflicting_txn_leaves_no_trace (w : World) (i : Nat) (b : Bool) (h : (commitTx w i b).2 = .retry) :
    (commitTx w i b).1.shared = w.shared ∧ (commitTx w i b).1.commits = w.commits ∧
    ((commitTx w i b).1.sess i).active = false ∧ ((commitTx w i b).1.sess i).work = [] ∧
    ∀ j, j ≠ i → (commitTx w i b).1.sess j = w.sess j := by
  rcases commitTx_cases w i b with ⟨_, e⟩ | ⟨_, ws, _, e⟩ | ⟨_, _, e⟩ <;> rw [e] at h ⊢
  · cases h
  · cases h
  · -- the only outcome with the retryable error is `endTx` of the untouched world
    exact ⟨rfl, rfl, endTx_active w i b, endTx_work w i b, fun j hj => setSess_other w i j _ hj⟩

/-- what one statement does to the branch and the commit log: nothing, or one acknowledged commit
`(S, W)` whose delta is applied to the working root -/
def OneCommit (w w' : World) : Prop :=
  (w'.shared = w.shared ∧ w'.commits = w.commits) ∨
  (∃ S W, w'.commits = w.commits ++ [(S, W)] ∧
    ∀ k, get w'.shared.working k = applyDeltaKey (get w.shared.working k) (get W k) (get S k))

theorem moves_commit (i : Nat) :
    Moves i (fun w w' => w'.shared = w.shared ∧ w'.commits = w.commits) OneCommit where
  refl _ := ⟨rfl, rfl⟩
  trans h1 h2 := ⟨h2.1.trans h1.1, h2.2.trans h1.2⟩
  start _ _ := ⟨rfl, rfl⟩
  stop _ _ := ⟨rfl, rfl⟩
  write _ _ _ _ := ⟨rfl, rfl⟩
  auto _ _ := ⟨rfl, rfl⟩
  otherDb _ _ := ⟨rfl, rfl⟩
  skip _ := .inl ⟨rfl, rfl⟩
  commit _ _ _ ws hd := .inr ⟨_, _, rfl, doCommit_working _ _ _ _ _ ws hd⟩
  -- `OneCommit` looks at the branch and the commit log only
  before h1 h2 := by unfold OneCommit at h2 ⊢; rwa [← h1.1, ← h1.2]
  after h1 h2 := by unfold OneCommit at h1 ⊢; rwa [h2.1, h2.2]

theorem step_commit_shape (w : World) (i : Nat) (st : Stmt) : OneCommit w (step w i st).1 :=
  (moves_commit i).step w st

/-- fold of the acknowledged transactions' deltas, in commit order, over a starting root -/
def foldDeltas (f : Key → Option Row) (cs : List (Root × Root)) : Key → Option Row :=
  cs.foldl (fun f c => fun k => applyDeltaKey (f k) (get c.2 k) (get c.1 k)) f

/-- For **every schedule** of statements of any number of sessions,
the commit log only grows, and the final branch working root is the starting root with the deltas
`δ(S_j → W_j)` of exactly the acknowledged commits applied in commit order.  Rejected and rolled-back
transactions contribute nothing. -/
theorem final_is_merge_of_committed (sched : List (Nat × Stmt)) (w : World) :
    ∃ cs, (run w sched).commits = w.commits ++ cs ∧
      ∀ k, get (run w sched).shared.working k = foldDeltas (get w.shared.working) cs k := by
  refine run_rel (R := fun w w' => ∃ cs, w'.commits = w.commits ++ cs ∧
    ∀ k, get w'.shared.working k = foldDeltas (get w.shared.working) cs k)
    (fun _ => ⟨[], by simp, fun _ => rfl⟩) ?_ sched (fun p _ w => ?_) w
  · -- commit logs concatenate, and so do the folds over them
    rintro a b c ⟨cs1, h1, g1⟩ ⟨cs2, h2, g2⟩
    refine ⟨cs1 ++ cs2, by rw [h2, h1, List.append_assoc], fun k => ?_⟩
    rw [g2 k, funext g1]
    simp only [foldDeltas, List.foldl_append]
  · rcases step_commit_shape w p.1 p.2 with ⟨h1, h2⟩ | ⟨S, W, h1, h2⟩
    · exact ⟨[], by simp [h2], fun k => by rw [h1]; rfl⟩
    · exact ⟨[(S, W)], h1, h2⟩

/-- the same from the initial world: the final working root is the fold of the whole commit log -/
theorem final_is_fold_of_commit_log (sched : List (Nat × Stmt)) (k : Key) :
    get (run World.init sched).shared.working k = foldDeltas (fun _ => none) (run World.init sched).commits k := by
  obtain ⟨cs, hcs, hk⟩ := final_is_merge_of_committed sched World.init
  have : (run World.init sched).commits = cs := by rw [hcs]; simp [World.init]
  rw [this, hk k]; rfl

example : (run World.init [(0, .write (.ins 1 [some (.int 0)])), (1, .begin), (1, .write (.upd 1 0 (some (.int 5)))),
    (0, .write (.ins 2 [none])), (1, .commit)]).commits.length = 3 := by decide

/-! ### known finding: the Dolt commit created inside a transaction may omit the transaction's own write

`doltCommit` merges the *staged* roots (`E.staged`, the session's staged root, base `S.staged`) but
`validateWorkingSetForCommit` looks only at the working root.  If another session staged a different
value for a cell after the transaction began, the staged merge has a conflict, keeps the other
value and the commit is created from it.  The model reproduces it; the `sqltxn` harness replays the
same schedule on dolt on every run. -/

def dcommitHeadContainsOwnWrites_full : Prop :=
  ∀ (E S : WS) (W : Root) (ws : WS), doCommit E S W W true = some ws →
    ∀ k, get W k ≠ get S.working k → get ws.head k = get W k

/-- refutation by the witness schedule (row 1: head 0, working 1 committed by A, B changes it to 2,
A stages/commits 1, B's `dolt_commit -A` succeeds with HEAD = 1) -/
theorem dcommitHeadContainsOwnWrites_refuted : ¬ dcommitHeadContainsOwnWrites_full := by
  intro h
  have := h ⟨[(1, [some (.int 1)])], [(1, [some (.int 1)])], [(1, [some (.int 1)])], false, false⟩
    ⟨[(1, [some (.int 1)])], [(1, [some (.int 0)])], [(1, [some (.int 0)])], false, false⟩
    [(1, [some (.int 2)])] _ rfl 1 (by decide)
  revert this; decide

/-- what does hold: when nobody committed since the transaction began (`isFF`) or the branch's staged
root already equals the transaction's root and carries no artifacts, and HEAD did not move, the commit
is made from the transaction's own root -/
theorem dcommitHeadContainsOwnWrites_partial (E S : WS) (W : Root) (ws : WS)
    (hst : (rootEq E.staged W && E.sArt == false) = true ∨ isFF E S = true)
    (hhd : (rootEq E.head S.head && E.hArt == S.hArt) = true)
    (h : doCommit E S W W true = some ws) : ws.head = W ∧ ws.hArt = false := by
  unfold doCommit at h
  simp only [hhd, if_true] at h
  by_cases hff : isFF E S = true
  · simp only [hff, if_true, Bool.false_eq_true, if_false] at h
    injection h with h; subst h; exact ⟨rfl, rfl⟩
  · simp only [hff] at h
    cases hc : (mergedWorking E S W).2 with
    | true => simp [hc] at h
    | false =>
      simp only [hc, Bool.false_eq_true, if_false] at h
      injection h with h; subst h
      rcases hst with hst | hst
      · have hst' : rootEq E.staged W = true ∧ E.sArt = false := by simpa using hst
        simp [mergedStaged, hst']
      · exact absurd hst hff

end DoltVerif.C23
