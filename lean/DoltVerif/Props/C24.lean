import DoltVerif.Lemmas.TxnCons
/-!
C24 — Committed data always satisfies declared constraints.

Proved here (on `Model/TxnCons.lean`): every successful DML statement with checks enabled preserves
NOT NULL, CHECK, UNIQUE (NULLs distinct) and FOREIGN KEY (RESTRICT) — for all schemas of the model's
constraint language, all databases and all statement sequences; a rejected statement changes nothing.
Merge time: the diff-driven validators of a merge record exactly the rows that violate a constraint in
the merged database, and a commit is accepted without force only if the result is valid.
-/
namespace DoltVerif.C24
open DoltVerif.Txn DoltVerif.TxnCons

/-- the declared constraints hold in a database: every child row is NOT NULL / CHECK / FK clean and
no two distinct rows collide on a unique key -/
def Valid (sc : Schema) (db : Db) : Prop :=
  ∀ k r, get db.c k = some r →
    notNullOk sc r = true ∧ checkOk sc r = true ∧ fkOk sc db.p r = true ∧
    ∀ k' r', get db.c k' = some r' → k' ≠ k → clash sc r r' = false

theorem valid_mono {sc : Schema} {p p' c c' : Root} (hv : Valid sc ⟨p, c⟩)
    (hc : ∀ k r, get c' k = some r → get c k = some r)
    (hp : ∀ k r, get c' k = some r → fkOk sc p r = true → fkOk sc p' r = true) : Valid sc ⟨p', c'⟩ :=
  fun k r hg =>
    let ⟨a1, a2, a3, a4⟩ := hv k r (hc k r hg)
    ⟨a1, a2, hp k r hg a3, fun k' r' hg' hk' => a4 k' r' (hc k' r' hg') hk'⟩

theorem put_valid {sc : Schema} {db : Db} {k : Key} {r : Row} (hv : Valid sc db)
    (hok : validate sc db k r = .ok) : Valid sc { db with c := put k r db.c } := by
  obtain ⟨h1, h2, h3, h4⟩ := validate_ok hok
  have hcl := clashesAny_false h4
  intro k1 r1 hg1
  simp only [get_put] at hg1 ⊢
  by_cases hk1 : k1 = k
  · -- the new row: validated against all other rows
    obtain rfl : r = r1 := by simpa [hk1] using hg1
    subst hk1
    exact ⟨h1, h2, h3, fun k' r' hg' hk' => hcl k' r' (by simpa [hk'] using hg') hk'⟩
  · -- an old row: clean before, and validated against the new one
    rw [if_neg hk1] at hg1
    obtain ⟨a1, a2, a3, a4⟩ := hv k1 r1 hg1
    refine ⟨a1, a2, a3, fun k' r' hg' hk' => ?_⟩
    by_cases hk2 : k' = k
    · obtain rfl : r = r' := by simpa [hk2] using hg'
      exact clash_comm sc r1 r ▸ hcl k1 r1 hg1 hk1
    · exact a4 k' r' (by simpa [hk2] using hg') hk'

/-- Every statement of the DML family, with checks enabled, maps a
valid database to a valid database (whether it succeeds or is rejected). -/
theorem dml_preserves_constraints (sc : Schema) (db : Db) (op : COp) (hv : Valid sc db) :
    Valid sc (applyCOp sc db op).1 := by
  cases op with
  | cins | cupd =>
    simp only [applyCOp]
    split
    · exact hv
    · split
      · rename_i hok; exact put_valid hv hok
      · exact hv
  | cdel k =>
    refine valid_mono hv (fun k1 r1 hg1 => ?_) (fun _ _ _ h => h)
    rw [get_del] at hg1
    split at hg1
    · cases hg1
    · exact hg1
  | pins k r =>
    simp only [applyCOp]
    split
    · exact hv
    · -- the parent only grew
      refine valid_mono hv (fun _ _ h => h) (fun k1 r1 _ a3 => ?_)
      rw [fkOk_iff] at a3 ⊢
      intro col hcol v hv
      obtain ⟨i, rfl, hi⟩ := a3 col hcol v hv
      exact ⟨i, rfl, by rw [get_put]; split <;> simp [hi]⟩
  | pdel k =>
    simp only [applyCOp]
    split
    · exact hv
    · -- no child row references the deleted parent row
      rename_i href
      have hnr := referenced_false (Bool.not_eq_true _ ▸ href)
      refine valid_mono hv (fun _ _ h => h) (fun k1 r1 hg1 a3 => ?_)
      rw [fkOk_iff] at a3 ⊢
      intro col hcol v hv
      obtain ⟨i, rfl, hi⟩ := a3 col hcol v hv
      have hik : i ≠ k := fun e => hnr k1 r1 hg1 col hcol (e ▸ hv)
      exact ⟨i, rfl, by rw [get_del, if_neg hik]; exact hi⟩

theorem rejected_statement_changes_nothing (sc : Schema) (db : Db) (op : COp)
    (h : (applyCOp sc db op).2 ≠ .ok) : (applyCOp sc db op).1 = db :=
  (applyCOp_unchanged_or_ok sc db op).resolve_right h

/-- the constraints hold after any program run from a valid database, in particular the empty one -/
theorem constraints_hold_in_every_reachable_state (sc : Schema) (ops : List COp) (db : Db) (hv : Valid sc db) :
    Valid sc (runCOps sc db ops) := by
  induction ops generalizing db with
  | nil => exact hv
  | cons op rest ih => exact ih _ (dml_preserves_constraints sc db op hv)

theorem valid_empty (sc : Schema) : Valid sc ⟨[], []⟩ := by intro k r h; simp [Txn.get] at h

example : Valid ⟨[0], [(0, 0)], [[1]], [2]⟩ (runCOps ⟨[0], [(0, 0)], [[1]], [2]⟩ ⟨[], []⟩
    [.pins 7 [], .cins 1 [some (.int 3), some (.int 1), some (.int 7)], .pdel 7]) :=
  constraints_hold_in_every_reachable_state _ _ _ (valid_empty _)
example : (applyCOp ⟨[0], [(0, 0)], [[1]], [2]⟩ ⟨[(7, [])], []⟩ (.cins 1 [some (.int 3), some (.int 1), some (.int 8)])).2 = .fk := by decide

/-- Whatever the merged roots `pM`, `cM` are, if OUR side (`pE`, `cE`) and the
ancestor (`pS`, `cS`) satisfy the constraints, the diff-driven validators record a child row **iff**
the row violates a declared constraint in the merged database — none silently kept, none spuriously
recorded.  (NOT NULL, CHECK, UNIQUE found from the rows that differ from ours — both rows of a
collision; FOREIGN KEY found from the ancestor→merged diff: child side and deleted-parent side.) -/
theorem merge_records_exactly (sc : Schema) (pS cS pE cE pM cM : Root)
    (hE : Valid sc ⟨pE, cE⟩) (hS : Valid sc ⟨pS, cS⟩) (k : Key) :
    k ∈ recordedViolations sc pS cS cE pM cM ↔ violatesB sc pM cM k = true := by
  cases hg : Txn.get cM k with
  | none => simp [recordedViolations, violatesB, rowViolates, uniqPartner, hg]
  | some r =>
    rw [mem_recordedViolations hg, violatesB_iff hg]
    constructor
    · rintro (((⟨_, h | h | h⟩ | ⟨k', r', _, hg', hk, hc⟩) | ⟨_, h⟩) | ⟨col, hcol, j, _, hn, hc⟩)
      · exact .inl h
      · exact .inr (.inl h)
      · exact .inr (.inr (.inr h))
      · exact .inr (.inr (.inr ((clashesAny_true_iff sc cM k r).2 ⟨k', r', hg', hk, hc⟩)))
      · exact .inr (.inr (.inl h))
      · -- a referenced parent was deleted
        refine .inr (.inr (.inl (Bool.eq_false_iff.2 fun hf => ?_)))
        obtain ⟨i, hi, hs⟩ := (fkOk_iff sc pM r).1 hf col hcol _ hc
        cases hi
        simp [hn] at hs
    · rintro (h | h | h | h)
      · -- NOT NULL fails: the row cannot be ours
        exact .inl (.inl (.inl ⟨fun e => Bool.false_ne_true (h.symm.trans (hE k r e).1), .inl h⟩))
      · exact .inl (.inl (.inl ⟨fun e => Bool.false_ne_true (h.symm.trans (hE k r e).2.1), .inr (.inl h)⟩))
      · by_cases hd : Txn.get cS k = some r
        · -- the row is the ancestor's, where the key was bound in the parent
          obtain ⟨col, hcol, v, hcell, hnone⟩ := fkOk_false h
          obtain ⟨i, rfl, hi⟩ := (fkOk_iff sc pS r).1 (hS k r hd).2.2.1 col hcol v hcell
          exact .inr ⟨col, hcol, i, (fun e => by simp [e] at hi), hnone i rfl, hcell⟩
        · exact .inl (.inr ⟨hd, h⟩)
      · obtain ⟨k', r', hg', hk', hc⟩ := (clashesAny_true_iff sc cM k r).1 h
        by_cases hd : Txn.get cE k = some r
        · by_cases hd' : Txn.get cE k' = some r'
          · -- both rows are OUR rows: contradiction with the validity of our side
            rw [(hE k r hd).2.2.2 k' r' hd' hk'] at hc; cases hc
          · exact .inl (.inl (.inr ⟨k', r', hd', hg', hk', hc⟩))
        · exact .inl (.inl (.inl ⟨hd, .inr (.inr h)⟩))

theorem valid_of_no_violation (sc : Schema) (p c : Root) (h : ∀ k, violatesB sc p c k = false) :
    Valid sc ⟨p, c⟩ := by
  intro k r hg
  -- none of the four ways `violatesB_iff` lists
  have hn := mt (violatesB_iff (p := p) hg).2 (by rw [h k]; exact Bool.false_ne_true)
  simp only [not_or, Bool.not_eq_false, Bool.not_eq_true] at hn
  exact ⟨hn.1, hn.2.1, hn.2.2.1, clashesAny_false hn.2.2.2⟩

theorem valid_of_holdsB {sc : Schema} {db : Db} (h : holdsB sc db = true) : Valid sc db := by
  refine valid_of_no_violation sc db.p db.c fun k => ?_
  unfold violatesB
  cases hg : Txn.get db.c k with
  | none => rfl
  | some r =>
    have := List.all_eq_true.1 h (k, r) ((mem_dump _ k r).2 hg)
    simp only [Bool.and_eq_true, Bool.not_eq_true'] at this
    simp [this]

/-- When a commit (transaction merge or branch merge) of OUR valid state with
any other changes over a valid ancestor is accepted without `dolt_force_transaction_commit`, the
committed database satisfies every declared constraint; otherwise the commit is rejected (`none`). -/
theorem txn_commit_preserves (sc : Schema) (pS cS pE cE pM cM : Root)
    (hE : Valid sc ⟨pE, cE⟩) (hS : Valid sc ⟨pS, cS⟩) (db : Db)
    (h : commitMerged sc pS cS cE pM cM false = some db) : Valid sc db := by
  unfold commitMerged at h
  simp only [Bool.or_false] at h
  split at h
  · rename_i hemp
    injection h with h; subst h
    apply valid_of_no_violation
    intro k
    cases hv : violatesB sc pM cM k with
    | false => rfl
    | true =>
      have := (merge_records_exactly sc pS cS pE cE pM cM hE hS k).2 hv
      rw [List.isEmpty_iff] at hemp
      rw [hemp] at this; cases this
  · cases h

/-- An accepted commit whose result violates a constraint was
forced; and every violating row of it carries an artifact (`merge_records_exactly`). -/
theorem disabled_checks_only_when_asked (sc : Schema) (pS cS pE cE pM cM : Root) (force : Bool)
    (hE : Valid sc ⟨pE, cE⟩) (hS : Valid sc ⟨pS, cS⟩) (db : Db)
    (h : commitMerged sc pS cS cE pM cM force = some db) (hbad : ¬ Valid sc db) : force = true := by
  cases force with
  | true => rfl
  | false => exact absurd (txn_commit_preserves sc pS cS pE cE pM cM hE hS db h) hbad

example : commitMerged ⟨[], [], [[0]], []⟩ [] [] [(1, [some (.int 5)])] [] [(1, [some (.int 5)]), (2, [some (.int 5)])] false = none := by
  decide

/-- witness that merging two valid deltas can produce an invalid table, i.e. that a merge-time
validator is needed at all: both sides insert different keys with the same unique value -/
theorem merge_of_valid_deltas_can_violate :
    ∃ (sc : Schema) (cE cW cS : Root), Valid sc ⟨[], cE⟩ ∧ Valid sc ⟨[], cW⟩ ∧ Valid sc ⟨[], cS⟩ ∧
      (mergeRoots cE cW cS).2 = [] ∧ ¬ Valid sc ⟨[], (mergeRoots cE cW cS).1⟩ := by
  refine ⟨⟨[], [], [[0]], []⟩, [(1, [some (.int 5)])], [(2, [some (.int 5)])], [],
    valid_of_holdsB (by decide +kernel), valid_of_holdsB (by decide +kernel), valid_empty _, by decide,
    fun hv => ?_⟩
  have := (hv 1 [some (.int 5)] (by decide)).2.2.2 2 [some (.int 5)] (by decide) (by decide)
  revert this; decide

end DoltVerif.C24
