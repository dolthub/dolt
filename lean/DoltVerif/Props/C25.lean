import DoltVerif.Lemmas.TxnIdx
/-!
C25 — Secondary indexes always mirror their table.  Statements about `Model/TxnIdx.lean` for all
tables, all index definitions (any column list, any prefix lengths, unique or not) and all operation
sequences.
-/
namespace DoltVerif.C25
open DoltVerif.Txn DoltVerif.TxnIdx

/-- C25's "exactly one entry per row, derived from that row's current values, and nothing else" -/
def Mirrors (d : IdxDef) (rows : Root) (es : Entries) : Prop :=
  es.Nodup ∧ ∀ e, e ∈ es ↔ ∃ k r, get rows k = some r ∧ e = entry d k r

def Inv (t : ITable) : Prop := ∀ p ∈ t.idx, Mirrors p.1 t.rows p.2

theorem idxAfter_mirrors (d : IdxDef) (k : Key) (v : Option Row) (rows : Root) (es : Entries)
    (h : Mirrors d rows es) : Mirrors d (rowsAfter k v rows) (idxAfter d k (get rows k) v es) := by
  obtain ⟨hnd, hiff⟩ := h
  refine ⟨nodup_idxAfter _ _ _ _ _ hnd, fun e => ?_⟩
  rw [mem_idxAfter, hiff]
  constructor
  · rintro (⟨rn, rfl, rfl⟩ | ⟨⟨k', r, hg, rfl⟩, hne⟩)
    · exact ⟨k, rn, by rw [get_rowsAfter, if_pos rfl], rfl⟩
    · -- an entry that stays belongs to another key, since entries end in their primary key
      have hk : k' ≠ k := fun e => by subst e; exact hne r hg rfl
      exact ⟨k', r, by rw [get_rowsAfter, if_neg hk]; exact hg, rfl⟩
  · rintro ⟨k', r, hg, rfl⟩
    rw [get_rowsAfter] at hg
    by_cases hk : k' = k
    · subst hk; rw [if_pos rfl] at hg; exact .inl ⟨r, hg, rfl⟩
    · rw [if_neg hk] at hg
      exact .inr ⟨⟨k', r, hg, rfl⟩, fun ro _ he => hk (entry_key_inj he)⟩

theorem setKey_inv (k : Key) (v : Option Row) (t : ITable) (h : Inv t) : Inv (setKey k v t) := by
  intro p hp
  simp only [setKey, List.mem_map] at hp
  obtain ⟨q, hmem, rfl⟩ := hp
  exact idxAfter_mirrors q.1 k v t.rows q.2 (h q hmem)

theorem rebuild_mirrors (d : IdxDef) (rows : Root) : Mirrors d rows (rebuild d rows) := by
  unfold rebuild
  constructor
  · -- entries end in their primary key, and `dump` lists each key once
    exact (List.pairwise_map.1 (nodup_dump_keys rows)).map _ fun _ _ h he => h (entry_key_inj he)
  · intro e
    simp only [List.mem_map]
    constructor
    · rintro ⟨⟨k, r⟩, hm, rfl⟩; exact ⟨k, r, (mem_dump rows k r).1 hm, rfl⟩
    · rintro ⟨k, r, hg, rfl⟩; exact ⟨(k, r), (mem_dump rows k r).2 hg, rfl⟩

/-- Every operation — insert, update (delete-old + insert-new, also when no
indexed column changes), delete, CREATE INDEX (rebuild), DROP INDEX, three-way merge applied through
the per-key fan-out — keeps every index an exact mirror of the primary rows. -/
theorem applyIOp_inv (t : ITable) (op : IOp) (h : Inv t) : Inv (applyIOp t op).1 := by
  -- one goal per path through `applyIOp`, in the order of its text; a refused operation leaves the table alone
  fun_cases applyIOp t op
  all_goals try exact h
  next => exact setKey_inv _ _ _ h  -- `ins`
  next => exact setKey_inv _ _ _ h  -- `upd`
  next => exact setKey_inv _ _ _ h  -- `del`
  next d _ =>
    -- `createIndex d`
    intro p hp
    rcases List.mem_append.1 hp with hp | hp
    · exact h p hp
    · cases List.mem_singleton.1 hp
      exact rebuild_mirrors d t.rows
  next => exact fun p hp => h p (List.mem_filter.1 hp).1  -- `dropIndex`
  next =>
    -- `mergeFrom`
    refine List.foldlRecOn _ _ h fun acc ha k _ => ?_
    split
    · exact ha
    · exact setKey_inv _ _ _ ha

/-- For every reachable table state — any program of the operations above from a table
without indexes (or from any state satisfying the invariant) — every index contains exactly one
entry per row, derived from the row's current values, and nothing else. -/
theorem index_inv (ops : List IOp) (t : ITable) (h : Inv t) : Inv (runIOps t ops) := by
  induction ops generalizing t with
  | nil => exact h
  | cons op rest ih => exact ih _ (applyIOp_inv t op h)

theorem index_inv_from_empty (rows : Root) (ops : List IOp) : Inv (runIOps ⟨rows, []⟩ ops) :=
  index_inv ops _ (by intro p hp; cases hp)

/-- an update of a column indexed with prefix length 1 swaps the entry `"a"` for `"z"` -/
example : (applyIOp ⟨[(1, [some (.int 1), some (.str "ab")])], [(⟨"i", [1], [1], false⟩, [[some (.str "a"), some (.int 1)]])]⟩
    (.upd 1 1 (some (.str "zz")))).1.idx = [(⟨"i", [1], [1], false⟩, [[some (.str "z"), some (.int 1)]])] := by decide

example : Inv (runIOps ⟨[], []⟩ [.createIndex ⟨"i", [1], [1], false⟩, .ins 1 [some (.int 1), some (.str "ab")],
    .upd 1 1 (some (.str "zz")), .mergeFrom [(2, [none, none])] []]) := index_inv_from_empty _ _

end DoltVerif.C25
