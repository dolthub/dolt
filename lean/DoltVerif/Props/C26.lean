import DoltVerif.Lemmas.QueryKey
import DoltVerif.Lemmas.QueryLeft
/-! C26 — Dolt returns the same query results as the reference engine (partial by design): the executor kernels dolt
puts under go-mysql-server's plan nodes return what the relational-algebra node they replace returns — except the LEFT
OUTER merge join, refuted in general (`left_merge_join_eq_left_nlj_false`) and proved for strictly increasing left keys
(`left_merge_join_unique`).  The SQL surface (parsing, planning, coercions, collations, functions) is not modelled. -/
namespace DoltVerif.C26
open DoltVerif.Query

structure IndexOK (w : Nat) (idx : List Tuple) : Prop where
  width : ∀ t ∈ idx, t.length = w
  sorted : idx.Pairwise (fun a b => tle a b = true)

/-- the tree path of `IterRange`: two searches + `Matches` post-filter unless contiguous -/
def treeScan (idx : List Tuple) (r : PRange) : List Tuple := postFilter r (treePartition idx r.fields)

/-- the tree path for every sorted list of key tuples — of any lengths, and a range of any number of columns: a missing
cell reads as NULL in the order, in the searches and in `Matches` alike -/
theorem treeScan_eq_filter {idx : List Tuple} (hs : idx.Pairwise (fun a b => tle a b = true)) (r : List ColExpr)
    (hne : rangeNonEmpty r = true) : treeScan idx (toProlly r) = idx.filter (memberAll r) := by
  rw [treeScan, treePartition_eq_filter hs (fs := (toProlly r).fields) (wf_fields r), ← rmatches_toProlly r hne]
  exact postFilter_filter (toProlly r) rfl idx _ (rmatches_contigPrefix _)
    (fun hc t hp => by rwa [contigPrefix_of_contig (toProlly r).fields hc] at hp)

/-- **`rangescan_eq_filter`** (tree path) — for every sorted index and every non-empty SQL range
(any number of columns, any mix of bounded / unbounded / NULL cuts), the prolly range built by
`prollyRangesFromSqlRanges` and iterated by `IterRange` returns exactly the index entries whose
leading cells lie between the cuts, in index order: the two binary searches never cut off a match,
the post-filter is skipped only when nothing else is inside the partition, and NULL is handled as
SQL says (`IS NULL` selects only NULL, every comparison excludes it). -/
theorem rangescan_eq_filter (w : Nat) (idx : List Tuple) (h : IndexOK w idx) (r : List ColExpr)
    (hne : rangeNonEmpty r = true) (hn : r.length ≤ w) :
    treeScan idx (toProlly r) = idx.filter (memberAll r) :=
  treeScan_eq_filter h.sorted r hne

/-- non-vacuity: a two-column index with NULLs and duplicates; `a = 2 AND b > 1` and `a IS NULL` -/
def exIdx : List Tuple := [[none, some 1, some 10], [none, none, some 11], [some 1, some 5, some 12],
  [some 2, none, some 13], [some 2, some 1, some 14], [some 2, some 3, some 15], [some 2, some 3, some 16], [some 7, some 0, some 17]]

example : treeScan exIdx (toProlly [⟨.below 2, .above 2⟩, ⟨.above 1, .aboveAll⟩]) =
    [[some 2, some 3, some 15], [some 2, some 3, some 16]] := by decide +kernel
example : treeScan exIdx (toProlly [⟨.belowNull, .aboveNull⟩]) = [[none, some 1, some 10], [none, none, some 11]] := by
  decide +kernel

/-- The non-emptiness hypothesis (`pruneEmptyRanges`) is forced: without pruning, the empty range
`(AboveNull, AboveNull)` would become an *equality with NULL* and return the NULL rows. -/
theorem rangescan_needs_pruning :
    treeScan exIdx (toProlly [⟨.aboveNull, .aboveNull⟩]) = [[none, some 1, some 10], [none, none, some 11]] ∧
    exIdx.filter (memberAll [⟨.aboveNull, .aboveNull⟩]) = [] := by decide +kernel


def scanPruned (idx : List Tuple) (r : List ColExpr) : List Tuple :=
  if rangeNonEmpty r then treeScan idx (toProlly r) else []

theorem scanPruned_eq_filter {idx : List Tuple} (hs : idx.Pairwise (fun a b => tle a b = true)) (r : List ColExpr) :
    scanPruned idx r = idx.filter (fun t => rangeNonEmpty r && memberAll r t) := by
  unfold scanPruned
  by_cases hne : rangeNonEmpty r = true
  · simp only [hne, if_true, Bool.true_and]
    exact treeScan_eq_filter hs r hne
  · simp [hne]

/-- the whole of `rangeScan`, for every sorted list of key tuples: pruning, then `IterRange` by whichever path it takes -/
theorem rangeScan_eq_filter (maxInt : Int) (nullable : List Bool) {idx : List Tuple}
    (hs : idx.Pairwise (fun a b => tle a b = true)) (r : List ColExpr) :
    rangeScan maxInt nullable idx r = idx.filter (fun t => rangeNonEmpty r && memberAll r t) := by
  unfold rangeScan
  by_cases hne : rangeNonEmpty r = true
  · simp only [hne, if_true, Bool.true_and, iterRange]
    cases hk : keyRangeStop maxInt nullable (toProlly r) with
    | none => exact treeScan_eq_filter hs r hne
    | some stop => exact keyscan_eq_filter maxInt nullable idx hs r hne stop hk
  · simp [hne]

/-- `rangescan_eq_filter` for `rangeScan` whenever `KeyRangeLookup` declines — in particular for every
secondary index (its key ends in the NOT NULL primary-key columns) unless the range binds all of
them: `rangeScan` then is `scanPruned`. -/
theorem rangescan_eq_filter_partial (maxInt : Int) (nullable : List Bool) (w : Nat) (idx : List Tuple) (h : IndexOK w idx)
    (r : List ColExpr) (hn : r.length ≤ w) (hk : keyRangeStop maxInt nullable (toProlly r) = none) :
    rangeScan maxInt nullable idx r = idx.filter (fun t => rangeNonEmpty r && memberAll r t) :=
  rangeScan_eq_filter maxInt nullable h.sorted r

/-- **`rangescan_eq_filter_full`** — the whole of `rangeScan` (pruning + `IterRange` with *both* paths):
for every sorted index, every SQL range and every integer width, the scan returns exactly the index
entries between the cuts, in index order.  The key-range path (`KeyRangeLookup` + `IncrementTuple` +
`IterKeyRange [Tup, stop)`, taken by exact-prefix lookups whose remaining key columns are nullable,
e.g. full-key lookups on a primary key) is exact as well; on overflow of the last field the code
falls back to the tree path, which is covered by `rangescan_eq_filter`. -/
theorem rangescan_eq_filter_full (maxInt : Int) (nullable : List Bool) (w : Nat) (idx : List Tuple) (h : IndexOK w idx)
    (r : List ColExpr) (hn : r.length ≤ w) :
    rangeScan maxInt nullable idx r = idx.filter (fun t => rangeNonEmpty r && memberAll r t) :=
  rangeScan_eq_filter maxInt nullable h.sorted r

/-- the key-range path on a primary-key point lookup, incl. the overflow fallback at `maxInt` -/
example : iterRange 100 [false] [[some 1], [some 2], [some 3]] (toProlly [⟨.below 2, .above 2⟩]) = [[some 2]] ∧
    keyRangeStop 100 [false] (toProlly [⟨.below 2, .above 2⟩]) = some [some 3] ∧
    keyRangeStop 100 [false] (toProlly [⟨.below 100, .above 100⟩]) = none ∧
    iterRange 100 [false] [[some 1], [some 100]] (toProlly [⟨.below 100, .above 100⟩]) = [[some 100]] := by decide +kernel


theorem atomRange_member (a : Atom) (v : Cell) : member (atomRange a) v = (evalAtom a v == some true) := by
  cases a <;> cases v <;> simp [atomRange, member, aboveCut, evalAtom] <;> (try (rw [Bool.eq_iff_iff]; simp <;> omega))

theorem conjRange_member : ∀ (as : List Atom) (v : Cell), member (conjRange as) v = evalConj as v
  | [], v => by simp [conjRange, member, aboveCut, evalConj]
  | a :: as, v => by
    have ih := conjRange_member as v
    simp only [conjRange, intersect, member, aboveCut_max, aboveCut_min, evalConj, List.all_cons] at ih ⊢
    rw [← atomRange_member a v]
    simp only [member] at ih ⊢
    rw [← ih]
    cases aboveCut (atomRange a).lo v <;> cases aboveCut (atomRange a).hi v <;>
      cases aboveCut (conjRange as).lo v <;> cases aboveCut (conjRange as).hi v <;> rfl

theorem empty_conj_selects_nothing (c : List Atom) (v : Cell) (h : colNonEmpty (conjRange c) = false) : evalConj c v = false :=
  conjRange_member c v ▸ member_of_empty (conjRange c) v h

/-- **`rangescan_eq_filter` for the filter grammar** — a single-column index condition in DNF
(ranges, IN lists = ORs of equalities, IS [NOT] NULL, AND/OR): an index entry is returned by the
range scans of the disjuncts (empty ones pruned) iff the condition is TRUE on its leading cell; rows
on which the condition is NULL/unknown are not returned. -/
theorem dnf_rangescan_mem (w : Nat) (idx : List Tuple) (h : IndexOK w idx) (hw : 1 ≤ w) (d : List (List Atom)) (t : Tuple) :
    t ∈ d.flatMap (fun c => scanPruned idx [conjRange c]) ↔ t ∈ idx ∧ evalDnf d (headCell t) = true := by
  have hc : ∀ c : List Atom, t ∈ scanPruned idx [conjRange c] ↔ t ∈ idx ∧ evalConj c (headCell t) = true := by
    intro c
    rw [scanPruned_eq_filter h.sorted, List.mem_filter]
    simp only [rangeNonEmpty, List.all_cons, List.all_nil, memberAll, Bool.and_true, conjRange_member, Bool.and_eq_true]
    -- an empty conjunction range selects nothing, so the pruning test is implied
    refine and_congr_right (fun _ => ⟨fun hh => hh.2, fun he => ⟨?_, he⟩⟩)
    cases hce : colNonEmpty (conjRange c) with
    | true => rfl
    | false => rw [empty_conj_selects_nothing c _ hce] at he; cases he
  simp only [List.mem_flatMap, hc, evalDnf, List.any_eq_true]
  exact ⟨fun ⟨c, hcd, hi, he⟩ => ⟨hi, c, hcd, he⟩, fun ⟨hi, c, hcd, he⟩ => ⟨c, hcd, hi, he⟩⟩

example : evalDnf [[.ge 1, .lt 3], [.isNull]] none = true ∧ evalDnf [[.ge 1, .lt 3], [.eq 7]] (some 3) = false := by decide


theorem lookup_join_both_paths (maxInt : Int) (nullable : List Bool) {rightIdx : List Tuple}
    (hs : rightIdx.Pairwise (fun a b => tle a b = true)) (lkey : Tuple → Cell) (left : List Tuple) :
    lookupJoin maxInt nullable lkey left rightIdx = nlj (fun l r => keyEq (lkey l) (headCell r)) left rightIdx := by
  unfold lookupJoin nlj
  congr 1
  funext l
  cases hk : lkey l with
  | none =>
    have hf : ∀ x, keyEq none x = false := fun x => rfl
    rw [List.filter_eq_nil_iff.mpr (by intro a _; simp [hk, hf])]
    rfl
  | some k =>
    dsimp only
    rw [rangeScan_eq_filter maxInt nullable hs]
    congr 1
    apply List.filter_congr
    intro r _
    have hne : rangeNonEmpty [⟨.below k, .above k⟩] = true := by simp [rangeNonEmpty, colNonEmpty, cutLt, cutPos]
    rw [hne, hk, Bool.true_and]
    simp only [memberAll, Bool.and_true, member_point]
    cases headCell r with
    | none => rfl
    | some x => rw [Bool.eq_iff_iff]; simp only [keyEq, decide_eq_true_eq, Option.some.injEq, beq_iff_eq]; exact eq_comm

/-- **`lookup_join_eq_nlj`** — the lookup join (one point range on the right index per left row;
left rows with a NULL key are skipped) returns exactly the nested-loop join on SQL key equality,
in the same order; NULL keys never match, duplicates on both sides are all paired. -/
theorem lookup_join_eq_nlj (maxInt : Int) (nullable : List Bool) (w : Nat) (rightIdx : List Tuple) (h : IndexOK w rightIdx)
    (hw : 1 ≤ w) (hnull : (nullable.drop 1).all id = false) (lkey : Tuple → Cell) (left : List Tuple) :
    lookupJoin maxInt nullable lkey left rightIdx = nlj (fun l r => keyEq (lkey l) (headCell r)) left rightIdx :=
  lookup_join_both_paths maxInt nullable h.sorted lkey left

example : lookupJoin 100 [true, false] (fun t => headCell t) [[some 2], [none], [some 9], [some 2]]
    [[none, some 1], [some 2, some 2], [some 2, some 3], [some 5, some 4]] =
    [([some 2], [some 2, some 2]), ([some 2], [some 2, some 3]), ([some 2], [some 2, some 2]), ([some 2], [some 2, some 3])] := by
  decide +kernel


/-- **`count_fast_eq_length`** — the count fast path (`Map.Count` of the primary index) equals the
number of rows the scan it replaces would produce; it is only legal without a filter
(`count_fast_wrong_with_filter`). -/
theorem count_fast_eq_length (rows : List Tuple) : countFast rows = (filterRows (fun _ => true) rows).length := by
  simp only [countFast, filterRows]
  rw [List.filter_eq_self.mpr (fun _ _ => rfl)]

/-- `count(col)` through the kv count iterator = the number of rows whose `col` is not NULL, provided
the schema's nullability flag is truthful (a NOT NULL column holds no NULL — C24's business). -/
theorem count_agg_eq_length (nullable : Bool) (col : Tuple → Cell) (rows : List Tuple)
    (hflag : nullable = false → ∀ r ∈ rows, (col r).isSome = true) :
    countAgg nullable col rows = (filterRows (fun r => (col r).isSome) rows).length := by
  simp only [countAgg, filterRows]
  congr 1
  apply List.filter_congr
  intro r hr
  cases nullable with
  | true => cases col r <;> rfl
  | false => simp [hflag rfl r hr]

example : countAgg true headCell [[some 1], [none], [some 1]] = 2 ∧ countAgg false (fun _ => some 1) [[none], [none]] = 2 := by decide

theorem count_fast_wrong_with_filter (p : Tuple → Bool) (rows : List Tuple) (t : Tuple) (ht : t ∈ rows) (hp : p t = false) :
    (filterRows p rows).length < countFast rows := by
  simp only [filterRows, countFast]
  exact List.length_filter_lt_length_iff_exists.mpr ⟨t, ht, by simp [hp]⟩

/-- **`merge_join_eq_nlj`** — the inner merge join (compare / fillMatchBuf / match stages with the
look-ahead buffer re-used for equal left keys) over inputs sorted on the join key returns a
permutation of the nested-loop join on SQL key equality: duplicates on both sides are all paired,
nothing is paired twice, and NULL keys — which the tuple comparison treats as *equal* — never
match because the join filter rejects them.  (Order differs: the buffer is emitted before the
current right row.) -/
theorem merge_join_eq_nlj (lk rk : Tuple → Cell) (left right : List Tuple)
    (hL : left.Pairwise (fun a b => clt (lk b) (lk a) = false)) (hR : right.Pairwise (fun a b => clt (rk b) (rk a) = false)) :
    (mergeJoin lk rk (fun a b => keyEq (lk a) (rk b)) left right).Perm (nlj (fun a b => keyEq (lk a) (rk b)) left right) :=
  mergeJoin_perm lk rk _ (fun _ _ => keyEq_true) left right hL hR

example : mergeJoin headCell headCell (fun a b => keyEq (headCell a) (headCell b))
    [[none, some 1], [some 1, some 2], [some 2, some 3], [some 2, some 4], [some 5, some 5]]
    [[none, some 9], [some 2, some 7], [some 2, some 8], [some 3, some 6], [some 5, some 1]] =
    [([some 2, some 3], [some 2, some 8]), ([some 2, some 3], [some 2, some 7]), ([some 2, some 4], [some 2, some 8]),
     ([some 2, some 4], [some 2, some 7]), ([some 5, some 5], [some 5, some 1])] := by decide +kernel


def okWith (lk rk : Tuple → Cell) (extra : Tuple → Tuple → Bool) (a b : Tuple) : Bool := keyEq (lk a) (rk b) && extra a b

/-- what the LEFT OUTER merge join should satisfy: a permutation of the left outer nested-loop join -/
def left_merge_join_eq_left_nlj_full : Prop :=
  ∀ (lk rk : Tuple → Cell) (extra : Tuple → Tuple → Bool) (left right : List Tuple),
    SortedBy lk left → SortedBy rk right →
    (leftMergeJoin lk rk (okWith lk rk extra) left right).Perm (leftNlj (okWith lk rk extra) left right)

def witL : List Tuple := [[some 2, some 1], [some 2, some 47], [some 3, some 25]]
def witR : List Tuple := [[some 2], [some 3]]
def witExtra (_ b : Tuple) : Bool := headCell b == some 3

/-- the state machine on the known witness: the match `(25, 3)` is lost — exactly what dolt returns -/
theorem left_merge_join_witness :
    leftMergeJoin headCell headCell (okWith headCell headCell witExtra) witL witR =
      [([some 2, some 1], none), ([some 2, some 47], none), ([some 3, some 25], none)] ∧
    leftNlj (okWith headCell headCell witExtra) witL witR =
      [([some 2, some 1], none), ([some 2, some 47], none), ([some 3, some 25], some [some 3])] := by decide +kernel

/-- **the full statement is false of the code that exists** (known finding
`mergejoin/left-outer-equal-left-keys-lose-lookahead`; the witness is replayed on dolt by the harness). -/
theorem left_merge_join_eq_left_nlj_false : ¬ left_merge_join_eq_left_nlj_full := by
  intro h
  have hp := h headCell headCell witExtra witL witR (by unfold SortedBy; decide) (by unfold SortedBy; decide)
  rw [left_merge_join_witness.1, left_merge_join_witness.2] at hp
  have hm := hp.mem_iff (a := (([some 3, some 25] : Tuple), some ([some 3] : Tuple)))
  exact absurd (hm.mpr (by decide)) (by decide)

/-- The hypothesis that excludes the defect, stated on the inputs: whenever two *adjacent* left rows
compare equal on the join key, the first of them either has an accepted match on the right or there
is no right row with that key at all.  (The defect needs: a left row whose candidates with an equal
key are all rejected by the join filters, immediately followed by a left row with an equal key, a
single right row with that key — empty look-ahead buffer — and a further right row, which
`fillMatchBuf` then overwrites.) -/
def NoUnmatchedDuplicate (lk rk : Tuple → Cell) (ok : Tuple → Tuple → Bool) (left right : List Tuple) : Prop :=
  ∀ i a b, left[i]? = some a → left[i + 1]? = some b → ccmp (lk a) (lk b) = 0 →
    (∃ r ∈ right, ok a r = true) ∨ (∀ r ∈ right, ccmp (lk a) (rk r) ≠ 0)

/-- **not proved**, kept as the statement of the partial claim: under `NoUnmatchedDuplicate` the LEFT OUTER
merge join is a permutation of the left outer nested-loop join.  `left_merge_join_unique` below is the case of
strictly increasing left keys; open are left-key duplicates whose first row has an accepted match or no right row
with that key, i.e. the `llCmp == 0` buffer re-use branch. -/
def left_merge_join_partial_full : Prop :=
  ∀ (lk rk : Tuple → Cell) (extra : Tuple → Tuple → Bool) (left right : List Tuple),
    SortedBy lk left → SortedBy rk right → NoUnmatchedDuplicate lk rk (okWith lk rk extra) left right →
    (leftMergeJoin lk rk (okWith lk rk extra) left right).Perm (leftNlj (okWith lk rk extra) left right)

/-- **`left_merge_join_unique_eq_spec`** (invariant over `Next` calls — compare-ready, match and exhaust
states; `Lemmas/QueryLeft.lean`): when the left rows have pairwise different join keys, the rows the
LEFT OUTER state machine returns over successive `Next` calls until EOF are exactly those of the
functional specification `leftSpec` (per left row: skip smaller right rows; equal key ⇒ the accepted
candidates of the look-ahead buffer followed by the current right row, or one NULL-extended row; smaller
key or right side exhausted ⇒ one NULL-extended row) — for every join filter `ok`, NULL keys and right-side
duplicates included.  `g` is the recursion fuel of `leftSpec` (any `g` above the two lengths gives the same
rows), `n` the number of `Next` calls, which has to exceed the number of rows.  No sortedness is needed here. -/
theorem left_merge_join_unique_eq_spec (lk rk : Tuple → Cell) (ok : Tuple → Tuple → Bool) (left right : List Tuple)
    (hd : DistinctKeys lk left) (g n : Nat) (hg : left.length + right.length + 1 ≤ g)
    (hn : (leftSpec lk rk ok g left right).length < n) :
    lrun lk rk ok n (LSt.init left right) = leftSpec lk rk ok g left right :=
  (left_machine_eq_spec lk rk ok left right hd g hg n).trans (List.take_of_length_le (Nat.le_of_lt hn))

example : DistinctKeys headCell [[some 1, some 1], [some 2, some 2], [some 5, some 4]] := by unfold DistinctKeys; decide

/-- **`left_merge_join_unique`** — for left inputs with strictly increasing join keys (no two left rows
share a key: the defect's precondition cannot arise) and a right input sorted on its key, the LEFT
OUTER merge join state machine — all rows returned by `Next` until EOF, with the model's own call
budget — is a permutation of the left outer nested-loop join: every left row appears with each of
its accepted matches (right-side duplicates included), or exactly once NULL-extended; NULL keys never
match; any extra join filter.  (`left_machine_perm`: `left_machine_eq_spec` + `leftSpec_perm`.) -/
theorem left_merge_join_unique (lk rk : Tuple → Cell) (extra : Tuple → Tuple → Bool) (left right : List Tuple)
    (hL : StrictBy lk left) (hR : SortedBy rk right) :
    (leftMergeJoin lk rk (okWith lk rk extra) left right).Perm (leftNlj (okWith lk rk extra) left right) :=
  left_machine_perm lk rk _ (fun _ _ h => keyEq_true (Bool.and_eq_true_iff.mp h).1) left right hL hR

example : StrictBy headCell [[none, some 0], [some 1, some 1], [some 2, some 2], [some 5, some 4]] := by
  unfold StrictBy; decide

/-- the witness violates the hypothesis (it must) -/
example : ¬ NoUnmatchedDuplicate headCell headCell (okWith headCell headCell witExtra) witL witR := by
  intro h
  have := h 0 [some 2, some 1] [some 2, some 47] rfl rfl (by decide)
  rcases this with ⟨r, hr, hok⟩ | hno
  · revert hok; revert r; decide
  · exact hno [some 2] (by decide) (by decide)

/-- with an empty right side every left row comes out once, NULL-extended, in order -/
theorem left_merge_join_empty_right (lk rk : Tuple → Cell) (ok : Tuple → Tuple → Bool) (L : List Tuple) :
    leftMergeJoin lk rk ok L [] = leftNlj ok L [] := by
  rw [leftNlj_nil_right, leftMergeJoin, runs_init_nil_right lk rk ok L, List.take_of_length_le (by simp; omega)]

/-- NULL keys, duplicates on both sides, unmatched rows on both sides, right side exhausted first -/
example : leftMergeJoin headCell headCell (okWith headCell headCell (fun _ _ => true))
    [[none, some 0], [some 1, some 1], [some 2, some 2], [some 2, some 3], [some 5, some 4], [some 9, some 5]]
    [[none], [some 2, some 7], [some 2, some 8], [some 3], [some 5]] =
    [([none, some 0], none), ([some 1, some 1], none), ([some 2, some 2], some [some 2, some 8]),
     ([some 2, some 2], some [some 2, some 7]), ([some 2, some 3], some [some 2, some 8]),
     ([some 2, some 3], some [some 2, some 7]), ([some 5, some 4], some [some 5]), ([some 9, some 5], none)] := by decide +kernel

end DoltVerif.C26
