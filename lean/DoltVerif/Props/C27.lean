import DoltVerif.Lemmas.RowMergeKeyless
/-!
C27 — keyless tables behave as multisets.  Model: `Model/RowMergeKeyless.lean`
(storage map row ↦ cardinality, transliteration of prollyKeylessWriter.Insert/Delete/Update and of
the keyless branch of the row merger).  The abstraction function is `card t : Row → Nat`, i.e. the
multiset itself; the theorems are the multiset laws of every writer operation, for all tables.
-/
namespace DoltVerif.C27
open DoltVerif.RowMerge DoltVerif.RowMerge.Keyless

/-- **keyless_refines_multiset (insert)**: one more copy of exactly that row -/
theorem insert_spec (t : KRows) (r r2 : Row) :
    card (Keyless.insert t r) r2 = card t r2 + (if r2 = r then 1 else 0) := by
  unfold Keyless.insert
  by_cases h : r2 = r
  · subst h; simp [card_setCard_self]
  · simp [h, card_setCard_other _ _ _ _ h]

/-- **keyless_refines_multiset (delete)**: one copy fewer of exactly that row (none if absent) -/
theorem delete_spec (t : KRows) (r r2 : Row) :
    card (delete t r) r2 = card t r2 - (if r2 = r then 1 else 0) := by
  unfold delete
  by_cases h : r2 = r
  · subst h
    cases hc : card t r2 with
    | zero => simp [hc]
    | succ n => simp [card_setCard_self]
  · cases hc : card t r with
    | zero => simp [h]
    | succ n => simp [h, card_setCard_other _ _ _ _ h]

/-- **update** = delete old + insert new, as multiset arithmetic -/
theorem update_spec (t : KRows) (old new r2 : Row) :
    card (update t old new) r2 =
      card t r2 - (if r2 = old then 1 else 0) + (if r2 = new then 1 else 0) := by
  simp [update, insert_spec, delete_spec]

/-- **delete_limit_exact**: deleting `n` copies removes exactly `min n (card t r)` copies of `r`
and touches no other row -/
theorem deleteN_spec (t : KRows) (r r2 : Row) (n : Nat) :
    card (deleteN t r n) r2 = card t r2 - (if r2 = r then n else 0) := by
  induction n generalizing t with
  | zero => simp [deleteN]
  | succ n ih =>
    simp only [deleteN, ih, delete_spec]
    by_cases h : r2 = r <;> simp [h] <;> omega

/-- the scan shows every row as many times as its cardinality (per storage entry) -/
theorem scan_length (t : KRows) : (scan t).length = (t.map (·.2)).sum := by
  induction t with
  | nil => simp [scan]
  | cons e rest ih => obtain ⟨r, c⟩ := e; simp [scan, ih]

/-- **keyless_refines_multiset (scan)**: a full scan shows every row exactly `card` times -/
theorem scan_count (t : KRows) (h : WF t) (r : Row) : (scan t).count r = card t r := by
  induction t with
  | nil => simp [scan, card]
  | cons e rest ih =>
    obtain ⟨r', c⟩ := e
    simp only [WF, List.map_cons, List.nodup_cons] at h
    have ih' := ih h.2
    simp only [scan, List.count_append, card, ih']
    by_cases hr : r' = r
    · subst hr
      simp [card_eq_zero_of_not_mem rest r' h.1]
    · have : ¬ (r' == r) = true := by simpa using hr
      simp [List.count_replicate, hr, this]

theorem wf_insert (t : KRows) (h : WF t) (r : Row) : WF (Keyless.insert t r) := wf_setCard t h r _

theorem wf_delete (t : KRows) (h : WF t) (r : Row) : WF (delete t r) := by
  unfold delete
  cases card t r with
  | zero => exact h
  | succ n => exact wf_setCard t h r n

/-- **keyless_merge_spec**: one side unchanged → the merged multiplicity is base + Δours + Δtheirs
(written without subtraction) and no conflict; both sides changed (equally or not — dolt treats
convergent keyless edits as conflicts, merge_rows.go MaybeShortCircuit / computeProllyTreePatches)
→ a conflict carrying the three cardinalities, ours kept -/
theorem keyless_merge_spec (b l r : Nat) :
    ((l = b ∨ r = b) → (mergeCard b l r).2.1 = false ∧ (mergeCard b l r).1 + b = l + r) ∧
    ((l ≠ b ∧ r ≠ b) → (mergeCard b l r).2.1 = true ∧ (mergeCard b l r).1 = l) := by
  unfold mergeCard
  refine ⟨fun h => ?_, fun ⟨h1, h2⟩ => by simp [h1, h2]⟩
  by_cases h1 : l = b
  · subst h1
    by_cases h2 : r = l
    · subst h2; simp
    · by_cases h3 : l = 0
      · subst h3; simp [h2]
      · by_cases h4 : r = 0
        · subst h4; simp [h2, h3]
        · simp [h2, h3, h4]; omega
  · have h2 : r = b := by
      rcases h with h | h
      · exact absurd h h1
      · exact h
    subst h2
    simp [h1]

/-- **keyless_merge_spec (table level)**: for every row identity, the merged table holds exactly
the multiplicity `mergeCard` prescribes from the three input multiplicities -/
theorem mergeKeyless_card (base left right : KRows) (row : Row) :
    card (mergeKeyless base left right).rows row =
      (mergeCard (card base row) (card left row) (card right row)).1 := by
  have h := foldMerge_card base left right (allRows base left right) row
  have e : (mergeKeyless base left right).rows = (foldMerge base left right (allRows base left right)).rows := rfl
  rw [e, h]
  by_cases hm : row ∈ allRows base left right
  · simp [hm]
  · rw [mem_allRows, not_or, not_or] at hm
    simp [mem_allRows, hm, card_eq_zero_of_not_mem _ row hm.1, card_eq_zero_of_not_mem _ row hm.2.1,
      card_eq_zero_of_not_mem _ row hm.2.2, mergeCard]

/-- the row counters of a keyless merge follow the same ops as the keyed row path -/
theorem mergeCard_op (b l r : Nat) (h : l = b) (hr : r ≠ b) :
    (mergeCard b l r).2.2 = (if b = 0 then .rightAdd else if r = 0 then .rightDelete else .rightModify) := by
  subst h
  unfold mergeCard
  by_cases h3 : l = 0
  · subst h3
    have : ¬ r = 0 := hr
    simp [hr]
  · by_cases h4 : r = 0
    · subst h4; simp [hr, h3]
    · simp [hr, h3, h4]

/-- non-vacuity: a duplicate-heavy table -/
example : card (Keyless.insert (Keyless.insert [] [some (.int 1)]) [some (.int 1)]) [some (.int 1)] = 2 := by decide
example : (mergeCard 2 3 1).2.1 = true ∧ (mergeCard 2 2 5).1 = 5 := by decide

end DoltVerif.C27
