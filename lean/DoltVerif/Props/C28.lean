import DoltVerif.Lemmas.AutoInc
/-!
C28 — Auto-increment values are never handed out twice.  Statements about `Model/AutoInc.lean`
(transliteration of `SequenceTracker.Next/Set/deepSet`); a schedule of concurrent sessions on any
branches is a list of atomic steps on the one per-table tracker value (see the model's header and
`Tie/AutoInc.lean` for the lock-region fact).
-/
namespace DoltVerif.C28
open DoltVerif.AutoInc

/-- inserts never lower the tracker: only a lowering `Set` can -/
theorem insert_steps_monotone (tmax cur : Nat) :
    cur ≤ (step tmax cur .gen).1 ∧ ∀ v, cur ≤ (step tmax cur (.explicit v)).1 :=
  ⟨nextNil_mono cur, fun v => nextGiven_mono tmax cur v⟩

/-- **Over all schedules** (any interleaving of inserts with and without explicit ids and of
non-lowering sequence updates, from any sessions on any branches): the generated ids are strictly
increasing in linearization order — hence pairwise distinct — as long as the sequence has not
reached the end of uint64. -/
theorem generated_unique_increasing (tmax cur : Nat) (ops : List Op)
    (h : NoLowering tmax cur ops) (hend : finalCur tmax cur ops < maxU64) :
    (gens tmax cur ops).Pairwise (· < ·) ∧ (gens tmax cur ops).Nodup := by
  have := (gens_spec h hend).2
  exact ⟨this, this.imp (fun h => Nat.ne_of_lt h)⟩

example : NoLowering 127 5 [.gen, .explicit 9, .gen, .explicit 3, .gen] ∧
    gens 127 5 [.gen, .explicit 9, .gen, .explicit 3, .gen] = [5, 10, 11] := by
  refine ⟨by simp [NoLowering, step, nextNil, nextGiven, inBounds, maxU64], by decide⟩

/-- **Explicit larger values move the sequence forward for everybody**: after an explicit id
`v >= cur` that is not the last value of the column type, every id generated later (any session,
any branch) is larger than `v`. -/
theorem explicit_moves_forward (tmax cur v : Nat) (ops : List Op) (hv : cur ≤ v) (hb : v + 1 ≤ tmax)
    (hmax : tmax ≤ maxU64)
    (h : NoLowering tmax (step tmax cur (.explicit v)).1 ops)
    (hend : finalCur tmax (step tmax cur (.explicit v)).1 ops < maxU64) :
    ∀ g ∈ gens tmax (step tmax cur (.explicit v)).1 ops, v < g := by
  rw [step_explicit tmax hv hb hmax] at h hend ⊢
  intro g hg
  have := (gens_spec h hend).1 g hg
  omega

example : (step 127 5 (.explicit 9)).1 = 10 := by decide

/-- a rolled-back insert is an ordinary `gen` step (the model has no undo step), so an id handed
out to a transaction that later rolls back is still below every later generated id -/
theorem rollback_does_not_reuse (tmax cur : Nat) (ops : List Op)
    (h : NoLowering tmax cur (.gen :: ops)) (hend : finalCur tmax cur (.gen :: ops) < maxU64) :
    ∀ g ∈ gens tmax (step tmax cur .gen).1 ops, cur < g := by
  intro g hg
  have := ((gens_spec h.2 hend).1 g hg).1
  rwa [step_gen tmax (Nat.lt_of_le_of_lt (finalCur_ge h) hend)] at this

/-- full statement without the end-of-range hypothesis -/
def generated_unique_full : Prop :=
  ∀ (tmax cur : Nat) (ops : List Op), NoLowering tmax cur ops → (gens tmax cur ops).Nodup

/-- Refuted on the model: at MaxUint64 `AutoIncrementState.Next` reports `ok = false`, which
`SequenceTracker.Next` ignores, so the same id is handed out again (replayed by the harness on a
BIGINT UNSIGNED column, see design/C28.md). -/
theorem generated_unique_full_false : ¬ generated_unique_full := by
  intro h
  have := h maxU64 maxU64 [.gen, .gen] (by simp [NoLowering, step, nextNil])
  revert this; decide

/-- the type-bound edge below uint64: an explicit id equal to the last value of the column type
leaves the sequence *at* that value, so the next generated id equals it (the insert then fails on
the key, as in MySQL) -/
theorem type_bound_edge (tmax cur : Nat) (hc : cur ≤ tmax) (ht : tmax < maxU64) :
    (step tmax cur (.explicit tmax)).1 = tmax ∧ (nextNil tmax).1 = tmax := by
  have h1 : ¬ cur > tmax := by omega
  have h2 : inBounds tmax tmax = true := by simp [inBounds]
  have h4 : inBounds tmax (tmax + 1) = false := by simp [inBounds]
  have h5 : (tmax == maxU64) = false := by simp; omega
  simp [step, nextGiven, h1, h2, h4, nextNil, h5]

end DoltVerif.C28
