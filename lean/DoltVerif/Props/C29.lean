import DoltVerif.Lemmas.RowMergeSchemaMerge
import DoltVerif.Lemmas.RowMergeOneSchema
import DoltVerif.Lemmas.RowMergeSymm
import DoltVerif.Props.C30
/-!
C29 — dolt_merge produces the row-level three-way merge.  Statements are about `Model/RowMerge.lean` (TryMerge and the
row path; tied to the source by `Tie/RowMerge.lean`, to dolt's behaviour by the `rowmerge` harness).  The table-level
theorems read off `mergeTable_rowPathKey`: on either path `MergeTable` is, key by key, `rowPathKey`.  `merge_total`
fails for dolt's choice before the fix of §11(f); known finding merge-reorder-rawbytes refutes `rowmerge_schema_full`.
-/
namespace DoltVerif.C29
open DoltVerif.RowMerge

/-- theirs did not touch the key (no diff against base): the merge keeps ours' row, migrated to
the merged schema when ours needs a rewrite, and records no conflict -/
theorem theirs_untouched_keeps_ours (pick : VM → Schema) (c : Cfg) (b l r : Option Row)
    (hr : rowDiff c.flags.rightSchemaChange b r = .none) (o : KeyOut)
    (h : mergeKeySlowG pick c b l r = .ok o) :
    o.conflict = false ∧ (o.row = l ∨ keepLeft c l = .ok o.row ∨ o.row = none) := by
  obtain ⟨op, row, cf⟩ := o
  have e := mergeKeySlow_obs pick c b l r
  rw [h, if_pos hr] at e
  split at e
  · cases e; exact ⟨rfl, .inl rfl⟩
  · cases hk : keepLeft c l <;> rw [hk] at e <;> cases e
    exact ⟨rfl, .inr (.inl rfl)⟩

/-- ours did not touch the key and theirs did: the merge takes theirs' row (remapped into the merged
schema when theirs needs a rewrite) or deletes the key when theirs deleted it; never a conflict -/
theorem ours_untouched_takes_theirs (pick : VM → Schema) (c : Cfg) (b l r : Option Row)
    (hl : rowDiff c.flags.leftSchemaChange b l = .none)
    (hr : rowDiff c.flags.rightSchemaChange b r ≠ .none) (o : KeyOut)
    (h : mergeKeySlowG pick c b l r = .ok o) :
    o.conflict = false ∧
      ((r = none ∧ o.row = none) ∨ (∃ rr, r = some rr ∧ takeRight c rr = .ok o.row)) := by
  obtain ⟨op, row, cf⟩ := o
  have e := mergeKeySlow_obs pick c b l r
  rw [h, if_neg hr, if_pos hl] at e
  cases r with
  | none => cases e; exact ⟨rfl, .inl ⟨rfl, rfl⟩⟩
  | some rr =>
    dsimp only at e
    cases hk : takeRight c rr <;> rw [hk] at e <;> cases e
    exact ⟨rfl, .inr ⟨rr, rfl, hk⟩⟩

theorem takeRight_plain (c : Cfg) (rr : Row) (hk : c.vm.keyless = false)
    (h : c.flags.rightNeedsRewrite = false) : takeRight c rr = .ok (some rr) := by
  simp [takeRight, hk, h]

theorem keepLeft_plain (c : Cfg) (l : Option Row) (h : c.flags.leftNeedsRewrite = false) :
    keepLeft c l = .ok l := by
  cases l <;> simp [keepLeft, h]

/-- a conflict can only be recorded for a key that BOTH sides changed (keyed tables) -/
theorem conflict_needs_both_changed (pick : VM → Schema) (c : Cfg) (b l r : Option Row) (o : KeyOut)
    (h : mergeKeySlowG pick c b l r = .ok o) (hc : o.conflict = true) :
    rowDiff c.flags.leftSchemaChange b l ≠ .none ∧ rowDiff c.flags.rightSchemaChange b r ≠ .none := by
  by_cases hr : rowDiff c.flags.rightSchemaChange b r = .none
  · have := (theirs_untouched_keeps_ours pick c b l r hr o h).1
    simp [this] at hc
  · by_cases hl : rowDiff c.flags.leftSchemaChange b l = .none
    · have := (ours_untouched_takes_theirs pick c b l r hl hr o h).1
      simp [this] at hc
    · exact ⟨hl, hr⟩

/-- delete vs delete is not a conflict and leaves the key deleted (keyed tables) -/
theorem both_deleted (pick : VM → Schema) (c : Cfg) (hk : c.vm.keyless = false) (b : Row) :
    mergeKeySlowG pick c (some b) none none = .ok ⟨.convergentDelete, none, false⟩ := by
  simp [mergeKeySlowG, rowDiff, matchBoth, hk]

/-- **MergeTable, key by key.**  For type-consistent schemas and well-typed rows, when no short-circuit
applies, `MergeTable` succeeds on either path with the merged schema of `schemaMerge`, and at EVERY key
the merged row and the recorded conflict are the row path's reading by column id, `rowPathKey`.  No
hypothesis about raw-byte aliases: those decide only whether `rowPathKey` is the specification. -/
theorem mergeTable_rowPathKey (forceSlow : Bool) (base ours theirs : Table) (msch : Schema) (fl : Flags)
    (tc : TypeConsistent base.sch ours.sch theirs.sch)
    (hb : tableOk base = true) (ho : tableOk ours = true) (ht : tableOk theirs = true)
    (hne1 : ours ≠ theirs) (hne2 : theirs ≠ base) (hne3 : ours ≠ base)
    (hs : schemaMerge base.sch ours.sch theirs.sch = .ok (msch, fl)) :
    ∃ m, mergeTableG leftTypeSchemaInRightDeleteBranch forceSlow base ours theirs = .ok m ∧ m.sch = msch ∧
      ∀ k, (get m.rows k, decide (k ∈ m.conflicts)) =
        rowPathKey ⟨⟨base.sch, ours.sch, theirs.sch, msch, false⟩, fl⟩
          (get base.rows k) (get ours.rows k) (get theirs.rows k) := by
  have hc : VM.WellFormed (Cfg.vm ⟨⟨base.sch, ours.sch, theirs.sch, msch, false⟩, fl⟩) :=
    schemaMerge_wellFormed base.sch ours.sch theirs.sch msch fl tc hs
  have slow := fun k => mergeKeySlow_eq _ hc _ _ _ (okOpt_get base hb k) (okOpt_get ours ho k) (okOpt_get theirs ht k)
  rw [mergeTableG_eq _ _ _ _ _ hne1 hne2 hne3, hs]
  simp only [bind, Except.bind]
  split
  · next hfast =>
    -- the chunk-level path runs only under the guard, where it agrees with the row path key by key
    have hcf : canFast ⟨⟨base.sch, ours.sch, theirs.sch, msch, false⟩, fl⟩ = true := by
      simp only [Bool.and_eq_true] at hfast; exact hfast.1
    obtain ⟨rows, confs, st, hm, hspec⟩ := mergeKeys_allKeys_spec _ (rowPathKey _) false base.rows ours.rows
      theirs.rows rfl (fun k => (C30.fast_slow_key _ _ hcf _ _ _).trans (slow k))
    exact ⟨mkMerged msch "fast" (rows, confs, st), congrArg (Except.map _) hm, rfl, hspec⟩
  · obtain ⟨rows, confs, st, hm, hspec⟩ := mergeKeys_allKeys_spec _ (rowPathKey _) true base.rows ours.rows
      theirs.rows rfl slow
    exact ⟨mkMerged msch "slow" (rows, confs, st), congrArg (Except.map _) hm, rfl, hspec⟩

/-! ### §11(f): `merge_total` under the two schema choices of the right-delete branch -/

/-- what the witnesses below observe of a merge result: the error, the conflicted keys, the rows as
SQL shows them -/
def isErr {α} (e : Except Err α) (x : Err) : Bool :=
  match e with | .error y => x == y | .ok _ => false

def conflictsOf (e : Except Err Merged) : Option (List Key) :=
  match e with | .ok m => some m.conflicts | .error _ => none

def rowsOf (e : Except Err Merged) : Option Rows :=
  match e with | .ok m => some (viewRows m.sch m.rows) | .error _ => none

/-- ours adds a column FIRST and updates row 1; theirs deletes row 1 -/
def fBase : Table := ⟨[⟨1, .int⟩], [(1, [some (.int 10)]), (2, [some (.int 20)])]⟩
def fOurs : Table := ⟨[⟨3, .str⟩, ⟨1, .int⟩], [(1, [none, some (.int 11)]), (2, [none, some (.int 20)])]⟩
def fTheirs : Table := ⟨[⟨1, .int⟩], [(2, [some (.int 20)])]⟩

example : rowOk fOurs.sch [none, some (.int 11)] = true := by decide

/-- "the merge never fails internally, including when one side added, dropped or reordered
columns": for all tables whose schemas give every column id one type (any additions at any
position, drops and reorders — on either side) and whose rows are well typed -/
def merge_total_full (pick : VM → Schema) : Prop :=
  ∀ (base ours theirs : Table), TypeConsistent base.sch ours.sch theirs.sch →
    tableOk base = true → tableOk ours = true → tableOk theirs = true →
    IsOk (mergeTableG pick false base ours theirs)

/-- **merge_total** holds for `leftTypeSchemaInRightDeleteBranch`, the choice dolt makes from commit
64cd79f on -/
theorem merge_total : merge_total_full leftTypeSchemaInRightDeleteBranch := by
  intro base ours theirs tc hb ho ht
  have short := mergeTableG_short leftTypeSchemaInRightDeleteBranch false base ours theirs
  by_cases h1 : ours = theirs
  · exact ⟨_, short.1 (.inl h1)⟩
  by_cases h2 : theirs = base
  · exact ⟨_, short.1 (.inr h2)⟩
  by_cases h3 : ours = base
  · exact ⟨_, short.2 h1 h3⟩
  obtain ⟨⟨msch, fl⟩, hs⟩ := schemaMerge_total base.sch ours.sch theirs.sch tc
  obtain ⟨m, hm, _⟩ := mergeTable_rowPathKey false base ours theirs msch fl tc hb ho ht h1 h2 h3 hs
  exact ⟨m, hm⟩

theorem witness_typeConsistent : TypeConsistent fBase.sch fOurs.sch fTheirs.sch := by
  constructor <;> (unfold Cons; decide)

/-- for `leftTypeSchemaBuggy`, the choice dolt made up to that commit, the statement is FALSE: the
witness (well-typed rows, one-sided column add) makes the merge panic (index out of range) -/
theorem merge_total_refuted_before_fix : ¬ merge_total_full leftTypeSchemaBuggy := by
  intro h
  have hw : isErr (mergeTableG leftTypeSchemaBuggy false fBase fOurs fTheirs) .panic = true := by decide
  obtain ⟨m, hm⟩ := h fBase fOurs fTheirs witness_typeConsistent (by decide) (by decide) (by decide)
  simp [hm, isErr] at hw

/-- with `leftTypeSchemaInRightDeleteBranch` the same inputs merge: row 1 is a delete/modify
conflict, ours' row is kept -/
theorem merge_total_witness_after_fix :
    conflictsOf (mergeTable fBase fOurs fTheirs) = some [1] ∧
    rowsOf (mergeTable fBase fOurs fTheirs) = some [(1, [none, some (.int 11)]), (2, [none, some (.int 20)])] := by
  decide

/-! ### known finding merge-reorder-rawbytes -/

/-- ours moves column a after b and sets a = 2; theirs sets b = 2 (base a = 1, b = 1) -/
def rBase : Table := ⟨[⟨1, .int⟩, ⟨2, .int⟩], [(1, [some (.int 1), some (.int 1)])]⟩
def rOurs : Table := ⟨[⟨2, .int⟩, ⟨1, .int⟩], [(1, [some (.int 1), some (.int 2)])]⟩
def rTheirs : Table := ⟨[⟨1, .int⟩, ⟨2, .int⟩], [(1, [some (.int 1), some (.int 2)])]⟩

/-- the property's demand for this input: the cell-wise combination a = 2, b = 2 (schema b, a) -/
def rowmerge_schema_full : Prop :=
  rowsOf (mergeTable rBase rOurs rTheirs) = some [(1, [some (.int 2), some (.int 2)])]

/-- the model (like dolt, replayed by the harness on every run) takes the two byte-equal tuples for
a convergent edit: theirs' change is dropped, no conflict -/
theorem reorder_rawbytes_witness :
    rowsOf (mergeTable rBase rOurs rTheirs) = some [(1, [some (.int 1), some (.int 2)])] ∧
    conflictsOf (mergeTable rBase rOurs rTheirs) = some [] := by decide

theorem rowmerge_schema_refuted : ¬ rowmerge_schema_full := by
  unfold rowmerge_schema_full
  rw [reorder_rawbytes_witness.1]
  decide

/-- the exclusion of known finding merge-reorder-rawbytes stated on whole tables — no two versions of a
key under different schemas have equal stored tuples but different logical rows — the form in which
the harness oracle applies it (design/C29.md); the theorems of this file use the per-key form
`NoRawByteAliasKey` -/
def NoRawByteAlias (base ours theirs : Table) : Prop :=
  ∀ k (x y : Table), x ∈ [base, ours, theirs] → y ∈ [base, ours, theirs] → x.sch ≠ y.sch →
    ∀ a b, get x.rows k = some a → get y.rows k = some b → rawEq a b = true →
      ∀ c, c ∈ x.sch → c ∈ y.sch →
        (findCol x.sch c.id).bind (fun i => a[i]?) = (findCol y.sch c.id).bind (fun i => b[i]?)

theorem specKey_symm (s : Schema) (b l r : Option Row) :
    (specKey s b r l).2 = (specKey s b l r).2 ∧
    ((specKey s b l r).2 = false → (specKey s b r l).1 = (specKey s b l r).1) := by
  unfold specKey
  by_cases h1 : r = b
  · by_cases h2 : l = b
    · subst h1; subst h2; simp
    · subst h1; simp [h2]
  · by_cases h2 : l = b
    · subst h2; simp [h1]
    · by_cases h3 : l = r
      · subst h3; simp [h1]
      · have h3' : ¬ r = l := fun e => h3 e.symm
        simp only [h1, h2, h3, h3', if_false]
        cases l with
        | none => cases r <;> simp
        | some ll =>
          cases r with
          | none => simp
          | some rr =>
            simp only [rowMergeSpec_symm s b ll rr]
            cases rowMergeSpec s b ll rr <;> simp

/-- **rowmerge_spec.**  For every three tables sharing a schema (distinct column ids, well-typed rows)
`MergeTable` succeeds, keeps the schema, and for EVERY key the merged row and the recorded conflict
are exactly the ones the property demands (`specKey`: one-sided change wins, equal changes → that,
cell-wise combination, both changed a cell differently → conflict, delete/modify → conflict,
delete/untouched → delete; a conflicted key keeps ours). -/
theorem rowmerge_spec (s : Schema) (hd : idsDistinct s = true) (base ours theirs : Rows)
    (hb : tableOk ⟨s, base⟩ = true) (ho : tableOk ⟨s, ours⟩ = true) (ht : tableOk ⟨s, theirs⟩ = true) :
    ∃ m, mergeTable ⟨s, base⟩ ⟨s, ours⟩ ⟨s, theirs⟩ = .ok m ∧ m.sch = s ∧
      ∀ k, (get m.rows k, decide (k ∈ m.conflicts)) = specKey s (get base k) (get ours k) (get theirs k) := by
  have short := mergeTableG_short leftTypeSchemaInRightDeleteBranch false ⟨s, base⟩ ⟨s, ours⟩ ⟨s, theirs⟩
  by_cases e1 : (⟨s, ours⟩ : Table) = ⟨s, theirs⟩
  · refine ⟨_, short.1 (.inl e1), rfl, fun k => ?_⟩
    cases e1
    exact (specKey_same s _ _).symm
  by_cases e2 : (⟨s, theirs⟩ : Table) = ⟨s, base⟩
  · refine ⟨_, short.1 (.inr e2), rfl, fun k => ?_⟩
    cases e2
    exact (specKey_right_base s _ _).symm
  by_cases e3 : (⟨s, ours⟩ : Table) = ⟨s, base⟩
  · refine ⟨_, short.2 e1 e3, rfl, fun k => ?_⟩
    cases e3
    exact (specKey_left_base s _ _).symm
  have c := cons_of_idsDistinct s hd
  obtain ⟨m, hm, hsch, hk⟩ := mergeTable_rowPathKey false ⟨s, base⟩ ⟨s, ours⟩ ⟨s, theirs⟩ s {} ⟨c, c, c, c, c, c⟩
    hb ho ht e1 e2 e3 (by simp [schemaMerge, pure, Except.pure])
  exact ⟨m, hm, hsch, fun k => (hk k).trans (rowPathKey_same s hd _ _ _ (okOpt_get ⟨s, base⟩ hb k)
    (okOpt_get ⟨s, ours⟩ ho k) (okOpt_get ⟨s, theirs⟩ ht k))⟩

theorem merge_of_specKey (s : Schema) (hd : idsDistinct s = true) (base ours theirs : Rows)
    (hb : tableOk ⟨s, base⟩ = true) (ho : tableOk ⟨s, ours⟩ = true) (ht : tableOk ⟨s, theirs⟩ = true)
    (f : Key → Option Row)
    (h : ∀ k, specKey s (get base k) (get ours k) (get theirs k) = (f k, false)) :
    ∃ m, mergeTable ⟨s, base⟩ ⟨s, ours⟩ ⟨s, theirs⟩ = .ok m ∧ m.sch = s ∧
      ∀ k, get m.rows k = f k ∧ k ∉ m.conflicts := by
  obtain ⟨m, hm, hs, hspec⟩ := rowmerge_spec s hd base ours theirs hb ho ht
  refine ⟨m, hm, hs, fun k => ?_⟩
  have := (hspec k).trans (h k)
  simp only [Prod.mk.injEq, decide_eq_false_iff_not] at this
  exact this

theorem agree_of_spec {R : Option Row → Option Row → Prop} (ra rb : Option Row) (ca cb : Prop)
    [Decidable ca] [Decidable cb] (S1 S2 : Option Row × Bool)
    (ea : (ra, decide ca) = S1) (eb : (rb, decide cb) = S2) (h : SymmAgree R S1 S2) :
    (ca ↔ cb) ∧ (¬ ca → R ra rb) := by
  subst ea eb
  exact ⟨by simpa using h.1.symm, fun hn => h.2 (by simpa using hn)⟩

/-- **merge_total (same schema).**  Within one schema the merge never fails. -/
theorem merge_total_same_schema (s : Schema) (hd : idsDistinct s = true) (base ours theirs : Rows)
    (hb : tableOk ⟨s, base⟩ = true) (ho : tableOk ⟨s, ours⟩ = true) (ht : tableOk ⟨s, theirs⟩ = true) :
    ∃ m, mergeTable ⟨s, base⟩ ⟨s, ours⟩ ⟨s, theirs⟩ = .ok m := by
  obtain ⟨m, hm, _⟩ := rowmerge_spec s hd base ours theirs hb ho ht
  exact ⟨m, hm⟩

/-- **merge_symmetric.**  Merging theirs into ours and ours into theirs conflict on exactly the same
keys, and every unconflicted key holds the same row both ways round (a conflicted key holds the
respective "ours", as the conflict rows — base / ours / theirs — say, mirrored). -/
theorem merge_symmetric (s : Schema) (hd : idsDistinct s = true) (base ours theirs : Rows)
    (hb : tableOk ⟨s, base⟩ = true) (ho : tableOk ⟨s, ours⟩ = true) (ht : tableOk ⟨s, theirs⟩ = true) :
    ∃ m m', mergeTable ⟨s, base⟩ ⟨s, ours⟩ ⟨s, theirs⟩ = .ok m ∧
      mergeTable ⟨s, base⟩ ⟨s, theirs⟩ ⟨s, ours⟩ = .ok m' ∧
      ∀ k, (k ∈ m.conflicts ↔ k ∈ m'.conflicts) ∧ (k ∉ m.conflicts → get m.rows k = get m'.rows k) := by
  obtain ⟨m, hm, _, h1⟩ := rowmerge_spec s hd base ours theirs hb ho ht
  obtain ⟨m', hm', _, h2⟩ := rowmerge_spec s hd base theirs ours hb ht ho
  refine ⟨m, m', hm, hm', fun k => ?_⟩
  obtain ⟨s1, s2⟩ := specKey_symm s (get base k) (get ours k) (get theirs k)
  exact agree_of_spec _ _ _ _ _ _ (h1 k) (h2 k) ⟨s1, fun hf => (s2 hf).symm⟩

/-- **tryMerge_schema_spec.**  For the value merger of ANY successful schema merge of type-consistent
schemas and well-typed rows, `TryMerge` IS the by-column-id specification `tryMergeSpec`: a conflict
iff a dropped column's cell (or, with a deleted side, a kept base cell) was changed by the other
side or some result cell was changed differently by both sides (`cellSpec`/`cellMerge`, cells
looked up by column id in each side's own schema); otherwise the cell-wise combination in the
result schema.  No raw-byte hypothesis is needed at this level. -/
theorem tryMerge_schema_spec (base ours theirs msch : Schema) (fl : Flags)
    (tc : TypeConsistent base ours theirs) (hs : schemaMerge base ours theirs = .ok (msch, fl))
    (l r b : Option Row) (hl : okOpt ours l) (hr : okOpt theirs r) (hb : okOpt base b)
    (hshape : (l.isSome ∧ r.isSome) ∨ (b.isSome ∧ (l.isSome ∨ r.isSome))) :
    tryMerge ⟨base, ours, theirs, msch, false⟩ l r b =
      .ok (tryMergeSpec ⟨base, ours, theirs, msch, false⟩ l r b) :=
  tryMerge_schema _ (schemaMerge_wellFormed base ours theirs msch fl tc hs) l r b hl hr hb hshape

/-- **rowmerge_schema_partial.**  For the configuration of any successful schema merge of
type-consistent schemas (one-sided or not: additions at any position, drops, reorders), well-typed
rows and a key free of raw-byte aliases (`NoRawByteAliasKey`: the differ's three byte-comparison
shortcuts agree with the by-column-id specification — the hypothesis the known finding
merge-reorder-rawbytes violates), the row path's merged row and conflict flag are exactly the
by-column-id cell-wise specification `specSchemaKey`, both sides mapped into the result schema.
`hidL`/`hidR` state that a side that needs no rewrite already has the result schema's layout. -/
theorem rowmerge_schema_partial (base ours theirs msch : Schema) (fl : Flags)
    (tc : TypeConsistent base ours theirs) (hs : schemaMerge base ours theirs = .ok (msch, fl))
    (hidL : fl.leftNeedsRewrite = false → ∀ row, rowOk ours row = true → projRow msch ours row = row)
    (hidR : fl.rightNeedsRewrite = false → ∀ row, rowOk theirs row = true → projRow msch theirs row = row)
    (b l r : Option Row) (hb : okOpt base b) (hl : okOpt ours l) (hr : okOpt theirs r)
    (na : NoRawByteAliasKey ⟨⟨base, ours, theirs, msch, false⟩, fl⟩ b l r) :
    (mergeKeySlowG leftTypeSchemaInRightDeleteBranch ⟨⟨base, ours, theirs, msch, false⟩, fl⟩ b l r).map KeyOut.obs =
      .ok (specSchemaKey ⟨⟨base, ours, theirs, msch, false⟩, fl⟩ b l r) := by
  rw [mergeKeySlow_eq _ (schemaMerge_wellFormed base ours theirs msch fl tc hs) b l r hb hl hr,
    rowPathKey_eq_spec _ hidL hidR b l r hl hr na]

/-- **rowmerge_schema_table (row path).**  Whole tables under a schema change: for type-consistent
schemas with distinct column ids on both sides, well-typed rows, both sides having changed the
table (no short-circuit) and every key free of raw-byte aliases, the row-by-row merge succeeds, has
the merged schema of `schemaMerge`, and for EVERY key the merged row and the recorded conflict are
the by-column-id specification `specSchemaKey` (both sides mapped into the result schema).  `hidL`
and `hidR` of `rowmerge_schema_partial` are derived from the schema merge (`schemaMerge_noRewrite`). -/
theorem rowmerge_schema_table (base ours theirs : Table) (msch : Schema) (fl : Flags)
    (tc : TypeConsistent base.sch ours.sch theirs.sch)
    (hdo : idsDistinct ours.sch = true) (hdt : idsDistinct theirs.sch = true)
    (hb : tableOk base = true) (ho : tableOk ours = true) (ht : tableOk theirs = true)
    (hne1 : ours ≠ theirs) (hne2 : theirs ≠ base) (hne3 : ours ≠ base)
    (hs : schemaMerge base.sch ours.sch theirs.sch = .ok (msch, fl))
    (na : ∀ k, NoRawByteAliasKey ⟨⟨base.sch, ours.sch, theirs.sch, msch, false⟩, fl⟩
      (get base.rows k) (get ours.rows k) (get theirs.rows k)) :
    ∃ m, mergeTableG leftTypeSchemaInRightDeleteBranch true base ours theirs = .ok m ∧ m.sch = msch ∧
      ∀ k, (get m.rows k, decide (k ∈ m.conflicts)) =
        specSchemaKey ⟨⟨base.sch, ours.sch, theirs.sch, msch, false⟩, fl⟩
          (get base.rows k) (get ours.rows k) (get theirs.rows k) := by
  obtain ⟨hidL, hidR⟩ := schemaMerge_noRewrite base.sch ours.sch theirs.sch msch fl hdo hdt hs
  obtain ⟨m, hm, hsch, hk⟩ := mergeTable_rowPathKey true base ours theirs msch fl tc hb ho ht hne1 hne2 hne3 hs
  exact ⟨m, hm, hsch, fun k => (hk k).trans
    (rowPathKey_eq_spec _ hidL hidR _ _ _ (okOpt_get ours ho k) (okOpt_get theirs ht k) (na k))⟩

/-- … and the same holds of `MergeTable` as dolt runs it (fast path allowed). -/
theorem rowmerge_schema_table_default (base ours theirs : Table) (msch : Schema) (fl : Flags)
    (tc : TypeConsistent base.sch ours.sch theirs.sch)
    (hdo : idsDistinct ours.sch = true) (hdt : idsDistinct theirs.sch = true)
    (hb : tableOk base = true) (ho : tableOk ours = true) (ht : tableOk theirs = true)
    (hne1 : ours ≠ theirs) (hne2 : theirs ≠ base) (hne3 : ours ≠ base)
    (hs : schemaMerge base.sch ours.sch theirs.sch = .ok (msch, fl))
    (na : ∀ k, NoRawByteAliasKey ⟨⟨base.sch, ours.sch, theirs.sch, msch, false⟩, fl⟩
      (get base.rows k) (get ours.rows k) (get theirs.rows k)) :
    ∃ m, mergeTable base ours theirs = .ok m ∧ m.sch = msch ∧
      ∀ k, (get m.rows k, decide (k ∈ m.conflicts)) =
        specSchemaKey ⟨⟨base.sch, ours.sch, theirs.sch, msch, false⟩, fl⟩
          (get base.rows k) (get ours.rows k) (get theirs.rows k) := by
  obtain ⟨hidL, hidR⟩ := schemaMerge_noRewrite base.sch ours.sch theirs.sch msch fl hdo hdt hs
  obtain ⟨m, hm, hsch, hk⟩ := mergeTable_rowPathKey false base ours theirs msch fl tc hb ho ht hne1 hne2 hne3 hs
  exact ⟨m, hm, hsch, fun k => (hk k).trans
    (rowPathKey_eq_spec _ hidL hidR _ _ _ (okOpt_get ours ho k) (okOpt_get theirs ht k) (na k))⟩

/-- **merge_symmetric under a schema change**, up to the column permutation between the two result
schemas: with the hypotheses of `rowmerge_schema_table` for both directions, merging theirs into
ours and ours into theirs conflict on exactly the same keys, and every unconflicted key holds the
same row as a map column id → cell (`RowsEqById`). -/
theorem merge_symmetric_schema (base ours theirs : Table) (m1 m2 : Schema) (fl1 fl2 : Flags)
    (tc : TypeConsistent base.sch ours.sch theirs.sch)
    (hdo : idsDistinct ours.sch = true) (hdt : idsDistinct theirs.sch = true)
    (hb : tableOk base = true) (ho : tableOk ours = true) (ht : tableOk theirs = true)
    (hne1 : ours ≠ theirs) (hne2 : theirs ≠ base) (hne3 : ours ≠ base)
    (hs1 : schemaMerge base.sch ours.sch theirs.sch = .ok (m1, fl1))
    (hs2 : schemaMerge base.sch theirs.sch ours.sch = .ok (m2, fl2))
    (na1 : ∀ k, NoRawByteAliasKey ⟨⟨base.sch, ours.sch, theirs.sch, m1, false⟩, fl1⟩
      (get base.rows k) (get ours.rows k) (get theirs.rows k))
    (na2 : ∀ k, NoRawByteAliasKey ⟨⟨base.sch, theirs.sch, ours.sch, m2, false⟩, fl2⟩
      (get base.rows k) (get theirs.rows k) (get ours.rows k)) :
    ∃ a b, mergeTable base ours theirs = .ok a ∧ mergeTable base theirs ours = .ok b ∧
      a.sch = m1 ∧ b.sch = m2 ∧
      ∀ k, (k ∈ a.conflicts ↔ k ∈ b.conflicts) ∧
        (k ∉ a.conflicts → RowsEqById m1 m2 (get a.rows k) (get b.rows k)) := by
  obtain ⟨a, ha, hsa, hka⟩ := rowmerge_schema_table_default base ours theirs m1 fl1 tc hdo hdt hb ho ht
    hne1 hne2 hne3 hs1 na1
  obtain ⟨b, hb', hsb, hkb⟩ := rowmerge_schema_table_default base theirs ours m2 fl2 tc.swap hdt hdo hb ht ho
    (fun e => hne1 e.symm) hne3 hne2 hs2 na2
  have hids : ∀ id, findCol m1 id ≠ none ↔ findCol m2 id ≠ none := fun id =>
    ⟨schemaMerge_ids_symm _ _ _ m1 m2 fl1 fl2 tc hs1 hs2 id,
     schemaMerge_ids_symm _ _ _ m2 m1 fl2 fl1 tc.swap hs2 hs1 id⟩
  refine ⟨a, b, ha, hb', hsa, hsb, fun k => ?_⟩
  exact agree_of_spec _ _ _ _ _ _ (hka k) (hkb k) (specSchemaKey_swap base.sch ours.sch theirs.sch m1 m2 fl1 fl2 hids
    (get base.rows k) (get ours.rows k) (get theirs.rows k))

/-- non-vacuity: ours drops column 1 and edits column 2, theirs edits column 3 of the same row —
the specification combines the cells in the result schema (2, 3) -/
example :
    tryMergeSpec ⟨[⟨1, .int⟩, ⟨2, .int⟩, ⟨3, .int⟩], [⟨2, .int⟩, ⟨3, .int⟩], [⟨1, .int⟩, ⟨2, .int⟩, ⟨3, .int⟩],
        [⟨2, .int⟩, ⟨3, .int⟩], false⟩
      (some [some (.int 20), some (.int 3)]) (some [some (.int 1), some (.int 2), some (.int 30)])
      (some [some (.int 1), some (.int 2), some (.int 3)]) =
    (some [some (.int 20), some (.int 30)], true) := by decide

/-- **merge_same_sides.**  Merging a branch with an identical copy of itself (both sides made the
same changes to every row) succeeds without conflicts and yields exactly that table — merge is
idempotent on equal inputs, whatever the base. -/
theorem merge_same_sides (s : Schema) (hd : idsDistinct s = true) (base ours : Rows)
    (hb : tableOk ⟨s, base⟩ = true) (ho : tableOk ⟨s, ours⟩ = true) :
    ∃ m, mergeTable ⟨s, base⟩ ⟨s, ours⟩ ⟨s, ours⟩ = .ok m ∧ m.sch = s ∧
      ∀ k, get m.rows k = get ours k ∧ k ∉ m.conflicts :=
  merge_of_specKey s hd base ours ours hb ho ho _ fun _ => specKey_same s _ _

/-- **merge_with_base.**  Merging in a branch that has not changed anything since the base keeps
ours exactly, without conflicts. -/
theorem merge_with_base (s : Schema) (hd : idsDistinct s = true) (base ours : Rows)
    (hb : tableOk ⟨s, base⟩ = true) (ho : tableOk ⟨s, ours⟩ = true) :
    ∃ m, mergeTable ⟨s, base⟩ ⟨s, ours⟩ ⟨s, base⟩ = .ok m ∧ m.sch = s ∧
      ∀ k, get m.rows k = get ours k ∧ k ∉ m.conflicts :=
  merge_of_specKey s hd base ours base hb ho hb _ fun _ => specKey_right_base s _ _

/-- **merge_into_unchanged.**  When ours has not changed anything since the base, the merge takes
theirs exactly (the row-level counterpart of a fast-forward), without conflicts. -/
theorem merge_into_unchanged (s : Schema) (hd : idsDistinct s = true) (base theirs : Rows)
    (hb : tableOk ⟨s, base⟩ = true) (ht : tableOk ⟨s, theirs⟩ = true) :
    ∃ m, mergeTable ⟨s, base⟩ ⟨s, base⟩ ⟨s, theirs⟩ = .ok m ∧ m.sch = s ∧
      ∀ k, get m.rows k = get theirs k ∧ k ∉ m.conflicts :=
  merge_of_specKey s hd base base theirs hb hb ht _ fun _ => specKey_left_base s _ _

end DoltVerif.C29
