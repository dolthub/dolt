import DoltVerif.Lemmas.RowMerge
/-!
C30 — the fast tree-level merge agrees with the row-level merge.  Model, at key granularity: `mergeKeyFastG`
(SendPatches over point patches + the collision callback), `mergeKeySlowG` (ThreeWayDiffer.Next + the row path's
switch), the guard `canFast` (Tie.RowMerge.can_fast_guard).  That the real fast path's chunk-range patches are
equivalent to point patches is C14's subject, checked on the implementation by the `mergepaths` harness.
-/
namespace DoltVerif.C30
open DoltVerif.RowMerge

theorem tryMerge_delete_row (pick : VM → Schema) (m : VM) (l r b : Option Row)
    (h : l = none ∨ r = none) (mrg : Option Row) (ok : Bool)
    (hm : tryMergeG pick m l r b = .ok (mrg, ok)) : mrg = none := by
  unfold tryMergeG at hm
  simp only [bind, Except.bind, pure, Except.pure] at hm
  split at hm
  · simp at hm; exact hm.1.symm
  · split at hm
    · exact absurd hm (by simp)
    · rename_i x hx
      split at hm
      · simp at hm; exact hm.1.symm
      · rcases h with rfl | rfl
        · cases b <;> cases r <;> simp at hm <;> exact hm.1.symm
        · cases b <;> cases l <;> simp at hm <;> exact hm.1.symm

theorem obs_bind_congr {α} (e : Except Err α) (f g : α → Except Err KeyOut)
    (h : ∀ a, e = .ok a → (f a).map KeyOut.obs = (g a).map KeyOut.obs) :
    (e >>= f).map KeyOut.obs = (e >>= g).map KeyOut.obs := by
  cases e with
  | error _ => rfl
  | ok a => exact h a rfl

/-- one key: when the guard allows the fast path, both paths produce the same row and the same
conflict decision (or fail with the same error) -/
theorem fast_slow_key (pick : VM → Schema) (c : Cfg) (hc : canFast c = true) (b l r : Option Row) :
    (mergeKeyFastG pick c b l r).map KeyOut.obs = (mergeKeySlowG pick c b l r).map KeyOut.obs := by
  simp only [canFast, Bool.and_eq_true, Bool.not_eq_true'] at hc
  obtain ⟨⟨⟨⟨hk, h1⟩, h2⟩, h3⟩, h4⟩ := hc
  have hkl : keepLeft c l = .ok l := by cases l <;> simp [keepLeft, h1]
  rw [mergeKeySlow_obs, h3, h4]
  unfold mergeKeyFastG
  by_cases hrd : rowDiff false b r = .none
  · -- no diff on theirs: ours' row stays, whatever ours' diff is
    rw [if_pos hrd, if_pos hrd, hkl]
    split <;> rfl
  rw [if_neg hrd, if_neg hrd]
  by_cases hld : rowDiff false b l = .none
  · -- only theirs changed the key: their row, as stored
    rw [if_pos hld, if_pos hld]
    cases r with
    | none => rfl
    | some rr => simp [takeRight, hk, h2, Except.map, KeyOut.obs]
  rw [if_neg hld, if_neg hld]
  -- both changed the key: the two paths hand the same arguments to TryMerge and differ only in
  -- how they spell the outcome
  cases l with
  | none =>
    cases r with
    | none => simp [matchBoth, rawEqOpt, hk, Except.map, KeyOut.obs]
    | some rr =>
      refine obs_bind_congr _ _ _ fun ⟨mrg, ok⟩ hm => ?_
      cases tryMerge_delete_row pick c.vm _ _ b (Or.inl rfl) mrg ok hm
      simp only [hkl, bind, Except.bind, pure, Except.pure]
      cases ok <;> rfl
  | some ll =>
    cases r with
    | none =>
      refine obs_bind_congr _ _ _ fun ⟨mrg, ok⟩ hm => ?_
      cases tryMerge_delete_row pick c.vm _ _ b (Or.inr rfl) mrg ok hm
      simp only [hkl, bind, Except.bind, pure, Except.pure]
      cases ok <;> rfl
    | some rr =>
      have hdd : rowDiff false b (some ll) = rowDiff false b (some rr) := by
        cases b with
        | none => rfl
        | some bb => rw [rowDiff_modified _ _ _ hld, rowDiff_modified _ _ _ hrd]
      simp only [matchBoth, rawEqOpt, hdd, true_and]
      by_cases he : rawEq ll rr = true
      · simp [he, hk, Except.map, KeyOut.obs]
      · simp only [he, Bool.false_eq_true, if_false]
        refine obs_bind_congr _ _ _ fun ⟨mrg, ok⟩ _ => ?_
        simp only [hkl, bind, Except.bind, pure, Except.pure]

/-- what SQL can observe of a merged table: schema, rows, conflicted keys, number of conflicts -/
def Merged.observable (m : Merged) : Schema × Rows × List Key × Nat :=
  (m.sch, m.rows, m.conflicts, m.stats.dataConflicts)

/-- **fastpath_eq_rowpath (rows and conflict artifacts).**  For every key set: when the guard
admits the fast path, folding the fast per-key step and folding the row-path per-key step give
the same rows and the same conflicted keys, or both fail with the same error. -/
theorem fastpath_eq_rowpath_keys (pick : VM → Schema) (c : Cfg) (hc : canFast c = true)
    (base left right : Rows) (keys : List Key) :
    (mergeKeys (mergeKeyFastG pick c) false base left right keys).map (fun x => (x.1, x.2.1)) =
    (mergeKeys (mergeKeySlowG pick c) true base left right keys).map (fun x => (x.1, x.2.1)) :=
  mergeKeys_congr _ _ _ _ _ _ _ (fast_slow_key pick c hc) keys

/-- **fastpath_eq_rowpath_partial** (table level): running `MergeTable` with the fast path allowed
and with the fast path disabled (the verif hook `forceSlow`) yields the same schema, rows,
conflict artifacts and `DataConflicts` — for all tables, all three-way inputs.  (The counters
Adds/Modifications/Deletes are excluded: `C30_stats_refuted`.) -/
theorem fastpath_eq_rowpath_partial (pick : VM → Schema) (base left right : Table) :
    (mergeTableG pick false base left right).map Merged.observable =
    (mergeTableG pick true base left right).map Merged.observable := by
  have short := mergeTableG_short pick
  by_cases h1 : left = right
  · rw [(short _ _ _ _).1 (.inl h1), (short _ _ _ _).1 (.inl h1)]
  by_cases h2 : right = base
  · rw [(short _ _ _ _).1 (.inr h2), (short _ _ _ _).1 (.inr h2)]
  by_cases h3 : left = base
  · rw [(short _ _ _ _).2 h1 h3, (short _ _ _ _).2 h1 h3]
  rw [mergeTableG_eq pick false _ _ _ h1 h2 h3, mergeTableG_eq pick true _ _ _ h1 h2 h3]
  cases schemaMerge base.sch left.sch right.sch with
  | error e => rfl
  | ok p =>
    by_cases hc : canFast ⟨⟨base.sch, left.sch, right.sch, p.1, false⟩, p.2⟩ = true
    · have h := fastpath_eq_rowpath_keys pick _ hc base.rows left.rows right.rows
        (allKeys base.rows left.rows right.rows)
      simp only [bind, Except.bind, hc, Bool.not_false, Bool.not_true, Bool.and_true, Bool.and_false, if_true]
      -- what is observed of the table is a function of the fold's rows and conflicted keys
      generalize mergeKeys (mergeKeyFastG pick _) false _ _ _ _ = x at h ⊢
      generalize mergeKeys (mergeKeySlowG pick _) true _ _ _ _ = y at h ⊢
      rcases x with e | ⟨r, c, s⟩ <;> rcases y with e' | ⟨r', c', s'⟩ <;> cases h <;> rfl
    · simp only [bind, Except.bind, hc, Bool.false_and]

/-- The property as stated also demands identical *statistics*. -/
def C30_stats_full : Prop :=
  ∀ (base left right : Table),
    (mergeTableG leftTypeSchemaInRightDeleteBranch false base left right).map (·.stats) =
    (mergeTableG leftTypeSchemaInRightDeleteBranch true base left right).map (·.stats)

private def c1 : Schema := [⟨1, .int⟩]
/-- witness: base {1}, ours inserts key 2, theirs inserts key 3 -/
def wBase : Table := ⟨c1, [(1, [some (.int 1)])]⟩
def wOurs : Table := ⟨c1, [(1, [some (.int 1)]), (2, [some (.int 5)])]⟩
def wTheirs : Table := ⟨c1, [(1, [some (.int 1)]), (3, [some (.int 7)])]⟩

def statsOf (e : Except Err Merged) : Option Stats :=
  match e with | .ok m => some m.stats | .error _ => none

theorem witness_fast_stats :
    statsOf (mergeTableG leftTypeSchemaInRightDeleteBranch false wBase wOurs wTheirs) = some {} := by
  decide

theorem witness_slow_stats :
    statsOf (mergeTableG leftTypeSchemaInRightDeleteBranch true wBase wOurs wTheirs) = some { adds := 1 } := by
  decide

/-- the full statement is **false** of the model (and of dolt: replayed by `mergepaths`, known
finding `fastmerge-stats`): the chunk-level path never counts Adds/Modifications/Deletes. -/
theorem C30_stats_refuted : ¬ C30_stats_full := by
  intro h
  have h1 := h wBase wOurs wTheirs
  have a := witness_fast_stats
  have b := witness_slow_stats
  cases hf : mergeTableG leftTypeSchemaInRightDeleteBranch false wBase wOurs wTheirs with
  | error e => simp [hf, statsOf] at a
  | ok m =>
    cases hs : mergeTableG leftTypeSchemaInRightDeleteBranch true wBase wOurs wTheirs with
    | error e => simp [hs, statsOf] at b
    | ok m' =>
      simp [hf, hs, statsOf, Except.map] at h1 a b
      rw [a, b] at h1
      exact absurd h1 (by decide)

/-- non-vacuity of the guard: a same-schema keyed merge takes the fast path -/
example : canFast ⟨⟨c1, c1, c1, c1, false⟩, {}⟩ = true := by decide

end DoltVerif.C30
