import DoltVerif.Lemmas.VcsOpsWfb
/-!
C31 — Cherry-pick, revert and rebase obey their merge definitions.  Statements are about the machine of
`Model/VcsOps*.lean` (tied to dolt by `Tie/VcsOps.lean` and the `vcsops` correspondence harness).  `merge3 cherry base
ours theirs` is the table-wise / key-wise / cell-wise three-way merge (`merge.MergeRoots`); its two laws
`merge3 c b b x = x` and `merge3 c b x b = x` are instances of `merge3_pointwise` (`Lemmas/VcsOpsMerge.lean`).
-/
namespace DoltVerif.C31
open DoltVerif.VcsOps

/-- ours = base ⇒ the merge is theirs: for every well-formed theirs and any base; in cherry-pick mode
(no table-level fast-forward, the schema merge can only append columns) provided theirs' new columns
come after the surviving ones (`ColsAppend`) — see `cherry_pick_onto_own_parent_full_false`. -/
theorem merge_base_ours (c : Bool) (b x : Root) (hx : RootWF x)
    (hcols : c = true → ∀ n bt xt, get b n = some bt → get x n = some xt → ColsAppend bt.cols xt.cols) :
    merge3 c b b x = .ok x :=
  merge3_pointwise c b b x x hx.1 (fun _ hn => Or.inr hn) (fun n =>
    mergeTable_base_ours c (get b n) (get x n) (hx.2 n) (fun hc bt xt => hcols hc n bt xt))

theorem merge_base_theirs (c : Bool) (b x : Root) (hx : Sorted ltStr (keys x)) : merge3 c b x b = .ok x :=
  merge3_pointwise c b x b x hx (fun _ hn => Or.inl hn) (fun n => mergeTable_base_theirs c (get b n) (get x n))

def okIs (r : Except MergeErr Root) (x : Root) : Bool :=
  match r with
  | .ok y => decide (y = x)
  | .error _ => false

example : okIs (merge3 true [("t", ⟨[⟨"a", .int⟩], [(1, [.int 1])]⟩)] [("t", ⟨[⟨"a", .int⟩], [(1, [.int 1])]⟩)]
    [("t", ⟨[⟨"a", .int⟩, ⟨"b", .str⟩], [(1, [.int 2, .null]), (3, [.null, .str "x"])]⟩)])
    [("t", ⟨[⟨"a", .int⟩, ⟨"b", .str⟩], [(1, [.int 2, .null]), (3, [.null, .str "x"])]⟩)] = true := by decide +kernel

/-- **cherry_pick_def.**  A successful cherry-pick of `C` makes HEAD a new commit on top of the old
HEAD whose data is `merge3 (base := parent C) (ours := old HEAD) (theirs := C)`, and leaves the
working and staged roots equal to it. -/
theorem cherry_pick_def (d d' : Db) (r : Ref) (h : d.cherryPick r = (.ok, d')) :
    ∃ c cm p, d.resolve r = some c ∧ d.commit? c = some cm ∧ cm.parents = [p] ∧
      merge3 true (d.rootOf p) d.headRoot cm.root = .ok d'.headRoot ∧
      d'.ws.working = d'.headRoot ∧ d'.ws.staged = d'.headRoot ∧
      (d'.commit? d'.headId).map (·.parents) = some [d.headId] ∧
      (d'.commit? d'.headId).map (·.msg) = some cm.msg := by
  revert h
  -- a branch that answers with a fixed error or skip is refuted by `cases h`; two branches are left
  fun_cases Db.cherryPick d r <;> intro h <;> cases h
  -- `cherryRoot` failed and its error, here `.ok`, is handed on
  · next c _ he => exact absurd rfl (cherryRoot_error d c .ok he)
  -- the commit is made
  · next c hc m hm _ msg d1 id hadd =>
    obtain ⟨rfl, rfl⟩ := eq_of_addCommit hadd
    obtain ⟨_, hw, cm, p, hcm, hp, _, hmerge⟩ := cherryRoot_ok d c m hm
    rw [hw] at hmerge
    obtain ⟨ht, hnew⟩ := commit_addCommit_new d [d.headId] m msg
    have hmsg : msg = cm.msg := by simp only [msg, hcm]
    exact ⟨c, cm, p, hc, hcm, hp, by simpa [headRoot_setHead, rootOf_addCommit_new] using hmerge,
      by simp [headRoot_setHead, rootOf_addCommit_new], by simp [headRoot_setHead, rootOf_addCommit_new],
      by simp [hnew], by simpa [hnew] using hmsg⟩

/-- **cherry_pick_onto_own_parent.**  With a clean working set whose HEAD is the parent of `C`,
cherry-picking a non-empty `C` succeeds and reproduces exactly `C`'s data — provided the columns `C` added
come after the surviving ones (`hcols`; without it: `cherry_pick_onto_own_parent_full_false`). -/
theorem cherry_pick_onto_own_parent (d : Db) (hd : d.WF) (c p : Nat) (cm : Commit)
    (hcm : d.commit? c = some cm) (hp : cm.parents = [p]) (hhead : d.headId = p)
    (hclean : d.clean = true) (hmerge : d.ws.merge = none) (hne : cm.root ≠ d.rootOf p)
    (hcols : ∀ n bt xt, get (d.rootOf p) n = some bt → get cm.root n = some xt → ColsAppend bt.cols xt.cols) :
    ∃ d', d.cherryPick ⟨.commit c, 0⟩ = (.ok, d') ∧ d'.headRoot = cm.root ∧
      d'.ws.working = cm.root ∧ d'.ws.staged = cm.root := by
  have hc := (clean_iff d).mp hclean
  have hlt := lt_length_of_commit d c cm hcm
  have hres : d.resolve ⟨.commit c, 0⟩ = some c := resolve_zero d _ c (if_pos hlt) hlt
  have hroot : RootWF cm.root := by
    have := rootWF_rootOf d hd c
    rwa [rootOf_of_commit d c cm hcm] at this
  have hhr : d.headRoot = d.rootOf p := by simp [Db.headRoot, hhead]
  have hcr : d.cherryRoot c = .ok cm.root := by
    unfold Db.cherryRoot
    simp only [hclean, hcm, hp, hne, if_false, Bool.not_true, Bool.false_eq_true, cherryPickIsCherry]
    rw [hc.2, hhr, merge_base_ours true (d.rootOf p) cm.root hroot (fun _ => hcols)]
  have hne' : ¬ cm.root = d.headRoot := by rw [hhr]; exact hne
  refine ⟨(((d.addCommit [d.headId] cm.root cm.msg).1.setHead (d.addCommit [d.headId] cm.root cm.msg).2).setWs
    ⟨cm.root, cm.root, none⟩), ?_, ?_, ?_, ?_⟩
  · unfold Db.cherryPick
    simp only [hmerge, Option.isSome_none, Bool.false_eq_true, if_false, hres, hcr, hne', hcm]
  · simp [Db.headRoot, rootOf_addCommit_new]
  · simp
  · simp

/-- the property's wording without the column-order proviso -/
def cherry_pick_onto_own_parent_full : Prop :=
  ∀ (d : Db) (c p : Nat) (cm : Commit), d.WF → d.commit? c = some cm → cm.parents = [p] → d.headId = p →
    d.clean = true → d.ws.merge = none → cm.root ≠ d.rootOf p →
    ∃ d', d.cherryPick ⟨.commit c, 0⟩ = (.ok, d') ∧ d'.headRoot = cm.root

/-- … is false: when the commit added a column that does not sit at the end of its column list (it was
created by a table-level fast-forward, e.g. a revert that restored a dropped column), cherry-picking
it onto its own parent appends that column instead (dolt replay in design/C31.md). -/
theorem cherry_pick_onto_own_parent_full_false : ¬ cherry_pick_onto_own_parent_full := by
  intro h
  let r1 : Root := [("u", ⟨[⟨"c2", .int⟩], [(1, [.int 2])]⟩)]
  let r2 : Root := [("u", ⟨[⟨"c1", .str⟩, ⟨"c2", .int⟩], [(1, [.null, .int 2])]⟩)]
  let d : Db :=
    { commits := [⟨[], [], "init", 1⟩, ⟨[0], r1, "c1", 2⟩, ⟨[1], r2, "c2", 3⟩]
      branches := [("main", 1)], tags := [], wss := [("main", ⟨r1, r1, none⟩)], cur := "main", stashes := [] }
  obtain ⟨d', h1, h2⟩ := h d 2 1 ⟨[1], r2, "c2", 3⟩ (Db.wf_of_wfb d (by decide +kernel)) rfl rfl (by decide +kernel)
    (by decide +kernel) rfl (by decide +kernel)
  have h3 : (d.cherryPick ⟨.commit 2, 0⟩).2.headRoot ≠ r2 := by decide +kernel
  rw [h1] at h3
  exact h3 h2

/-- **revert_def.**  A successful revert of `C` merges the *working* root with `C`'s first parent
using `C` as the base (`merge3 (base := C) (ours := working) (theirs := parent C)`), stages exactly
the tables that merge changed, and commits the staged root on top of HEAD. -/
theorem revert_def (d d' : Db) (r : Ref) (h : d.revert r = (.ok, d')) :
    ∃ c cm p rest m, d.resolve r = some c ∧ d.commit? c = some cm ∧ cm.parents = p :: rest ∧
      merge3 false cm.root d.ws.working (d.rootOf p) = .ok m ∧
      d'.ws.working = m ∧
      d'.ws.staged = moveTables (changedTables d.ws.working m) m d.ws.staged ∧
      d'.headRoot = d'.ws.staged ∧
      (d'.commit? d'.headId).map (·.parents) = some [d.headId] := by
  revert h
  -- a branch that answers with a fixed error or skip is refuted by `cases h`; two branches are left
  fun_cases Db.revert d r <;> intro h <;> try cases h
  -- the merge failed: `errOfMerge e` is never `.ok` (`cases h` cannot see that, hence the `try`)
  · next e _ => exact absurd (Prod.mk.inj h).1 (errOfMerge_ne_ok e)
  -- the commit is made
  · next c hc _ cm hcm p rest hp m hm touched staged _ d1 id hadd =>
    obtain ⟨rfl, rfl⟩ := eq_of_addCommit hadd
    obtain ⟨ht, hnew⟩ := commit_addCommit_new d [d.headId] staged ("Revert \"" ++ cm.msg ++ "\"")
    exact ⟨c, cm, p, rest, m, hc, hcm, hp, hm, by simp, by simp [staged, touched],
      by simp [headRoot_setHead, rootOf_addCommit_new], by simp [hnew]⟩

/-- With a clean working set the reverted data is the three-way merge of HEAD and `C`'s parent with
`C` as base, and working = staged = HEAD afterwards. -/
theorem revert_def_clean (d d' : Db) (r : Ref) (hd : d.WF) (hclean : d.clean = true)
    (h : d.revert r = (.ok, d')) :
    ∃ c cm p rest, d.resolve r = some c ∧ d.commit? c = some cm ∧ cm.parents = p :: rest ∧
      merge3 false cm.root d.headRoot (d.rootOf p) = .ok d'.headRoot ∧
      d'.ws.working = d'.headRoot ∧ d'.ws.staged = d'.headRoot := by
  obtain ⟨c, cm, p, rest, m, hc, hcm, hp, hm, hw, hs, hh, _⟩ := revert_def d d' r h
  have hcl := (clean_iff d).mp hclean
  have hsm : Sorted ltStr (keys m) := sorted_merge3 _ _ _ _ _ hm
  have hsh : Sorted ltStr (keys d.headRoot) := (rootWF_rootOf d hd d.headId).1
  have hst : d'.ws.staged = m := by
    rw [hs, hcl.1, hcl.2]
    exact moveTables_changed d.headRoot m hsh hsm
  refine ⟨c, cm, p, rest, hc, hcm, hp, ?_, ?_, ?_⟩
  · rw [hh, hst, ← hcl.2]; exact hm
  · rw [hh, hst, hw]
  · rw [hh]

/-- **revert_latest.**  Reverting the commit HEAD points at (clean working set, data different from its
first parent's) succeeds and restores exactly the data of its first parent. -/
theorem revert_latest (d : Db) (hd : d.WF) (hc : Commit) (p : Nat) (rest : List Nat)
    (hcur : get d.branches d.cur = some d.headId)
    (hhead : d.commit? d.headId = some hc) (hp : hc.parents = p :: rest)
    (hclean : d.clean = true) (hm : d.ws.merge = none) (hne : d.rootOf p ≠ hc.root) :
    ∃ d', d.revert ⟨.head, 0⟩ = (.ok, d') ∧ d'.headRoot = d.rootOf p ∧
      d'.ws.working = d.rootOf p ∧ d'.ws.staged = d.rootOf p := by
  have hcl := (clean_iff d).mp hclean
  have hlt := lt_length_of_commit d d.headId hc hhead
  have hres : d.resolve ⟨.head, 0⟩ = some d.headId := resolve_zero d .head _ hcur hlt
  have hhr : d.headRoot = hc.root := by simp [Db.headRoot, rootOf_of_commit d d.headId hc hhead]
  have hblocked : d.revertBlocked d.headId = false := by
    simp [Db.revertBlocked, hcl.1, hcl.2, changedTables_self]
  have hwfp : RootWF (d.rootOf p) := rootWF_rootOf d hd p
  have hmerge : merge3 false hc.root d.ws.working (d.rootOf p) = .ok (d.rootOf p) := by
    rw [hcl.2, hhr]; exact merge_base_ours false hc.root (d.rootOf p) hwfp (fun h => by cases h)
  have hsh : Sorted ltStr (keys d.headRoot) := (rootWF_rootOf d hd d.headId).1
  have hstaged : moveTables (changedTables d.ws.working (d.rootOf p)) (d.rootOf p) d.ws.staged = d.rootOf p := by
    rw [hcl.1, hcl.2]; exact moveTables_changed d.headRoot (d.rootOf p) hsh hwfp.1
  have hne' : ¬ d.rootOf p = d.headRoot := by rw [hhr]; exact hne
  refine ⟨(((d.addCommit [d.headId] (d.rootOf p) ("Revert \"" ++ hc.msg ++ "\"")).1.setHead
      (d.addCommit [d.headId] (d.rootOf p) ("Revert \"" ++ hc.msg ++ "\"")).2).setWs
      ⟨d.rootOf p, d.rootOf p, none⟩), ?_, ?_, ?_, ?_⟩
  · unfold Db.revert
    simp only [hm, Option.isSome_none, Bool.false_eq_true, if_false, hres, hblocked, hhead, hp, revertIsCherry,
      hmerge, hstaged, hne']
  · simp [Db.headRoot, rootOf_addCommit_new]
  · simp
  · simp

/-! `pickData`, `stepData` and `foldData` are the data-level specification `rebase_plan_eq_fold` is stated against. -/

/-- data-level cherry-pick of commit `c` onto the root `cur`:
`merge3 (base := parent c) (ours := cur) (theirs := c)` -/
def pickData (d : Db) (cur : Root) (c : Nat) : Except Res Root :=
  match d.commit? c with
  | some cm =>
    match cm.parents with
    | [p] =>
      match merge3 cherryPickIsCherry (d.rootOf p) cur cm.root with
      | .ok m => .ok m
      | .error e => .error (errOfMerge e)
    | _ => .error (.err .other)
  | none => .error (.err .badRef)

/-- one plan step at the data level: `drop` keeps the data, every other action (pick, reword,
squash, fixup) cherry-picks — squash and fixup differ from pick only in how the commit is recorded -/
def stepData (d : Db) (cur : Root) (c : Nat) (a : Action) : Except Res Root :=
  if a = .drop then .ok cur else pickData d cur c

/-- the plan folded over the data, in plan order -/
def foldData (d : Db) : Root → List (Nat × Action) → Except Res Root
  | cur, [] => .ok cur
  | cur, (c, a) :: rest =>
    match stepData d cur c a with
    | .ok m => foldData d m rest
    | .error e => .error e

theorem pickData_eq (d : Db) (cur : Root) (c p : Nat) (cm : Commit) (m : Root) (hcm : d.commit? c = some cm)
    (hp : cm.parents = [p]) (hm : merge3 cherryPickIsCherry (d.rootOf p) cur cm.root = .ok m) :
    pickData d cur c = .ok m := by
  simp only [pickData, hcm, hp, hm]

theorem rebaseStep_data (d d1 : Db) (cur cur1 c : Nat) (a : Action)
    (h : d.rebaseStep cur c a = .ok (d1, cur1)) :
    stepData d (d.rootOf cur) c a = .ok (d1.rootOf cur1) := by
  obtain ⟨rfl, rfl, rfl⟩ | ⟨cm, curc, p, m, hne, hcm, hcurc, hp, hm, hres⟩ := rebaseStep_ok d d1 cur cur1 c a h
  · rfl
  · rw [stepData, if_neg hne, rootOf_of_commit d cur curc hcurc, pickData_eq d _ c p cm m hcm hp hm]
    obtain ⟨rfl, rfl, rfl⟩ | ⟨ps, msg, hadd⟩ := hres
    · rw [rootOf_of_commit _ cur1 curc hcurc]
    · obtain ⟨rfl, rfl⟩ := eq_of_addCommit hadd
      rw [rootOf_addCommit_new]

/-- `pickData` reads the picked commit and its parent only; neither is ever rewritten -/
theorem pickData_ext (d0 d : Db) (hd0 : d0.WF) (hext : d0.commits <+: d.commits) (cur : Root) (c : Nat)
    (hc : c < d0.commits.length) : pickData d cur c = pickData d0 cur c := by
  unfold pickData
  rw [commit_ext d0 d hext c hc]
  split
  · next cm hcm =>
    split
    · next p hp =>
      have hplt : p < d0.commits.length := Nat.lt_trans (hd0.parents c cm hcm p (by simp [hp])) hc
      rw [rootOf_ext d0 d hext p hplt]
    · rfl
  · rfl

theorem rebaseSteps_data (d0 : Db) (hd0 : d0.WF) (steps : List (Nat × Action)) :
    ∀ (d d1 : Db) (cur cur1 : Nat), d0.commits <+: d.commits →
      (∀ s ∈ steps, s.1 < d0.commits.length) → d.rebaseSteps cur steps = .ok (d1, cur1) →
      foldData d0 (d.rootOf cur) steps = .ok (d1.rootOf cur1) := by
  intro d d1 cur cur1
  fun_induction Db.rebaseSteps d cur steps with
  | case1 d cur => rintro _ _ ⟨⟩; rfl
  | case2 d cur c a rest e hstep => exact fun _ _ => nofun
  | case3 d cur c a rest d2 cur2 hstep ih =>
    intro hext hall h
    have hdata := rebaseStep_data d d2 cur cur2 c a hstep
    rw [stepData, pickData_ext d0 d hd0 hext _ c (hall (c, a) List.mem_cons_self), ← stepData] at hdata
    simp only [foldData, hdata]
    exact ih (hext.trans (rebaseStep_prefix d d2 cur cur2 c a hstep))
      (fun s hs => hall s (List.mem_cons_of_mem _ hs)) h

/-- **rebase_plan_eq_fold.**  A successful rebase leaves on the rebased branch exactly the data of
cherry-picking the kept commits of the plan in plan order onto the upstream commit; `drop` skips a
commit, `reword`, `squash` and `fixup` give the same data as `pick` (they differ in the recorded
commits and messages only).  Working and staged roots equal the new HEAD. -/
theorem rebase_plan_eq_fold (d d' : Db) (hd : d.WF) (up : Ref) (plan : List Action)
    (h : d.rebase up plan = (.ok, d')) :
    ∃ u cs, d.resolve up = some u ∧ d.rebaseCommits d.headId u = some cs ∧ plan.length = cs.length ∧
      foldData d (d.rootOf u) (cs.zip plan) = .ok d'.headRoot ∧
      d'.ws.working = d'.headRoot ∧ d'.ws.staged = d'.headRoot := by
  revert h
  -- a branch that answers with a fixed error or skip is refuted by `cases h`; two branches are left
  fun_cases Db.rebase d up plan <;> intro h <;> cases h
  -- a plan step failed and its error, here `.ok`, is handed on
  · next herr => exact absurd rfl (rebaseSteps_error_ne_ok _ _ _ .ok herr)
  -- every step succeeded
  · next u hu cs hcs _ hlen _ d1 cur hsteps r =>
    have hall : ∀ s ∈ cs.zip plan, s.1 < d.commits.length := fun s hs =>
      mem_rebaseCommits_lt d d.headId u cs hcs s.1 (List.of_mem_zip hs).1
    have hdata := rebaseSteps_data d hd (cs.zip plan) d d1 u cur (List.prefix_refl _) hall hsteps
    exact ⟨u, cs, hu, hcs, by simpa using hlen, by simpa [headRoot_setHead] using hdata,
      by simp [headRoot_setHead, r], by simp [headRoot_setHead, r]⟩

/-- **abort_start.**  Whatever a conflicted cherry-pick or revert wrote into the working and staged
roots (`midW`, `midS`), `--abort` brings the database back to the state before the operation,
provided that state had no staged changes (both procedures refuse to start otherwise) and — for a
revert — no unstaged changes either (`hk`): `AbortRevert` resets the working root to HEAD, so the
unrelated uncommitted changes a revert may start with are lost (`abort_start_revert_dirty_false`). -/
theorem abort_start (d : Db) (hd : d.WF) (kind : MergeKind) (midW midS : Root)
    (hcur : get d.branches d.cur = some d.headId) (hws : get d.wss d.cur = some d.ws)
    (hm : d.ws.merge = none) (hstaged : d.ws.staged = d.headRoot)
    (hk : kind = .revert → d.ws.working = d.headRoot) :
    (d.startConflicted kind midW midS).abortMerge = (.ok, d) := by
  unfold Db.startConflicted Db.abortMerge
  simp only [ws_setWs]
  -- the head is put back where it was, then the original working set over the conflicted one
  have e1 : ∀ w, (d.setWs w).setHead d.headId = d.setWs w := fun w => setHead_headId (d.setWs w) hd.branches hcur
  rw [e1, setWs_setWs d hd.wss, headRoot_setWs]
  have haw : abortWorking kind d.ws.working d.headRoot = d.ws.working := by
    cases kind with
    | cherry => rfl
    | revert => exact (hk rfl).symm
  have e : (⟨d.ws.working, d.headRoot, none⟩ : WS) = d.ws := by
    rw [← hstaged, ← hm]
  rw [haw, e, setWs_ws d hd.wss hws]

/-- without `hk`: an untracked table does not survive `dolt_revert('--abort')` -/
theorem abort_start_revert_dirty_false :
    ¬ (∀ (d : Db) (midW midS : Root), d.WF → get d.branches d.cur = some d.headId → get d.wss d.cur = some d.ws →
        d.ws.merge = none → d.ws.staged = d.headRoot →
        (d.startConflicted .revert midW midS).abortMerge = (.ok, d)) := by
  intro h
  let d : Db := { initDb with wss := [("main", ⟨[("u", ⟨[], []⟩)], [], none⟩)] }
  have := h d [] [] (Db.wf_of_wfb d (by decide +kernel)) (by decide +kernel) (by decide +kernel) (by decide +kernel)
    (by decide +kernel)
  revert this
  decide +kernel

/-! non-vacuity: the hypotheses of the theorems above hold on the concrete history `exDb` -/

example : exDb.wfb = true := by rw [exDb_eq]; decide +kernel

/-- `cherry_pick_def`: cherry-picking commit 3 (made on `other`) onto `main` succeeds -/
example : (exDb.cherryPick ⟨.commit 3, 0⟩).1 = .ok := by rw [exDb_eq]; decide +kernel

/-- `cherry_pick_onto_own_parent`: on `other` reset to commit 1, commit 3's parent is HEAD, the
working set is clean and commit 3 is not empty -/
example :
    let d := (exDb.apply (.checkout "other")).2.apply (.resetHard (some ⟨.commit 1, 0⟩)) |>.2
    d.wfb = true ∧ d.headId = 1 ∧ d.clean = true ∧ d.ws.merge = none ∧
      (d.commit? 3).map (·.parents) = some [1] ∧ (d.commit? 3).map (·.root) ≠ some (d.rootOf 1) := by
  rw [exDb_eq]; decide +kernel

/-- `revert_latest` / `revert_def`: HEAD of `main` (commit 2) has parent 1 with different data -/
example : get exDb.branches exDb.cur = some exDb.headId ∧ exDb.clean = true ∧ exDb.ws.merge = none ∧
    (exDb.commit? exDb.headId).map (·.parents) = some [1] ∧ exDb.rootOf 1 ≠ exDb.headRoot ∧
    (exDb.revert ⟨.head, 0⟩).1 = .ok := by rw [exDb_eq]; decide +kernel

/-- `rebase_plan_eq_fold`: rebasing `other` (one commit) onto `main` with the plan [reword] succeeds -/
example : ((exDb.apply (.checkout "other")).2.rebase ⟨.branch "main", 0⟩ [.reword "r"]).1 = .ok := by
  rw [exDb_eq]; decide +kernel

/-- `abort_start`: `exDb` has no staged changes and no merge in progress -/
example : get exDb.wss exDb.cur = some exDb.ws ∧ exDb.ws.merge = none ∧ exDb.ws.staged = exDb.headRoot := by
  rw [exDb_eq]; decide +kernel

end DoltVerif.C31
