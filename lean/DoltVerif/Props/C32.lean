import DoltVerif.Lemmas.VcsOpsSchemaExec
import DoltVerif.Lemmas.VcsOpsDiffTable
import DoltVerif.Lemmas.VcsOpsWfb
/-!
C32 — Diffs and patches describe exactly the change between two commits.  `diffRows f t` are the rows of
`dolt_diff(a, b, t)` for a table with one column list at both commits (`prolly.DiffMaps` over the stored rows);
`diffTables` lifts it through a changed column list; `patch a b` is the statement list of `dolt_patch(a, b)` and `exec`
its execution.
-/
namespace DoltVerif.C32
open DoltVerif.VcsOps

/-- **diff_exact.**  For any two row maps the diff
* lists its keys in strictly ascending order (so every key at most once),
* lists a key iff the two maps disagree on it (present on one side only, or different cells),
* and reports for every listed key exactly the two stored rows and the right change type
  (`added` iff absent before, `removed` iff absent after, `modified` otherwise). -/
theorem diff_exact (f t : List (Int × Row)) :
    Sorted ltInt ((diffRows f t).map (·.pk)) ∧
    (∀ k, (∃ d ∈ diffRows f t, d.pk = k) ↔ get f k ≠ get t k) ∧
    (∀ d ∈ diffRows f t, d.from = get f d.pk ∧ d.to = get t d.pk ∧ d.ty = expectedType (get f d.pk) (get t d.pk)) := by
  have := diffOn_exact id f t
  rwa [← diffRows_eq, Option.map_id] at this

example : diffRows [(1, [.int 1]), (2, [.null]), (4, [.str "x"])] [(1, [.int 1]), (2, [.int 0]), (3, [.null])]
    = [⟨2, .modified, some [.null], some [.int 0]⟩, ⟨3, .added, none, some [.null]⟩, ⟨4, .removed, some [.str "x"], none⟩] := by
  decide +kernel

/-- With a changed column list a row counts as different iff its *stored tuples* differ (cells compared
positionally, trailing NULLs not stored — so a column added at the end changes nothing, a dropped
column that is not last changes every row): exactly those keys are listed, ascending, each with its
two stored rows. -/
theorem diff_exact_schema (ft tt : Table) (hne : ft.cols ≠ tt.cols) :
    Sorted ltInt ((diffTables (some ft) (some tt)).map (·.pk)) ∧
    (∀ k, (∃ d ∈ diffTables (some ft) (some tt), d.pk = k) ↔
      ((get ft.rows k).map trimNulls ≠ (get tt.rows k).map trimNulls)) ∧
    (∀ d ∈ diffTables (some ft) (some tt), d.from = get ft.rows d.pk ∧ d.to = get tt.rows d.pk) := by
  obtain ⟨h1, h2, h3⟩ := diffOn_exact trimNulls ft.rows tt.rows
  rw [diffTables_eq, if_neg hne]
  exact ⟨h1, h2, fun d hd => ⟨(h3 d hd).1, (h3 d hd).2.1⟩⟩

example : diffTables (some ⟨[⟨"a", .int⟩], [(1, [.int 1]), (2, [.null])]⟩)
    (some ⟨[⟨"a", .int⟩, ⟨"b", .str⟩], [(1, [.int 1, .null]), (2, [.null, .str "y"])]⟩)
    = [⟨2, .modified, some [.null], some [.null, .str "y"]⟩] := by decide +kernel

/-- tables present in both roots have the same column list (data-only change, tables may come and go) -/
def SameCols (a b : Root) : Prop :=
  ∀ n ft tt, get a n = some ft → get b n = some tt → ft.cols = tt.cols

/-- column names are distinct within every table (statements address columns by name) -/
def NamesNodup (b : Root) : Prop :=
  ∀ n tt, get b n = some tt → (tt.cols.map (·.name)).Nodup

/-- the patch lists the dropped tables first, then the others, each group ascending -/
theorem patch_roundtrip_of_tables (a b : Root) (ha : RootWF a) (hb : RootWF b)
    (htab : ∀ n, execTs (get a n) (patchTable n (get a n) (get b n)) = some (get b n)) :
    exec (patch a b) a = some b := by
  -- the dropped tables' names followed by the others': the names of the two roots again, in another order
  have hperm : ((unionKeys ltStr (keys a) (keys b)).filter (fun n => !(has b n)) ++
      (unionKeys ltStr (keys a) (keys b)).filter (fun n => has b n)).Perm (unionKeys ltStr (keys a) (keys b)) := by
    simpa only [Bool.not_not] using List.filter_append_perm (fun n => !(has b n)) (unionKeys ltStr (keys a) (keys b))
  rw [patch, ← List.flatMap_append]
  -- name by name: the patch of `n` runs on that table only and turns `a`'s into `b`'s
  refine (foldlM_flatMap_setAll strictTotal_ltStr execStmt id _ (get a) (get b) (fun n r hr hn => ?_) _
    (hperm.nodup_iff.mpr (nodup_of_sorted strictTotal_ltStr _ (sorted_unionKeys strictTotal_ltStr (keys a) (keys b))))
    a ha.1 (fun _ _ => rfl)).trans (congrArg some ?_)
  · exact (exec_lift n _ (stmtTable_patchTable n _ _) r hr).trans (by rw [hn, htab n]; rfl)
  -- a name outside the union is in neither root
  apply setAll_eq strictTotal_ltStr _ a b ha.1 hb.1
  intro n hn
  obtain ⟨e1, e2⟩ := get_none_of_not_mem_unionKeys a b n (mt hperm.mem_iff.mpr hn)
  rw [e1, e2]

/-- what a patch needs of two roots whose tables may have gained and lost columns:
* `append` — in every common table the second column list is the first one's surviving columns (in
  their order) followed by the new ones: `ALTER TABLE … ADD` can only append
  (`patch_roundtrip_full_false` is the counterexample dolt reproduces);
* distinct column names on both sides (statements address columns by name);
* `alias` — where the column list changed, two rows whose *stored tuples* coincide are also equal
  after re-laying: dolt's diff compares stored tuples, so otherwise it misses the row and the patch
  lacks its `UPDATE` (`patch_roundtrip_alias_false`; dolt replay in design/C32.md). -/
structure Patchable (a b : Root) : Prop where
  append : ∀ n ft tt, get a n = some ft → get b n = some tt → ColsAppend ft.cols tt.cols
  namesA : NamesNodup a
  namesB : NamesNodup b
  alias : ∀ n ft tt, get a n = some ft → get b n = some tt → ft.cols ≠ tt.cols → NoTupleAlias ft tt

theorem execTs_patchTable_cols (n : String) (f t : Option Table)
    (hf : ∀ x, f = some x → x.WF) (ht : ∀ x, t = some x → x.WF)
    (happ : ∀ ft tt, f = some ft → t = some tt → ColsAppend ft.cols tt.cols)
    (hfn : ∀ ft, f = some ft → (ft.cols.map (·.name)).Nodup)
    (htn : ∀ tt, t = some tt → (tt.cols.map (·.name)).Nodup)
    (hal : ∀ ft tt, f = some ft → t = some tt → ft.cols ≠ tt.cols → NoTupleAlias ft tt) :
    execTs f (patchTable n f t) = some t := by
  cases f with
  | none =>
    cases t with
    | none => rfl
    | some tt => exact execTs_patch_create n tt (ht tt rfl)
  | some ft =>
    cases t with
    | none => rfl
    | some tt =>
      exact execTs_patch_update n ft tt (hf ft rfl) (ht tt rfl) (hfn ft rfl) (htn tt rfl)
        (happ ft tt rfl rfl) (hal ft tt rfl rfl)

/-- when the column lists agree `ColsAppend` and `NoTupleAlias` ask nothing, and the first table's column names are
the second's; a dropped table needs no hypothesis at all -/
theorem execTs_patchTable (n : String) (f t : Option Table)
    (hf : ∀ x, f = some x → x.WF) (ht : ∀ x, t = some x → x.WF)
    (hc : ∀ ft tt, f = some ft → t = some tt → ft.cols = tt.cols)
    (hnn : ∀ tt, t = some tt → (tt.cols.map (·.name)).Nodup) :
    execTs f (patchTable n f t) = some t := by
  cases t with
  | none => cases f <;> rfl
  | some tt =>
    exact execTs_patchTable_cols n f (some tt) hf ht (fun ft tt' h1 h2 => hc ft tt' h1 h2 ▸ colsAppend_self ft.cols)
      (fun ft h => hc ft tt h rfl ▸ hnn tt rfl) hnn (fun ft tt' h1 h2 hne => absurd (hc ft tt' h1 h2) hne)

/-- **patch_roundtrip.**  For well-formed roots satisfying `Patchable`, executing `patch a b` on `a`
— per table the `DROP TABLE` / `CREATE TABLE`, then the `ALTER TABLE … DROP` of every removed column
and the `ALTER TABLE … ADD` of every new one, then the `INSERT` / `UPDATE` / `DELETE` statements —
succeeds and yields exactly `b`: data and schema. -/
theorem patch_roundtrip (a b : Root) (ha : RootWF a) (hb : RootWF b) (hp : Patchable a b) :
    exec (patch a b) a = some b :=
  patch_roundtrip_of_tables a b ha hb (fun n =>
    execTs_patchTable_cols n (get a n) (get b n) (fun x hx => ha.2 n x hx) (fun x hx => hb.2 n x hx)
      (fun ft tt h1 h2 => hp.append n ft tt h1 h2) (fun ft h => hp.namesA n ft h) (fun tt h => hp.namesB n tt h)
      (fun ft tt h1 h2 hc => hp.alias n ft tt h1 h2 hc))

/-- **patch_roundtrip (data and tables).**  For well-formed roots whose common tables have the same
column list, executing `patch a b` on `a` succeeds and yields exactly `b` — every table created,
dropped, and every row inserted, updated (only the changed columns) or deleted.  Not an instance of
`patch_roundtrip`: `Patchable` asks distinct column names of every table of `a`, also of those that are
dropped. -/
theorem patch_roundtrip_partial (a b : Root) (ha : RootWF a) (hb : RootWF b)
    (hc : SameCols a b) (hnn : NamesNodup b) : exec (patch a b) a = some b :=
  patch_roundtrip_of_tables a b ha hb (fun n =>
    execTs_patchTable n (get a n) (get b n) (fun x hx => ha.2 n x hx) (fun x hx => hb.2 n x hx)
      (fun ft tt h1 h2 => hc n ft tt h1 h2) (fun tt h => hnn n tt h))

/-- a column dropped, two added, rows inserted / updated / deleted: the hypotheses are satisfiable -/
example : exec (patch [("t", ⟨[⟨"a", .int⟩, ⟨"b", .str⟩], [(1, [.int 1, .str "x"]), (2, [.null, .null])]⟩)]
      [("t", ⟨[⟨"b", .str⟩, ⟨"c", .int⟩, ⟨"d", .str⟩], [(1, [.str "y", .int 7, .null]), (3, [.null, .null, .str "z"])]⟩)])
      [("t", ⟨[⟨"a", .int⟩, ⟨"b", .str⟩], [(1, [.int 1, .str "x"]), (2, [.null, .null])]⟩)]
    = some [("t", ⟨[⟨"b", .str⟩, ⟨"c", .int⟩, ⟨"d", .str⟩], [(1, [.str "y", .int 7, .null]), (3, [.null, .null, .str "z"])]⟩)] := by
  decide +kernel

/-- without `alias` the statement is false: column `a` (value 5) is dropped while `b` goes from NULL
to 5 — the stored tuples `(5)` and `(5)` coincide, the diff and therefore the patch miss the row. -/
theorem patch_roundtrip_alias_false :
    ¬ (∀ a b : Root, RootWF a → RootWF b →
        (∀ n ft tt, get a n = some ft → get b n = some tt → ColsAppend ft.cols tt.cols) →
        NamesNodup a → NamesNodup b → exec (patch a b) a = some b) := by
  intro h
  -- a one-table root: its only entry is the one `get` can return
  have := h [("t", ⟨[⟨"a", .int⟩, ⟨"b", .int⟩], [(1, [.int 5, .null])]⟩)]
            [("t", ⟨[⟨"b", .int⟩], [(1, [.int 5])]⟩)]
            (rootWF_of_b _ (by decide +kernel)) (rootWF_of_b _ (by decide +kernel))
            (fun n ft tt h1 h2 => by
              cases List.mem_singleton.mp (mem_of_get _ _ _ h1)
              cases List.mem_singleton.mp (mem_of_get _ _ _ h2)
              unfold ColsAppend; decide +kernel)
            (fun n tt h1 => by cases List.mem_singleton.mp (mem_of_get _ _ _ h1); decide +kernel)
            (fun n tt h1 => by cases List.mem_singleton.mp (mem_of_get _ _ _ h1); decide +kernel)
  revert this
  decide +kernel

example : exec (patch [("t", ⟨[⟨"a", .int⟩], [(1, [.int 1]), (2, [.null])]⟩), ("u", ⟨[], [(1, [])]⟩)]
      [("t", ⟨[⟨"a", .int⟩], [(2, [.int 5]), (3, [.null])]⟩), ("v", ⟨[⟨"s", .str⟩], [(0, [.str "it's"])]⟩)])
      [("t", ⟨[⟨"a", .int⟩], [(1, [.int 1]), (2, [.null])]⟩), ("u", ⟨[], [(1, [])]⟩)]
    = some [("t", ⟨[⟨"a", .int⟩], [(2, [.int 5]), (3, [.null])]⟩), ("v", ⟨[⟨"s", .str⟩], [(0, [.str "it's"])]⟩)] := by
  decide +kernel

/-- the full-strength statement: executing the patch on the first root always gives the second -/
def patch_roundtrip_full : Prop :=
  ∀ a b : Root, RootWF a → RootWF b → exec (patch a b) a = some b

/-- … which is false: `dolt_patch` re-creates a column that sits in the middle of the second
commit's column list with `ALTER TABLE … ADD`, i.e. at the end (design/C32.md has the dolt replay). -/
theorem patch_roundtrip_full_false : ¬ patch_roundtrip_full := by
  intro h
  have := h [("t", ⟨[⟨"c1", .int⟩, ⟨"c3", .int⟩], [(1, [.int 10, .int 30])]⟩)]
            [("t", ⟨[⟨"c1", .int⟩, ⟨"c2", .int⟩, ⟨"c3", .int⟩], [(1, [.int 10, .int 20, .int 30])]⟩)]
            (rootWF_of_b _ (by decide +kernel)) (rootWF_of_b _ (by decide +kernel))
  revert this
  decide +kernel

/-- **diff_tables_agree.**  What `dolt_diff_<t>` promises on a *linear* history
`HEAD = c₀ → c₁ → … → cₙ` (`IsChain`: every commit's only parent is the next one, the last has none —
no merge commit and no commit with two children in HEAD's ancestry; for those the scan registers one
child per commit and loses an edge: known finding `C32/dolt_diff_t/merge-edge-missing`):
the rows are exactly `chainDiff`, i.e. the concatenation, newest first, of
`diff(c₀, WORKING)`, `diff(c₁, c₀)`, …, `diff(cₙ, cₙ₋₁)` — each the stored-table diff of the two
adjacent commits with both sides laid out by the current working column list, tagged
`(to_commit, from_commit)` — skipping pairs whose tables are equal and ending at the first pair whose
newer side has no table `t`.  (`none` iff the working root has no table `t`.) -/
theorem diff_tables_agree (d : Db) (t : String) (wt : Table) (rest : List Nat)
    (hw : get d.ws.working t = some wt) (hch : IsChain d (d.headId :: rest)) (hnd : (d.headId :: rest).Nodup)
    (hlen : rest.length + 1 ≤ d.commits.length) :
    d.diffTable t = some (chainDiff d t wt.cols none (some wt) (d.headId :: rest)) := by
  unfold Db.diffTable
  simp only [hw]
  rw [walk_chain d d.headId rest hch hnd hlen]
  congr 1
  have := diffTableAux_chain d t wt.cols (d.headId :: rest) [(d.headId, none, some wt)] [] none (some wt) hch hnd
    (by intro c r e; cases e; simp)
  simpa using this

/-- the hypotheses are satisfiable: `main` of `exDb` is the chain 2 → 1 → 0; with an extra uncommitted
row the table function is `diff(2, WORKING) ++ diff(1, 2) ++ diff(0, 1)` -/
def exDb' : Db := (exDb.apply (.dml (.insert "t" 7 [.int 1, .null, .null]))).2

example : exDb'.headId = 2 ∧ exDb'.parentsOf 2 = [1] ∧ exDb'.parentsOf 1 = [0] ∧ exDb'.parentsOf 0 = [] ∧
    exDb'.diffTable "t" = some (chainDiff exDb' "t" [⟨"a", .int⟩, ⟨"b", .str⟩, ⟨"c", .int⟩] none
      (get exDb'.ws.working "t") [2, 1, 0]) ∧
    (exDb'.diffTable "t").map List.length = some 4 := by
  rw [exDb', exDb_eq]; decide +kernel

end DoltVerif.C32
