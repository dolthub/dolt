import DoltVerif.Model.VcsOpsStep
import DoltVerif.Lemmas.VcsOpsDb
/-!
C33 — Historical reads return the committed data.  `Db.asOf rev t` is `SELECT * FROM t AS OF rev` (and `` `db/rev`.t ``):
the revision is resolved to a commit and the table is read from that commit's root.  Commits are immutable: no statement
of the modelled family changes the root of an existing commit, so a historical read returns forever what the commit
recorded when it was created.
-/
namespace DoltVerif.C33
open DoltVerif.VcsOps

/-! ### commits are append-only: every branch of every procedure hands back the commit list it was given,
or appends one commit with `addCommit` -/

theorem newBranch_commits (d : Db) (b : String) (r : Ref) : (d.newBranch b r).2.commits = d.commits := by
  fun_cases Db.newBranch d b r <;> rfl

theorem abortMerge_commits (d : Db) : d.abortMerge.2.commits = d.commits := by
  fun_cases Db.abortMerge d <;> rfl

theorem cherryPick_prefix (d : Db) (r : Ref) : d.commits <+: (d.cherryPick r).2.commits := by
  fun_cases Db.cherryPick d r
  all_goals first | exact List.prefix_refl _ | exact (prefix_of_addCommit ‹Db.addCommit _ _ _ _ = _› :)

theorem revert_prefix (d : Db) (r : Ref) : d.commits <+: (d.revert r).2.commits := by
  fun_cases Db.revert d r
  all_goals first | exact List.prefix_refl _ | exact (prefix_of_addCommit ‹Db.addCommit _ _ _ _ = _› :)

theorem apply_prefix (d : Db) (op : Op) : d.commits <+: (d.apply op).2.commits := by
  cases op <;> simp only [Db.apply]
  case dml s =>
    cases s <;> simp only [Db.dml] <;> repeat' split
    all_goals exact List.prefix_refl _
  case add t => fun_cases Db.add d [t] <;> exact List.prefix_refl _
  case addAll => exact List.prefix_refl _
  case commit mode msg =>
    fun_cases Db.commitWith d mode msg
    all_goals first | exact List.prefix_refl _ | exact (prefix_of_addCommit ‹Db.addCommit _ _ _ _ = _› :)
  case branch b r => rw [newBranch_commits]; exact List.prefix_refl _
  case tag b r => fun_cases Db.newTag d b r <;> exact List.prefix_refl _
  case checkout b => fun_cases Db.checkout d b <;> exact List.prefix_refl _
  case checkoutNew b =>
    have h := newBranch_commits d b ⟨.head, 0⟩
    fun_cases Db.checkoutNew d b
    · next d1 h1 => rw [h1] at h; exact h ▸ List.prefix_refl _
    · rw [h]; exact List.prefix_refl _
  case checkoutMove b => fun_cases Db.checkoutMove d b <;> exact List.prefix_refl _
  case checkoutTable t => fun_cases Db.checkoutTable d t <;> exact List.prefix_refl _
  case merge b noff msg =>
    fun_cases Db.mergeBranch d b noff msg
    all_goals first | exact List.prefix_refl _ | exact (prefix_of_addCommit ‹Db.addCommit _ _ _ _ = _› :)
  case cherryPick r => exact cherryPick_prefix d r
  case cherryPickAbort r =>
    fun_cases Db.cherryPickAbort d r
    · rw [abortMerge_commits]; exact List.prefix_refl _
    · exact cherryPick_prefix d r
  case revert r => exact revert_prefix d r
  case revertAbort r =>
    fun_cases Db.revertAbort d r
    · rw [abortMerge_commits]; exact List.prefix_refl _
    · exact revert_prefix d r
  case rebase r plan =>
    fun_cases Db.rebase d r plan
    all_goals first | exact List.prefix_refl _ | exact (rebaseSteps_prefix _ _ _ _ _ ‹Db.rebaseSteps _ _ _ = _› :)
  case resetHard r => fun_cases Db.resetHard d r <;> exact List.prefix_refl _
  case resetSoft r => fun_cases Db.resetSoft d r <;> exact List.prefix_refl _
  case resetMixed r => fun_cases Db.resetMixed d r <;> exact List.prefix_refl _
  case resetTables ts => fun_cases Db.resetTables d ts <;> exact List.prefix_refl _
  case stashPush => fun_cases Db.stashPush d <;> exact List.prefix_refl _
  case stashPop => fun_cases Db.stashPop d <;> exact List.prefix_refl _
  case stashDrop => fun_cases Db.stashDrop d <;> exact List.prefix_refl _

theorem run_prefix (d : Db) (ops : List Op) : d.commits <+: (d.run ops).commits := by
  induction ops generalizing d with
  | nil => exact List.prefix_refl _
  | cons op rest ih => exact List.IsPrefix.trans (apply_prefix d op) (ih _)

/-- **commit_immutable.**  After any history, an existing commit still has the root it was created with. -/
theorem commit_immutable (d : Db) (ops : List Op) (c : Nat) (hc : c < d.commits.length) :
    (d.run ops).rootOf c = d.rootOf c :=
  rootOf_ext d (d.run ops) (run_prefix d ops) c hc

/-- **asof_exact (commit hash).**  After any history, `AS OF '<hash of c>'` — equally the revision
database `` `db/<hash>` `` — returns for every table name exactly what commit `c` recorded
(`none` = the table is absent there and the read fails with "table not found"). -/
theorem asof_exact_hash (d : Db) (ops : List Op) (c : Nat) (hc : c < d.commits.length) (t : String) :
    (d.run ops).asOf (.commit ⟨.commit c, 0⟩) t = get (d.rootOf c) t := by
  have hlt : c < (d.run ops).commits.length := Nat.lt_of_lt_of_le hc (List.IsPrefix.length_le (run_prefix d ops))
  simp [Db.asOf, Db.rootAt, resolve_zero _ (.commit c) c (if_pos hlt) hlt, commit_immutable d ops c hc]

/-- **asof_exact (branch / tag / HEAD, with `~n`).**  Whatever name resolves to commit `c` in the
current database — a branch, a tag, `HEAD`, any of them followed by `~n` — the read returns the
table stored in `c`'s root. -/
theorem asof_exact_ref (d : Db) (r : Ref) (c : Nat) (hr : d.resolve r = some c) (t : String) :
    d.asOf (.commit r) t = get (d.rootOf c) t := by
  simp [Db.asOf, Db.rootAt, hr]

/-- `~n` walks first parents: `X~(n+1)` is the first parent of `X~n`. -/
theorem resolve_tilde_succ (d : Db) (b : RefBase) (i n : Nat) (hb : d.resolveBase b = some i) :
    d.resolve ⟨b, n + 1⟩ =
      match d.commit? i with
      | some cm => match cm.parents with
        | p :: _ => d.ancestor p n
        | [] => none
      | none => none := by
  simp only [Db.resolve, hb, Db.ancestor, Db.commit?]
  cases d.commits[i]? with
  | none => rfl
  | some c => cases c.parents <;> rfl

/-- a branch name resolves to the branch head, a tag name to the tagged commit, HEAD to the current
branch's head (provided the commit exists) -/
theorem resolve_names (d : Db) (n : String) (c : Nat) (hc : c < d.commits.length) :
    (get d.branches n = some c → d.resolve ⟨.branch n, 0⟩ = some c) ∧
    (get d.tags n = some c → d.resolve ⟨.tag n, 0⟩ = some c) ∧
    (get d.branches d.cur = some c → d.resolve ⟨.head, 0⟩ = some c) :=
  ⟨fun h => resolve_zero d _ c h hc, fun h => resolve_zero d _ c h hc, fun h => resolve_zero d _ c h hc⟩

/-- **history_table_filter.**  `dolt_history_<t> WHERE commit_hash = c` is an error iff the current
working root has no table `t`; otherwise it is empty when `c` does not have the table, and else the
rows `t` held in `c`, each laid out by the current column list (a column `c` did not have reads NULL,
a column the current schema dropped is not shown). -/
theorem history_table_filter (d : Db) (t : String) (c : Nat) :
    (get d.ws.working t = none → d.history t c = none) ∧
    (∀ wt, get d.ws.working t = some wt →
      (get (d.rootOf c) t = none → d.history t c = some []) ∧
      (∀ ct, get (d.rootOf c) t = some ct →
        d.history t c = some (ct.rows.map (fun kr => (kr.1, wt.cols.map (cellOf ct.cols kr.2)))))) := by
  refine ⟨fun h => by simp [Db.history, h], fun wt hw => ⟨fun h => by simp [Db.history, hw, h], fun ct h => ?_⟩⟩
  simp [Db.history, hw, h, projRows, projRow]

/-- with an unchanged column list the filtered history table returns the committed rows verbatim -/
theorem history_same_schema (d : Db) (hd : d.WF) (t : String) (c : Nat) (wt ct : Table)
    (hw : get d.ws.working t = some wt) (hc : get (d.rootOf c) t = some ct) (hcols : wt.cols = ct.cols) :
    d.history t c = some ct.rows := by
  have hwf : ct.WF := (rootWF_rootOf d hd c).2 t ct hc
  simp only [Db.history, hw, hc, hcols]
  rw [projRows_self ct hwf]

end DoltVerif.C33
