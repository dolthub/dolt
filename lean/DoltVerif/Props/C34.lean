import DoltVerif.Lemmas.VcsOpsDb
/-!
C34 — Stash, reset and checkout restore exactly what they promise.  The model follows `dolt_stash.go`,
`env/actions/reset.go` and `env/actions/checkout.go` function by function; where the code promises less than the
property says, the full-strength statement is kept as a `def … : Prop` and refuted by a concrete witness (replayed on
dolt by the harness, design/C34.md), and the part that does hold is proved.
-/
namespace DoltVerif.C34
open DoltVerif.VcsOps

theorem get_moveUntracked (w s tgt : Root) (hw : Sorted ltStr (keys w)) (n : String) :
    get (moveUntracked w s tgt) n =
      match get w n with
      | some tb => if has s n || has tgt n then get tgt n else some tb
      | none => get tgt n :=
  get_foldl_putUnless (fun n => has s n || has tgt n) w hw tgt n

theorem get_moveUntracked_ite (w s tgt : Root) (hw : Sorted ltStr (keys w)) (n : String) :
    get (moveUntracked w s tgt) n = if (has s n || has tgt n) = true then get tgt n else get w n := by
  rw [get_moveUntracked w s tgt hw]
  cases get w n with
  | some tb => rfl
  | none =>
    -- where the test fails the target has no such table either
    cases hg : get tgt n with
    | none => exact (ite_self none).symm
    | some tb => rw [has, has, hg, Option.isSome_some, Bool.or_true, if_pos rfl]

/-- **reset_hard.**  `dolt_reset('--hard' [, ref])`: HEAD and the staged root become the target
commit; in the working root every table that is tracked (present in the old staged root) or present
in the target equals the target's, and exactly the untracked tables (in working, not in staged, not
in the target) survive unchanged; merge state is cleared. -/
theorem reset_hard (d d' : Db) (r : Option Ref) (hw : Sorted ltStr (keys d.ws.working))
    (h : d.resetHard r = (.ok, d')) :
    ∃ i, (match r with | none => some d.headId | some r => d.resolve r) = some i ∧
      d'.headId = i ∧ d'.ws.staged = d.rootOf i ∧ d'.ws.merge = none ∧
      (∀ n, (has d.ws.staged n || has (d.rootOf i) n) = true → get d'.ws.working n = get (d.rootOf i) n) ∧
      (∀ n, (has d.ws.staged n || has (d.rootOf i) n) = false → get d'.ws.working n = get d.ws.working n) := by
  unfold Db.resetHard at h
  dsimp only at h
  split at h
  · cases h
  · next i hi =>
    simp only [Prod.mk.injEq, true_and] at h
    subst h
    refine ⟨i, hi, by simp, by simp, by simp, fun n hn => ?_, fun n hn => ?_⟩
    · simp only [ws_setWs]
      rw [get_moveUntracked_ite _ _ _ hw, if_pos hn]
    · simp only [ws_setWs]
      rw [get_moveUntracked_ite _ _ _ hw, if_neg (by rw [hn]; nofun)]

theorem sorted_moveUntracked (w s tgt : Root) (ht : Sorted ltStr (keys tgt)) :
    Sorted ltStr (keys (moveUntracked w s tgt)) :=
  sorted_foldl_putUnless (fun n => has s n || has tgt n) w tgt ht

/-- **reset_hard_idempotent (working root).**  A second `reset --hard` to the same target changes
nothing: re-applying `MoveUntrackedTables` to the result (whose staged root is now the target)
yields the same tables — the untracked ones survive both times, everything else is the target's. -/
theorem reset_hard_idempotent_root (w s tgt : Root) (hw : Sorted ltStr (keys w)) (ht : Sorted ltStr (keys tgt))
    (n : String) :
    get (moveUntracked (moveUntracked w s tgt) tgt tgt) n = get (moveUntracked w s tgt) n := by
  rw [get_moveUntracked_ite _ _ _ (sorted_moveUntracked w s tgt ht), get_moveUntracked_ite w s tgt hw]
  -- the second pass tests `has tgt n` alone; where that fails the first pass's test is `has s n`, and it is kept
  cases has tgt n <;> simp

/-- **reset_hard_idempotent.**  `dolt_reset('--hard')` twice is `dolt_reset('--hard')` once: the
second call leaves HEAD, the staged root and every table of the working root as the first left them. -/
theorem reset_hard_idempotent (d d' d'' : Db) (hw : Sorted ltStr (keys d.ws.working))
    (hh : Sorted ltStr (keys d.headRoot))
    (h1 : d.resetHard none = (.ok, d')) (h2 : d'.resetHard none = (.ok, d'')) :
    d''.headId = d'.headId ∧ d''.ws.staged = d'.ws.staged ∧ d''.ws.merge = d'.ws.merge ∧
      ∀ n, get d''.ws.working n = get d'.ws.working n := by
  unfold Db.resetHard at h1
  simp only [Prod.mk.injEq, true_and] at h1
  subst h1
  unfold Db.resetHard at h2
  simp only [Prod.mk.injEq, true_and, headId_setWs, headId_setHead, ws_setWs, rootOf_setWs, rootOf_setHead] at h2
  subst h2
  refine ⟨by simp, by simp, by simp, ?_⟩
  intro n
  simp only [ws_setWs]
  exact reset_hard_idempotent_root _ _ _ hw hh n

/-- the hypotheses of `reset_hard_idempotent` are met by a database with an untracked table -/
example :
    let d : Db := { initDb with wss := [("main", ⟨[("u", ⟨[], []⟩)], [], none⟩)] }
    (d.resetHard none).1 = .ok ∧ ((d.resetHard none).2.resetHard none).1 = .ok ∧
      get ((d.resetHard none).2.resetHard none).2.ws.working "u" = some ⟨[], []⟩ := by decide +kernel

/-- the property's wording "a hard reset makes working and staged equal to the target commit" -/
def reset_hard_full : Prop :=
  ∀ (d d' : Db), d.resetHard none = (.ok, d') → d'.ws.working = d'.headRoot

/-- … is false in the presence of an untracked table, which `reset --hard` keeps (as git does) -/
theorem reset_hard_full_false : ¬ reset_hard_full := by
  intro h
  have := h { initDb with wss := [("main", ⟨[("u", ⟨[], []⟩)], [], none⟩)] } _ rfl
  revert this
  decide +kernel

/-- **reset_soft.**  `dolt_reset('--soft', ref)` moves only the branch head: working and staged
roots are untouched. -/
theorem reset_soft (d d' : Db) (r : Ref) (h : d.resetSoft (some r) = (.ok, d')) :
    ∃ i, d.resolve r = some i ∧ d'.headId = i ∧
      d'.ws.working = d.ws.working ∧ d'.ws.staged = d.ws.staged := by
  unfold Db.resetSoft at h
  dsimp only at h
  split at h
  · cases h
  · next i hi =>
    simp only [Prod.mk.injEq, true_and] at h
    subst h
    exact ⟨i, hi, by simp, by simp, by simp⟩

/-- **reset (unstage).**  `dolt_reset()` changes only the staged contents: staged := HEAD, working and
the branch head untouched. -/
theorem reset_unstage (d d' : Db) (hs : Sorted ltStr (keys d.ws.staged)) (hh : Sorted ltStr (keys d.headRoot))
    (h : d.resetTables none = (.ok, d')) :
    d'.ws.staged = d.headRoot ∧ d'.ws.working = d.ws.working ∧ d'.headId = d.headId := by
  unfold Db.resetTables at h
  dsimp only at h
  split at h
  · cases h
  · simp only [Prod.mk.injEq, true_and] at h
    subst h
    refine ⟨?_, by simp, by simp⟩
    rw [ws_setWs]
    exact moveTables_eq_src _ d.headRoot d.ws.staged hs hh (fun n hn => by
      obtain ⟨e1, e2⟩ := get_none_of_not_mem_unionKeys _ _ n hn
      rw [e1, e2])

/-- **checkout_carry (failure).**  A checkout that fails — unknown branch, both branches dirty, or a
table changed in the working set that also differs between the two heads — leaves the database,
in particular the source branch's working set, exactly as it was. -/
theorem checkout_fail_intact (d d' : Db) (b : String) (e : Err) (h : d.checkoutMove b = (.err e, d')) : d' = d := by
  revert h
  fun_cases Db.checkoutMove d b <;> intro h <;> cases h <;> rfl

/-- **checkout_carry (success ⇔ no table is in the way).**  With uncommitted changes on the source
branch, a clean destination and no merge in progress, the checkout succeeds iff `moveModifiedTables`
finds no conflict for the working root and none for the staged root, i.e. iff for every table name
either the working (staged) table equals the old head's, or the two heads agree on it (new tables:
the old head has none). -/
theorem checkout_carry_iff (d : Db) (b : String) (bh : Nat) (hb : get d.branches b = some bh) (hne : b ≠ d.cur)
    (hm : d.ws.merge = none) (hchg : hasChanges d.headRoot d.ws = true)
    (hdst : hasChanges (d.rootOf bh) ((get d.wss b).getD ⟨[], [], none⟩) = false) :
    (∃ d', d.checkoutMove b = (.ok, d')) ↔
      ((moveModified d.headRoot (d.rootOf bh) d.ws.working).isSome ∧
       (moveModified d.headRoot (d.rootOf bh) d.ws.staged).isSome) := by
  unfold Db.checkoutMove
  simp only [hb, hne, if_false, hm, Option.isSome_none, Bool.false_eq_true, hchg, hdst, Bool.true_and, Bool.false_and,
    if_true]
  cases h1 : moveModified d.headRoot (d.rootOf bh) d.ws.working with
  | none => simp
  | some wm =>
    cases h2 : moveModified d.headRoot (d.rootOf bh) d.ws.staged with
    | none => simp
    | some sm => simp

/-- the property's wording: a successful checkout carries every uncommitted change over -/
def checkout_carry_full : Prop :=
  ∀ (d d' : Db) (b n : String), d.checkoutMove b = (.ok, d') → b ≠ d.cur →
    get d.ws.working n ≠ get d.headRoot n → get d'.ws.working n = get d.ws.working n

/-- … is false: an uncommitted `DROP TABLE` is lost — `writeTableHashes` skips the empty hash, the
table re-appears on the destination and the source working set is reset (dolt replay in design/C34.md). -/
theorem checkout_carry_full_false : ¬ checkout_carry_full := by
  intro h
  let r : Root := [("u", ⟨[], []⟩)]
  let d : Db :=
    { commits := [⟨[], [], "init", 1⟩, ⟨[0], r, "c1", 2⟩]
      branches := [("b1", 1), ("main", 1)], tags := []
      wss := [("b1", ⟨r, r, none⟩), ("main", ⟨[], r, none⟩)], cur := "main", stashes := [] }
  have := h d (d.checkoutMove "b1").2 "b1" "u" (by decide +kernel) (by decide +kernel) (by decide +kernel)
  revert this
  decide +kernel

/-- The stash at the level of roots.  Push stores `S1` (the staged root with the tracked changes moved
in) and leaves `W1` (the working root with every stashed table put back to HEAD's); popping merges them
over `H`, and every table is decided at table level: a stashed table is unchanged in `W1`, so the merge
takes the stash's, which is the working root's; any other table is unchanged in the stash. -/
theorem stash_roots (H : Root) (w : WS) (hw : RootWF w.working) (hs : Sorted ltStr (keys w.staged))
    (hnew : ∀ n, get w.staged n = none → get w.working n ≠ none → get H n = none)
    (S1 W1 : Root) (hS1 : S1 = moveTables (trackedChanged w) w.working w.staged)
    (hW1 : W1 = moveTables (changedTables H S1) H w.working) :
    merge3 stashPopIsCherry H W1 S1 = .ok w.working ∧ needsRowMerge H W1 S1 = false := by
  let W := w.working
  let S := w.staged
  let all := changedTables H S1
  have gS1 : ∀ n, get S1 n = if n ∈ trackedChanged w then get W n else get S n :=
    hS1 ▸ get_moveTables (trackedChanged w) W S hs
  have gW1 : ∀ n, get W1 n = if n ∈ all then get H n else get W n :=
    hW1 ▸ get_moveTables all H W hw.1
  have hall : ∀ n, n ∈ all ↔ get H n ≠ get S1 n := fun n => mem_changedTables H S1 n
  -- the stashed root equals the working root on every stashed table
  have hS1W : ∀ n, n ∈ all → get S1 n = get W n := by
    intro n hn
    rw [gS1 n]
    split
    · rfl
    · next ht =>
      -- not a tracked change: staged and working agree, or the table is new in the working root
      have hnt : ¬ (get S n ≠ get W n ∧ has S n = true) := fun h' =>
        ht (List.mem_filter.mpr ⟨(mem_changedTables S W n).mpr h'.1, h'.2⟩)
      apply Classical.byContradiction
      intro hsw
      have hsn : get S n = none := by
        cases hg : get S n with
        | none => rfl
        | some v => exact absurd ⟨hsw, by simp [has, hg]⟩ hnt
      have hne := (hall n).mp hn
      rw [gS1 n, if_neg ht, hnew n hsn (fun e => hsw (hsn.trans e.symm)), hsn] at hne
      exact hne rfl
  have hS1H : ∀ n, n ∉ all → get S1 n = get H n := fun n hn =>
    Classical.not_not.mp fun hne => hn ((hall n).mpr (fun e => hne e.symm))
  have hpt : ∀ n, mergeTable stashPopIsCherry (get H n) (get W1 n) (get S1 n) = .ok (get W n) := by
    intro n
    rw [gW1 n]
    by_cases hn : n ∈ all
    · rw [if_pos hn, ← hS1W n hn]
      exact mergeTable_base_ours _ _ _ (fun t ht => hw.2 n t (hS1W n hn ▸ ht)) (fun hc => by cases hc)
    · rw [if_neg hn, hS1H n hn]
      exact mergeTable_base_theirs _ _ _
  have hsub : ∀ n ∈ keys W, n ∈ keys W1 ∨ n ∈ keys S1 := by
    intro n hn
    rw [mem_keys_iff] at hn
    by_cases ha : n ∈ all
    · exact Or.inr ((mem_keys_iff _ _).mpr (by rw [hS1W n ha]; exact hn))
    · exact Or.inl ((mem_keys_iff _ _).mpr (by rw [gW1 n, if_neg ha]; exact hn))
  refine ⟨merge3_pointwise _ H W1 S1 W hw.1 hsub hpt, ?_⟩
  unfold needsRowMerge
  rw [List.any_eq_false]
  intro n _
  by_cases hn : n ∈ all
  · have : get W1 n = get H n := by rw [gW1 n, if_pos hn]
    simp [this]
  · simp [hS1H n hn]

/-- **stash_pop (working contents).**  `dolt_stash('push')` immediately followed by
`dolt_stash('pop')` succeeds and restores the working root exactly — modified, dropped and staged-new
tables as well as untracked ones — puts the stash list back, and leaves HEAD alone; the staged root
becomes HEAD plus the tables that were staged as new (`TablesToStage`).  Proviso (`hnew`): no table is
absent from the staged root while present in both HEAD and the working root (a table dropped, staged
and re-created — the model, following the code, loses the re-created table there). -/
theorem stash_pop_working (d d1 : Db) (hd : d.WF) (hw : RootWF d.ws.working) (hs : RootWF d.ws.staged)
    (hnew : ∀ n, get d.ws.staged n = none → get d.ws.working n ≠ none → get d.headRoot n = none)
    (hpush : d.stashPush = (.ok, d1)) :
    ∃ d2, d1.stashPop = (.ok, d2) ∧ d2.ws.working = d.ws.working ∧ d2.stashes = d.stashes ∧
      d2.headId = d.headId ∧
      d2.ws.staged = moveTables ((changedTables d.headRoot
          (moveTables (trackedChanged d.ws) d.ws.working d.ws.staged)).filter (fun n => !(has d.headRoot n)))
        d.ws.working d.headRoot := by
  revert hpush
  fun_cases Db.stashPush d <;> intro hpush <;> cases hpush
  let S1 := moveTables (trackedChanged d.ws) d.ws.working d.ws.staged
  let all := changedTables d.headRoot S1
  let W1 := moveTables all d.headRoot d.ws.working
  let added := all.filter (fun n => !(has d.headRoot n))
  let d1 : Db := { (d.setWs ⟨W1, d.headRoot, none⟩) with stashes := ⟨S1, d.headId, added⟩ :: d.stashes }
  have hroots : merge3 stashPopIsCherry d.headRoot W1 S1 = .ok d.ws.working ∧
      needsRowMerge d.headRoot W1 S1 = false := stash_roots d.headRoot d.ws hw hs.1 hnew S1 W1 rfl rfl
  have e2 : d1.ws = ⟨W1, d.headRoot, none⟩ := ws_setWs d _
  have hpop : d1.stashPop =
      (.ok, { (d1.setWs ⟨d.ws.working, moveTables added d.ws.working d.headRoot, none⟩) with stashes := d.stashes }) := by
    simp only [Db.stashPop, show d1.stashes = ⟨S1, d.headId, added⟩ :: d.stashes from rfl, e2,
      show d1.rootOf d.headId = d.headRoot from rfl, hroots.2, Bool.false_eq_true, if_false, hroots.1]
  refine ⟨_, hpop, ?_, rfl, rfl, ?_⟩
  · show (d1.setWs ⟨d.ws.working, moveTables added d.ws.working d.headRoot, none⟩).ws.working = d.ws.working
    rw [ws_setWs]
  · show (d1.setWs ⟨d.ws.working, moveTables added d.ws.working d.headRoot, none⟩).ws.staged = _
    rw [ws_setWs]

/-- **stash_pop with nothing staged.**  Given the known finding (the stash stores one root, pop re-stages
only the tables that were staged as new), the exact identity the property asks for holds when the staged
root equals HEAD before the push — unstaged edits of tracked tables, dropped tables and untracked tables
only: push then pop restores working *and* staged contents and the stash list.  With staged changes the
staged root afterwards is HEAD plus the staged-new tables (`stash_pop_working`), i.e. it is restored iff
that equals the old staged root. -/
theorem stash_pop_unstaged (d d1 : Db) (hd : d.WF) (hw : RootWF d.ws.working) (hs : RootWF d.ws.staged)
    (hst : d.ws.staged = d.headRoot) (hpush : d.stashPush = (.ok, d1)) :
    ∃ d2, d1.stashPop = (.ok, d2) ∧ d2.ws.working = d.ws.working ∧ d2.ws.staged = d.ws.staged ∧
      d2.stashes = d.stashes ∧ d2.headId = d.headId := by
  have hnew : ∀ n, get d.ws.staged n = none → get d.ws.working n ≠ none → get d.headRoot n = none := by
    intro n h _; rw [← hst]; exact h
  obtain ⟨d2, h1, h2, h3, h4, h5⟩ := stash_pop_working d d1 hd hw hs hnew hpush
  refine ⟨d2, h1, h2, ?_, h3, h4⟩
  rw [h5]
  have hempty : (changedTables d.headRoot (moveTables (trackedChanged d.ws) d.ws.working d.ws.staged)).filter
      (fun n => !(has d.headRoot n)) = [] := by
    apply List.filter_eq_nil_iff.mpr
    intro n hn
    have hne := (mem_changedTables _ _ n).mp hn
    simp only [Bool.not_eq_true', Bool.not_eq_false]
    cases hh : has d.headRoot n with
    | true => rfl
    | false =>
      exfalso
      apply hne
      have hH : get d.headRoot n = none := by simpa [has] using hh
      rw [get_moveTables (trackedChanged d.ws) d.ws.working d.ws.staged hs.1 n]
      have hnt : n ∉ trackedChanged d.ws := by
        intro ht
        have := (List.mem_filter.mp ht).2
        rw [hst, hh] at this
        cases this
      simp only [hnt, if_false]
      rw [hst]
  rw [hempty]
  simp [moveTables, hst]

/-- the property's wording: push then pop restores the working *and staged* contents exactly -/
def stash_pop_full : Prop :=
  ∀ (d d1 d2 : Db), d.stashPush = (.ok, d1) → d1.stashPop = (.ok, d2) →
    d2.ws.working = d.ws.working ∧ d2.ws.staged = d.ws.staged

/-- … is false: a *staged* modification of a tracked table comes back unstaged (the stash stores one
root; pop re-stages only the tables that were new).  dolt replay in design/C34.md. -/
theorem stash_pop_full_false : ¬ stash_pop_full := by
  intro h
  let r0 : Root := [("t", ⟨[], [(1, [])]⟩)]
  let r1 : Root := [("t", ⟨[], [(1, []), (2, [])]⟩)]
  let d : Db :=
    { commits := [⟨[], [], "init", 1⟩, ⟨[0], r0, "c1", 2⟩]
      branches := [("main", 1)], tags := []
      wss := [("main", ⟨r1, r1, none⟩)], cur := "main", stashes := [] }
  have := h d d.stashPush.2 d.stashPush.2.stashPop.2 (by decide +kernel) (by decide +kernel)
  revert this
  decide +kernel

/-- on that witness the *working* contents are restored -/
example :
    let r0 : Root := [("t", ⟨[], [(1, [])]⟩)]
    let r1 : Root := [("t", ⟨[], [(1, []), (2, [])]⟩)]
    let d : Db :=
      { commits := [⟨[], [], "init", 1⟩, ⟨[0], r0, "c1", 2⟩]
        branches := [("main", 1)], tags := []
        wss := [("main", ⟨r1, r1, none⟩)], cur := "main", stashes := [] }
    (d.stashPush.2.stashPop.2).ws.working = d.ws.working := by decide +kernel

end DoltVerif.C34
