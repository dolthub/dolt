import DoltVerif.Lemmas.PullerSys
/-! C35 — Push, pull, fetch and clone transfer complete and consistent data.  Over `Model/Puller.lean` (the chunk-graph model
of `Puller.Pull`, the destination's table-file / ref operations and the transfer programs built from them).  Hypotheses:
`Agree src dst`, content addressing (a parameter of the design, DESIGN.md §3, never an axiom); `Closed dst`, C07's invariant,
which lets the puller prune the walk at a chunk the destination has and is forced by the algorithm (`closed_needed`). -/
namespace DoltVerif.C35
open DoltVerif.Puller

/-- **pull_closure** — after a successful pull the destination (old chunks plus the fetched
table files) is closed, agrees with the source, and holds everything reachable in the source from
every target, with the source's value. -/
theorem pull_closure {src dst : Store} {targets : List Addr} {files : List (Addr × Chunk)}
    (hag : Agree src dst) (hcl : Closed dst) (h : pull src dst targets = .ok files) :
    Closed (dst ++ files) ∧ Agree src (dst ++ files) ∧
    ∀ t ∈ targets, ∀ b, Reach src t b →
      has (dst ++ files) b = true ∧ ∀ c, get src b = some c → get (dst ++ files) b = some c := by
  obtain ⟨o1, o2, o3⟩ := pull_spec h
  have hclosed : Closed (dst ++ files) := closed_append hcl o2
  have hagree : Agree src (dst ++ files) := by
    intro a c c' hs hd
    rcases get_append_cases hd with h | ⟨_, h⟩
    · exact hag a c c' hs h
    · exact Option.some.inj (hs.symm.trans (o1 _ (mem_of_get h)).1)
  refine ⟨hclosed, hagree, ?_⟩
  intro t ht b hr
  have hb := reach_present hagree hclosed (o3 t ht) hr
  refine ⟨hb, fun c hc => ?_⟩
  obtain ⟨c', hc'⟩ := has_iff_get.1 hb
  rw [hc', hagree b c c' hc hc']

/-- **pull_only_absent** — nothing is invented and nothing is re-sent: every chunk written to a
table file is the source's chunk under that address and was absent from the destination. -/
theorem pull_only_absent {src dst : Store} {targets : List Addr} {files : List (Addr × Chunk)}
    (h : pull src dst targets = .ok files) :
    ∀ p ∈ files, get src p.1 = some p.2 ∧ has dst p.1 = false :=
  (pull_spec h).1

/-- the fetched table files pass the destination's own reference check -/
theorem pull_passes_refcheck {src dst : Store} {targets : List Addr} {files : List (Addr × Chunk)}
    (h : pull src dst targets = .ok files) : refCheck dst files = true := by
  obtain ⟨_, o2, _⟩ := pull_spec h
  exact List.all_eq_true.2 fun p hp => List.all_eq_true.2 (o2 p hp)

/- `run s sched` lets the transfers of `s` take atomic steps in the order `sched` dictates; a `true`
flag interrupts the transfer at that point (it stops for good).  Every prefix of every transfer
is some `sched`, so a statement about all `sched` is a statement about all interruption points.
`Inv U s`: the destination is a closed partial view of the content-addressed universe `U`, its
refs resolve, and each transfer's private plan/check data is consistent (initially: no plan).
-/

/-- **ref_after_data** — in EVERY state any schedule of transfer steps and interruptions can reach,
every destination ref (a) is an old ref or one of the transfers' targets, (b) resolves, and
(c) has its whole closure present: an interrupted transfer never leaves a dangling ref. -/
theorem ref_after_data {U : Addr → Chunk} {s : System} (hi : Inv U s) (sched : List (Nat × Bool)) :
    ∀ p ∈ (run s sched).dest.refs,
      (p ∈ s.dest.refs ∨ ∃ x ∈ s.xfers, p ∈ x.updates) ∧
      has (run s sched).dest.chunks p.2 = true ∧
      ∀ b, Reach (run s sched).dest.chunks p.2 b → has (run s sched).dest.chunks b = true := by
  have r := run_ok hi sched
  intro p hp
  have hh := r.inv.dinv.refsOk p hp
  exact ⟨r.prov p hp, hh, fun b hb => complete_of_closed r.inv.dinv.closed hh hb⟩

/-- the destination never loses a chunk, and what it holds stays the universe's value -/
theorem dest_monotone {U : Addr → Chunk} {s : System} (hi : Inv U s) (sched : List (Nat × Bool)) :
    (∀ a c, get s.dest.chunks a = some c → get (run s sched).dest.chunks a = some c) ∧
    Sub U (run s sched).dest.chunks := by
  have r := run_ok hi sched
  obtain ⟨e, he⟩ := r.grows
  exact ⟨fun a c h => he ▸ get_mono_append h, r.inv.dinv.sub⟩

/-- **ff_push_monotone** — with fast-forward-only transfers, whatever the interleaving and
wherever they are interrupted, a branch that had head `h` still exists and its head has `h` among
its ancestors: a non-forced push never removes commits from a remote branch. -/
theorem ff_push_monotone {U : Addr → Chunk} {s : System} (hi : Inv U s)
    (hff : ∀ x ∈ s.xfers, x.force = false) (sched : List (Nat × Bool)) (n : Name) (h : Addr)
    (hh : head s.dest n = some h) :
    ∃ h', head (run s sched).dest n = some h' ∧ Anc (run s sched).dest.chunks h h' :=
  (run_ok hi sched).mono hff n h hh

/-- **concurrent_push_one_wins** (general form) — if two commits were both, at some time, the head
of the same branch under fast-forward-only pushes, the earlier one is an ancestor of the later:
two divergent pushes cannot both land. -/
theorem concurrent_push_one_wins {U : Addr → Chunk} {s : System} (hi : Inv U s)
    (hff : ∀ x ∈ s.xfers, x.force = false) (sched1 sched2 : List (Nat × Bool)) (n : Name) (t1 t2 : Addr)
    (h1 : head (run s sched1).dest n = some t1)
    (h2 : head (run s (sched1 ++ sched2)).dest n = some t2) :
    Anc (run s (sched1 ++ sched2)).dest.chunks t1 t2 := by
  have r := run_ok hi sched1
  obtain ⟨h', hh', ha⟩ := ff_push_monotone r.inv (r.force hff) sched2 n t1 h1
  rw [run_append] at h2 ⊢
  rw [h2] at hh'
  exact Option.some.inj hh' ▸ ha

/-- **second_cas_fails** (the two-pusher form of `concurrent_push_one_wins`) — two fast-forward pushes
that both read the same old head `h`: once the first compare-and-swap has installed `t1 ≠ h`, the second
fails with ErrMergeNeeded. -/
theorem second_cas_fails {d d1 : Dest} {n : Name} {h t1 t2 : Addr}
    (h1 : ffCas d n (some h) t1 = .ok d1) (hne : t1 ≠ h) :
    ffCas d1 n (some h) t2 = .error .mergeNeeded := by
  obtain ⟨_, ⟨heq, _⟩ | ⟨_, rfl⟩⟩ := ffCas_ok h1
  · exact absurd (Option.some.inj heq).symm hne
  · exact if_pos (by simp [head, lookup_setRef_same, hne])

/-- nothing becomes visible at the destination before the single AddTableFilesToManifest: one step
(or interruption) of a transfer that still has table files to upload leaves the destination's chunk
map exactly as it was. -/
theorem upload_invisible {U : Addr → Chunk} {d d' : Dest} {x x' : Xfer} {f : Bool}
    (hd : DInv U d) (hx : XInv U d x) (h : xstep d x f = (d', x'))
    (hup : ∀ fs k, x.phase = .planned fs k → k < fs.length) : d'.chunks = d.chunks := by
  have := (xstep_ok hd hx f).invisible hup
  rwa [h] at this

theorem inv_init {U : Addr → Chunk} {d : Dest} {xs : List Xfer} (hd : DInv U d)
    (hx : ∀ x ∈ xs, Sub U x.src ∧ x.phase = .init) : Inv U { dest := d, xfers := xs } :=
  ⟨hd, fun x hxm => xinv_iff.2 ⟨(hx x hxm).1, (hx x hxm).2 ▸ trivial⟩⟩

private def c (refs : List Addr) (parents : List Addr := []) : Chunk := { data := 0, refs := refs, parents := parents }

/-- source: commit 1 → {2 (root value), 3 (parent commit)}, 3 → {4}, 2 → {4}; destination already
has 3 and 4 (a partially shared history). -/
private def exSrc : Store := [(1, c [2, 3] [3]), (2, c [4]), (3, c [4]), (4, c [])]
private def exDst : Store := [(3, c [4]), (4, c [])]

example : pull exSrc exDst [1] = .ok [(1, c [2, 3] [3]), (2, c [4])] := by rfl
example : Closed exDst := closedB_sound rfl
example : Agree exSrc exDst := agreeB_sound rfl

/-- `Closed dst` cannot be dropped: a destination holding chunk 3 without 3's reference 4 makes
the pull succeed (the walk is pruned at 3) and leaves 4 — reachable from the target — missing.
(The real guard against this state is the reference check of `AddTableFilesToManifest`, C07.) -/
theorem closed_needed :
    ∃ (src dst : Store) (files : List (Addr × Chunk)), Agree src dst ∧
      pull src dst [1] = .ok files ∧ Reach src 1 4 ∧ has (dst ++ files) 4 = false := by
  refine ⟨[(1, c [3] [3]), (3, c [4]), (4, c [])], [(3, c [4])], [(1, c [3] [3])],
    agreeB_sound rfl, rfl, ?_, rfl⟩
  exact .step (c := c [3] [3]) (r := 3) rfl (List.mem_cons_self ..)
    (.step (c := c [4]) (r := 4) rfl (List.mem_cons_self ..) (.refl 4))

-- a concrete two-pusher system: the hypotheses of the run theorems are satisfiable, and the conclusions are not
-- trivially true (one pusher wins, the other gets ErrMergeNeeded)

private def U0 : Addr → Chunk
  | 1 => c [2, 3] [3] | 2 => c [4] | 3 => c [4] | 4 => c [] | 5 => c [3, 6] [3] | 6 => c [] | _ => c []

/-- remote: branch 7 at commit 3; pusher 0 pushes commit 1, pusher 1 pushes commit 5 (both children of 3). -/
private def sys0 : System :=
  { dest := { chunks := exDst, refs := [(7, 3)], rootSet := true, pending := [] },
    xfers := [
      { src := exSrc, updates := [(7, 1)], force := false, fileSz := 0, phase := .init },
      { src := [(5, c [3, 6] [3]), (6, c []), (3, c [4]), (4, c [])], updates := [(7, 5)], force := false, fileSz := 0, phase := .init }] }

private theorem sys0_inv : Inv U0 sys0 :=
  inv_init ⟨subB_sound rfl, closedB_sound rfl, by decide⟩
    (by
      intro x hx
      simp only [List.mem_cons, List.not_mem_nil, or_false] at hx
      rcases hx with rfl | rfl
      · exact ⟨subB_sound rfl, rfl⟩
      · exact ⟨subB_sound rfl, rfl⟩)

/-- both run up to their ancestor check against head 3, then pusher 0's CAS, then pusher 1's -/
private def schedRace : List (Nat × Bool) :=
  [(0, false), (0, false), (0, false), (0, false), (0, false), (0, false),
   (1, false), (1, false), (1, false), (1, false), (1, false), (1, false),
   (0, false), (1, false), (0, false), (1, false)]

example : (run sys0 schedRace).dest.refs = [(7, 1)] := by decide +kernel
example : ((run sys0 schedRace).xfers.map (fun x => match x.phase with
    | .done => 1 | .failed .mergeNeeded => 2 | _ => 0)) = [1, 2] := by decide +kernel
example : has (run sys0 schedRace).dest.chunks 5 = true := by decide +kernel  -- the loser's data arrived, its ref did not
example : ∃ h', head (run sys0 schedRace).dest 7 = some h' ∧ Anc (run sys0 schedRace).dest.chunks 3 h' :=
  ff_push_monotone sys0_inv (by decide) schedRace 7 3 rfl
/-- interrupted after the uploads, before AddTableFilesToManifest: nothing visible changed -/
example : (run sys0 [(0, false), (0, false), (0, false), (0, false), (0, true)]).dest.chunks = exDst := by decide +kernel

end DoltVerif.C35
