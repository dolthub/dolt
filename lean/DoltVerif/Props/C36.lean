import DoltVerif.Lemmas.SqlEscape
/-! C36 — Dump and re-import reproduce the database, the literal layer: for **all** byte strings, what `dolt dump` writes
for a string / binary / identifier is read back by the tokenizer as exactly that byte string; also whole `VALUES` tuples
with integer literals (`row_roundtrip`) and the field layer of the CSV export / import (`csv_field_roundtrip`).
Type-specific text forms (decimals, dates, JSON, floats) are outside the model and compared by the `dump` harness only. -/
namespace DoltVerif.C36
open DoltVerif.SqlEscape

/-- what may follow a literal: end of input, or (after blanks) anything but another string quote —
in a dump a value is followed by `,` or `)` -/
def follows (rest : Bytes) : Bool :=
  match dropBlanks rest with
  | [] => true
  | c :: _ => !isConcatQuote c

/-- **`lex_quote`** — for every byte string `s` (NUL, quotes, backslashes, `\Z`, invalid UTF-8, …)
the tokenizer reads the literal written by `quoteAndEscapeString` back as exactly `s`, and stops
right after it (having skipped blanks). -/
theorem lex_quote (s rest : Bytes) (h : follows rest = true) :
    lexString (quote s ++ rest) = some (s, dropBlanks rest) := by
  have hq : ∀ r, rest ≠ 39 :: r := by
    intro r hr
    subst hr
    simp [follows, dropBlanks, isBlank, isConcatQuote, isStrQuote] at h
  have e : quote s ++ rest = 39 :: (quoteBody s ++ 39 :: rest) := by simp [quote]
  have h39 : isStrQuote 39 = true := by decide
  rw [e]
  simp only [lexString, h39, if_true, lexLit]
  rw [lexBody_quoteBody s [] rest hq]
  simp only [List.nil_append]
  unfold follows at h
  cases hd : dropBlanks rest with
  | nil => rfl
  | cons c r =>
    rw [hd] at h
    simp only [Bool.not_eq_eq_eq_not, Bool.not_true] at h
    simp only [h, Bool.false_eq_true, if_false]

example : follows [44, 49] = true := by decide
/-- all nine escaped bytes, a lone backslash-letter look-alike, invalid UTF-8 -/
example : lexString (quote [0, 39, 34, 8, 10, 13, 9, 26, 92, 37, 95, 255, 0xC3] ++ [41]) =
    some ([0, 39, 34, 8, 10, 13, 9, 26, 92, 37, 95, 255, 0xC3], [41]) := by decide +kernel

/-- The `follows` hypothesis is forced: adjacent literals are concatenated by the tokenizer. -/
theorem lex_quote_needs_follows : lexString (quote [97] ++ [32] ++ quote [98]) = some ([97, 98], []) := by
  decide +kernel

/-- … and a NUL byte after a literal is taken for an opening quote by the tokenizer (see
`isConcatQuote`): the hypothesis excludes it as well -/
example : lexString (quote [97] ++ [0]) = none := by decide +kernel

/-- the reader is not the inverse on arbitrary input: unknown escapes drop the backslash
(`'\%'` reads as `%`) — the writer never produces them -/
example : lexString [39, 92, 37, 39] = some ([37], []) := by decide +kernel

/-- what may follow a `0x…` literal -/
def HexFollows (rest : Bytes) : Prop := ∀ c r, rest = c :: r → ¬ digitVal c < 16 ∧ isLetter c = false

/-- **`hex_roundtrip`** — every binary value, the empty one included (`0x` with zero digits),
is read back exactly. -/
theorem hex_roundtrip (b rest : Bytes) (h : HexFollows rest) : readHex (hexEncode b ++ rest) = some (b, rest) := by
  unfold readHex hexEncode
  simp only [List.cons_append, scanHexNum, decide_true, Bool.true_or, if_true]
  rw [scanMantissa16_hexBody b [] rest (fun c r hr => (h c r hr).1)]
  simp only [List.nil_append]
  cases rest with
  | nil => simp [hexNumValue, hexBody_length_even b, decodeHexPairs_hexBody]
  | cons c r => simp [(h c r rfl).2, hexNumValue, hexBody_length_even b, decodeHexPairs_hexBody]

example : readHex (hexEncode [] ++ [44]) = some ([], [44]) := by decide +kernel
example : readHex (hexEncode [0, 255, 16] ++ [41]) = some ([0, 255, 16], [41]) := by decide +kernel

/-- **`ident_roundtrip`** — every table / column name (backticks included) survives quoting. -/
theorem ident_roundtrip (s rest : Bytes) (h : ∀ r, rest ≠ 96 :: r) :
    lexIdent (quoteIdent s ++ rest) = some (s, rest) := by
  have e : quoteIdent s ++ rest = 96 :: (identBody s ++ 96 :: rest) := by simp [quoteIdent]
  rw [e]
  simp only [lexIdent]
  rw [lexIdentBody_identBody s [] rest h]
  simp

example : lexIdent (quoteIdent [97, 96, 96, 98] ++ [32]) = some ([97, 96, 96, 98], [32]) := by decide +kernel

/-- what follows a value inside a tuple -/
def sep (c : UInt8) : Prop := c = 44 ∨ c = 41

theorem sep_facts {c : UInt8} (h : sep c) : isDigit c = false ∧ ¬ digitVal c < 16 ∧ isLetter c = false ∧ c ≠ 120 := by
  rcases h with rfl | rfl <;> decide

theorem follows_sep {c : UInt8} (hc : sep c) (rest : Bytes) : follows (c :: rest) = true ∧ dropBlanks (c :: rest) = c :: rest := by
  rcases hc with rfl | rfl <;> exact ⟨rfl, rfl⟩

theorem parseCell_fmt (cell : Cell) (c : UInt8) (hc : sep c) (rest : Bytes) :
    parseCell (fmtCell cell ++ c :: rest) = some (cell, c :: rest) := by
  obtain ⟨hcd, hcx, hcl, hc120⟩ := sep_facts hc
  cases cell with
  | null => rfl
  | str s =>
    have := lex_quote s (c :: rest) (follows_sep hc rest).1
    rw [(follows_sep hc rest).2] at this
    exact (parseCell_quote _).trans (congrArg _ this)
  | bin b =>
    have := hex_roundtrip b (c :: rest) (by intro c' r' h; cases h; exact ⟨hcx, hcl⟩)
    exact (parseCell_hex _).trans (congrArg _ this)
  | int i =>
    cases i with
    | ofNat n =>
      obtain ⟨hall, hval, b, ds, hds, hz⟩ := natDigits_spec n
      have hscan := scanDigits_append (natDigits n) (c :: rest) 0 hall (by intro c' r' h; cases h; exact hcd)
      simp only [fmtCell, intText]
      rw [hds] at hscan hall ⊢
      rw [List.cons_append, parseCell_digit _ _ (hall _ (by simp)) (fun h48 => by simp [hz h48, hc120]),
        ← List.cons_append, hscan, ← hds, hval]
    | negSucc n =>
      obtain ⟨hall, hval, b, ds, hds, _⟩ := natDigits_spec (n + 1)
      have hscan := scanDigits_append (natDigits (n + 1)) (c :: rest) 0 hall (by intro c' r' h; cases h; exact hcd)
      simp only [fmtCell, intText]
      rw [hds] at hscan hall ⊢
      rw [List.cons_append, List.cons_append, parseCell_minus _ _ (hall _ (by simp)), ← List.cons_append, hscan, ← hds, hval]
      rfl

theorem parseCells_fmt : ∀ (cells : List Cell) (cell : Cell) (rest : Bytes) (fuel : Nat), cells.length < fuel →
    parseCells fuel (joinComma ((cell :: cells).map fmtCell) ++ 41 :: rest) = some (cell :: cells, rest)
  | [], cell, rest, fuel, hf => by
    obtain ⟨f, rfl⟩ : ∃ f, fuel = f + 1 := ⟨fuel - 1, by omega⟩
    simp only [List.map_cons, List.map_nil, joinComma, parseCells, parseCell_fmt cell 41 (Or.inr rfl) rest]
    simp
  | c2 :: cs, cell, rest, fuel, hf => by
    obtain ⟨f, rfl⟩ : ∃ f, fuel = f + 1 := ⟨fuel - 1, by omega⟩
    have ih := parseCells_fmt cs c2 rest f (by simp at hf; omega)
    simp only [List.map_cons, joinComma, List.append_assoc, List.cons_append] at ih ⊢
    simp only [parseCells, parseCell_fmt cell 44 (Or.inl rfl) _]
    simp only [if_true, ih, Option.map_some]

/-- **`row_roundtrip`** — a whole tuple over NULL / integers / strings / binary values written by
`SqlRowAsTupleString` is read back cell by cell, whatever follows the closing parenthesis. -/
theorem row_roundtrip (r : List Cell) (rest : Bytes) : parseRow (fmtRow r ++ rest) = some (r, rest) := by
  cases r with
  | nil => simp [fmtRow, joinComma, parseRow]
  | cons cell cells =>
    obtain ⟨b, bs, hb, hne⟩ := fmtCell_head cell
    have hjoin : ∃ tl, joinComma ((cell :: cells).map fmtCell) = b :: tl := by
      cases cells with
      | nil => exact ⟨bs, by simp [joinComma, hb]⟩
      | cons c2 cs => exact ⟨bs ++ 44 :: joinComma ((c2 :: cs).map fmtCell), by simp [joinComma, hb]⟩
    obtain ⟨tl, htl⟩ := hjoin
    have hp := parseCells_fmt cells cell rest ((joinComma ((cell :: cells).map fmtCell) ++ 41 :: rest).length + 1) (by
      have := len_join cells cell
      simp only [List.length_append, List.length_cons]; omega)
    simp only [fmtRow, List.cons_append, List.append_assoc, parseRow, if_true]
    rw [htl] at hp ⊢
    simp only [List.cons_append, hne, if_false] at hp ⊢
    exact hp

example : parseRow (fmtRow [.int (-42), .str [39, 92, 0], .null, .bin [], .bin [255], .int 0] ++ [59]) =
    some ([.int (-42), .str [39, 92, 0], .null, .bin [], .bin [255], .int 0], [59]) := by decide +kernel
end DoltVerif.C36

namespace DoltVerif.C36
open DoltVerif.SqlEscape.Csv

/-- **`csv_field_roundtrip`** — every value (any string of code points, the empty string, NULL) written as
a CSV field by the export writer and followed by the delimiter is read back by the import reader as
exactly that value; NULL and the empty string stay distinct; leading white space of *any* Unicode kind
survives because the writer quotes precisely when the reader would trim. -/
theorem csv_field_roundtrip (v : Option Runes) (rest : Runes) :
    readField (writeField v ++ comma :: rest) = some (v, some rest) := by
  cases v with
  | none =>
    have hc : isSpace comma = false := by decide
    simp [writeField, readField, trimLeft, hc, parseField, comma, dq]
  | some f =>
    by_cases hq : needsQuotes f = true
    · have hd : isSpace dq = false := by decide
      simp only [writeField, hq, if_true, List.cons_append, List.append_assoc, List.nil_append, readField,
        trimLeft, hd, Bool.false_eq_true, if_false]
      rw [parseQuoted_escBody]; simp
    · have hq' : needsQuotes f = false := by simpa using hq
      have hw : writeField (some f) = f := by simp [writeField, hq']
      rw [hw]
      simp only [needsQuotes, Bool.or_eq_false_iff] at hq'
      obtain ⟨⟨⟨⟨⟨⟨hne, _⟩, hcomma⟩, hdq⟩, _⟩, hlf⟩, hsp⟩ := hq'
      cases f with
      | nil => simp at hne
      | cons r rs =>
        have hrsp : isSpace r = false := by simpa [firstIsSpace] using hsp
        have hrdq : ¬ r = dq := by
          simp only [List.contains_cons, Bool.or_eq_false_iff, beq_eq_false_iff_ne, ne_eq] at hdq
          exact fun e => hdq.1 e.symm
        simp only [readField, List.cons_append, trimLeft, hrsp, hrdq, Bool.false_eq_true, if_false]
        have := parseField_plain (r :: rs) hcomma hlf [] rest
        simp only [List.cons_append, List.nil_append] at this
        rw [this]
        simp

example : readField (writeField (some [0xA0, 97]) ++ [44, 122]) = some (some [0xA0, 97], some [122]) := by decide
example : writeField (some [0x3000]) = [34, 0x3000, 34] ∧ writeField (some []) = [34, 34] ∧ writeField none = [] := by decide
/-- an *unquoted* field starting with U+00A0 loses it: the writer has to quote such a field -/
example : readField ([0xA0, 97] ++ [44, 122]) = some (some [97], some [122]) := by decide

end DoltVerif.C36
