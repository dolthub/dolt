import DoltVerif.Lemmas.SchemaSer
/-! C37 — Schemas serialize faithfully and column tags are deterministic.  Statements are about `Model/SchemaSer.lean`
(transliteration of `serialization.go`'s data path and of `tag.go`), tied to the source by `Tie/SchemaSer.lean` and to
behaviour by the `schemas` harness.  The one theorem that rests on the tie, `schema_fields_covered`, is in
`Props/C37Fields.lean`; this file needs the model only. -/
namespace DoltVerif.C37
open DoltVerif DoltVerif.SchemaSer

structure IxWF (s : Schema) (ix : Index) : Prop where
  tagsExist : ∀ t ∈ ix.tags, t ∈ s.cols.map (·.tag)
  prefixes : ∀ p ∈ ix.prefixLengths, p < 65536
  ftAbsent : ix.fullText = false → ix.ft = FullText.empty
  ftRanges : ix.fullText = true → ix.ft.keyType < 256 ∧ ∀ p ∈ ix.ft.keyPositions, p < 65536
  vec : ix.vecL2 = ix.vector

/-- what the code relies on (each clause is forced by the proof; the excluded points are run
against the real code by the `schemas` harness, see design/C37.md) -/
structure WF (ad : AdaptivePred) (s : Schema) : Prop where
  cols : ∀ c ∈ s.cols, ColWF c
  size : s.cols.length + 2 < 65536
  pkNone : (s.cols.filter (·.isPartOfPK)).length = 0 → s.pkOrdinals = []
  pkSome : (s.cols.filter (·.isPartOfPK)).length ≠ 0 →
    s.pkOrdinals.length = (s.cols.filter (·.isPartOfPK)).length ∧ ∀ o ∈ s.pkOrdinals, o < 65536
  /-- a keyed table whose last two columns look like the hidden keyless pair is read back as keyless -/
  noLookalike : s.isKeyless = false → keylessSerial (mapIdxFrom (serColumn ad) 0 s.cols) = false
  indexes : ∀ ix ∈ s.indexes, IxWF s ix
  rowSize : s.targetRowSize < 65536

theorem deColumns_serialize (ad : AdaptivePred) (k : KeylessConsts) (s : Schema) (h : WF ad s) :
    deColumns (serialize ad k s) = s.cols := by
  unfold deColumns
  simp only [serialize, serColumns]
  by_cases hk : s.isKeyless = true
  case neg =>
    have hk : s.isKeyless = false := by simpa using hk
    simp only [hk, Bool.false_eq_true, if_false, List.append_nil, h.noLookalike hk]
    rw [List.take_of_length_le (Nat.le_refl _)]
    exact map_deColumn_mapIdxFrom ad s.cols 0 h.cols
  case pos =>
    simp only [hk, if_true, keylessSerial_append_hidden]
    have : (mapIdxFrom (serColumn ad) 0 s.cols ++ [hiddenIdCol k.idTag k.hashEnc, hiddenCardCol k.cardTag k.u64Enc]).length - 2
        = (mapIdxFrom (serColumn ad) 0 s.cols).length := by simp
    rw [this, List.take_left']
    · exact map_deColumn_mapIdxFrom ad s.cols 0 h.cols
    · rfl

theorem tagAt_serialize (ad : AdaptivePred) (k : KeylessConsts) (s : Schema) (h : WF ad s) (t : Nat)
    (ht : t ∈ s.cols.map (·.tag)) : tagAt (serialize ad k s) (u16 (tagToIdx s.cols t)) = .ok t := by
  obtain ⟨hlt, hct⟩ := tagToIdx_spec s.cols t ht
  have hsz := h.size
  rw [u16_of_lt (by omega)]
  unfold tagAt
  have : (serialize ad k s).columns[tagToIdx s.cols t]? =
      some (serColumn ad (tagToIdx s.cols t) s.cols[tagToIdx s.cols t]) := by
    simp only [serialize, serColumns]
    rw [List.getElem?_append_left (by rw [length_mapIdxFrom]; exact hlt), getElem?_mapIdxFrom, List.getElem?_eq_getElem hlt]
    simp
  rw [this]
  simp [serColumn, hct]

theorem deIndex_serIndex (ad : AdaptivePred) (k : KeylessConsts) (s : Schema) (h : WF ad s) (ix : Index)
    (hix : IxWF s ix) :
    deIndex (serialize ad k s) ((deColumns (serialize ad k s)).map (·.tag)) (serIndex s ix) = .ok ix := by
  rw [deColumns_serialize ad k s h]
  obtain ⟨name, comment, pred, tags, pls, uq, sp, ft, vec, ud, fti, vl2⟩ := ix
  obtain ⟨hte, hpl, hfa, hfr, hv⟩ := hix
  simp only at hte hpl hfa hfr hv
  subst hv
  have hvec : deVector (if vl2 = true then some (if vl2 = true then distanceL2Squared else 0) else none) = .ok vl2 := by
    cases vl2 <;> simp [deVector]
  have htags : mapE (tagAt (serialize ad k s)) (tags.map (fun t => u16 (tagToIdx s.cols t))) = .ok tags :=
    mapE_map_inv _ _ tags (fun t ht => tagAt_serialize ad k s h t (hte t ht))
  have hall : (tags.all (fun x => (s.cols.map (·.tag)).contains x)) = true := by
    rw [List.all_eq_true]; intro t ht; simpa using hte t ht
  have hpls : pls.map u16 = pls := map_u16_of_lt pls hpl
  have hft : deFulltext (if ft = true then some (serFulltext fti) else none) = fti := by
    cases ft with
    | false => simp [deFulltext, hfa rfl]
    | true =>
      obtain ⟨hk, hkp⟩ := hfr rfl
      simp [deFulltext, serFulltext, Nat.mod_eq_of_lt hk, map_u16_of_lt _ hkp]
  have hnot : ¬ ∃ x, x ∈ tags ∧ ∀ c : Column, c ∈ s.cols → ¬ c.tag = x := by
    rintro ⟨x, hx, hc⟩
    have := hte x hx
    simp only [List.mem_map] at this
    obtain ⟨c, hcm, hct⟩ := this
    exact hc c hcm hct
  have hpred : optStr (if pred = "" then none else some pred) = pred := by
    by_cases hp : pred = "" <;> simp [hp, optStr]
  simp [deIndex, serIndex, hvec, htags, hpls, hft, hpred, if_neg hnot]
  simp [optStr]

theorem dePkOrdinals_serialize (ad : AdaptivePred) (k : KeylessConsts) (s : Schema) (h : WF ad s) :
    dePkOrdinals (serialize ad k s) (s.cols.filter (·.isPartOfPK)).length = .ok s.pkOrdinals := by
  unfold dePkOrdinals
  by_cases h0 : (s.cols.filter (·.isPartOfPK)).length = 0
  · simp [h0, h.pkNone h0]
  · have hnk : s.isKeyless = false := by
      cases hk : s.isKeyless
      · rfl
      · exact absurd (isKeyless_pk hk) h0
    obtain ⟨hlen, hrng⟩ := h.pkSome h0
    have hks : keylessSerial (serialize ad k s).columns = false := by
      simp only [serialize, serColumns, hnk, Bool.false_eq_true, if_false, List.append_nil]
      exact h.noLookalike hnk
    have hkc : (serialize ad k s).clusteredIndex.keyColumns = s.pkOrdinals := by
      simp only [serialize, serClustered, hnk, Bool.false_eq_true, if_false]
      exact map_u16_of_lt _ hrng
    simp [h0, hks, hkc, hlen]

/-- **`roundtrip`** — storing and reloading a well-formed schema preserves every column (name, tag,
type string + encoding, default / generated / on-update expressions, flags, comment, nullability),
the primary-key order, every index (columns, prefix lengths, all properties, fulltext tables,
vector info), every check, the collation, the table comment and the target row size. -/
theorem roundtrip (ad : AdaptivePred) (k : KeylessConsts) (s : Schema) (h : WF ad s) :
    deserialize (serialize ad k s) = .ok s := by
  have hcols := deColumns_serialize ad k s h
  have hidx : mapE (deIndex (serialize ad k s) ((deColumns (serialize ad k s)).map (·.tag)))
      (s.indexes.map (serIndex s)) = .ok s.indexes :=
    mapE_map_inv _ _ s.indexes (fun ix hix => deIndex_serIndex ad k s h ix (h.indexes ix hix))
  have hsrc : (serialize ad k s).secondaryIndexes = s.indexes.map (serIndex s) := rfl
  unfold deserialize
  simp only [hcols, hsrc]
  rw [hcols] at hidx
  rw [dePkOrdinals_serialize ad k s h, hidx]
  have hchk : (s.checks.map serCheck).map deCheck = s.checks := by
    simp [List.map_map, Function.comp_def, deCheck, serCheck]
  have htrs : deTargetRowSize (if s.targetRowSize != defaultTargetRowSize then some (u16 s.targetRowSize) else none)
      = s.targetRowSize := by
    by_cases ht : s.targetRowSize = defaultTargetRowSize
    · simp [ht, deTargetRowSize]
    · simp [ht, u16_of_lt h.rowSize, deTargetRowSize]
  simp only [serialize, hchk, optStr_ite, htrs]

/-- non-vacuity: a keyed table with a default, a generated column, an index with a prefix length and a check -/
def exampleSchema : Schema :=
  { cols := [ ⟨"pk", 7, ⟨"int", 3⟩, true, "", "", "", false, false, "", true, false, false⟩,
              ⟨"a", 9, ⟨"varchar(20)", 20⟩, false, "'x'", "", "", false, false, "c", false, false, false⟩,
              ⟨"g", 11, ⟨"int", 3⟩, false, "", "(pk + 1)", "", true, false, "", false, false, false⟩ ]
    pkOrdinals := [0]
    indexes := [⟨"ia", "", "", [9], [5], true, false, false, false, true, FullText.empty, false⟩]
    checks := [⟨"chk", "(pk > 0)", true, false⟩]
    collation := 255, comment := "t", targetRowSize := 2048 }

example : deserialize (serialize (fun _ => false) ⟨1, 2, 3, 4⟩ exampleSchema) = .ok exampleSchema := by rfl

/-- The `noLookalike` hypothesis is forced: a *keyed* table whose last two columns are hidden,
generated and carry the reserved names is read back as keyless and fails to load
(`ErrInvalidPkOrdinals`).  (Not reachable through SQL: `Hidden` columns with those names cannot be
declared; replayed through the Go API by the `schemas` harness.) -/
def lookalikeSchema : Schema :=
  { cols := [ ⟨"pk", 1, ⟨"int", 3⟩, true, "", "", "", false, false, "", true, false, false⟩,
              ⟨keylessIdCol, 2, ⟨"int", 3⟩, false, "", "(1)", "", false, false, "", false, true, false⟩,
              ⟨keylessCardCol, 3, ⟨"int", 3⟩, false, "", "(1)", "", false, false, "", false, true, false⟩ ]
    pkOrdinals := [0], indexes := [], checks := [], collation := 0, comment := "", targetRowSize := 2048 }

theorem roundtrip_needs_noLookalike :
    deserialize (serialize (fun _ => false) ⟨1, 2, 3, 4⟩ lookalikeSchema) = .error DeErr.pkOrdinals := by decide +kernel

/-- The `ColWF.keyNotNull` hypothesis is forced: an AUTO_INCREMENT (or PK) column *without* a
NOT NULL constraint comes back *with* one. -/
theorem roundtrip_adds_notNull :
    (deColumn (serColumn (fun _ => false) 0
      ⟨"a", 1, ⟨"int", 3⟩, false, "", "", "", false, true, "", false, false, false⟩)).notNull = true := by decide

/-- The `ColWF.notBoth` hypothesis is forced: a column carrying both a default and a generated
expression comes back with the *default* expression as its generated expression and no default
(one flatbuffer field carries both, the `generated` flag decides how it is read). -/
theorem roundtrip_drops_generated_when_both :
    (deColumn (serColumn (fun _ => false) 0
      ⟨"a", 1, ⟨"int", 3⟩, false, "1", "(2)", "", false, false, "", false, false, false⟩)).generated = "1" ∧
    (deColumn (serColumn (fun _ => false) 0
      ⟨"a", 1, ⟨"int", 3⟩, false, "1", "(2)", "", false, false, "", false, false, false⟩)).default = "" := by decide

/-- the fuel of the model is an artefact: more fuel never changes an answer -/
theorem firstFree_mono (ex : List Nat) (st : Nat → Nat) : ∀ (f1 f2 i t : Nat),
    f1 ≤ f2 → firstFree ex st f1 i = some t → firstFree ex st f2 i = some t := by
  intro f1 f2 i t hle h
  obtain ⟨d, rfl⟩ := Nat.exists_eq_add_of_le hle
  rw [firstFree_eq_find] at h ⊢
  rw [← List.range'_append_1, List.map_append, List.find?_append, h]; rfl

/-- The first loop of `AutoGenerateTag`: for every realistic number of existing tags (≤ 2^48)
it ends without panic with a bound that is at least twice the number of existing tags, at least
128², and below `ReservedTagMin`. -/
theorem maxTagVal_spec (size : Nat) (h : size ≤ 2 ^ 48) :
    ∃ m, maxTagVal size = some m ∧ size ≤ m / 2 ∧ 16384 ≤ m ∧ m < reservedTagMin := by
  unfold maxTagVal
  simp only [maxTagLoop, maxTagInit, maxTagFactor, two64, reservedTagMin, Nat.reduceMul, Nat.reduceMod, Nat.reducePow,
    Nat.reduceDiv, Nat.reduceSub, ge_iff_le, Nat.reduceLeDiff, if_false, Nat.reduceLT] at h ⊢
  -- the bound starts at 2^14 and is multiplied by 128 while half of it is below `size`: the thresholds are
  -- 2^13 * 128^j, the bounds 2^14 * 128^j, j = 0 … 5, and 2^13 * 128^5 = 2^48
  by_cases h1 : 8192 < size
  case neg => exact ⟨16384, by simp [h1], by omega, by omega, by omega⟩
  by_cases h2 : 1048576 < size
  case neg => exact ⟨2097152, by simp [h1, h2], by omega, by omega, by omega⟩
  by_cases h3 : 134217728 < size
  case neg => exact ⟨268435456, by simp [h1, h2, h3], by omega, by omega, by omega⟩
  by_cases h4 : 17179869184 < size
  case neg => exact ⟨34359738368, by simp [h1, h2, h3, h4], by omega, by omega, by omega⟩
  by_cases h5 : 2199023255552 < size
  case neg => exact ⟨4398046511104, by simp [h1, h2, h3, h4, h5], by omega, by omega, by omega⟩
  by_cases h6 : 281474976710656 < size
  case neg => exact ⟨562949953421312, by simp [h1, h2, h3, h4, h5, h6], by omega, by omega, by omega⟩
  omega

/-- beyond 2^48 existing tags the bound jumps to 2^56 and the generator may hand out tags inside
the reserved range — the `maxTagVal*128 < maxTagVal` overflow guard in the Go code is dead (a
value below 2^50 times 128 never wraps), so nothing caps the bound at `ReservedTagMin-1`.
Unreachable in practice (2^48 columns); recorded, not replayable. -/
theorem maxTagVal_exceeds_reserved : maxTagVal (2 ^ 48 + 1) = some (2 ^ 56) ∧ reservedTagMin < 2 ^ 56 := by
  decide +kernel

/-- **`tag_fresh`** — a generated tag is not an existing tag and, when `Int63n` stays below its
bound, lies below `ReservedTagMin`. -/
theorem tag_fresh (rand : Rand) (fuel : Nat) (existing : List Nat) (table col : List UInt8) (kinds : List Nat) (kind t : Nat)
    (hsize : existing.length ≤ 2 ^ 48) (hrand : ∀ seed m j, 0 < m → rand seed m j < m)
    (h : autoGenerateTag rand fuel existing table kinds col kind = some t) :
    t ∉ existing ∧ t < reservedTagMin := by
  obtain ⟨m, hm, _, hlo, hhi⟩ := maxTagVal_spec existing.length hsize
  simp only [autoGenerateTag, hm] at h
  obtain ⟨h1, j, _, h2⟩ := firstFree_sound _ _ _ _ _ h
  refine ⟨h1, ?_⟩
  have := hrand (seedBytes table col kinds kind) m j (by omega)
  omega

/-- **`autoGenerateTag_terminates`** — the unbounded collision loop of the Go code ends for every
generator whose `Int63n(max)` stream takes every value below `max` (at most half of them are
taken): some fuel suffices, and by `firstFree_mono` the answer does not depend on it. -/
theorem autoGenerateTag_terminates (rand : Rand) (existing : List Nat) (table col : List UInt8) (kinds : List Nat) (kind : Nat)
    (hsize : existing.length ≤ 2 ^ 48) (hsurj : ∀ seed m v, v < m → ∃ j, rand seed m j = v) :
    ∃ fuel t, autoGenerateTag rand fuel existing table kinds col kind = some t := by
  obtain ⟨m, hm, hhalf, hlo, _⟩ := maxTagVal_spec existing.length hsize
  obtain ⟨v, hv, hfree⟩ := exists_free m existing (by omega)
  obtain ⟨j, hj⟩ := hsurj (seedBytes table col kinds kind) m v hv
  obtain ⟨t, ht⟩ := firstFree_hit existing (rand (seedBytes table col kinds kind) m) j 0 (by simpa [hj] using hfree)
  exact ⟨j + 1, t, by simp only [autoGenerateTag, hm]; exact ht⟩

/-- **`tag_deterministic`** — the tag depends only on the listed arguments, and on the existing
tags only as a *set*: two `TagMapping`s with the same keys (whatever their insertion / iteration
order, whatever table names they map to) yield the same tag.  Together with the purity facts of
`Tie.SchemaSer.tag_purity` (no global, clock, unseeded random source or map iteration in the Go
functions) this is the determinism the property asks for. -/
theorem tag_deterministic (rand : Rand) (fuel : Nat) (e1 e2 : List Nat) (table col : List UInt8) (kinds : List Nat) (kind : Nat)
    (h1 : e1.Nodup) (h2 : e2.Nodup) (h : ∀ x, x ∈ e1 ↔ x ∈ e2) :
    autoGenerateTag rand fuel e1 table kinds col kind = autoGenerateTag rand fuel e2 table kinds col kind := by
  have hlen : e1.length = e2.length := ((List.perm_ext_iff_of_nodup h1 h2).mpr h).length_eq
  simp only [autoGenerateTag, hlen]
  cases maxTagVal e2.length with
  | none => rfl
  | some m => exact firstFree_congr e1 e2 _ h fuel 0

/-- names that differ only in case / punctuation seed the same generator (documented intent of
`simpleString`) -/
example : seedBytes [77, 121, 32, 84, 97, 98, 108, 101] [67, 48] [] 3 = seedBytes [109, 121, 95, 116, 97, 98, 108, 101] [99, 48] [] 3 := by
  decide

/-- **`same_ddl_same_tags`** — two independent histories (two branches, two clones) whose roots hold
the same set of tags and which add the same columns (same table name, same names, kinds and re-use
decisions, in the same order) obtain the same tags, column by column. -/
theorem same_ddl_same_tags (rand : Rand) (fuel : Nat) (table : List UInt8) :
    ∀ (cols : List (List UInt8 × Nat × Option Nat)) (e1 e2 kinds : List Nat),
      e1.Nodup → e2.Nodup → (∀ x, x ∈ e1 ↔ x ∈ e2) →
      generateTags rand fuel table e1 kinds cols = generateTags rand fuel table e2 kinds cols := by
  intro cols e1 e2 kinds
  revert e1
  fun_induction generateTags rand fuel table e2 kinds cols with
  | case1 => intros; rfl
  | case2 e2 kinds col kind rest t ih => intro e1 h1 h2 h; simp only [generateTags, ih e1 h1 h2 h]
  | case3 e2 kinds col kind rest ht =>
    intro e1 h1 h2 h
    simp only [generateTags, tag_deterministic rand fuel e1 e2 table col kinds kind h1 h2 h, ht]
  | case4 e2 kinds col kind rest t ht ih =>
    intro e1 h1 h2 h
    have hf2 : t ∉ e2 := autoGenerateTag_not_mem ht
    simp only [generateTags, tag_deterministic rand fuel e1 e2 table col kinds kind h1 h2 h, ht]
    rw [ih (t :: e1) (List.nodup_cons.mpr ⟨fun hx => hf2 ((h t).mp hx), h1⟩) (List.nodup_cons.mpr ⟨hf2, h2⟩)
      (fun x => by simp only [List.mem_cons]; rw [h x])]

/-- **`tag_indep_of_other_tables`** — two databases that differ in their *other* tables (different
tag sets of the same size class) still give the new column the same tag whenever the first draw
is free in both: the seed does not depend on the existing tags. -/
theorem tag_indep_of_other_tables (rand : Rand) (fuel : Nat) (e1 e2 : List Nat) (table col : List UInt8) (kinds : List Nat)
    (kind m : Nat) (hm1 : maxTagVal e1.length = some m) (hm2 : maxTagVal e2.length = some m)
    (hf1 : rand (seedBytes table col kinds kind) m 0 ∉ e1) (hf2 : rand (seedBytes table col kinds kind) m 0 ∉ e2) :
    autoGenerateTag rand (fuel + 1) e1 table kinds col kind = autoGenerateTag rand (fuel + 1) e2 table kinds col kind := by
  simp [autoGenerateTag, hm1, hm2, firstFree, hf1, hf2]

/-- the tags handed out for one statement are pairwise distinct and new -/
theorem generateTags_fresh (rand : Rand) (fuel : Nat) (table : List UInt8) :
    ∀ (cols : List (List UInt8 × Nat × Option Nat)) (e kinds ts : List Nat),
      (∀ c ∈ cols, c.2.2 = none) → generateTags rand fuel table e kinds cols = some ts →
      ts.Nodup ∧ ∀ t ∈ ts, t ∉ e := by
  intro cols e kinds
  fun_induction generateTags rand fuel table e kinds cols with
  | case1 => intro ts _ h; cases h; simp
  | case2 e kinds col kind rest t ih => intro ts hn; simpa using hn (col, kind, some t) (by simp)
  | case3 e kinds col kind rest ht => intro ts _ h; cases h
  | case4 e kinds col kind rest t ht ih =>
    intro ts hn h
    cases hr : generateTags rand fuel table (t :: e) (kinds ++ [kind]) rest with
    | none => simp [hr] at h
    | some ts' =>
      simp only [hr, Option.map_some, Option.some.injEq] at h
      subst h
      obtain ⟨hnd, hfr⟩ := ih ts' (fun c hc => hn c (by simp [hc])) hr
      refine ⟨List.nodup_cons.mpr ⟨fun hx => (hfr t hx) (by simp), hnd⟩, ?_⟩
      intro x hx
      rcases List.mem_cons.mp hx with rfl | hx
      · exact autoGenerateTag_not_mem ht
      · exact fun hxe => hfr x hx (by simp [hxe])

example : generateTags (fun _ m j => (j * 7 + 3) % m) 5 [116] [3] [] [([97], 3, none), ([98], 3, none)] = some [10, 17] := by
  decide +kernel

end DoltVerif.C37
