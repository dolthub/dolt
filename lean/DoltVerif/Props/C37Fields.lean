import DoltVerif.Tie.SchemaSer
/-!
C37 — the attribute-coverage theorem, the one statement of the property that rests on the flow tables
regenerated from the Go source (`Tie/SchemaSer.lean`).  The theorems about the model alone (round trip, tags)
are in `Props/C37.lean`, which does not import the tie.
-/
namespace DoltVerif.C37
open DoltVerif DoltVerif.SchemaSer

/-- `schema_fields_covered`: every attribute of the model schema (columns, type + encoding,
default, generated, on-update, comment, nullability, PK membership and order, hidden flags,
indexes incl. prefix lengths / unique / spatial / fulltext (+ all its tables) / vector / comment /
predicate, checks, collation, table comment, target row size) is written by `Serialize*` from the
corresponding Go attribute into a flatbuffer field **and** the corresponding attribute is rebuilt
by `Deserialize*` from that same field — per the flow tables regenerated from the current source.
An attribute whose write or read disappears fails here. -/
theorem schema_fields_covered :
    ∀ r ∈ attrTable, rowCovered Gen.SchemaFields.writes Gen.SchemaFields.reads r = true :=
  List.all_eq_true.mp Tie.SchemaSer.rows_covered

example : (⟨"check.isNotValid", "serializeChecks", "checks.IsNotValid", "CheckConstraint", "IsNotValid",
    "deserializeChecks", "AddCheck.3"⟩ : AttrRow) ∈ attrTable :=
  (List.getElem_mem (by decide) : attrTable[46] ∈ attrTable)

end DoltVerif.C37
