import DoltVerif.Lemmas.BranchControlAccess
import DoltVerif.Lemmas.BranchControlFold
import DoltVerif.Lemmas.BranchControlNs
import DoltVerif.Lemmas.BranchControlTrieOps
/-!
C38 — Branch permissions follow the rule table's documented matching.  Statements are about `Model/BranchControl.lean`,
a transliteration tied to the Go source by `Tie/BranchControl.lean` (regenerated constants and code shapes) and by the
`branchcontrol` correspondence harness.  The collation sorters are parameters (`so`, `ai`, `bin`); the only fact used
about them is that sort orders are non-negative.
-/
namespace DoltVerif.C38
open DoltVerif.BranchControl

/-- **`nfa_eq_like`**: on a folded pattern (no `%` directly followed by `%` or `_`) and
non-negative sort orders, stepping `MatchExpression.Matches` over the string and testing `IsAtEnd`
decides exactly the textbook recursive LIKE — for every string, the empty one included. -/
theorem nfa_eq_like (p s : List Int) (hf : folded p = true) (hs : ∀ c ∈ s, 0 ≤ c) :
    accN p s = likeSpec p s := accN_eq_like s p hf hs

example : folded [7, anyMatch, 7, singleMatch] = true ∧ accN [7, anyMatch, 7, singleMatch] [7, 7, 7, 9] = true := by
  decide +kernel

/-- the hypothesis `folded` is needed (this is what `Matches` silently relies on): on the unfolded
`%_` the NFA rejects a string LIKE accepts. -/
theorem nfa_needs_folded : accN [anyMatch, singleMatch] [7] = false ∧ likeSpec [anyMatch, singleMatch] [7] = true := by
  decide +kernel

/-- **the flat `Match` (used by `Namespace.CanCreate`) on a non-empty string**: the returned
collection indexes are exactly those of the expressions that LIKE-match the string. -/
theorem flat_match_like (so : Rune → Int) (exprs : List (Nat × List Int)) (str : List Rune) (i : Nat)
    (hne : str ≠ []) (hso : ∀ r, 0 ≤ so r) (hf : ∀ e ∈ exprs, folded e.2 = true) :
    i ∈ matchFlat so exprs str ↔ ∃ p, (i, p) ∈ exprs ∧ likeSpec p (str.map so) = true := by
  rw [mem_matchFlat_like so exprs str i hso hf, tokensRead_of_ne so str hne]

example : matchFlat (fun r => (r : Int)) [(0, [97, anyMatch]), (1, [98])] [97, 98] = [0] := by decide +kernel

/-- **what `Match` does on the empty string** (`utf8.DecodeRuneInString("")` = `RuneError`, size 0):
it answers as if the string were the single rune U+FFFD. -/
theorem flat_match_empty_quirk (so : Rune → Int) (exprs : List (Nat × List Int)) (i : Nat)
    (hso : ∀ r, 0 ≤ so r) (hf : ∀ e ∈ exprs, folded e.2 = true) :
    i ∈ matchFlat so exprs [] ↔ ∃ p, (i, p) ∈ exprs ∧ likeSpec p [so runeError] = true :=
  mem_matchFlat_like so exprs [] i hso hf

/-- The full-strength statement for the empty string — kept separate because it is **false** of
the code (DESIGN.md §11(h)); refuted below by witness, replayed on the implementation by the
harness on every run under the key `like-empty-input`. -/
def C38_emptyString : Prop :=
  ∀ (so : Rune → Int) (exprs : List (Nat × List Int)) (i : Nat),
    (∀ r, 0 ≤ so r) → (∀ e ∈ exprs, folded e.2 = true) →
    (i ∈ matchFlat so exprs [] ↔ ∃ p, (i, p) ∈ exprs ∧ likeSpec p [] = true)

/-- witness: pattern `_` matches `''`, pattern `''` does not -/
theorem C38_emptyString_refuted : ¬ C38_emptyString := by
  intro h
  have h0 := h (fun r => (r : Int)) [(0, [singleMatch]), (1, [])] 0 (fun r => Int.natCast_nonneg r)
    (by decide)
  have hin : 0 ∈ matchFlat (fun r => (r : Int)) [(0, [singleMatch]), (1, [])] [] := by decide
  obtain ⟨p, hp, hl⟩ := h0.mp hin
  simp at hp
  subst hp
  simp [likeSpec, singleMatch, anyMatch] at hl

/-- **`access_longest_match_spec`** — the decision logic of `Access.Match` stated outright: with
`results` the (permissions, pattern length) pairs the trie reports for the request, the answer is
"some rule matched" together with the closure (Admin ⊃ Write ⊃ Merge ⊃ Read) of the OR of the
permissions of exactly the results of greatest length. -/
theorem access_longest_match_spec (ai bin : Rune → Int) (a : Access) (db br us ho : List Rune) :
    let results := a.root.matchTokens (parse4 ai bin db br us ho)
    a.match ai bin db br us ho = (!results.isEmpty, closePerms (orAt results (maxLen results))) := by
  have hall : ∀ l : List (Data × Nat), l.filter (fun r => decide ((none : Option Nat) ≠ some r.1.row)) = l :=
    fun l => List.filter_eq_self.mpr (by simp)
  simpa only [hall, Access.match] using matchIgnoring_spec ai bin a db br us ho none

example : orAt [(⟨2, 0⟩, 8), (⟨1, 1⟩, 11), (⟨4, 2⟩, 11)] (maxLen [(⟨2, 0⟩, 8), (⟨1, 1⟩, 11), (⟨4, 2⟩, 11)]) = 5 := by
  decide +kernel

/-- the closure is what the comment says: Admin gives everything, Write gives Merge and Read, Merge
gives Read (on the four permission bits) -/
theorem closePerms_table : ∀ p : Fin 16,
    closePerms p.val =
      if p.val &&& 1 = 1 then p.val ||| 14 else if p.val &&& 2 = 2 then p.val ||| 12
      else if p.val &&& 4 = 4 then p.val ||| 8 else p.val := by decide

/-- **`fold_terminates`** (a real termination proof): every pass of the `for true { … }` loop that
changes the string strictly lowers the potential "Σ over unescaped `%` of 1 + number of unescaped
`_` to its right", so the loop reaches `str == newStr` after at most `potential + 1` passes — the
fuel the model runs it with — and with any larger fuel the answer is the same. -/
theorem fold_terminates (s : List Rune) :
    foldPass (fold s) = fold s ∧
    (foldPass s ≠ s → potential false (foldPass s) < potential false s) ∧
    (∀ n, potential false s < n → foldLoop n s = fold s) :=
  ⟨fold_fix s, foldPass_lt s, fun n h => foldLoop_fuel n _ s h (Nat.lt_succ_self _)⟩

example : fold [pct, und, und, pct, pct, 97] = [und, und, pct, 97] ∧ foldPass [pct, und, und] ≠ [pct, und, und] := by
  decide +kernel

theorem fold_idempotent (s : List Rune) : fold (fold s) = fold s := fold_of_fix _ (fold_fix s)

/-- **`fold_preserves`**: folding never changes which strings an expression matches (under any
sorter) -/
theorem fold_preserves (so : Rune → Int) (s : List Rune) (x : List Int) :
    likeSpec (parse so (fold s)) x = likeSpec (parse so s) x :=
  foldLoop_like so _ s x

/-- **`folded_has_no_any_pairs`**: the parsed result of `FoldExpression` contains no `[any, any]`
and no `[any, single]` — exactly the shape `Matches` and `processMatch` silently rely on. -/
theorem folded_has_no_any_pairs (so : Rune → Int) (hso : ∀ r, 0 ≤ so r) (s : List Rune) :
    folded (parse so (fold s)) = true :=
  foldedFacts so hso .normal (fold s) (noPair_of_fix _ (fold_fix s))

/-- lower-casing the folded string (what `Access.Insert` does) keeps it folded, for a `ToLower` that
leaves the three special characters alone and maps nothing else onto them: the lower-cased string parses as
`fold s` does under the sorter `so ∘ lower` -/
theorem folded_after_lower (so : Rune → Int) (hso : ∀ r, 0 ≤ so r) (lower : Rune → Rune)
    (hl : ∀ r, (lower r = bs ↔ r = bs) ∧ (lower r = pct ↔ r = pct) ∧ (lower r = und ↔ r = und))
    (s : List Rune) : folded (parse so ((fold s).map lower)) = true :=
  (congrArg folded (parseGo_map so lower hl (fold s) false)).trans
    (folded_has_no_any_pairs (fun r => so (lower r)) (fun _ => hso _) s)

/-- **the stored namespace expressions are matched by LIKE**: a row inserted as the raw expression `e`
is stored folded, so `flat_match_like` applies without a hypothesis: it matches a non-empty string
exactly when the stored expression `parse so (fold e)` LIKE-matches it (which by `fold_preserves` is
when `parse so e` does). -/
theorem flat_match_raw (so : Rune → Int) (hso : ∀ r, 0 ≤ so r) (raws : List (List Rune)) (str : List Rune)
    (hne : str ≠ []) (i : Nat) :
    i ∈ matchFlat so (indexed (raws.map (fun e => parse so (fold e)))) str ↔
      ∃ p, (i, p) ∈ indexed (raws.map (fun e => parse so (fold e))) ∧ likeSpec p (str.map so) = true := by
  apply flat_match_like so _ str i hne hso
  rintro ⟨j, p⟩ he
  have hj := (mem_indexed _ j p).mp he
  rw [List.getElem?_map] at hj
  obtain ⟨raw, _, rfl⟩ := Option.map_eq_some_iff.mp hj
  exact folded_has_no_any_pairs so hso raw

inductive TrieOp where
  | add (key : List Int) (d : Data)
  | remove (key : List Int)

def TrieOp.key : TrieOp → List Int
  | .add k _ => k
  | .remove k => k

def applyOp (t : Node) : TrieOp → Node
  | .add k d => t.add k d
  | .remove k => (t.remove k).1

/-- on the rule table `Add` overwrites (the key's old entry goes, the new one is appended) and `Remove`
deletes -/
def applyRule (rs : List (List Int × Data)) : TrieOp → List (List Int × Data)
  | .add k d => (rs.filter (fun kd => kd.1 != k)) ++ [(k, d)]
  | .remove k => rs.filter (fun kd => kd.1 != k)

def runOps (ops : List TrieOp) : Node := ops.foldl applyOp (.mk [columnMarker] [] none)

/-- the rule table the operations leave behind: later additions overwrite, removals delete -/
def finalRules (ops : List TrieOp) : List (List Int × Data) := ops.foldl applyRule []

theorem run_inv_aux : ∀ (ops : List TrieOp) (t : Node) (rs : List (List Int × Data)),
    (∀ op ∈ ops, op.key.head? = some columnMarker) →
    wfN t = true → t.so.head? = some columnMarker → (∀ K x, (K, x) ∈ rulesN t ↔ (K, x) ∈ rs) →
    wfN (ops.foldl applyOp t) = true ∧
    (∀ K x, (K, x) ∈ rulesN (ops.foldl applyOp t) ↔ (K, x) ∈ ops.foldl applyRule rs) := by
  intro ops
  induction ops with
  | nil => intro t rs _ hw _ hr; exact ⟨hw, hr⟩
  | cons op ops ih =>
    intro t rs hk hw hh hr
    have hk' : ∀ op ∈ ops, op.key.head? = some columnMarker := fun o ho => hk o (by simp [ho])
    have hko := hk op (by simp)
    simp only [List.foldl_cons]
    cases op with
    | add k d =>
      simp only [TrieOp.key] at hko
      have hne : k ≠ [] := by intro e; rw [e] at hko; simp at hko
      obtain ⟨h1, h2, h3⟩ := add_spec t k d hw hne (by rw [hh, hko])
      apply ih _ _ hk' h1 (by rw [h2]; exact hh)
      intro K x
      rw [h3 K x]
      simp only [applyRule, List.mem_append, List.mem_filter, List.mem_singleton, Prod.mk.injEq, bne_iff_ne, ne_eq, hr]
      constructor
      · rintro (⟨rfl, rfl⟩ | ⟨hne, hm⟩)
        · exact Or.inr ⟨rfl, rfl⟩
        · exact Or.inl ⟨hm, hne⟩
      · rintro (⟨hm, hne⟩ | ⟨rfl, rfl⟩)
        · exact Or.inr ⟨hne, hm⟩
        · exact Or.inl ⟨rfl, rfl⟩
    | remove k =>
      obtain ⟨h1, h2, h3⟩ := remove_spec t k hw hh
      apply ih _ _ hk' h1 h2
      intro K x
      rw [h3 K x]
      simp only [applyRule, List.mem_filter, bne_iff_ne, ne_eq, hr]
      exact ⟨fun h => ⟨h.2, h.1⟩, fun h => ⟨h.2, h.1⟩⟩

/-- **`Add`/`Remove` implement the rule table**: after any history (keys as `parseExpression`
produces them: starting with a column marker) the trie is well formed and stores exactly the final
rule table. -/
theorem trie_stores_final_rules (ops : List TrieOp) (hk : ∀ op ∈ ops, op.key.head? = some columnMarker) :
    wfN (runOps ops) = true ∧ ∀ K x, (K, x) ∈ rulesN (runOps ops) ↔ (K, x) ∈ finalRules ops :=
  run_inv_aux ops _ [] hk (by simp [wfN, wfL]) rfl (by intro K x; simp [rulesN, rulesL])

/-- after any history the trie reports the rules of the final table whose key accepts the request,
each with the length of its key (side condition: no bare `[%]` child) -/
theorem trie_match_dacc (ops : List TrieOp) (hk : ∀ op ∈ ops, op.key.head? = some columnMarker)
    (hna : noAnyLeafN (runOps ops) = true) (tokens : List Int) (r : Data × Nat) :
    r ∈ (runOps ops).matchTokens tokens ↔
      ∃ kd ∈ finalRules ops, dacc kd.1 tokens = true ∧ r = (kd.2, kd.1.length) := by
  obtain ⟨hw, hr⟩ := trie_stores_final_rules ops hk
  rw [match_iff _ hw hna]
  exact ⟨fun ⟨kd, h, h'⟩ => ⟨kd, (hr _ _).mp h, h'⟩, fun ⟨kd, h, h'⟩ => ⟨kd, (hr _ _).mpr h, h'⟩⟩

/-- the direct, per-rule match: the same token-level matcher run on the rule alone -/
def directMatch (kd : List Int × Data) (tokens : List Int) : List (Data × Nat) :=
  Node.matchTokens (.mk kd.1 [] (some kd.2)) tokens

/-- **`trie_eq_direct_partial`** (the full statement is `trie_eq_direct_full`): after any `Add`/`Remove` history whose
trie has no bare `[%]` child, the trie reports exactly the (data, length) pairs of the per-rule
direct match over the final rule table (as sets). -/
theorem trie_eq_direct_partial (ops : List TrieOp) (hk : ∀ op ∈ ops, op.key.head? = some columnMarker)
    (hna : noAnyLeafN (runOps ops) = true) (tokens : List Int) (r : Data × Nat) :
    r ∈ (runOps ops).matchTokens tokens ↔ ∃ kd ∈ finalRules ops, r ∈ directMatch kd tokens := by
  obtain ⟨hw, hr⟩ := trie_stores_final_rules ops hk
  have hne : ∀ kd ∈ finalRules ops, kd.1 ≠ [] := fun kd h => rules_nonempty _ hw _ _ ((hr kd.1 kd.2).mpr h)
  rw [trie_match_dacc ops hk hna]
  exact ⟨fun ⟨kd, h, h'⟩ => ⟨kd, h, (direct_iff _ _ (hne kd h) _ _).mpr h'⟩,
    fun ⟨kd, h, h'⟩ => ⟨kd, h, (direct_iff _ _ (hne kd h) _ _).mp h'⟩⟩

/-- **`trie_order_independent_partial`** (same side condition): two histories that leave the same
rule table give the same answers to every request. -/
theorem trie_order_independent_partial (ops₁ ops₂ : List TrieOp)
    (hk₁ : ∀ op ∈ ops₁, op.key.head? = some columnMarker) (hk₂ : ∀ op ∈ ops₂, op.key.head? = some columnMarker)
    (hsame : ∀ kd, kd ∈ finalRules ops₁ ↔ kd ∈ finalRules ops₂)
    (hna₁ : noAnyLeafN (runOps ops₁) = true) (hna₂ : noAnyLeafN (runOps ops₂) = true)
    (tokens : List Int) (r : Data × Nat) :
    r ∈ (runOps ops₁).matchTokens tokens ↔ r ∈ (runOps ops₂).matchTokens tokens := by
  rw [trie_eq_direct_partial ops₁ hk₁ hna₁, trie_eq_direct_partial ops₂ hk₂ hna₂]
  constructor
  · rintro ⟨kd, hkd, h⟩; exact ⟨kd, (hsame kd).mp hkd, h⟩
  · rintro ⟨kd, hkd, h⟩; exact ⟨kd, (hsame kd).mpr hkd, h⟩

/-- the full-strength statement, without the side condition — **false** of the code -/
def trie_eq_direct_full : Prop :=
  ∀ (ops : List TrieOp) (tokens : List Int) (r : Data × Nat),
    (∀ op ∈ ops, op.key.head? = some columnMarker) →
    (r ∈ (runOps ops).matchTokens tokens ↔ ∃ kd ∈ finalRules ops, r ∈ directMatch kd tokens)

/-- witness (known finding `trailing-any-at-node-end`): rules `|h` and `|h%`, request `|h` — the
direct match of `|h%` succeeds (the `%` matches the empty rest) but the trie, whose `%` sits in a
child of the exhausted node, does not report it. -/
theorem trie_eq_direct_full_refuted : ¬ trie_eq_direct_full := by
  intro h
  have := (h [.add [columnMarker, 5] ⟨2, 0⟩, .add [columnMarker, 5, anyMatch] ⟨1, 1⟩] [columnMarker, 5] (⟨1, 1⟩, 3)
    (by decide)).mpr ⟨([columnMarker, 5, anyMatch], ⟨1, 1⟩), by decide, by decide⟩
  revert this
  decide

/-- the hypotheses are satisfiable: a history with a split, an overwrite and a removal with merge,
whose trie has no bare `[%]` child -/
example :
    let ops := [TrieOp.add [-3, 5, -3, -2, -3, 7, -3, -2] ⟨2, 0⟩, .add [-3, 5, -3, 6, -2, -3, 7, -3, -2] ⟨1, 1⟩,
                .add [-3, 5, -3, 6, -3, 7, -3, -2] ⟨4, 2⟩, .remove [-3, 5, -3, 6, -3, 7, -3, -2],
                .add [-3, 5, -3, -2, -3, 7, -3, -2] ⟨8, 3⟩]
    noAnyLeafN (runOps ops) = true ∧
    (runOps ops).matchTokens [-3, 5, -3, 6, 6, -3, 7, -3, 9] = [(⟨8, 3⟩, 8), (⟨1, 1⟩, 9)] := by
  decide +kernel

/-- `CanCreate` on any request strings, the empty one included: the decision logic in terms of the textbook LIKE
on what `Match` reads of each string (`tokensRead`: its sort orders, the empty string read as U+FFFD) -/
theorem canCreate_iff (ai bin : Rune → Int) (hai : ∀ r, 0 ≤ ai r) (hbin : ∀ r, 0 ≤ bin r)
    (ns : Namespace)
    (hf : ∀ v ∈ ns, folded (parse ai v.db) = true ∧ folded (parse ai v.br) = true ∧
      folded (parse bin v.us) = true ∧ folded (parse ai v.ho) = true)
    (db br us ho : List Rune) :
    let dbM := fun v : NsRow => likeSpec (parse ai v.db) (tokensRead ai db) = true
    let brM := fun v : NsRow => likeSpec (parse ai v.br) (tokensRead ai br) = true
    let usM := fun v : NsRow => likeSpec (parse bin v.us) (tokensRead bin us) = true
    let hoM := fun v : NsRow => likeSpec (parse ai v.ho) (tokensRead ai ho) = true
    Namespace.canCreate ai bin ns db br us ho = true ↔
      ((∀ v ∈ ns, ¬ dbM v) ∨ (∀ v ∈ ns, ¬ (dbM v ∧ brM v)) ∨
        ∃ v ∈ ns, dbM v ∧ brM v ∧ usM v ∧ hoM v ∧
          ∀ w ∈ ns, dbM w → brM w → byteLen w.br ≤ byteLen v.br) := by
  intro dbM brM usM hoM
  have c1 := stage0_mem ai hai ns (·.db) (fun v hv => (hf v hv).1) db
  have c2 := stage_rows ai hai ns (·.br) (fun v hv => (hf v hv).2.1) _ dbM c1 br
  have c3 := longest_rows ns _ _ c2
  have c4 := stage_rows bin hbin ns (·.us) (fun v hv => (hf v hv).2.2.1) _ _ c3 us
  have c5 := stage_rows ai hai ns (·.ho) (fun v hv => (hf v hv).2.2.2) _ _ c4 ho
  have ite3 : ∀ a b c : Bool, ((if a = true then true else if b = true then true else c) = true) ↔
      (a = true ∨ b = true ∨ c = true) := by
    intro a b c; cases a <;> cases b <;> simp
  simp only [Namespace.canCreate]
  rw [ite3, (rows_empty _ ns _ c1).1, (rows_empty _ ns _ c2).1, (rows_empty _ ns _ c5).2]
  refine or_congr Iff.rfl (or_congr Iff.rfl ⟨?_, ?_⟩)
  · rintro ⟨v, hv, ⟨⟨⟨h1, h2⟩, hm⟩, h4⟩, h5⟩
    exact ⟨v, hv, h1, h2, h4, h5, fun w hw a b => hm w hw ⟨a, b⟩⟩
  · rintro ⟨v, hv, h1, h2, h4, h5, hm⟩
    exact ⟨v, hv, ⟨⟨⟨h1, h2⟩, fun w hw ab => hm w hw ab.1 ab.2⟩, h4⟩, h5⟩

/-- **`namespace_canCreate_spec`** — the decision logic stated outright, in terms of the textbook
LIKE on the stored (folded) rows, for non-empty request strings: a branch may be created iff no row
matches the database, or no such row matches the branch, or some row matching both, whose branch
expression is (byte-)longest among those, also matches user and host. -/
theorem namespace_canCreate_spec (ai bin : Rune → Int) (hai : ∀ r, 0 ≤ ai r) (hbin : ∀ r, 0 ≤ bin r)
    (ns : Namespace)
    (hf : ∀ v ∈ ns, folded (parse ai v.db) = true ∧ folded (parse ai v.br) = true ∧
      folded (parse bin v.us) = true ∧ folded (parse ai v.ho) = true)
    (db br us ho : List Rune) (hdb : db ≠ []) (hbr : br ≠ []) (hus : us ≠ []) (hho : ho ≠ []) :
    let dbM := fun v : NsRow => likeSpec (parse ai v.db) (db.map ai) = true
    let brM := fun v : NsRow => likeSpec (parse ai v.br) (br.map ai) = true
    let usM := fun v : NsRow => likeSpec (parse bin v.us) (us.map bin) = true
    let hoM := fun v : NsRow => likeSpec (parse ai v.ho) (ho.map ai) = true
    Namespace.canCreate ai bin ns db br us ho = true ↔
      ((∀ v ∈ ns, ¬ dbM v) ∨ (∀ v ∈ ns, ¬ (dbM v ∧ brM v)) ∨
        ∃ v ∈ ns, dbM v ∧ brM v ∧ usM v ∧ hoM v ∧
          ∀ w ∈ ns, dbM w → brM w → byteLen w.br ≤ byteLen v.br) := by
  have := canCreate_iff ai bin hai hbin ns hf db br us ho
  rwa [tokensRead_of_ne ai db hdb, tokensRead_of_ne ai br hbr, tokensRead_of_ne bin us hus,
    tokensRead_of_ne ai ho hho] at this

/-- the hypotheses are satisfiable by a real table: a restrictive row and a request it decides -/
example : Namespace.canCreate (fun r => (r : Int)) (fun r => (r : Int))
      [⟨[97], [97, pct], [98], [pct]⟩, ⟨[97], [pct], [97], [pct]⟩] [97] [97, 97] [97] [104] = false ∧
    Namespace.canCreate (fun r => (r : Int)) (fun r => (r : Int))
      [⟨[97], [97, pct], [98], [pct]⟩, ⟨[97], [pct], [97], [pct]⟩] [97] [97, 97] [98] [104] = true := by decide +kernel

/-- the concatenation `MatchNode.parseExpression` builds from four columns -/
def key4 (p1 p2 p3 p4 : List Int) : List Int :=
  columnMarker :: p1 ++ columnMarker :: p2 ++ columnMarker :: p3 ++ columnMarker :: p4

/-- a rule key as `Access.Insert` produces it: four folded column patterns (sort orders ≥ 0, `_`, `%`) -/
def IsRuleKey (k : List Int) : Prop :=
  ∃ p1 p2 p3 p4, k = key4 p1 p2 p3 p4 ∧
    (folded p1 = true ∧ folded p2 = true ∧ folded p3 = true ∧ folded p4 = true) ∧
    (plainPat p1 ∧ plainPat p2 ∧ plainPat p3 ∧ plainPat p4)

theorem parse4_eq_key4 (ai bin : Rune → Int) (db br us ho : List Rune) :
    parse4 ai bin db br us ho = key4 (parse ai db) (parse ai br) (parse bin us) (parse ai ho) := by
  simp [parse4, key4]

theorem finalRules_keys (P : List Int → Prop) : ∀ (ops : List TrieOp) (rs : List (List Int × Data)),
    (∀ kd ∈ rs, P kd.1) → (∀ op ∈ ops, P op.key) → ∀ kd ∈ ops.foldl applyRule rs, P kd.1 := by
  intro ops
  induction ops with
  | nil => intro rs h _; simpa using h
  | cons op ops ih =>
    intro rs hrs hops
    simp only [List.foldl_cons]
    apply ih
    · intro kd hkd
      cases op with
      | add k d =>
        simp only [applyRule, List.mem_append, List.mem_filter, List.mem_singleton] at hkd
        rcases hkd with ⟨h, _⟩ | rfl
        · exact hrs kd h
        · exact hops (.add k d) (by simp)
      | remove k =>
        simp only [applyRule, List.mem_filter] at hkd
        exact hrs kd hkd.1
    · exact fun o ho => hops o (by simp [ho])

/-- **`trie_match_like`**: for every `Add`/`Remove` history of rule keys (side condition: the trie has
no bare `[%]` child) and every plain request (four columns of non-negative sort orders), the trie
reports exactly: for each rule of the final table all of whose four columns LIKE-match, its data with
the length of its key.  `access_longest_match_spec` says what `Access.Match` makes of such reports; the two
are not composed: no statement mentions `Access.insert` / `Access.delete`, so that the root of an `Access`
is `runOps` of its history, with rule keys, is not proved. -/
theorem trie_match_like (ops : List TrieOp) (hk : ∀ op ∈ ops, IsRuleKey op.key)
    (hna : noAnyLeafN (runOps ops) = true) (s1 s2 s3 s4 : List Int)
    (hs : (∀ c ∈ s1, 0 ≤ c) ∧ (∀ c ∈ s2, 0 ≤ c) ∧ (∀ c ∈ s3, 0 ≤ c) ∧ (∀ c ∈ s4, 0 ≤ c)) (r : Data × Nat) :
    r ∈ (runOps ops).matchTokens (key4 s1 s2 s3 s4) ↔
      ∃ kd ∈ finalRules ops, ∃ p1 p2 p3 p4, kd.1 = key4 p1 p2 p3 p4 ∧
        (plainPat p1 ∧ plainPat p2 ∧ plainPat p3 ∧ plainPat p4) ∧
        (folded p1 = true ∧ folded p2 = true ∧ folded p3 = true ∧ folded p4 = true) ∧
        likeSpec p1 s1 = true ∧ likeSpec p2 s2 = true ∧ likeSpec p3 s3 = true ∧ likeSpec p4 s4 = true ∧
        r = (kd.2, kd.1.length) := by
  have hk' : ∀ op ∈ ops, op.key.head? = some columnMarker := by
    intro op hop
    obtain ⟨p1, p2, p3, p4, he, _⟩ := hk op hop
    rw [he]; rfl
  have hkeys := finalRules_keys IsRuleKey ops [] (by simp) hk
  rw [trie_match_dacc ops hk' hna]
  constructor
  · rintro ⟨kd, hkd', hacc, hr⟩
    obtain ⟨p1, p2, p3, p4, he, hf, hp⟩ := hkeys kd hkd'
    rw [he] at hacc
    simp only [key4] at hacc
    rw [dacc_parse4 p1 p2 p3 p4 s1 s2 s3 s4 hf ⟨hp.1, hp.2.1, hp.2.2.1⟩ hs] at hacc
    simp only [Bool.and_eq_true] at hacc
    exact ⟨kd, hkd', p1, p2, p3, p4, he, hp, hf, hacc.1.1.1, hacc.1.1.2, hacc.1.2, hacc.2, hr⟩
  · rintro ⟨kd, hkd, p1, p2, p3, p4, he, hp, hf, h1, h2, h3, h4, hr⟩
    refine ⟨kd, hkd, ?_, hr⟩
    rw [he]
    simp only [key4]
    rw [dacc_parse4 p1 p2 p3 p4 s1 s2 s3 s4 hf ⟨hp.1, hp.2.1, hp.2.2.1⟩ hs]
    simp [h1, h2, h3, h4]

/-- non-vacuity: a rule key as `parse4` builds it -/
example : IsRuleKey (key4 [5] [anyMatch] [7, singleMatch] [anyMatch]) :=
  ⟨[5], [anyMatch], [7, singleMatch], [anyMatch], rfl, by decide, by unfold plainPat; decide⟩

end DoltVerif.C38
