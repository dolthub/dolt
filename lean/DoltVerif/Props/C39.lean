import DoltVerif.Lemmas.SealerPath
import DoltVerif.Lemmas.SealerSeal
/-!
C39 — The remote server's sealed URLs cannot be forged or escape its root: the sealer over an
abstract AEAD, `net/url` pair and base64 codec (`Params`), and the file handler's path logic
(`filepath.Clean` shape, the dot-dot tests, confinement of GET/POST paths).
-/
namespace DoltVerif.C39
open DoltVerif.Sealer hiding Bytes
open DoltVerif.PathClean

/-- What is assumed of the AEAD under key `k`, relative to the list `issued` of all
(nonce, aad, plaintext) triples ever sealed with `k` (the ideal functionality of an authenticated
encryption scheme): `Open` succeeds exactly on ciphertexts `Seal` produced for the same nonce and
AAD, and distinct issued triples have distinct ciphertexts. -/
structure IdealAEAD (A : Aead) (k : Bytes) (issued : List (Bytes × Bytes × Bytes)) : Prop where
  open_iff : ∀ n aad c m, A.openA k n aad c = some m ↔ ((n, aad, m) ∈ issued ∧ c = A.sealA k n aad m)
  seal_inj : ∀ e ∈ issued, ∀ e' ∈ issued,
    A.sealA k e.1 e.2.1 e.2.2 = A.sealA k e'.1 e'.2.1 e'.2.2 → e = e'

/-- 96-bit random nonces: no nonce is used for two issued URLs -/
def NoncesDistinct (issued : List (Bytes × Bytes × Bytes)) : Prop :=
  ∀ e ∈ issued, ∀ e' ∈ issued, e.1 = e'.1 → e = e'

/-- **Unseal never reaches `cipher.AEAD.Open` with a nonce of the wrong length** (where Go's
`Open` panics): replacing the AEAD by any other that agrees with it on 12-byte nonces does not
change the result, whatever the URL.  With the result type having no panic outcome, `Unseal` is
total: every input is accepted or rejected with one of the 15 error classes. -/
theorem unseal_open_guarded (P : Params) (A' : Aead)
    (hagree : ∀ k n aad c, n.length = nonceLen → A'.openA k n aad c = P.aead.openA k n aad c)
    (k : Bytes) (now : Int) (u : Url) :
    unsealUrl { P with aead := A' } k now u = unsealUrl P k now u := by
  -- `Open` is only reached below the length test on the decoded nonce
  rcases hn : P.b64.dec (qGet u.query (str "nonce")) with _ | nonce
  · simp only [unsealUrl, hn]
  · by_cases hl : nonce.length = nonceLen
    · have : A'.openA k nonce = P.aead.openA k nonce :=
        funext fun aad => funext fun c => hagree k nonce aad c hl
      simp only [unsealUrl, hn, this]
    · simp only [unsealUrl, hn, bne_iff_ne.mpr hl, if_true]

/-- **Round trip.**  A sealed URL presented inside its window unseals to the request that
`url.Parse` reads back from the sealed plaintext.  `hurl`/`hstable` are the `net/url` law the
scheme relies on (it fails in Go for paths whose escaped form differs from the path: finding D1).
`now ≤ now2` are Seal's two clock reads. -/
theorem unseal_seal (P : Params) (k nonce ep rq : Bytes) (now now2 now' : Int) (r : Parsed)
    (hb : ∀ x, P.b64.dec (P.b64.enc x) = some x)
    (ha : ∀ n aad m, P.aead.openA k n aad (P.aead.sealA k n aad m) = some m)
    (hn : nonce.length = nonceLen)
    (hrange : -(2^63 : Int) ≤ now - nbfBackMs ∧ now2 + expAheadMs < 2^63) (hmono : now ≤ now2)
    (hwin : now - nbfBackMs ≤ now' ∧ now' ≤ now2 + expAheadMs)
    (hurl : P.url.parse (P.url.render ep rq) = some r) (hstable : r.escPath = ep) :
    unsealUrl P k now' (sealUrl P k now now2 nonce ep rq) = .ok (r.path, r.rawQuery) := by
  obtain ⟨q1, q2, q3, q4⟩ := sealUrl_has P k nonce ep rq now now2
  obtain ⟨g1, g2, g3, g4⟩ := sealUrl_get P k nonce ep rq now now2
  obtain ⟨w1, w2⟩ := sealUrl_window P k nonce ep rq hrange hmono
  exact unsealUrl_ok_iff.mpr ⟨{
    hasNbf := q1, hasExp := q2, hasNonce := q3, hasReq := q4
    nbf := _, exp := _, nonce := _, ct := _, msg := _, parsed := r
    hnbf := w1, hexp := w2, hnonce := g3 ▸ hb nonce, hwin := hwin, hlen := hn, hct := g4 ▸ hb _
    hopen := by rw [g1, g2]; exact ha _ _ _
    hparse := hurl, hpath := hstable ▸ rfl, hres := rfl }⟩

/-- **Window.**  Whatever `Unseal` accepts carries an `nbf`/`exp` pair (as `ParseInt` reads them)
with `nbf ≤ now ≤ exp`. -/
theorem window_enforced (P : Params) (k : Bytes) (now : Int) (u : Url) (res : Bytes × Bytes)
    (h : unsealUrl P k now u = .ok res) :
    ∃ nbf exp, parseInt64 (qGet u.query (str "nbf")) = some nbf ∧
      parseInt64 (qGet u.query (str "exp")) = some exp ∧ nbf ≤ now ∧ now ≤ exp := by
  obtain ⟨a⟩ := unsealUrl_ok_iff.mp h
  exact ⟨a.nbf, a.exp, a.hnbf, a.hexp, a.hwin⟩

/-- A sealed URL used outside `[now - 10 s, now + 15 min]` is rejected (no hypothesis on the
AEAD at all: the window test precedes `Open`). -/
theorem outside_window_rejected (P : Params) (k nonce ep rq : Bytes) (now now2 now' : Int)
    (hrange : -(2^63 : Int) ≤ now - nbfBackMs ∧ now2 + expAheadMs < 2^63) (hmono : now ≤ now2)
    (hout : now' < now - nbfBackMs ∨ now' > now2 + expAheadMs) (res : Bytes × Bytes) :
    unsealUrl P k now' (sealUrl P k now now2 nonce ep rq) ≠ .ok res := by
  intro h
  obtain ⟨nbf, exp, h1, h2, h3, h4⟩ := window_enforced P k now' _ res h
  obtain ⟨w1, w2⟩ := sealUrl_window P k nonce ep rq hrange hmono
  cases w1.symm.trans h1; cases w2.symm.trans h2
  omega

/-- Unforgeability in full: under the ideal AEAD an accepted URL carries an issued triple — its
decoded nonce, its window strings as AAD, a logged plaintext — and its decoded payload is that
triple's ciphertext. -/
theorem accepted_issued {P : Params} {k : Bytes} {issued : List (Bytes × Bytes × Bytes)}
    (hI : IdealAEAD P.aead k issued) {now : Int} {u : Url} {res : Bytes × Bytes}
    (h : unsealUrl P k now u = .ok res) :
    ∃ n m r, (n, aadOf (qGet u.query (str "nbf")) (qGet u.query (str "exp")), m) ∈ issued ∧
      P.b64.dec (qGet u.query (str "nonce")) = some n ∧
      P.b64.dec (qGet u.query (str "req")) =
        some (P.aead.sealA k n (aadOf (qGet u.query (str "nbf")) (qGet u.query (str "exp"))) m) ∧
      P.url.parse m = some r ∧ u.path = sealedPrefix ++ r.escPath ∧ res = (r.path, r.rawQuery) := by
  obtain ⟨a⟩ := unsealUrl_ok_iff.mp h
  obtain ⟨hmem, hct⟩ := (hI.open_iff _ _ _ _).mp a.hopen
  exact ⟨a.nonce, a.msg, a.parsed, hmem, a.hnonce, hct ▸ a.hct, a.hparse, a.hpath, a.hres⟩

/-- **Unforgeability.**  Under the ideal AEAD, every URL `Unseal` accepts was issued: its
(nonce, window, plaintext) is in the log of sealed requests, its outer path is the sealed prefix
followed by the escaped path of that plaintext, and the result is that plaintext's request.  The
window is authenticated as the two *strings* (the AAD); that `now` lies inside it is
`window_enforced`, not part of this statement. -/
theorem unseal_only_issued (P : Params) (k : Bytes) (issued : List (Bytes × Bytes × Bytes))
    (hI : IdealAEAD P.aead k issued) (now : Int) (u : Url) (res : Bytes × Bytes)
    (h : unsealUrl P k now u = .ok res) :
    ∃ n m r, (n, aadOf (qGet u.query (str "nbf")) (qGet u.query (str "exp")), m) ∈ issued ∧
      P.b64.dec (qGet u.query (str "nonce")) = some n ∧
      P.url.parse m = some r ∧ u.path = sealedPrefix ++ r.escPath ∧ res = (r.path, r.rawQuery) := by
  obtain ⟨n, m, r, hmem, hn, -, rest⟩ := accepted_issued hI h
  exact ⟨n, m, r, hmem, hn, rest⟩

section tamper
/- In this section `u'` is a URL that `Unseal` accepts under the ideal AEAD (`hI`, `hok`) and
`(n, aadOf nbfS expS, m)` is an issued triple (`hmem`), `ep` its escaped path.  Each lemma says that a
field of `u'` is the issued one; read backwards: a URL in which that field was changed is rejected. -/
variable {P : Params} {k : Bytes} {issued : List (Bytes × Bytes × Bytes)}
  (hI : IdealAEAD P.aead k issued)
  {n nbfS expS m ep : Bytes} (hmem : (n, aadOf nbfS expS, m) ∈ issued)
  {now : Int} {u' : Url} {res : Bytes × Bytes} (hok : unsealUrl P k now u' = .ok res)
include hI hmem hok

/-- The sealed payload determines the rest: an accepted URL whose decoded `req` is the ciphertext
of an issued triple carries that triple's nonce and AAD and the outer path of its plaintext. -/
theorem payload_binds
    (hreq : P.b64.dec (qGet u'.query (str "req")) = some (P.aead.sealA k n (aadOf nbfS expS) m)) :
    P.b64.dec (qGet u'.query (str "nonce")) = some n ∧
      aadOf (qGet u'.query (str "nbf")) (qGet u'.query (str "exp")) = aadOf nbfS expS ∧
      ∃ r, P.url.parse m = some r ∧ u'.path = sealedPrefix ++ r.escPath := by
  obtain ⟨n', m', r, hmem', hn, hct, hparse, hpath, -⟩ := accepted_issued hI hok
  have heq := hI.seal_inj _ hmem' _ hmem (Option.some.inj (hct.symm.trans hreq))
  simp only [Prod.mk.injEq] at heq
  obtain ⟨rfl, haad, rfl⟩ := heq
  exact ⟨hn, haad, r, hparse, hpath⟩

/-- payload as issued ⇒ the outer **path** is the issued one -/
theorem tamper_path (hstable : ∀ r, P.url.parse m = some r → r.escPath = ep)
    (hreq : P.b64.dec (qGet u'.query (str "req")) = some (P.aead.sealA k n (aadOf nbfS expS) m)) :
    u'.path = sealedPrefix ++ ep := by
  obtain ⟨-, -, r, hparse, hpath⟩ := payload_binds hI hmem hok hreq
  rw [hpath, hstable r hparse]

/-- payload as issued ⇒ the **nbf** and **exp** strings are the issued ones: the AAD layout
`nbf ":" exp` splits in one way only, as `ParseInt` accepts no colon -/
theorem tamper_window (hcolon : (0x3a : UInt8) ∉ nbfS)
    (hreq : P.b64.dec (qGet u'.query (str "req")) = some (P.aead.sealA k n (aadOf nbfS expS) m)) :
    qGet u'.query (str "nbf") = nbfS ∧ qGet u'.query (str "exp") = expS := by
  obtain ⟨nbf, -, hnbf, -⟩ := window_enforced _ _ _ _ _ hok
  exact aadOf_inj _ _ _ _ (parseInt64_no_colon _ _ hnbf) hcolon
    (payload_binds hI hmem hok hreq).2.1

theorem tamper_nbf (hcolon : (0x3a : UInt8) ∉ nbfS)
    (hreq : P.b64.dec (qGet u'.query (str "req")) = some (P.aead.sealA k n (aadOf nbfS expS) m)) :
    qGet u'.query (str "nbf") = nbfS :=
  (tamper_window hI hmem hok hcolon hreq).1

theorem tamper_exp (hcolon : (0x3a : UInt8) ∉ nbfS)
    (hreq : P.b64.dec (qGet u'.query (str "req")) = some (P.aead.sealA k n (aadOf nbfS expS) m)) :
    qGet u'.query (str "exp") = expS :=
  (tamper_window hI hmem hok hcolon hreq).2

/-- payload as issued ⇒ the decoded **nonce** is the issued one -/
theorem tamper_nonce
    (hreq : P.b64.dec (qGet u'.query (str "req")) = some (P.aead.sealA k n (aadOf nbfS expS) m)) :
    P.b64.dec (qGet u'.query (str "nonce")) = some n :=
  (payload_binds hI hmem hok hreq).1

/-- nonce as issued ⇒ the decoded **payload** is the issued one.  This is the one place that
needs nonces to be unique among issued URLs. -/
theorem tamper_req (hD : NoncesDistinct issued)
    (hnonce : P.b64.dec (qGet u'.query (str "nonce")) = some n) :
    P.b64.dec (qGet u'.query (str "req")) = some (P.aead.sealA k n (aadOf nbfS expS) m) := by
  obtain ⟨n', m', r, hmem', hn, hct, -⟩ := accepted_issued hI hok
  have heq := hD _ hmem' _ hmem (Option.some.inj (hn.symm.trans hnonce))
  simp only [Prod.mk.injEq] at heq
  obtain ⟨rfl, haad, rfl⟩ := heq
  rw [hct, haad]

end tamper

/-- **Tamper resistance**, summary: if an accepted URL agrees with an issued one in at least four
of the five authenticated values (outer path, `nbf` string, `exp` string, decoded nonce, decoded
payload), it agrees in all five — i.e. every single-field mutation is rejected. -/
theorem tamper_rejected (P : Params) (k : Bytes) (issued : List (Bytes × Bytes × Bytes))
    (hI : IdealAEAD P.aead k issued) (hD : NoncesDistinct issued)
    (n nbfS expS m ep : Bytes) (hmem : (n, aadOf nbfS expS, m) ∈ issued)
    (hstable : ∀ r, P.url.parse m = some r → r.escPath = ep) (hcolon : (0x3a : UInt8) ∉ nbfS)
    (now : Int) (u' : Url) (res : Bytes × Bytes) (hok : unsealUrl P k now u' = .ok res)
    (A B C D E : Prop)
    (hA : A ↔ u'.path = sealedPrefix ++ ep) (hB : B ↔ qGet u'.query (str "nbf") = nbfS)
    (hC : C ↔ qGet u'.query (str "exp") = expS)
    (hDn : D ↔ P.b64.dec (qGet u'.query (str "nonce")) = some n)
    (hE : E ↔ P.b64.dec (qGet u'.query (str "req")) = some (P.aead.sealA k n (aadOf nbfS expS) m))
    (hfour : (B ∧ C ∧ D ∧ E) ∨ (A ∧ C ∧ D ∧ E) ∨ (A ∧ B ∧ D ∧ E) ∨ (A ∧ B ∧ C ∧ E) ∨ (A ∧ B ∧ C ∧ D)) :
    A ∧ B ∧ C ∧ D ∧ E := by
  -- four of the five include the nonce or the payload; the nonce gives the payload, the payload the rest
  have hreq : P.b64.dec (qGet u'.query (str "req")) = some (P.aead.sealA k n (aadOf nbfS expS) m) := by
    rcases hfour with ⟨_, _, _, e⟩ | ⟨_, _, _, e⟩ | ⟨_, _, _, e⟩ | ⟨_, _, _, e⟩ | ⟨_, _, _, d⟩
    iterate 4 exact hE.mp e
    exact tamper_req hI hmem hok hD (hDn.mp d)
  exact ⟨hA.mpr (tamper_path hI hmem hok hstable hreq),
    hB.mpr (tamper_nbf hI hmem hok hcolon hreq),
    hC.mpr (tamper_exp hI hmem hok hcolon hreq),
    hDn.mpr (tamper_nonce hI hmem hok hreq), hE.mpr hreq⟩

-- non-vacuity of the AEAD hypothesis: a (degenerate) instance with a one-entry log
def exA : Aead := ⟨fun _ _ _ _ => [42], fun _ n aad c => if n = [1] ∧ aad = [2] ∧ c = [42] then some [3] else none⟩
example : IdealAEAD exA [] [([1], [2], [3])] ∧ NoncesDistinct [(([1] : Bytes), ([2] : Bytes), ([3] : Bytes))] := by
  refine ⟨⟨?_, ?_⟩, ?_⟩
  · intro n aad c m
    simp only [exA, List.mem_singleton, Prod.mk.injEq]
    constructor
    · intro h; split at h
      · rename_i hc; cases h; exact ⟨⟨hc.1, hc.2.1, rfl⟩, hc.2.2⟩
      · cases h
    · rintro ⟨⟨rfl, rfl, rfl⟩, rfl⟩; simp
  · intro e he e' he' _; simp at he he'; rw [he, he']
  · intro e he e' he' _; simp at he he'; rw [he, he']

/-- **Shape of `Clean` on a relative path**: either "." or k copies of ".." followed by normal
components (all ".." first). -/
theorem clean_rel_shape (p : Bytes) (hrel : p.head? ≠ some slash) :
    clean p = [dot] ∨ ∃ k comps, (∀ c ∈ comps, Normal c) ∧ List.replicate k dotdot ++ comps ≠ [] ∧
      clean p = joinSlash (List.replicate k dotdot ++ comps) := by
  cases p with
  | nil => left; rfl
  | cons c t =>
    have hc : (c == slash) = false := by simpa using hrel
    obtain ⟨dd', k, comps, hn, hout, _⟩ := loop_rel (c :: t) [] 0 ⟨0, [], by simp, by simp [joinSlash], by simp [joinSlash]⟩
    unfold clean
    simp only [hc, Bool.false_eq_true, if_false]
    by_cases he : (loop false (c :: t) [] 0).isEmpty = true
    · left; simp [he]
    · right
      simp only [he, Bool.false_eq_true, if_false]
      refine ⟨k, comps, hn, ?_, hout⟩
      intro h0; rw [h0] at hout; simp [joinSlash] at hout; simp [hout] at he

def dotdotSlash : Bytes := [dot, dot, slash]

/-- **No `..` survives the handler's tests.**  If the cleaned relative path does not start with
"../" and is not exactly ".." then it is "." or a sequence of normal components: no component is
"..".  (The handler's `/../` and `/..` tests are implied; the exact-".." case is the one its
string tests miss and its "must contain a slash" test catches.) -/
theorem clean_no_dotdot (p : Bytes) (hrel : p.head? ≠ some slash)
    (h1 : dotdotSlash.isPrefixOf (clean p) = false) (h2 : clean p ≠ dotdot) :
    clean p = [dot] ∨ ∃ comps, comps ≠ [] ∧ (∀ c ∈ comps, Normal c) ∧ clean p = joinSlash comps ∧
      splitSlash (clean p) = comps := by
  rcases clean_rel_shape p hrel with h | ⟨k, comps, hn, hne, hc⟩
  · left; exact h
  · right
    cases k with
    | zero =>
      simp only [List.replicate_zero, List.nil_append] at hne hc
      exact ⟨comps, hne, hn, hc, by rw [hc]; exact splitSlash_joinSlash comps hne (fun c hc => (hn c hc).2.1)⟩
    | succ k =>
      exfalso
      rw [List.replicate_succ, List.cons_append] at hc
      cases hrest : List.replicate k dotdot ++ comps with
      | nil => rw [hrest] at hc; exact h2 (by simpa [joinSlash] using hc)
      | cons b l =>
        rw [hrest, joinSlash_cons_cons] at hc
        rw [hc] at h1
        simp [dotdotSlash, dotdot, List.isPrefixOf] at h1

/-- lexical path resolution below a directory (the kernel's walk without symlinks): "" and "."
stay, ".." goes up (and stays at the top), a name goes down -/
def resolve : List Bytes → List Bytes → List Bytes
  | dir, [] => dir
  | dir, c :: cs =>
    if c = [] ∨ c = [dot] then resolve dir cs
    else if c = dotdot then resolve dir.dropLast cs
    else resolve (dir ++ [c]) cs

theorem resolve_normal (dir comps : List Bytes) (h : ∀ c ∈ comps, Normal c) :
    resolve dir comps = dir ++ comps := by
  induction comps generalizing dir with
  | nil => simp [resolve]
  | cons c cs ih =>
    have hc := h c (by simp)
    have h1 : ¬ (c = [] ∨ c = [dot]) := fun h => h.elim hc.1 hc.2.2.1
    simp only [resolve, h1, if_false, hc.2.2.2]
    rw [ih _ (fun x hx => h x (by simp [hx]))]; simp

/-- a table-file name: 32 base32 characters, optionally followed by ".darc" -/
def HashLike (f : Bytes) : Prop :=
  isHashName f = true ∨ (archiveSuffix.isSuffixOf f = true ∧ isHashName (f.take (f.length - archiveSuffix.length)) = true)

theorem getPath_serve {urlPath rel : Bytes} (h : getPath urlPath = .serve rel) :
    rel = clean (trimLeftSlash urlPath) ∧
      (hasPrefix rel (str "../") || contains rel (str "/../") || hasSuffix rel (str "/..")) = false ∧
      ∃ d f, splitLastSlash rel = some (d, f) ∧ HashLike f := by
  revert h
  fun_cases getPath urlPath
  next => nofun -- ".." left after cleaning
  next => nofun -- no '/'
  next path htests d f hsplit fileName hhash => -- served
    intro h
    obtain rfl := GetRes.serve.inj h
    refine ⟨rfl, by simpa using htests, d, f, hsplit, ?_⟩
    unfold HashLike
    unfold fileName at hhash
    split at hhash
    · exact .inr ⟨‹_›, hhash⟩
    · exact .inl hhash
  next => nofun -- the file name is no hash

/-- **GET confinement.**  Whatever path `ServeHTTP` opens for a GET is a sequence of ≥ 2 normal
components (no "", ".", ".."), so its lexical resolution below any root is the root followed by
those components — the root is a prefix — and its last component is a hash-like file name. -/
theorem confined_get (urlPath rel : Bytes) (h : getPath urlPath = .serve rel) (root : List Bytes) :
    ∃ comps f, (∀ c ∈ comps, Normal c) ∧ rel = joinSlash comps ∧ 2 ≤ comps.length ∧
      resolve root (splitSlash rel) = root ++ comps ∧ comps.getLast? = some f ∧ HashLike f := by
  obtain ⟨rfl, htests, d, f, hsplit, hf⟩ := getPath_serve h
  have h1 : dotdotSlash.isPrefixOf (clean (trimLeftSlash urlPath)) = false := by
    have hpre : str "../" = dotdotSlash := by decide
    simp only [hasPrefix, hpre, Bool.or_eq_false_iff] at htests
    exact htests.1.1
  have h2 : clean (trimLeftSlash urlPath) ≠ dotdot := by
    intro he; rw [he] at hsplit
    simp [dotdot, splitLastSlash, dot, slash] at hsplit
  rcases clean_no_dotdot _ (trimLeftSlash_rel urlPath) h1 h2 with hd | ⟨comps, hne, hn, hc, hs⟩
  · rw [hd] at hsplit; simp [splitLastSlash, dot, slash] at hsplit
  · -- `f` is the last of the components, and it is not the only one: a single name has no '/'
    obtain ⟨l, f', rfl⟩ := (List.eq_nil_or_concat comps).resolve_left hne
    rw [List.concat_eq_append] at hn hc hs
    have hf' : NoSlash f' := (hn f' (by simp)).2.1
    rw [hc] at hsplit
    cases l with
    | nil => rw [List.nil_append, joinSlash, splitLastSlash_noSlash f' hf'] at hsplit; cases hsplit
    | cons a t =>
      rw [splitLastSlash_joinSlash_concat _ _ (by simp) hf'] at hsplit
      cases hsplit
      exact ⟨_, f, hn, hc, by simp, by rw [hs]; exact resolve_normal root _ hn, List.getLast?_concat, hf⟩

/-- **POST/PUT confinement of the file name.**  The name handed to `writeTableFile` is a 32
character base32 name, optionally with the ".darc" suffix.  (No such name contains a '/' — see
`isHashChar_ne_slash` — so the file is created directly inside the store directory the `DBCache`
returns; that step is not part of the statement.)  The database path `dbPath` is
passed to the `DBCache` *as received* (not cleaned, may contain ".."): confinement of the directory
is the `DBCache`'s obligation, see `post_dbpath_unconstrained`. -/
theorem confined_post (urlPath dbPath file : Bytes) (h : postPath urlPath = .write dbPath file) :
    validateFileName file = true ∧ isHashName (file.take 32) = true ∧
      (file.length = 32 ∨ (file.length = 37 ∧ archiveSuffix.isSuffixOf file = true)) := by
  obtain ⟨-, hv⟩ := postPath_write_iff.mp h
  exact ⟨hv, validateFileName_spec hv⟩

/-- the POST branch does not constrain the database path: a traversal reaches the `DBCache` -/
theorem post_dbpath_unconstrained :
    postPath (str "/../../x/0123456789abcdefghijklmnopqrstuv") =
      .write (str "../../x") (str "0123456789abcdefghijklmnopqrstuv") := by
  rw [str_ofList, str_ofList, str_ofList]
  decide +kernel

example : getPath (str "/db//./sub/../0123456789abcdefghijklmnopqrstuv.darc") =
    .serve (str "db/0123456789abcdefghijklmnopqrstuv.darc") := by
  rw [str_ofList, str_ofList]
  decide +kernel
example : getPath (str "/db/../../0123456789abcdefghijklmnopqrstuv") = .dotdot := by
  rw [str_ofList]
  decide +kernel
example : getPath (str "/..") = .noSlash := by
  rw [str_ofList]
  decide +kernel
example : clean (str "a/../../b/./c//d/..") = str "../b/c" := by
  rw [str_ofList, str_ofList]
  decide +kernel

end DoltVerif.C39
