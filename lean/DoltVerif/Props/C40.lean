import DoltVerif.Lemmas.BinlogCells
import DoltVerif.Lemmas.BinlogRows
/-! C40 — Binlog events encode values the way MySQL replicas decode them.  `encode`/`encodeRow`/`colMeta` of
`Model/Binlog.lean` transliterate dolt's serializers (tied by `Tie/Binlog.lean`); `decodeCell`/`decodeRow` are written
from the MySQL row-format description.  Proved: decode ∘ encode = id with framing for every column type, the NULL bitmap,
whole row images.  Refuted by witness: negative fractional TIME with seconds = 59, DECIMAL(p,p).  JSON bodies: harness only. -/
namespace DoltVerif.C40
open DoltVerif.Binlog

instance {ε α : Type} [DecidableEq ε] [DecidableEq α] : DecidableEq (Except ε α)
  | .ok a, .ok b => if h : a = b then isTrue (by rw [h]) else isFalse (fun e => h (by cases e; rfl))
  | .error a, .error b => if h : a = b then isTrue (by rw [h]) else isFalse (fun e => h (by cases e; rfl))
  | .ok _, .error _ => isFalse (fun e => by cases e)
  | .error _, .ok _ => isFalse (fun e => by cases e)

/-- column types whose round trip is proved in this file: all of them, DECIMAL with at least one
integer digit -/
def Proved : ColType → Prop
  | .decimal p s => s < p     -- DECIMAL(p,p) is the refuted point (`decimal_p_eq_s_witness`)
  | _ => True

/-- a stored value of the column's domain (YEAR 0000 included: /repo e60c6b5) that is not the
TIME seconds-carry defect point (negative, fractional, seconds = 59) -/
@[reducible] def Good (t : ColType) (c : Cell) : Prop :=
  inDomain t c = true ∧
  ∀ us : Int, t = .time → c = .time us → ¬ (us < 0 ∧ us.natAbs % 1000000 > 0 ∧ us.natAbs / 1000000 % 60 = 59)

/-- **decode ∘ encode = id, with framing**: for every proved column type and every `Good` value of its
domain, a replica that reads the TableMap's (type byte, metadata) and then the cell bytes followed
by anything gets the stored value back and stops exactly at the end of the cell. -/
theorem decode_encode_partial (t : ColType) (c : Cell) (hp : Proved t) (hg : Good t c)
    (b r : Bytes) (he : encode t c = .ok b) :
    decodeCell (signedOf t) (colMeta t).1 (colMeta t).2 (b ++ r) = some (c, r) := by
  obtain ⟨hd, hgt⟩ := hg
  unfold encode at he
  simp only [hd, Bool.not_true, Bool.false_eq_true, if_false] at he
  -- one case per arm of `encode`'s `match`, in its order; the last arm is the failed type assertion
  split at he
  · cases he; exact decode_int _ _ _ r hd
  · cases he; exact decode_float32 _ r hd
  · cases he; exact decode_float64 _ r hd
  · cases he; exact decode_year _ r hd
  · cases he; exact decode_date _ _ _ r hd
  · cases he; exact decode_time _ r hd (hgt _ rfl rfl)
  · cases he; exact decode_datetime _ _ _ _ _ _ _ _ r hd
  · cases he; exact decode_timestamp _ _ _ r hd
  · exact decode_decimal _ _ _ _ b r hd hp he
  · cases he; exact decode_bit _ _ r hd
  · cases he; exact decode_enum _ _ r hd
  · cases he; exact decode_set _ _ r hd
  · cases he; exact decode_varchar _ _ r hd
  · cases he; exact decode_char _ _ r hd
  · cases he; exact decode_blob tBlob (.inl rfl) _ _ r (of_decide_eq_true hd).1 (of_decide_eq_true hd).2
  · cases he; exact decode_len4 tJSON (.inl rfl) _ r (of_decide_eq_true hd)
  · cases he; exact decode_len4 tGeometry (.inr rfl) _ r (of_decide_eq_true hd)
  · cases he

/-- non-vacuity: a negative MEDIUMINT, a DATETIME(3) and a 300-byte-max VARCHAR are `Good`. -/
example : Good (.int .w3 true) (.int (-8388608)) ∧ Proved (.int .w3 true) :=
  ⟨⟨by decide, fun _ h => by cases h⟩, trivial⟩
example : Good (.datetime 3) (.datetime 9999 12 31 23 59 59 999000) := ⟨by decide, fun _ h => by cases h⟩
example : Good (.varchar 300) (.bytes [1, 2, 3]) := ⟨by decide, fun _ h => by cases h⟩
example : Good .year (.int 0) ∧ encode .year (.int 0) = .ok [0] := ⟨⟨by decide, fun _ h => by cases h⟩, by decide⟩
/-- DECIMAL(65,30), all nines, negative: in the proved domain -/
example : Good (.decimal 65 30) (.decimal true (10 ^ 65 - 1)) ∧ Proved (.decimal 65 30) :=
  ⟨⟨by decide, fun _ h => by cases h⟩, show 30 < 65 by decide⟩
/-- a negative fractional TIME with seconds = 58 is `Good` (only seconds = 59 is excluded) -/
example : Good .time (.time (-58500000)) :=
  ⟨by decide, fun us _ h => by cases h; decide⟩

/-- the property as stated, for every column type and every stored value -/
def decode_encode_full : Prop :=
  ∀ (t : ColType) (c : Cell) (b r : Bytes), inDomain t c = true → encode t c = .ok b →
    decodeCell (signedOf t) (colMeta t).1 (colMeta t).2 (b ++ r) = some (c, r)

/-- every stored value is serializable at all -/
def serializable_full : Prop :=
  ∀ (t : ColType) (c : Cell), inDomain t c = true → ∃ b, encode t c = .ok b

/-- every value of a proved column type is serializable (no serializer error): `serializable_full` for the
`Proved` types -/
theorem serializable_proved (t : ColType) (c : Cell) (hp : Proved t) (hd : inDomain t c = true) :
    ∃ b, encode t c = .ok b := by
  have hd' := hd
  unfold inDomain at hd'
  unfold encode
  simp only [hd, Bool.not_true, Bool.false_eq_true, if_false]
  -- the arms of `inDomain`'s `match` are those of `encode`'s; every serializer but DECIMAL's returns a value
  split at hd'
  iterate 8 exact ⟨_, rfl⟩
  · exact ⟨_, encDecimal_eq _ _ _ _ hp (of_decide_eq_true hd').2.2.2.2⟩
  iterate 8 exact ⟨_, rfl⟩
  · cases hd'

/-- DECIMAL(p,s) with at least one integer digit never hits a serializer error -/
theorem serializable_partial (p s : Nat) (neg : Bool) (u : Nat) (hs : s < p)
    (hd : inDomain (.decimal p s) (.decimal neg u) = true) :
    ∃ b, encode (.decimal p s) (.decimal neg u) = .ok b :=
  serializable_proved _ _ hs hd

/-- WITNESS 1 (TIME '-00:00:59.5'): the seconds carry makes a replica read '-00:00:63.5'. -/
theorem time_seconds_carry_witness :
    inDomain .time (.time (-59500000)) = true ∧
    encode .time (.time (-59500000)) = .ok [0x7f, 0xff, 0xc0, 0xf8, 0x5e, 0xe0] ∧
    decodeCell false tTime2 6 [0x7f, 0xff, 0xc0, 0xf8, 0x5e, 0xe0] = some (.time (-63500000), []) := by
  decide +kernel

/-- WITNESS 2 (DECIMAL(2,2) value 0.12): the serializer fails, no event can be emitted. -/
theorem decimal_p_eq_s_witness :
    inDomain (.decimal 2 2) (.decimal false 12) = true ∧
    encode (.decimal 2 2) (.decimal false 12) = .error .remaining := by
  decide +kernel

theorem decode_encode_full_refuted : ¬ decode_encode_full := by
  intro h
  have := h .time (.time (-59500000)) [0x7f, 0xff, 0xc0, 0xf8, 0x5e, 0xe0] []
    time_seconds_carry_witness.1 time_seconds_carry_witness.2.1
  rw [show ([0x7f, 0xff, 0xc0, 0xf8, 0x5e, 0xe0] : Bytes) ++ [] = [0x7f, 0xff, 0xc0, 0xf8, 0x5e, 0xe0] from rfl,
    show signedOf .time = false from rfl, show (colMeta .time).1 = tTime2 from rfl,
    show (colMeta .time).2 = 6 from rfl, time_seconds_carry_witness.2.2] at this
  revert this
  decide

/-- **JSON object key lengths** (the point repaired by /repo 22b8e06): every key entry — offset in
the small or large format and a key length up to 65535 bytes — is read back by a replica. -/
theorem json_key_entry_roundtrip (large : Bool) (off len : Nat) (r : Bytes)
    (hoff : off < (if large then 2 ^ 32 else 2 ^ 16)) (hlen : len < 65536) :
    readKeyEntry large (jsonKeyEntry off len large ++ r) = some ((off, len), r) := by
  have e : [byteOf len, byteOf (len >>> 8)] = leBytes 2 len := by
    simp [leBytes, Nat.shiftRight_eq_div_pow]
  cases large
  · have h16 : off < 2 ^ 16 := hoff
    simp only [readKeyEntry, jsonKeyEntry, appendForEncoding, Bool.false_eq_true, if_false, e, List.append_assoc,
      readLE_leBytes]
    rw [Nat.mod_eq_of_lt (a := off) (by omega), Nat.mod_eq_of_lt (a := off) (by omega),
      Nat.mod_eq_of_lt (a := len) (by omega)]
  · have h32 : off < 2 ^ 32 := hoff
    simp only [readKeyEntry, jsonKeyEntry, appendForEncoding, if_true, e, List.append_assoc, readLE_leBytes]
    rw [Nat.mod_eq_of_lt h32, Nat.mod_eq_of_lt (a := off) (by omega), Nat.mod_eq_of_lt (a := len) (by omega)]

example : jsonKeyEntry 11 300 false = [11, 0, 0x2c, 0x01] := by decide

theorem serializable_full_refuted : ¬ serializable_full := by
  intro h
  obtain ⟨b, hb⟩ := h (.decimal 2 2) (.decimal false 12) decimal_p_eq_s_witness.1
  rw [decimal_p_eq_s_witness.2] at hb
  cases hb

/-- **NULL bitmap**: for any number of columns, the bitmap bytes (`mysql.NewServerBitmap` layout)
have length ⌈n/8⌉ and give back exactly the NULL flags. -/
theorem null_bitmap_roundtrip (fl : List Bool) :
    unpackBits fl.length (packBits fl) = some fl ∧ (packBits fl).length = (fl.length + 7) / 8 :=
  ⟨unpackBits_packBits fl, packBits_length fl⟩

example : packBits [true, false, false, false, false, false, false, false, true] = [1, 1] := by decide +kernel

/-- **row images are uniquely parseable**: if every non-NULL cell of a row is of a proved type and
`Good`, then a replica that knows only the TableMap (per column: type byte, metadata, signedness)
and the NULL bitmap parses the concatenated row image — followed by anything, e.g. the next row of
the same event — into exactly the stored cells and NULLs, and stops at the end of the row. -/
theorem row_roundtrip_partial (cols : List (ColType × Option Cell))
    (hgood : ∀ t c, (t, some c) ∈ cols → Proved t ∧ Good t c)
    (d : Bytes) (fl : List Bool) (r : Bytes) (he : encodeRow cols = .ok (d, fl)) :
    (∃ fl', unpackBits cols.length (packBits fl) = some fl' ∧
      decodeRow (cols.map (fun tc => colDesc tc.1)) fl' (d ++ r) = some (cols.map (·.2), r)) := by
  have h := decodeRow_encodeRow cols
    (fun t c hm b r hb => decode_encode_partial t c (hgood t c hm).1 (hgood t c hm).2 b r hb) d fl r he
  refine ⟨fl, ?_, h.1⟩
  rw [← h.2]
  exact unpackBits_packBits fl

example : encodeRow [(.int .w1 true, some (.int (-1))), (.varchar 1020, none), (.date, some (.date 2024 2 29))]
    = .ok ([0xff, 0x5d, 0xd0, 0x0f], [false, true, false]) := by decide +kernel

/-- decimal storage length: dolt's byte count (`numFullDigitUint32s*4 + digitsToBytes[..] + …`) equals
the replica's (`intg0*4 + dig2bytes[intg0x] + frac0*4 + dig2bytes[frac0x]`) for every precision and
scale MySQL allows. -/
theorem decimal_length_agrees : ∀ p : Fin 66, ∀ s : Fin 31, s.val ≤ p.val →
    decimalLen p.val s.val =
      ((p.val - s.val) / 9) * 4 + digitsToBytes ((p.val - s.val) - ((p.val - s.val) / 9) * 9) +
      (s.val / 9) * 4 + digitsToBytes (s.val - (s.val / 9) * 9) := by
  intro p s _
  have h9 : ∀ n, n % 9 ≤ 9 := fun n => Nat.le_of_lt (Nat.mod_lt n (by decide))
  rw [decimalLen_eq, leftover_eq, leftover_eq, digitsToBytes_eq _ (h9 _), digitsToBytes_eq _ (h9 _)]

end DoltVerif.C40
