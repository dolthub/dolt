import DoltVerif.Model.JournalLock
import DoltVerif.Props.C04
/-!
C41 — Only one process can write a database directory.  Protocol model `Model/JournalLock.lean`;
the OS lock is a parameter obeying the flock law `FlockLaw` (never grants a held lock).  File-level
read-only behaviour of bootstrap is `C04.readonly_no_writes` (re-exported below for torn journals and
stale/corrupt indexes).
-/
namespace DoltVerif.C41
open DoltVerif.Lock

/-- the assumed law of the advisory lock: a request is granted only when nobody holds the lock -/
def FlockLaw (grant : Option Nat → Nat → Bool) : Prop := ∀ h p, grant h p = true → h = none

theorem flock_obeys_law : FlockLaw flock := by
  intro h p hg; cases h <;> simp_all [flock]

/-- the invariant: every exclusive session belongs to the lock holder; every write so far (`writes`
holds pairs of writer and lock holder at that moment) was made by the process then holding the lock; a
process has at most one session -/
structure Inv (s : Sys) : Prop where
  excl : ∀ p, (p, Mode.exclusive) ∈ s.sessions → s.holder = some p
  nodup : (s.sessions.map (·.1)).Nodup
  writes : ∀ w ∈ s.writes, w.2 = some w.1

theorem modeOf_some {s : Sys} {p : Nat} {m : Mode} (h : modeOf s p = some m) : (p, m) ∈ s.sessions := by
  obtain ⟨⟨a, b⟩, hf, rfl⟩ := Option.map_eq_some_iff.mp h
  have hp : a = p := by simpa using List.find?_some hf
  exact hp ▸ List.mem_of_find?_eq_some hf

theorem modeOf_none {s : Sys} {p : Nat} (h : modeOf s p = none) : ∀ m, (p, m) ∉ s.sessions := by
  intro m hm
  have := List.find?_eq_none.mp (Option.map_eq_none_iff.mp h) (p, m) hm
  simp at this

theorem step_inv (grant : Option Nat → Nat → Bool) (hlaw : FlockLaw grant) (s : Sys) (a : Act) (h : Inv s) :
    Inv (step grant s a).1 := by
  -- a new session of `p` keeps the processes distinct; removing sessions does too
  have hcons {p : Nat} (hm : modeOf s p = none) (m : Mode) : (((p, m) :: s.sessions).map (·.1)).Nodup :=
    List.nodup_cons.mpr ⟨fun hp => by
      obtain ⟨⟨a, b⟩, hx, rfl⟩ := List.mem_map.mp hp
      exact modeOf_none hm b hx, h.nodup⟩
  have hfilt (p : Nat) : ((s.sessions.filter (·.1 != p)).map (·.1)).Nodup :=
    h.nodup.sublist (List.filter_sublist.map _)
  fun_cases step grant s a <;> try exact h
  next p _ hm hg =>
    -- granted: by the flock law nobody held the lock, so nobody else is exclusive
    refine ⟨fun q hq => ?_, hcons hm _, h.writes⟩
    rcases List.mem_cons.mp hq with hq | hq
    · cases hq; rfl
    · have := h.excl q hq; rw [hlaw _ _ hg] at this; cases this
  next p _ hm _ _ =>
    -- refused, not fail-fast: a read-only session
    refine ⟨fun q hq => ?_, hcons hm _, h.writes⟩
    rcases List.mem_cons.mp hq with hq | hq
    · cases hq
    · exact h.excl q hq
  next p hm =>
    -- a write by an exclusive session: its owner holds the lock
    refine ⟨h.excl, h.nodup, fun w hw => ?_⟩
    rcases List.mem_cons.mp hw with rfl | hw
    · exact h.excl p (modeOf_some hm)
    · exact h.writes w hw
  next p hm => exact ⟨fun q hq => h.excl q (List.mem_filter.mp hq).1, hfilt p, h.writes⟩  -- close, read-only
  next p hm =>
    -- close, exclusive: q's exclusive session survived the filter, so q ≠ p; but p was the holder
    refine ⟨fun q hq => ?_, hfilt p, h.writes⟩
    have hq' := List.mem_filter.mp hq
    have hqp : q ≠ p := by simpa using hq'.2
    have h1 := h.excl q hq'.1
    have h2 := h.excl p (modeOf_some hm)
    rw [h1] at h2; cases h2; exact absurd rfl hqp

theorem run_inv (grant : Option Nat → Nat → Bool) (hlaw : FlockLaw grant) (as : List Act) : ∀ s, Inv s →
    Inv (run grant s as).1 := by
  induction as with
  | nil => intro s h; exact h
  | cons a as ih => intro s h; simp only [run]; exact ih _ (step_inv grant hlaw s a h)

theorem inv_init : Inv {} := ⟨by intro p h; simp at h, by simp, by intro w h; simp at h⟩

/-- for every schedule of opens (fail-fast or not), writes and closes by any number
of processes, at every point at most one process holds the directory in Exclusive mode. -/
theorem single_writer (grant : Option Nat → Nat → Bool) (hlaw : FlockLaw grant) (sched : List Act) (p q : Nat)
    (hp : (p, Mode.exclusive) ∈ (run grant {} sched).1.sessions)
    (hq : (q, Mode.exclusive) ∈ (run grant {} sched).1.sessions) : p = q := by
  have h := run_inv grant hlaw sched {} inv_init
  have h1 := h.excl p hp
  have h2 := h.excl q hq
  rw [h1] at h2; cases h2; rfl

/-- while another process holds the lock, an open returns `ErrDatabaseLocked` when
fail-fast was requested and a read-only session otherwise — never Exclusive. -/
theorem second_opener (grant : Option Nat → Nat → Bool) (hlaw : FlockLaw grant) (s : Sys) (p q : Nat) (ff : Bool)
    (hheld : s.holder = some q) (hnew : modeOf s p = none) :
    (step grant s (.opn p ff)).2 = (if ff then Answer.errLocked else Answer.opened .readOnly) ∧
    (step grant s (.opn p ff)).1.holder = some q := by
  have hng : grant s.holder p = false := by
    cases hg : grant s.holder p with
    | false => rfl
    | true => have := hlaw _ _ hg; rw [hheld] at this; cases this
  simp only [step, hnew, hng]
  cases ff <;> simp [hheld]

/-- protocol-level half of what DESIGN.md calls `readonly_never_writes`: every write ever performed was performed by the process
that held the lock at that moment (a read-only session's write attempt changes nothing: `readonly_write_rejected`). -/
theorem writes_only_by_holder (grant : Option Nat → Nat → Bool) (hlaw : FlockLaw grant) (sched : List Act) :
    ∀ w ∈ (run grant {} sched).1.writes, w.2 = some w.1 :=
  (run_inv grant hlaw sched {} inv_init).writes

theorem readonly_write_rejected (grant : Option Nat → Nat → Bool) (s : Sys) (p : Nat)
    (h : modeOf s p = some .readOnly) : step grant s (.write p) = (s, .errReadOnly) := by
  simp [step, h]

/-- file-level half of `readonly_never_writes`: opening read-only — bootstrap over any journal, including
one with a torn tail, and any index content, including stale or corrupt — performs no file
operation (re-export of `C04.readonly_no_writes`). -/
theorem readonly_bootstrap_never_writes (B mx : Nat) (j : Journal.Bytes) (idx : Option Journal.Bytes) :
    match Journal.bootstrap B mx j idx false with
    | .ok b => b.ops = []
    | _ => True := C04.readonly_no_writes B mx j idx

example : (run flock {} [.opn 1 false, .opn 2 false, .opn 3 true, .write 2, .write 1, .close 1, .opn 3 true]).2 =
    [.opened .exclusive, .opened .readOnly, .errLocked, .errReadOnly, .wrote, .closed, .opened .exclusive] := by decide

end DoltVerif.C41
