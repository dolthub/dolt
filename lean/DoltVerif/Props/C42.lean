import DoltVerif.Model.Blobstore
/-!
C42 — Blobstores provide a correct conditional manifest update and byte ranges: byte ranges on and
outside their domain (`positiveRange_spec`, `range_read_exact_inmem`, `range_read_exact_local`), `Concatenate`
(`concat_spec`), the conditional update as a compare-and-swap register (`cap_is_cas`, `run_final`,
`capRetry_is_cap` for the git backend's retry loop).
-/
namespace DoltVerif.C42
open DoltVerif.Blobstore

theorem wrap64_id (x : Int) (h : -9223372036854775808 ≤ x ∧ x < 9223372036854775808) : wrap64 x = x := by
  unfold wrap64; omega

/-- the domain on which the Go range arithmetic is defined: the offset addresses a position of
the blob (from either end) and nothing overflows int64 -/
structure InDomain (off len size : Int) : Prop where
  size_nonneg : 0 ≤ size
  len_nonneg : 0 ≤ len
  off_lo : -size ≤ off
  off_hi : off ≤ size
  size_small : size < 4611686018427387904
  len_small : len < 4611686018427387904

/-- **positiveRange** on its domain: start from the front or from the back, `length 0` = to the
end, clamped at the size; the result always lies inside the blob. -/
theorem positiveRange_spec (off len size : Int) (h : InDomain off len size) :
    let p := (BlobRange.mk off len).positiveRange size
    p.offset = (if off < 0 then size + off else off) ∧ 0 ≤ p.offset ∧ p.offset ≤ size ∧
    p.length = (if len = 0 ∨ p.offset + len > size then size - p.offset else len) ∧
    0 ≤ p.length ∧ p.offset + p.length ≤ size := by
  obtain ⟨h1, h2, h3, h4, h5, h6⟩ := h
  -- the code tests `… > size || length == 0`, the statement `len = 0 ∨ … > size`: commute to one form
  simp only [BlobRange.positiveRange, Bool.or_eq_true, decide_eq_true_eq, beq_iff_eq, Or.comm (b := len = 0)]
  -- on the domain no sum leaves int64: every `wrap64` is the identity
  by_cases hneg : off < 0 <;> simp only [hneg, if_true, if_false, true_and]
  · rw [wrap64_id (size + off) (by omega), wrap64_id (size + off + len) (by omega),
      wrap64_id (size - (size + off)) (by omega)]
    split <;> omega
  · rw [wrap64_id (off + len) (by omega), wrap64_id (size - off) (by omega)]
    split <;> omega

theorem specRange_eq (val : Bytes) (off len : Int) (h : InDomain off len val.length) :
    let p := (BlobRange.mk off len).positiveRange val.length
    specRange val off len = (val.drop p.offset.toNat).take p.length.toNat ∧
      (p.length = 0 → p.offset = val.length) := by
  obtain ⟨s1, -, -, s4, -, -⟩ := positiveRange_spec off len val.length h
  refine ⟨?_, fun hz => ?_⟩
  · simp only [specRange, Bool.or_eq_true, beq_iff_eq, decide_eq_true_eq]
    rw [← s1, ← s4]
  · rw [s4] at hz
    have := h.len_nonneg
    split at hz <;> omega

/-- **Ranged reads return exactly the requested bytes** (in-memory store), on the domain -/
theorem range_read_exact_inmem (val : Bytes) (off len : Int) (h : InDomain off len val.length) :
    inmemRead val ⟨off, len⟩ = .ok (specRange val off len) := by
  obtain ⟨-, s2, s3, -, s5, s6⟩ := positiveRange_spec off len val.length h
  obtain ⟨hspec, hend⟩ := specRange_eq val off len h
  unfold inmemRead
  split
  · rename_i hall
    simp only [BlobRange.isAllRange, Bool.and_eq_true, beq_iff_eq] at hall
    obtain ⟨rfl, rfl⟩ := hall
    simp [specRange]
  rw [hspec]
  generalize (BlobRange.mk off len).positiveRange val.length = p at *
  simp only [goSlice, beq_iff_eq]
  split
  · -- a zero length slices `[offset:size]`, which only happens at the end: both sides are empty
    rename_i hz
    rw [if_pos ⟨s2, s3, Int.le_refl _⟩, hz, hend hz]
    simp
  · have := h.size_small
    rw [wrap64_id _ (by omega), if_pos ⟨s2, by omega, s6⟩]
    congr 3; omega

/-- **Ranged reads return exactly the requested bytes** (local store: seek + limited reader), on
the domain -/
theorem range_read_exact_local (val : Bytes) (off len : Int) (h : InDomain off len val.length) :
    localRead val ⟨off, len⟩ = .ok (specRange val off len) := by
  obtain ⟨s1, s2, s3, s4, -, -⟩ := positiveRange_spec off len val.length h
  obtain ⟨hspec, hend⟩ := specRange_eq val off len h
  rw [hspec]
  unfold localRead
  by_cases hneg : off < 0 <;> simp only [hneg, if_true, if_false] at s1 ⊢
  · -- the reader is positioned by `positiveRange`
    generalize (BlobRange.mk off len).positiveRange val.length = p at *
    rw [if_neg (by omega)]
    split
    · rfl
    · rename_i hz
      have hz : p.length = 0 := by simpa using hz
      rw [hz, hend hz]; simp
  · -- the offset is used as given; a length reaching past the end reads the rest
    have hrest : (val.drop off.toNat).length ≤ (val.length - off).toNat := by rw [List.length_drop]; omega
    rw [s4, s1]
    by_cases hz : len = 0
    · simp [hz, List.take_of_length_le hrest]
    · by_cases hc : off + len > val.length
      · simp only [bne_iff_ne, ne_eq, hz, not_false_eq_true, if_true, hc, or_true]
        rw [List.take_of_length_le hrest, List.take_of_length_le (by omega)]
      · simp [hz, hc]

example : InDomain (-3) 0 10 := ⟨by omega, by omega, by omega, by omega, by omega, by omega⟩

/-- an offset outside the blob, from either end, makes the in-memory store panic (finding
`inmem-range-out-of-bounds-panic`) -/
theorem inmem_panics_beyond : inmemRead [1] ⟨-4, 0⟩ = .panic ∧ inmemRead [1] ⟨2, 0⟩ = .panic := by decide
/-- an offset inside the blob with a length near MaxInt64 overflows the in-memory store's clamp
test and it panics (finding `inmem-range-length-overflow-panic`); the local store reads to EOF -/
theorem inmem_panics_overflow : inmemRead [1, 2, 3] ⟨-1, 9223372036854775807⟩ = .panic ∧
    localRead [1, 2, 3] ⟨-1, 9223372036854775807⟩ = .ok [3] := by decide
/-- the local store on offsets outside the blob: nothing past the end, an error before the start,
never wrong bytes -/
theorem local_beyond : localRead [1] ⟨2, 0⟩ = .ok [] ∧ localRead [1] ⟨-4, 0⟩ = .error := by decide

/-- `asHttpRangeHeader` renders an open-ended range from a positive offset as `bytes=N`, which is
not a byte-range-spec of RFC 7233 (`bytes=N-`); used by the S3 and OCI backends (out of reach
offline).  No nbs caller passes (offset > 0, length 0). -/
theorem header_open_ended : (BlobRange.mk 5 0).asHttpRangeHeader = "bytes=5" ∧
    (BlobRange.mk (-5) 0).asHttpRangeHeader = "bytes=-5" ∧ (BlobRange.mk 5 3).asHttpRangeHeader = "bytes=5-7" ∧
    (BlobRange.mk 0 0).asHttpRangeHeader = "" := by decide

/-- `Concatenate` (`composeObjects`) is the flattening of the blobs in order -/
theorem concat_spec (blobs : List Bytes) : concat blobs = blobs.flatten := by
  induction blobs with
  | nil => rfl
  | cons b t ih => simp [concat, List.foldr] at ih ⊢; rw [← ih]

theorem concat_append (a b : List Bytes) : concat (a ++ b) = concat a ++ concat b := by
  simp [concat_spec]

theorem concat_length (blobs : List Bytes) : (concat blobs).length = (blobs.map List.length).sum := by
  simp [concat_spec, List.length_flatten]

theorem cap_success_iff (r : Reg) (e : Nat) (c : Bytes) : (cap r e c).2 = true ↔ e = r.ver := by
  unfold cap; split <;> simp_all

theorem cap_success (r : Reg) (e : Nat) (c : Bytes) (h : e = r.ver) : cap r e c = (⟨c, r.ver + 1⟩, true) := by
  simp [cap, h]

theorem cap_failure (r : Reg) (e : Nat) (c : Bytes) (h : e ≠ r.ver) : cap r e c = (r, false) := by
  simp [cap, h]

theorem cap_ver_mono (r : Reg) (e : Nat) (c : Bytes) : r.ver ≤ (cap r e c).1.ver := by
  unfold cap; split <;> simp

theorem run_fail_below (r : Reg) (ops : List (Nat × Bytes)) :
    ∀ p ∈ (run r ops).2.zip ops, p.2.1 < r.ver → p.1 = false := by
  induction ops generalizing r with
  | nil => simp [run]
  | cons op t ih =>
    obtain ⟨e, c⟩ := op
    intro p hp hlt
    simp only [run, List.zip_cons_cons, List.mem_cons] at hp
    rcases hp with rfl | hp
    · simp only at hlt ⊢
      have : e ≠ r.ver := by omega
      rw [cap_failure r e c this]
    · exact ih _ p hp (Nat.lt_of_lt_of_le hlt (cap_ver_mono r e c))

/-- **At most one winner per expected version**, for every schedule of the writers' critical
sections: if an update succeeded, every later update with the same expected version fails. -/
theorem cap_is_cas (r : Reg) (ops : List (Nat × Bytes)) :
    ((run r ops).2.zip ops).Pairwise (fun a b => a.1 = true → a.2.1 = b.2.1 → b.1 = false) := by
  induction ops generalizing r with
  | nil => simp [run]
  | cons op t ih =>
    obtain ⟨e, c⟩ := op
    simp only [run, List.zip_cons_cons, List.pairwise_cons]
    refine ⟨?_, ih _⟩
    intro b hb hok heq
    have he : e = r.ver := (cap_success_iff r e c).mp hok
    apply run_fail_below _ _ b hb
    rw [cap_success r e c he]
    simp only at heq ⊢
    omega

/-- **Register semantics**: the final content is that of the last successful update (the initial
content if none succeeded), and the version counts the successes. -/
theorem run_final (r : Reg) (ops : List (Nat × Bytes)) :
    (run r ops).1.content = ((run r ops).2.zip ops).foldl (fun acc p => if p.1 then p.2.2 else acc) r.content ∧
    (run r ops).1.ver = r.ver + ((run r ops).2.filter (· = true)).length := by
  induction ops generalizing r with
  | nil => simp [run]
  | cons op t ih =>
    obtain ⟨e, c⟩ := op
    simp only [run, List.zip_cons_cons, List.foldl_cons]
    obtain ⟨ih1, ih2⟩ := ih (cap r e c).1
    by_cases he : e = r.ver
    · rw [cap_success r e c he] at ih1 ih2 ⊢
      simp only [if_true, List.filter_cons, decide_true] at ih1 ih2 ⊢
      exact ⟨ih1, by rw [ih2]; simp; omega⟩
    · rw [cap_failure r e c he] at ih1 ih2 ⊢
      simp only [Bool.false_eq_true, if_false, List.filter_cons, decide_false] at ih1 ih2 ⊢
      exact ⟨ih1, ih2⟩

/-- a success installs exactly the offered content and moves the version up by one -/
theorem cap_installs (r : Reg) (e : Nat) (c : Bytes) (h : (cap r e c).2 = true) :
    (cap r e c).1.content = c ∧ (cap r e c).1.ver = r.ver + 1 ∧ r.ver < (cap r e c).1.ver := by
  have := (cap_success_iff r e c).mp h
  rw [cap_success r e c this]; simp

theorem run_append (r : Reg) (a b : List (Nat × Bytes)) :
    (run r (a ++ b)).1 = (run (run r a).1 b).1 := by
  induction a generalizing r with
  | nil => simp [run]
  | cons op t ih => obtain ⟨e, c⟩ := op; simp only [List.cons_append, run]; exact ih _

/-- **The retry loop with re-validation on every attempt is one atomic compare-and-swap**: whatever
the other clients' updates that land between this client's fetches and pushes (`ws`), the outcome
of `CheckAndPutManifest` equals a single `cap` step applied to a state reached from the initial
one by some list `others` of conditional updates.  The statement does not say which: the proof
takes the `ws` that landed before this client's last fetch, concatenated (the operation linearizes
there).
(Git backend: `Tie.Blobstore.git_cap_revalidates` ties `checkEvery = true` to the source.) -/
theorem capRetry_is_cap (r : Reg) (e : Nat) (c : Bytes) (ws : List (List (Nat × Bytes))) (first : Bool) :
    ∃ others, capRetry true r e c ws first = cap (run r others).1 e c := by
  induction ws generalizing r first with
  | nil =>
    refine ⟨[], ?_⟩
    simp only [capRetry, Bool.true_or, Bool.true_and, run, cap]
    by_cases h : e = r.ver <;> simp [h]
  | cons w ws ih =>
    simp only [capRetry, Bool.true_or, Bool.true_and]
    by_cases h : e = r.ver
    · simp only [h, bne_self_eq_false, Bool.false_eq_true, if_false]
      by_cases hl : (run r w).1 = r
      · refine ⟨[], ?_⟩; simp [hl, run, cap]
      · simp only [hl, if_false]
        obtain ⟨others, ho⟩ := ih (run r w).1 false
        refine ⟨w ++ others, ?_⟩
        rw [run_append, ← h]; exact ho
    · refine ⟨[], ?_⟩
      have : (e != r.ver) = true := by simpa using h
      simp [this, run, cap, h]

/-- …whereas validating only on the first attempt is NOT a compare-and-swap: another client's
update from version 1 lands before the push, the retry overwrites it, and both writers that
expected version 1 succeed (the seeded breakage of the git backend; harness key
`cas-two-winners:git`). -/
theorem capRetry_first_only_breaks :
    (capRetry false ⟨[0], 1⟩ 1 [9] [[(1, [7])]] true) = (⟨[9], 3⟩, true) ∧
    (run ⟨[0], 1⟩ [(1, [7])]).2 = [true] ∧
    (capRetry true ⟨[0], 1⟩ 1 [9] [[(1, [7])]] true) = (⟨[7], 2⟩, false) := by decide

-- non-vacuity: two writers race from the empty store, a third from version 1
example : (run Reg.empty [(0, [1]), (0, [2]), (1, [3]), (1, [4])]).2 = [true, false, true, false] ∧
    (run Reg.empty [(0, [1]), (0, [2]), (1, [3]), (1, [4])]).1 = ⟨[3], 2⟩ := by decide

end DoltVerif.C42
