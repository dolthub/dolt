import DoltVerif.Props.C29
/-!
C43 — conflict tables and conflict resolution are exact (model: `conflictRows`, `resolve`,
`applyTheirs` of `Model/RowMerge.lean`; the conflict artifacts of a merge are the conflicted keys,
the three versions are read back from the base table, the current table and theirs' table, as
conflicts_tables_prolly.go does).
-/
namespace DoltVerif.C43
open DoltVerif.RowMerge

/-- **conflict_table_exact**: `dolt_conflicts_<t>` has exactly one row per conflicted key, in the
order of the artifact map, showing base / ours (= current table) / theirs as stored -/
theorem conflict_table_exact (base right : Table) (m : Merged) :
    (conflictRows base right m).map (·.key) = m.conflicts ∧
    ∀ cr ∈ conflictRows base right m,
      cr.base = (get base.rows cr.key).map (viewRow base.sch) ∧
      cr.ours = (get m.rows cr.key).map (viewRow m.sch) ∧
      cr.theirs = (get right.rows cr.key).map (viewRow right.sch) := by
  constructor
  · simp [conflictRows, List.map_map, Function.comp_def]
  · intro cr hcr
    simp only [conflictRows, List.mem_map] at hcr
    obtain ⟨k, _, rfl⟩ := hcr
    simp

/-- the conflicted keys of a merge are exactly the keys whose per-key outcome is a conflict -/
theorem conflicts_are_key_outcomes
    (f : Option Row → Option Row → Option Row → Except Err KeyOut) (slow : Bool)
    (base left right : Rows) (keys : List Key) (rows : Rows) (confs : List Key) (st : Stats)
    (h : mergeKeys f slow base left right keys = .ok (rows, confs, st)) (k : Key) :
    k ∈ confs ↔ k ∈ keys ∧ ∃ o, f (get base k) (get left k) (get right k) = .ok o ∧ o.conflict = true := by
  induction keys generalizing rows confs st with
  | nil => simp [mergeKeys] at h; obtain ⟨_, rfl, _⟩ := h; simp
  | cons k' ks ih =>
    simp only [mergeKeys, bind, Except.bind, pure, Except.pure] at h
    cases hf : f (get base k') (get left k') (get right k') with
    | error e => simp [hf] at h
    | ok o =>
      cases hm : mergeKeys f slow base left right ks with
      | error e => simp [hf, hm] at h
      | ok x =>
        obtain ⟨rows', confs', st'⟩ := x
        simp [hf, hm] at h
        obtain ⟨_, hc, _⟩ := h
        have ih' := ih rows' confs' st' hm
        subst hc
        by_cases hk : k = k'
        · subst hk
          by_cases hoc : o.conflict = true
          · simp [hoc, hf]
          · simp [hoc, hf, ih']
        · by_cases hoc : o.conflict = true
          · simp [hoc, hk, ih']
          · simp [hoc, hk, ih']

/-- **resolve_ours**: table untouched, conflicts cleared -/
theorem resolve_ours (right : Table) (m : Merged) :
    ∃ m', resolve true right m = .ok m' ∧ m'.rows = m.rows ∧ m'.sch = m.sch ∧ m'.conflicts = [] := by
  unfold resolve
  by_cases h : m.conflicts.isEmpty = true
  · refine ⟨m, by simp [h], rfl, rfl, ?_⟩
    simpa using h
  · exact ⟨{ m with conflicts := [] }, by simp [h], rfl, rfl, rfl⟩

/-- **resolve_theirs**: when it succeeds, every conflicted key holds exactly theirs' stored row (or
is deleted when theirs has none), every other key is unchanged, and the conflicts are cleared (the
refusal `confSchIncompatible` is `resolve_theirs_refuses`) -/
theorem resolve_theirs (right : Table) (m : Merged) (m' : Merged)
    (h : resolve false right m = .ok m') :
    m'.conflicts = [] ∧
    ∀ k, get m'.rows k = if k ∈ m.conflicts then get right.rows k else get m.rows k := by
  unfold resolve at h
  by_cases he : m.conflicts.isEmpty = true
  · simp [he] at h; subst h
    have : m.conflicts = [] := by simpa using he
    simp [this]
  · simp only [he] at h
    by_cases hs : (m.sch != right.sch) = true
    · simp [hs] at h
    · simp [hs] at h
      subst h
      exact ⟨rfl, fun k => get_applyTheirs right.rows m.conflicts m.rows k⟩

theorem resolve_theirs_refuses (right : Table) (m : Merged) (hc : m.conflicts ≠ [])
    (hs : m.sch ≠ right.sch) : resolve false right m = .error .confSchIncompatible := by
  unfold resolve
  have : m.conflicts.isEmpty = false := by
    cases hm : m.conflicts with
    | nil => exact absurd hm hc
    | cons a as => rfl
  simp [this, hs]

/-- **resolve_idempotent**: resolving an already resolved table changes nothing -/
theorem resolve_idempotent (ours ours' : Bool) (right : Table) (m m' : Merged)
    (h : resolve ours right m = .ok m') : resolve ours' right m' = .ok m' := by
  have hc : m'.conflicts = [] := by
    cases ours with
    | true => obtain ⟨x, hx, _, _, hx'⟩ := resolve_ours right m; rw [h] at hx; cases hx; exact hx'
    | false => exact (resolve_theirs right m m' h).1
  unfold resolve
  simp [hc]

/-- **conflict table of a merge = the property's conflicts.**  For tables sharing a schema: the keys
listed by `dolt_conflicts_<t>` after the merge are exactly the keys the cell-wise specification
calls conflicts, and each such row shows the stored base row, OURS' row (which the table still
holds) and theirs' row. -/
theorem conflict_table_matches_spec (s : Schema) (hd : idsDistinct s = true) (base ours theirs : Rows)
    (hb : tableOk ⟨s, base⟩ = true) (ho : tableOk ⟨s, ours⟩ = true) (ht : tableOk ⟨s, theirs⟩ = true) :
    ∃ m, mergeTable ⟨s, base⟩ ⟨s, ours⟩ ⟨s, theirs⟩ = .ok m ∧
      (∀ k, k ∈ (conflictRows ⟨s, base⟩ ⟨s, theirs⟩ m).map (·.key) ↔
        (specKey s (get base k) (get ours k) (get theirs k)).2 = true) ∧
      (∀ cr, cr ∈ conflictRows ⟨s, base⟩ ⟨s, theirs⟩ m →
        cr.base = (get base cr.key).map (viewRow s) ∧
        cr.ours = (get ours cr.key).map (viewRow s) ∧
        cr.theirs = (get theirs cr.key).map (viewRow s)) := by
  obtain ⟨m, hm, hsch, hspec⟩ := C29.rowmerge_spec s hd base ours theirs hb ho ht
  refine ⟨m, hm, fun k => ?_, fun cr hcr => ?_⟩
  · rw [(conflict_table_exact ⟨s, base⟩ ⟨s, theirs⟩ m).1]
    have := hspec k
    simp only [Prod.ext_iff] at this
    rw [← this.2]; simp
  · obtain ⟨h1, h2, h3⟩ := (conflict_table_exact ⟨s, base⟩ ⟨s, theirs⟩ m).2 cr hcr
    refine ⟨h1, ?_, h3⟩
    -- a conflicted key keeps ours' row
    have hk : cr.key ∈ m.conflicts := by
      rw [← (conflict_table_exact ⟨s, base⟩ ⟨s, theirs⟩ m).1]
      exact List.mem_map_of_mem hcr
    have hs := hspec cr.key
    simp only [Prod.ext_iff] at hs
    have hconf : (specKey s (get base cr.key) (get ours cr.key) (get theirs cr.key)).2 = true := by
      rw [← hs.2]; simpa using hk
    rw [h2, hsch, hs.1, specKey_conflict s _ _ _ hconf]

/-- on a merge that kept the schema, `resolve --theirs` never refuses -/
theorem resolve_theirs_same_schema (right : Table) (m : Merged) (hs : m.sch = right.sch) :
    ∃ m', resolve false right m = .ok m' := by
  unfold resolve
  by_cases he : m.conflicts.isEmpty = true
  · exact ⟨m, by simp [he]⟩
  · exact ⟨{ m with rows := applyTheirs right.rows m.conflicts m.rows, conflicts := [] }, by simp [he, hs]⟩

/-- **merge_then_resolve (end to end).**  For tables sharing a schema: `dolt_merge` followed by
`dolt_conflicts_resolve --theirs` succeeds and leaves, for EVERY key, theirs' row (or no row) where
the cell-wise specification reports a conflict and the specification's merged row everywhere else,
with no conflicts left; followed by `--ours` it leaves the specification's row everywhere (a
conflicted key keeps ours' row). -/
theorem merge_then_resolve (s : Schema) (hd : idsDistinct s = true) (base ours theirs : Rows)
    (hb : tableOk ⟨s, base⟩ = true) (ho : tableOk ⟨s, ours⟩ = true) (ht : tableOk ⟨s, theirs⟩ = true) :
    ∃ m mt mo, mergeTable ⟨s, base⟩ ⟨s, ours⟩ ⟨s, theirs⟩ = .ok m ∧
      resolve false ⟨s, theirs⟩ m = .ok mt ∧ resolve true ⟨s, theirs⟩ m = .ok mo ∧
      mt.conflicts = [] ∧ mo.conflicts = [] ∧
      (∀ k, get mt.rows k =
        if (specKey s (get base k) (get ours k) (get theirs k)).2 = true then get theirs k
        else (specKey s (get base k) (get ours k) (get theirs k)).1) ∧
      (∀ k, get mo.rows k = (specKey s (get base k) (get ours k) (get theirs k)).1) := by
  obtain ⟨m, hm, hsch, hspec⟩ := C29.rowmerge_spec s hd base ours theirs hb ho ht
  obtain ⟨mt, hmt⟩ := resolve_theirs_same_schema ⟨s, theirs⟩ m hsch
  obtain ⟨mo, hmo, hrows, _, hco⟩ := resolve_ours ⟨s, theirs⟩ m
  obtain ⟨hct, hgt⟩ := resolve_theirs ⟨s, theirs⟩ m mt hmt
  refine ⟨m, mt, mo, hm, hmt, hmo, hct, hco, fun k => ?_, fun k => ?_⟩
  · have hk := hspec k
    simp only [Prod.ext_iff] at hk
    rw [hgt k, ← hk.2, ← hk.1]
    by_cases hc : k ∈ m.conflicts <;> simp [hc]
  · have hk := hspec k
    simp only [Prod.ext_iff] at hk
    rw [hrows, hk.1]

/-- the hypotheses of `merge_then_resolve` are met by the conflicted example below -/
example : idsDistinct [⟨1, .int⟩] = true ∧ tableOk ⟨[⟨1, .int⟩], [(1, [some (.int 1)])]⟩ = true ∧
    tableOk ⟨[⟨1, .int⟩], [(1, [some (.int 2)])]⟩ = true ∧ tableOk ⟨[⟨1, .int⟩], [(1, [some (.int 3)])]⟩ = true ∧
    (specKey [⟨1, .int⟩] (some [some (.int 1)]) (some [some (.int 2)]) (some [some (.int 3)])).2 = true := by decide

/-- non-vacuity: a conflicted merge whose resolution with theirs installs theirs' row -/
example :
    let base : Table := ⟨[⟨1, .int⟩], [(1, [some (.int 1)])]⟩
    let ours : Table := ⟨[⟨1, .int⟩], [(1, [some (.int 2)])]⟩
    let theirs : Table := ⟨[⟨1, .int⟩], [(1, [some (.int 3)])]⟩
    (match mergeTable base ours theirs with
     | .ok m => m.conflicts == [1] && (match resolve false theirs m with
                  | .ok m' => m'.rows == theirs.rows | .error _ => false)
     | .error _ => false) = true := by decide

end DoltVerif.C43
