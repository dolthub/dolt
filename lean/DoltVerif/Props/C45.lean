import DoltVerif.Lemmas.ReplicationInv
/-! C45 — Replicas converge to their source and never show invented state.  Partial by design: safety for all interleavings
and faults, progress only under an explicit fairness hypothesis, on the message-level model `Model/Replication.lean`
(timeouts, gRPC, TLS, process supervision not modelled; a root hash never recurs, see design/C45.md for the A→B→A scenario this
excludes).  Reachable-state statements project `crun_inv cinv_init` (A), `prun_inv pinv_init` (B) of `Lemmas/ReplicationInv`. -/
namespace DoltVerif.C45
open DoltVerif.Replication

/-- **standby_subset** — under every interleaving of writes, hook executions, replication attempts
(succeeding, failing, or succeeding with a lost acknowledgement), graceful transitions and standby
restarts, every root the standby ever showed is a root the primary had (never invented), and so
is the one it shows now. -/
theorem standby_subset (sched : List CStep) :
    (∀ r ∈ (crun cinit sched).shist, r ∈ (crun cinit sched).hist) ∧
    ((crun cinit sched).sroot = 0 ∨ (crun cinit sched).sroot ∈ (crun cinit sched).hist) := by
  have hi := crun_inv cinv_init sched
  exact ⟨fun r hr => (hi.shist_ok r hr).1, hi.sroot_ok⟩

/-- the standby's roots only move forward in the primary's history -/
theorem standby_monotone (sched : List CStep) :
    ∀ r ∈ (crun cinit sched).shist, r ≤ (crun cinit sched).sroot :=
  fun r hr => ((crun_inv cinv_init sched).shist_ok r hr).2

/-- **standby_rejects_writes** — a server in role standby, or a primary that has begun a graceful
transition (provider read-only), accepts no write. -/
theorem standby_rejects_writes (s : CState) (h : s.role = .standby ∨ s.readOnly = true) :
    cstep s .write = none := by
  rcases h with h | h <;> exact if_neg (by simp [h])

/-- **ack_implies_replicated** — a commit whose replication wait returned nil was, at some point,
contained in a root the standby showed (the attempt that released it began after the commit's
hook had recorded its root). -/
theorem ack_implies_replicated (sched : List CStep) :
    ∀ r ∈ (crun cinit sched).acked, ∃ t ∈ (crun cinit sched).shist, r ≤ t :=
  (crun_inv cinv_init sched).acked_ok

/-- **graceful_no_ack_loss** — when a graceful transition completes, the standby (the new primary)
holds exactly the root the last hook execution recorded; every acknowledged commit, and every
commit whose hook ran and is still waiting, is contained in it. -/
theorem graceful_no_ack_loss {s s' : CState} (hi : CInv s) (h : cstep s .completeGraceful = some s') :
    s'.sroot = s.nextHead ∧ (∀ r ∈ s'.acked, r ≤ s'.sroot) ∧ (∀ w ∈ s.waiters, w ≤ s'.sroot) ∧ s'.role = .standby := by
  have hi' := cstep_inv hi .completeGraceful h
  have hack : ∀ r ∈ s'.acked, r ≤ s'.sroot := by
    intro r hr
    obtain ⟨t, ht, hrt⟩ := hi'.acked_ok r hr
    exact Nat.le_trans hrt (hi'.shist_ok t ht).2
  rw [cstep] at h
  obtain ⟨hc, ⟨⟩⟩ := Option.ite_none_right_eq_some.1 h
  simp only [Bool.and_eq_true, beq_iff_eq] at hc
  obtain ⟨_, hs, _⟩ := hi.caughtUp_sroot hc.1.1 hc.2
  exact ⟨hs, hack, fun w hw => hs ▸ hi.wait_ok w hw, rfl⟩

/-- `graceful_no_ack_loss` at every state reachable from `cinit`, over all schedules (its first two conjuncts:
the new primary's root, and the acknowledged commits; not the still-waiting ones) -/
theorem graceful_no_ack_loss_run (sched : List CStep) (s' : CState)
    (h : cstep (crun cinit sched) .completeGraceful = some s') :
    s'.sroot = (crun cinit sched).nextHead ∧ ∀ r ∈ s'.acked, r ≤ s'.sroot :=
  let g := graceful_no_ack_loss (crun_inv cinv_init sched) h
  ⟨g.1, g.2.1⟩

/-- the statement one would like WITHOUT the fresh-root assumption (roots may recur, `XStep.revert`):
a completed graceful transition, when the hook has seen the primary's current root, leaves the new
primary at that root. -/
def graceful_exact_full : Prop :=
  ∀ (sched : List XStep),
    (cstep (xrun cinit sched) .completeGraceful).isSome = true →
    (xrun cinit sched).nextHead = (xrun cinit sched).proot →
    (xrun cinit sched).sroot = (xrun cinit sched).proot   -- completeGraceful does not touch sroot

/-- …is FALSE once a root can recur: root 1 replicated; root 2 (say, a new branch) lands on the
standby but its acknowledgement is lost (`lastPushed` stays 1); the primary's root returns to 1 (the
branch is deleted); the hook sets `nextHead = 1 = lastPushed`, `isCaughtUp` holds, nothing more is
pushed, and the graceful transition completes with the standby on root 2.  `graceful_no_ack_loss`
is the proved part (every write yields a fresh root).  The harness replays this schedule on the real
commit hook (case kind `recur` of harness/cmd/clusterhook, Known key
`cluster-root-recurrence-lost-ack-standby-stale`). -/
theorem graceful_exact_full_false : ¬ graceful_exact_full := by
  intro h
  have := h [.base .init, .base .begin, .base .finishOk, .base .write, .base .exec, .base .begin,
    .base .finishLostAck, .revert 1, .base .exec, .base .beginGraceful]
    (by decide +kernel) (by decide +kernel)
  revert this
  decide +kernel

/-- one replication attempt that succeeds brings the standby to the root the hook last recorded, whatever the primary
has written since -/
theorem attempt_reaches_nextHead {s : CState} (hi : CInv s) (hp : s.role = .primary) (hin : s.inflight = none)
    (hn : s.nextHead ≠ 0) : (crun s [.begin, .finishOk]).sroot = s.nextHead := by
  by_cases hl : s.nextHead = s.lastPushed
  · -- already caught up: neither step is enabled, and the standby is at `nextHead`
    have hb : cstep s .begin = none := if_neg (by simp [hl])
    have hf : cstep s .finishOk = none := by unfold cstep; rw [hin]
    simp only [crun, hb, hf, Option.getD_none]
    exact (hi.caughtUp_sroot hp (caughtUp_of_eq (Nat.pos_of_ne_zero hn) hl)).2.1
  · have hb : cstep s .begin = some (beginAttempt s) := if_pos (by simp [hin, hp, hl, hn])
    simp only [crun, hb, Option.getD_some]
    -- `beginAttempt` set `inflight := some nextHead`, and that is the root `finishOk` lands on the standby
    simp [cstep, beginAttempt, hp]

/-- **progress** (weak fairness made explicit) — if writes have stopped and the hook has seen the
last one (`nextHead = proot`), ONE replication attempt that succeeds makes the standby equal to
the primary.  "Eventually" is claimed only under this hypothesis. -/
theorem progress {s : CState} (hi : CInv s) (hp : s.role = .primary) (hin : s.inflight = none)
    (hq : s.nextHead = s.proot) : (crun s [.begin, .finishOk]).sroot = s.proot := by
  have hp0 : 0 < s.proot := (hi.hist_le _ hi.proot_mem).2
  exact hq ▸ attempt_reaches_nextHead hi hp hin (by omega)

/-- **read_replica_subset** — every (branch, head) a read replica ever shows is one the remote
showed, and every one the remote ever showed is a head the primary's branch had: under all
interleavings of commits, (failing) hook executions and replica pulls. -/
theorem read_replica_subset (sched : List PStep) :
    (∀ p ∈ (prun pinit sched).qhist, p ∈ (prun pinit sched).rhist) ∧
    (∀ p ∈ (prun pinit sched).rhist, p ∈ (prun pinit sched).phist) ∧
    (∀ p ∈ (prun pinit sched).qhead, p ∈ (prun pinit sched).phist) := by
  have hi := prun_inv pinv_init sched
  exact ⟨hi.qhist_ok, hi.rhist_ok, fun p hp => hi.rhist_ok p (hi.qhist_ok p (hi.qhead_ok p hp))⟩

/-- **push_on_write** — when the hook of a commit on `b` has returned (nothing pending for `b`),
either the remote's head of `b` IS the primary's head of `b`, or the last push of `b` failed and a
warning has been raised.  All interleavings (commits on other branches, failures, replica pulls). -/
theorem push_on_write (sched : List PStep) (b : Branch)
    (hq : (prun pinit sched).jobs.lookup b = none) :
    (prun pinit sched).rhead.lookup b = (prun pinit sched).phead.lookup b ∨
    (b ∈ (prun pinit sched).stale ∧ 0 < (prun pinit sched).warnings) := by
  have hi := prun_inv pinv_init sched
  rcases hi.sync b with h | h | h
  · rw [hq] at h; cases h
  · exact .inr ⟨h, hi.stale_warn (by intro hn; rw [hn] at h; cases h)⟩
  · exact .inl h

/-- convergence: quiescent and no branch's last push failed ⇒ the remote equals the primary on
every branch, and one replica pull then makes the replica equal to the primary. -/
theorem pow_converges (sched : List PStep) (hq : (prun pinit sched).jobs = [])
    (hs : (prun pinit sched).stale = []) (b : Branch) :
    (prun pinit sched).rhead.lookup b = (prun pinit sched).phead.lookup b ∧
    (prun pinit (sched ++ [.pull])).qhead.lookup b = (prun pinit (sched ++ [.pull])).phead.lookup b := by
  have h1 : (prun pinit sched).rhead.lookup b = (prun pinit sched).phead.lookup b := by
    rcases push_on_write sched b (by rw [hq]; rfl) with h | h
    · exact h
    · rw [hs] at h; cases h.1
  rw [prun_append]
  -- `pull` copies `rhead` into `qhead` and leaves `phead` alone: after it the second equation is the first
  exact ⟨h1, h1⟩

/-- the per-branch lock matters: a second commit on a branch whose hook is still pending is not
enabled (this is what rules out two overlapping forced SetHeads finishing in the wrong order). -/
theorem commit_waits_for_hook (s : PState) (b : Branch) (h : (s.jobs.lookup b).isSome = true) :
    pstep s (.commit b) = none := by
  simp [pstep, h]

/-- two writes, a failed attempt, a lost acknowledgement, a successful attempt, a graceful transition -/
private def exSched : List CStep :=
  [.init, .write, .exec, .begin, .finishFail, .write, .exec, .begin, .finishLostAck, .begin, .finishOk,
   .beginGraceful, .completeGraceful]

example : (crun cinit exSched).role = .standby ∧ (crun cinit exSched).sroot = 3 ∧
    (crun cinit exSched).proot = 3 ∧ (crun cinit exSched).shist = [3, 3] ∧ (crun cinit exSched).acked = [3, 2] := by decide +kernel
example : cstep (crun cinit (exSched.take 12)) .completeGraceful ≠ none := by decide +kernel
/-- before the successful attempt the transition is refused (not caught up) -/
example : cstep (crun cinit ((exSched.take 9) ++ [.beginGraceful])) .completeGraceful = none := by decide +kernel
example : (prun pinit [.commit 7, .hook 7 false, .commit 7, .hook 7 true, .pull]).qhead = [(7, 2)] := by decide +kernel
example : (prun pinit [.commit 7, .hook 7 false]).stale = [7] ∧ (prun pinit [.commit 7, .hook 7 false]).warnings = 1 := by decide +kernel
example : (prun pinit [.commit 7, .commit 8, .hook 8 true, .hook 7 true]).jobs = [] := by decide +kernel

end DoltVerif.C45
