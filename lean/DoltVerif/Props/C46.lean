import DoltVerif.Lemmas.IgnoreRename
/-!
C46 — Ignored tables stay out of commits and clean removes only untracked tables.  Statements are about
`Model/Ignore.lean` (dolt from `fix:` 4a3abdc on), tied to the Go source by `Tie/Ignore.lean` and the `ignore`
correspondence harness.  Two statements of the property text are false of the code and refuted by witnesses the harness
replays (`equally_specific_conflict_full`, finding D4; `modified_tracked_always_staged_full`, finding D2).
-/
namespace DoltVerif.C46
open DoltVerif.Ignore

/-! ## 1. the matcher means what the documentation says -/

/-- `MatchTablePattern` decides exactly the declarative meaning of a pattern: `*`/`%` = any run of
non-newline characters, `?` = one non-newline character, anything else = itself. -/
theorem matches_spec (p s : Str) : matchesName p s = true ↔ Den dotOk p s := match_iff_den

example : matchesName "a?*".toList "abc".toList = true ∧ matchesName "a?*".toList "a".toList = false := by
  decide +kernel

/-! ## 2. "more specific" -/

/-- full statement (DESIGN.md): what the code accepts as "more specific" matches fewer names -/
def moreSpecific_sound_full : Prop :=
  ∀ p q : Str, moreSpecific p q = true → ∀ s, matchesName q s = true → matchesName p s = true

/-- The unrestricted statement is false, for one reason only: a literal newline in the candidate.
`a\n` is accepted as more specific than `a?` (the class `[^\*%]` contains newline), the name `a\n`
matches the pattern `a\n`, but `?` (= `.`) does not match a newline. -/
theorem moreSpecific_sound_full_false : ¬ moreSpecific_sound_full := by
  intro h
  have := h "a?".toList ['a', '\n'] (by decide +kernel) ['a', '\n'] (by decide +kernel)
  revert this; decide +kernel

/-- **What the code accepts as "more specific" matches fewer names**, under the weakest hypothesis
the argument needs: the candidate has no more literal newlines than the less specific pattern (so
no `?` absorbs one).  Every name matching the candidate then matches the less specific pattern. -/
theorem moreSpecific_sound_count {p q : Str} (hn : nl q ≤ nl p)
    (h : moreSpecific p q = true) : ∀ s, matchesName q s = true → matchesName p s = true :=
  fun _ hs => match_of_den <|
    den_trans (fun _ hc => ⟨qOk_not_star (Bool.and_eq_true_iff.mp hc).1, (Bool.and_eq_true_iff.mp hc).2⟩)
      (den_strict (den_of_match h) hn) (den_of_match hs)

/-- the case the property text names: a candidate without literal newline -/
theorem moreSpecific_sound_partial {p q : Str} (hq : ∀ c ∈ q, c ≠ '\n')
    (h : moreSpecific p q = true) : ∀ s, matchesName q s = true → matchesName p s = true := by
  refine moreSpecific_sound_count ?_ h
  have : nl q = 0 := nl_eq_zero.mpr fun c hc => dotOk_iff.mpr (hq c hc)
  omega

/-- **Two patterns that match one common name**: then the "more specific" test is sound without any
hypothesis on the patterns -- both carry exactly the newlines of that name (`nl_of_den`). -/
theorem moreSpecific_sound_common_name {p q name : Str} (hp : matchesName p name = true)
    (hq : matchesName q name = true) (h : moreSpecific p q = true) :
    ∀ s, matchesName q s = true → matchesName p s = true := by
  refine moreSpecific_sound_count ?_ h
  rw [← nl_of_den (den_of_match hp), ← nl_of_den (den_of_match hq)]
  exact Nat.le_refl _

/-- the D1 witness: `a%` is not accepted as more specific than `a?` -/
example : moreSpecific "a?".toList "a%".toList = false ∧ moreSpecific "a%".toList "a?".toList = true := by
  decide +kernel

example : moreSpecific "a*".toList "a?b".toList = true ∧ (∀ c ∈ "a?b".toList, c ≠ '\n') := by
  decide +kernel

/-! ## 3. normal forms -/

/-- `normalizePattern` never changes which names a pattern matches; so two patterns with the same
normal form are equally specific, which is what the conflict rule relies on. -/
theorem normalize_preserves_language (p s : Str) :
    matchesName (normalize p) s = matchesName p s := by
  rw [Bool.eq_iff_iff, matchesName, matchesName, match_iff_den, match_iff_den]
  exact den_normalize

theorem equal_normal_forms_same_language {p q : Str} (h : normalize p = normalize q) (s : Str) :
    matchesName p s = matchesName q s := by
  rw [← normalize_preserves_language p, ← normalize_preserves_language q, h]

example : normalize "a**%b".toList = normalize "a%b".toList := by decide +kernel

/-! ## 4. the decision, stated outright -/

/-- `t` is dominated: some matching not-ignored pattern is accepted as more specific than `t` -/
def Dominated (t : Str) (fs : List Str) : Prop := ∃ f ∈ fs, moreSpecific t f = true

/-- for a duplicate-free slice the map-size test of `resolveConflictingPatterns` says that every
pattern of the slice is dominated -/
theorem all_dominated_iff {ts : List Str} (hts : ts.Nodup) (fs : List Str) :
    ((dedup (ts.filter fun t => fs.any fun f => moreSpecific t f)).length == ts.length) = true ↔
      ∀ t ∈ ts, Dominated t fs := by
  rw [dedup_filter_full hts]; simp only [List.any_eq_true, Dominated]

theorem resolve_spec {ts fs : List Str} (hts : ts.Nodup) (hfs : fs.Nodup) :
    ((∃ t ∈ ts, ∃ f ∈ fs, normalize t = normalize f) → resolve ts fs = .conflict) ∧
    (¬ (∃ t ∈ ts, ∃ f ∈ fs, normalize t = normalize f) →
      ((∀ t ∈ ts, Dominated t fs) → resolve ts fs = .dontIgnore) ∧
      (¬ (∀ t ∈ ts, Dominated t fs) → (∀ f ∈ fs, Dominated f ts) → resolve ts fs = .ignore) ∧
      (¬ (∀ t ∈ ts, Dominated t fs) → ¬ (∀ f ∈ fs, Dominated f ts) → resolve ts fs = .conflict)) := by
  have hT := all_dominated_iff hts fs
  have hF := all_dominated_iff hfs ts
  have hC : (ts.any fun t => fs.any fun f => normalize t == normalize f) = true ↔
      ∃ t ∈ ts, ∃ f ∈ fs, normalize t = normalize f := by
    simp only [List.any_eq_true, beq_iff_eq]
  unfold resolve
  refine ⟨fun h => if_pos (hC.mpr h), fun h => ?_⟩
  rw [if_neg (mt hC.mp h)]
  refine ⟨fun h1 => if_pos (hT.mpr h1), fun h1 h2 => ?_, fun h1 h2 => ?_⟩ <;>
    simp only [] <;> rw [if_neg (mt hT.mp h1)]
  · exact if_pos (hF.mpr h2)
  · exact if_neg (mt hF.mp h2)

theorem nodup_matches {ps : List Pat} (h : (ps.map (·.pat)).Nodup) (name : Str) :
    (trueMatches ps name).Nodup ∧ (falseMatches ps name).Nodup := by
  unfold trueMatches falseMatches
  exact ⟨h.sublist (List.filter_sublist.map _), h.sublist (List.filter_sublist.map _)⟩

theorem decideName_of_not_rebase {ps : List Pat} {name : Str} (h : isRebaseTable name = false) :
    decideName ps name =
      if (trueMatches ps name).isEmpty then .dontIgnore
      else if (falseMatches ps name).isEmpty then .ignore
      else resolve (trueMatches ps name) (falseMatches ps name) := by
  rw [decideName, if_neg (by simp [h])]

/-- **The decision logic of `IsTableNameIgnored`, stated outright** (dolt_ignore's primary key is
the pattern, so patterns are distinct).  With `T`/`F` the matching ignored / not-ignored patterns:
the rebase table is ignored; no `T` → not ignored; no `F` → ignored; a `T` and an `F` with the same
normal form → conflict; otherwise every `T` dominated → not ignored; else every `F` dominated →
ignored; else conflict. -/
theorem ignore_decision_spec (ps : List Pat) (name : Str) (hnd : (ps.map (·.pat)).Nodup) :
    let T := trueMatches ps name
    let F := falseMatches ps name
    (isRebaseTable name = true → decideName ps name = .ignore) ∧
    (isRebaseTable name = false →
      (T = [] → decideName ps name = .dontIgnore) ∧
      (T ≠ [] → F = [] → decideName ps name = .ignore) ∧
      (T ≠ [] → F ≠ [] →
        ((∃ t ∈ T, ∃ f ∈ F, normalize t = normalize f) → decideName ps name = .conflict) ∧
        (¬ (∃ t ∈ T, ∃ f ∈ F, normalize t = normalize f) →
          ((∀ t ∈ T, Dominated t F) → decideName ps name = .dontIgnore) ∧
          (¬ (∀ t ∈ T, Dominated t F) → (∀ f ∈ F, Dominated f T) → decideName ps name = .ignore) ∧
          (¬ (∀ t ∈ T, Dominated t F) → ¬ (∀ f ∈ F, Dominated f T) →
            decideName ps name = .conflict)))) := by
  intro T F
  obtain ⟨hT, hF⟩ := nodup_matches hnd name
  refine ⟨fun h => by rw [decideName, if_pos h], fun hr => ?_⟩
  rw [decideName_of_not_rebase hr]
  refine ⟨fun h => ?_, fun h h' => ?_, fun h h' => ?_⟩
  · rw [if_pos (List.isEmpty_iff.mpr h)]
  · rw [if_neg (mt List.isEmpty_iff.mp h), if_pos (List.isEmpty_iff.mpr h')]
  · rw [if_neg (mt List.isEmpty_iff.mp h), if_neg (mt List.isEmpty_iff.mp h')]
    exact resolve_spec hT hF

example : decideName [⟨"a*".toList, true⟩, ⟨"ab".toList, false⟩] "ab".toList = .dontIgnore ∧
    decideName [⟨"a*".toList, true⟩, ⟨"a%".toList, false⟩] "ab".toList = .conflict ∧
    decideName [⟨"a*".toList, false⟩, ⟨"a?".toList, true⟩] "ab".toList = .ignore := by decide +kernel

/-- Why distinctness is assumed: with a duplicated pattern in the slice (possible through the Go
API, not through the dolt_ignore table) the map-size test fails and a dominated pattern produces a
conflict. -/
example : resolve ["a*".toList, "a*".toList] ["ab".toList] = .conflict ∧
    resolve ["a*".toList] ["ab".toList] = .dontIgnore := by decide +kernel

/-! ## 5. the winner really is at least as specific -/

/-- the semantic claim behind "the most specific matching pattern wins", without any hypothesis
on the patterns (proved below: `winner_dominates`) -/
def winner_dominates_full : Prop :=
  ∀ (ps : List Pat) (name : Str), (ps.map (·.pat)).Nodup →
    (decideName ps name = .dontIgnore → ∀ t ∈ trueMatches ps name,
      ∃ f ∈ falseMatches ps name, ∀ s, matchesName f s = true → matchesName t s = true)

/-- the D1 witness gets the right verdict: `a?` (ignored) is strictly more specific
than `a%` (not ignored), table `ab` is ignored; with the flags swapped it is not ignored -/
example : decideName [⟨"a?".toList, true⟩, ⟨"a%".toList, false⟩] "ab".toList = .ignore ∧
    decideName [⟨"a?".toList, false⟩, ⟨"a%".toList, true⟩] "ab".toList = .dontIgnore := by decide +kernel

theorem mem_matches {ps : List Pat} {name x : Str}
    (hx : x ∈ trueMatches ps name ∨ x ∈ falseMatches ps name) : matchesName x name = true := by
  unfold trueMatches falseMatches at hx
  simp only [List.mem_map, List.mem_filter, Bool.and_eq_true] at hx
  rcases hx with ⟨p, ⟨_, _, hm⟩, rfl⟩ | ⟨p, ⟨_, _, hm⟩, rfl⟩ <;> exact hm

theorem decideName_inv {ps : List Pat} {name : Str} (hnd : (ps.map (·.pat)).Nodup) :
    (decideName ps name = .dontIgnore →
      ∀ t ∈ trueMatches ps name, Dominated t (falseMatches ps name)) ∧
    (decideName ps name = .ignore → isRebaseTable name = false →
      ∀ f ∈ falseMatches ps name, Dominated f (trueMatches ps name)) := by
  -- the table of `ignore_decision_spec` is complete: walk down its guards; at each leaf the verdict
  -- is known, and a claim about another verdict, or about an empty list of matches, is void
  obtain ⟨hreb, hrest⟩ := ignore_decision_spec ps name hnd
  cases hr : isRebaseTable name with
  | true => rw [hreb hr]; exact ⟨nofun, nofun⟩
  | false =>
    obtain ⟨h0, h1, h2⟩ := hrest hr
    by_cases hT : trueMatches ps name = []
    · rw [h0 hT, hT]; exact ⟨nofun, nofun⟩
    by_cases hF : falseMatches ps name = []
    · rw [h1 hT hF, hF]; exact ⟨nofun, nofun⟩
    obtain ⟨c, n⟩ := h2 hT hF
    by_cases hc : ∃ t ∈ trueMatches ps name, ∃ f ∈ falseMatches ps name, normalize t = normalize f
    · rw [c hc]; exact ⟨nofun, nofun⟩
    obtain ⟨d1, d2, d3⟩ := n hc
    by_cases a1 : ∀ t ∈ trueMatches ps name, Dominated t (falseMatches ps name)
    · rw [d1 a1]; exact ⟨fun _ => a1, nofun⟩
    by_cases a2 : ∀ f ∈ falseMatches ps name, Dominated f (trueMatches ps name)
    · rw [d2 a1 a2]; exact ⟨nofun, fun _ _ => a2⟩
    · rw [d3 a1 a2]; exact ⟨nofun, nofun⟩

/-- **The winner really is at least as specific -- for all pattern sets** (distinct patterns, as in
dolt_ignore).  A "not ignored" verdict means every matching ignored pattern is overridden by a
matching not-ignored pattern that matches only names the ignored one matches; symmetrically for an
"ignored" verdict (other than the rebase table).  No hypothesis about newlines is needed: all
matching patterns match the same name, hence carry the same number of literal newlines, hence no
`?` absorbs one (`moreSpecific_sound_common_name`). -/
theorem winner_dominates (ps : List Pat) (name : Str) (hnd : (ps.map (·.pat)).Nodup) :
    (decideName ps name = .dontIgnore → ∀ t ∈ trueMatches ps name,
      ∃ f ∈ falseMatches ps name, ∀ s, matchesName f s = true → matchesName t s = true) ∧
    (decideName ps name = .ignore → isRebaseTable name = false → ∀ f ∈ falseMatches ps name,
      ∃ t ∈ trueMatches ps name, ∀ s, matchesName t s = true → matchesName f s = true) := by
  obtain ⟨h1, h2⟩ := decideName_inv hnd (name := name)
  constructor
  · intro hd t ht
    obtain ⟨f, hf, hm⟩ := h1 hd t ht
    exact ⟨f, hf, moreSpecific_sound_common_name (mem_matches (.inl ht)) (mem_matches (.inr hf)) hm⟩
  · intro hd hr f hf
    obtain ⟨t, ht, hm⟩ := h2 hd hr f hf
    exact ⟨t, ht, moreSpecific_sound_common_name (mem_matches (.inr hf)) (mem_matches (.inl ht)) hm⟩

theorem winner_dominates_full_holds : winner_dominates_full :=
  fun ps name hnd => (winner_dominates ps name hnd).1

/-- the case the property text names, patterns without a literal newline; the hypothesis is not used -/
theorem winner_dominates_partial (ps : List Pat) (name : Str) (hnd : (ps.map (·.pat)).Nodup)
    (_hclean : ∀ p ∈ ps, ∀ c ∈ p.pat, c ≠ '\n') :
    (decideName ps name = .dontIgnore → ∀ t ∈ trueMatches ps name,
      ∃ f ∈ falseMatches ps name, ∀ s, matchesName f s = true → matchesName t s = true) ∧
    (decideName ps name = .ignore → isRebaseTable name = false → ∀ f ∈ falseMatches ps name,
      ∃ t ∈ trueMatches ps name, ∀ s, matchesName t s = true → matchesName f s = true) :=
  winner_dominates ps name hnd

example : decideName [⟨"a*".toList, true⟩, ⟨"a?".toList, false⟩] "ab".toList = .dontIgnore := by decide +kernel

/-! ## 5b. equally specific patterns whose normal forms differ (finding D4) -/

/-- the property's conflict rule, semantically: a matching ignored and a matching not-ignored
pattern that match exactly the same names are reported as a conflict -/
def equally_specific_conflict_full : Prop :=
  ∀ (ps : List Pat) (name : Str), (ps.map (·.pat)).Nodup →
    (∃ t ∈ trueMatches ps name, ∃ f ∈ falseMatches ps name, ∀ s, matchesName t s = matchesName f s) →
    decideName ps name = .conflict

theorem starLoop_nil (s : Str) : starLoop (matchWith dotOk []) s = s.all dotOk := by
  induction s with
  | nil => rfl
  | cons c cs ih =>
    have e : matchWith dotOk [] (c :: cs) = false := rfl
    rw [starLoop, ih, e]; simp

theorem match_q_pct (s : Str) : matchesName "?%".toList s = (!s.isEmpty && s.all dotOk) := by
  cases s with
  | nil => rfl
  | cons c cs =>
    show (charOk dotOk '?' c && starLoop (matchWith dotOk []) cs) = _
    rw [starLoop_nil]; simp [charOk]

theorem match_star_q_pct (s : Str) : matchesName "*?%".toList s = (!s.isEmpty && s.all dotOk) := by
  show starLoop (matchWith dotOk "?%".toList) s = _
  induction s with
  | nil => rfl
  | cons c cs ih =>
    have h := match_q_pct (c :: cs)
    unfold matchesName at h
    rw [starLoop, h, ih]
    cases cs with
    | nil => simp
    | cons d ds => simp

/-- Refuted (holds only for equal *normal forms*, `ignore_decision_spec`): `?%` (ignored) and `*?%`
(not ignored) match exactly the same names -- one or more non-newline characters -- but their
normal forms `?%` / `%?%` differ, `*?%` is accepted as less specific than `?%` and not vice versa,
and the verdict is "ignored" instead of a conflict.  Replayed on the real code by the harness
(key `C46/normalizePattern/equivalent-patterns-different-normal-form`). -/
theorem equally_specific_conflict_full_false : ¬ equally_specific_conflict_full := by
  intro h
  have := h [⟨"?%".toList, true⟩, ⟨"*?%".toList, false⟩] "ab".toList (by decide +kernel)
    ⟨"?%".toList, by decide +kernel, "*?%".toList, by decide +kernel, fun s => by rw [match_q_pct, match_star_q_pct]⟩
  revert this; decide +kernel

/-! ## 6. staging: add -A / add <tables> / commit -A -/

/-- **A successful `dolt add`, pointwise** (whatever was named, existing or not): exactly the named
tables decided "not ignored" take their working value, every other entry of the staged root is
unchanged. -/
theorem stageTables_get? {ps : List Pat} {tbls : List Str} {st w st' : Root}
    (h : stageTables false ps tbls st w = .ok st') (n : Str) :
    st'.get? n = if n ∈ tbls ∧ decideName ps n = .dontIgnore then w.get? n else st.get? n := by
  rw [stageTables_ok h, get?_moveTables]
  simp only [List.mem_filter, beq_iff_eq]

/-- `StageTables` without `--force`, pointwise: either the first named table with conflicting
patterns is reported and nothing happens, or exactly the named tables decided "not ignored" take
their working value and every other entry of the staged root is unchanged. -/
theorem stageTables_spec (ps : List Pat) (tbls : List Str) (st w : Root)
    (hex : ∀ n ∈ tbls, st.has n = true ∨ w.has n = true) :
    ((∃ n ∈ tbls, decideName ps n = .conflict) →
      ∃ n ∈ tbls, decideName ps n = .conflict ∧ stageTables false ps tbls st w = .error (.conflict n)) ∧
    ((∀ n ∈ tbls, decideName ps n ≠ .conflict) →
      ∃ st', stageTables false ps tbls st w = .ok st' ∧
        ∀ n, st'.get? n = if n ∈ tbls ∧ decideName ps n = .dontIgnore then w.get? n else st.get? n) := by
  obtain ⟨h1, h2⟩ := stageWith_spec ps tbls (v := (validateTables · st w)) (moveTables · w st)
    (validateTables_ok fun n hn => hex n (List.mem_filter.mp hn).1)
  exact ⟨h1, fun h => ⟨_, h2 h, stageTables_get? (h2 h)⟩⟩

/-- a successful `add -A`, pointwise: a name in neither root has no entry on either side -/
theorem stageAll_ok {ps : List Pat} {st w st' : Root} (h : stageAll false ps st w = .ok st')
    (n : Str) : st'.get? n = if decideName ps n = .dontIgnore then w.get? n else st.get? n := by
  rw [stageTables_get? h]
  simp only [mem_unionNames]
  by_cases hd : decideName ps n = .dontIgnore
  · by_cases hm : st.has n = true ∨ w.has n = true
    · rw [if_pos ⟨hm, hd⟩, if_pos hd]
    · rw [if_neg (fun h => hm h.1), if_pos hd]
      rw [not_or] at hm
      rw [get?_none_of_not_has hm.1, get?_none_of_not_has hm.2]
  · rw [if_neg (fun h => hd h.2), if_neg hd]

/-- `dolt add -A` (= the staging half of `dolt commit -A`), pointwise over *all* table names. -/
theorem stageAll_spec (ps : List Pat) (st w : Root) :
    ((∃ n ∈ unionNames st w, decideName ps n = .conflict) →
      ∃ n ∈ unionNames st w, decideName ps n = .conflict ∧
        stageAll false ps st w = .error (.conflict n)) ∧
    ((∀ n ∈ unionNames st w, decideName ps n ≠ .conflict) →
      ∃ st', stageAll false ps st w = .ok st' ∧
        ∀ n, st'.get? n = if decideName ps n = .dontIgnore then w.get? n else st.get? n) := by
  obtain ⟨h1, h2⟩ := stageTables_spec ps (unionNames st w) st w
    fun n hn => (mem_unionNames st w n).mp hn
  refine ⟨h1, fun h => ?_⟩
  obtain ⟨st', he, _⟩ := h2 h
  exact ⟨st', he, stageAll_ok he⟩

/-- **`dolt add` never stages an ignored name**, whatever tables are named: only names decided "not
ignored" are moved. -/
theorem stageTables_excludes_ignored {ps : List Pat} {tbls : List Str} {st w st' : Root}
    (h : stageTables false ps tbls st w = .ok st') {n : Str} (hn : decideName ps n = .ignore) :
    st'.get? n = st.get? n := by
  rw [stageTables_get? h, if_neg]
  intro hm
  rw [hn] at hm; cases hm.2

/-- **Ignored tables are never staged by `add -A` / `commit -A`**: the staged entry of every name
decided "ignore" is left exactly as it was — a new ignored table stays out, the drop of an ignored
table stays out. -/
theorem staging_excludes_ignored {ps : List Pat} {st w st' : Root}
    (h : stageAll false ps st w = .ok st') {n : Str} (hn : decideName ps n = .ignore) :
    st'.get? n = st.get? n :=
  stageTables_excludes_ignored h hn

/-- **... while every change to a table decided "not ignored" is staged.** -/
theorem staging_includes_others {ps : List Pat} {st w st' : Root}
    (h : stageAll false ps st w = .ok st') {n : Str} (hn : decideName ps n = .dontIgnore) :
    st'.get? n = w.get? n := by
  rw [stageAll_ok h, if_pos hn]

example : (stageAll false [⟨"i*".toList, true⟩] [⟨"t".toList, 1⟩, ⟨"i1".toList, 5⟩]
    [⟨"t".toList, 2⟩, ⟨"i2".toList, 7⟩, ⟨"n".toList, 3⟩]).toOption =
    some [⟨"n".toList, 3⟩, ⟨"t".toList, 2⟩, ⟨"i1".toList, 5⟩] := by decide +kernel

/-- full statement (property text: "... while every other change is"): a modification of a
table that is already tracked is staged whatever dolt_ignore says -/
def modified_tracked_always_staged_full : Prop :=
  ∀ (ps : List Pat) (st w st' : Root) (n : Str), stageAll false ps st w = .ok st' →
    st.has n = true → w.has n = true → st'.get? n = w.get? n

/-- Refuted: a tracked table `t` whose name matches an ignore pattern is modified; `add -A`
succeeds and leaves the staged `t` at its old value.  Replayed on the real code by the harness
(SQL level, key `C46/StageTables/ignore-filter-applied-to-tracked-tables`). -/
theorem modified_tracked_always_staged_full_false : ¬ modified_tracked_always_staged_full := by
  intro h
  have := h [⟨"t".toList, true⟩] [⟨"t".toList, 1⟩] [⟨"t".toList, 2⟩] [⟨"t".toList, 1⟩] "t".toList
    (by rfl) (by decide +kernel) (by decide +kernel)
  revert this; decide +kernel

theorem commitAll_head {ps : List Pat} {hd st w h' st' : Root}
    (h : commitAll ps hd st w = .ok (h', st')) : h' = st' ∧ stageAll false ps st w = .ok st' := by
  unfold commitAll at h
  cases hs : stageAll false ps st w with
  | error e => simp [hs, bind, Except.bind] at h
  | ok s =>
    simp only [hs, bind, Except.bind] at h
    by_cases hsame : s.sameAs hd = true
    · simp [hsame] at h
    · simp only [hsame, Bool.false_eq_true, if_false, pure, Except.pure] at h
      cases h; exact ⟨rfl, rfl⟩

/-! ## 7. histories: an ignored table never reaches a commit -/

/-- at every step of the history that consults dolt_ignore, table `n` is decided "ignore" -/
def IgnoredThroughout (n : Str) : State → List Op → Prop
  | _, [] => True
  | s, op :: ops => (op.stages = true → decideName s.pats n = .ignore) ∧ IgnoredThroughout n (step s op) ops

instance IgnoredThroughout.dec (n : Str) : (ops : List Op) → (s : State) →
    Decidable (IgnoredThroughout n s ops)
  | [], _ => isTrue trivial
  | op :: ops, s =>
    have := IgnoredThroughout.dec n ops (step s op)
    by unfold IgnoredThroughout; exact inferInstance

theorem stageModified_untracked {st : Root} (w : Root) {n : Str} (hs : st.get? n = none) :
    (stageModified st w).get? n = none := by
  rw [stageModified, get?_moveTables, if_neg, hs]
  intro hm
  obtain ⟨e, he, rfl⟩ := List.mem_map.mp hm
  have hmem : e.name ∈ st.names := List.mem_map.mpr ⟨e, (List.mem_filter.mp he).1, rfl⟩
  exact (has_iff_get? _ _).mp ((mem_names_iff_has _ _).mp hmem) hs

theorem step_preserves {n : Str} {s : State} {op : Op}
    (hi : op.stages = true → decideName s.pats n = .ignore)
    (hs : s.staged.get? n = none) (hh : s.head.get? n = none) :
    (step s op).staged.get? n = none ∧ (step s op).head.get? n = none := by
  revert hi
  -- a failing step, an edit and a clean leave both roots alone
  fun_cases step s op <;> intro hi <;> try exact ⟨hs, hh⟩
  next st he => exact ⟨(stageTables_excludes_ignored he (hi rfl)).trans hs, hh⟩  -- `add -A`
  next st he => exact ⟨(stageTables_excludes_ignored he (hi rfl)).trans hs, hh⟩  -- `add t1 …`
  next h' st' he =>
    -- `commit -A`: HEAD becomes the new staged root
    obtain ⟨rfl, hst⟩ := commitAll_head he
    have := (staging_excludes_ignored hst (hi rfl)).trans hs
    exact ⟨this, this⟩
  next => have key := stageModified_untracked s.working hs; exact ⟨key, key⟩  -- `commit -a`, something to commit

/-- **Over all histories**: a table that is in neither HEAD nor the staged root, and that
dolt_ignore says to ignore at every add / commit step (the working set and the dolt_ignore rows
may change arbitrarily in between, the table may be created, modified, dropped, cleaned), is in
neither HEAD nor the staged root at the end — it never reaches a commit. -/
theorem ignored_never_committed (n : Str) : ∀ (ops : List Op) (s : State),
    s.staged.get? n = none → s.head.get? n = none → IgnoredThroughout n s ops →
    (run s ops).staged.get? n = none ∧ (run s ops).head.get? n = none
  | [], _, hs, hh, _ => ⟨hs, hh⟩
  | op :: ops, s, hs, hh, hi => by
    obtain ⟨h1, h2⟩ := step_preserves hi.1 hs hh
    exact ignored_never_committed n ops (step s op) h1 h2 hi.2

example : IgnoredThroughout "i".toList ⟨[], [], [], [⟨"i".toList, true⟩]⟩
    [.edit [⟨"i".toList, 1⟩, ⟨"t".toList, 2⟩] [⟨"i".toList, true⟩], .addAll, .commitAll] ∧
    (run ⟨[], [], [], [⟨"i".toList, true⟩]⟩
      [.edit [⟨"i".toList, 1⟩, ⟨"t".toList, 2⟩] [⟨"i".toList, true⟩], .addAll, .commitAll]).head
      = [⟨"t".toList, 2⟩] := by decide +kernel

/-! ## 8. clean -/

/-- **`dolt clean` removes exactly the untracked tables that are not ignored (all untracked ones
with `-x`) and nothing that is tracked.**  "Tracked" = present in the staged root; `nl` are the
dolt_nonlocal_tables patterns, always respected.  With conflicting patterns on any working table
(and without `-x`) clean fails and removes nothing. -/
theorem clean_exact (respect : Bool) (ps : List Pat) (nl : List Str) (st w : Root) :
    ((respect = true ∧ ∃ n ∈ w.names, decideName ps n = .conflict) →
      ∃ n, clean respect ps nl [] st w = .error (.conflict n) ∧ decideName ps n = .conflict) ∧
    (¬ (respect = true ∧ ∃ n ∈ w.names, decideName ps n = .conflict) →
      ∃ w', clean respect ps nl [] st w = .ok w' ∧
        ∀ n, w'.get? n =
          if w.has n = true ∧ st.has n = false ∧ (respect = false ∨ decideName ps n ≠ .ignore) ∧
             (nl.any (fun p => matchesName p n)) = false
          then none else w.get? n) := by
  cases respect with
  | false =>
    refine ⟨(fun h => nomatch h.1), fun _ => ⟨_, rfl, fun n => ?_⟩⟩
    rw [get?_filter_names]
    refine ite_cond_congr (propext ?_)
    simp only [List.mem_filter, mem_names_iff_has, Bool.not_eq_eq_eq_not, Bool.not_true, true_or,
      true_and]
    exact ⟨fun ⟨⟨a, c⟩, d⟩ => ⟨a, d, c⟩, fun ⟨a, d, c⟩ => ⟨⟨a, c⟩, d⟩⟩
  | true =>
    rcases find?_conflict_cases ps w.names with ⟨n, hn, hc, he⟩ | ⟨hno, he⟩
    · refine ⟨fun _ => ⟨n, ?_, hc⟩, fun h => absurd ⟨rfl, n, hn, hc⟩ h⟩
      simp [clean, he, bind, Except.bind]
    · refine ⟨fun h => ?_, fun _ => ⟨w.filter (fun e => !(List.filter (fun n => !st.has n)
          (List.filter (fun n => !nl.any (fun p => matchesName p n))
            (List.filter (fun n => decideName ps n != .ignore) w.names))).contains e.name),
          ?_, fun n => ?_⟩⟩
      · obtain ⟨_, n, hn, hc⟩ := h; exact absurd hc (hno n hn)
      · unfold clean
        simp only [List.isEmpty_nil, if_true, he, bind, Except.bind, pure, Except.pure]
      rw [get?_filter_names]
      refine ite_cond_congr (propext ?_)
      simp only [List.mem_filter, mem_names_iff_has, Bool.not_eq_eq_eq_not, Bool.not_true,
        bne_iff_ne, ne_eq, reduceCtorEq, false_or]
      exact ⟨fun ⟨⟨⟨a, b⟩, c⟩, d⟩ => ⟨a, d, b, c⟩, fun ⟨a, d, b, c⟩ => ⟨⟨⟨a, b⟩, c⟩, d⟩⟩

/-- **A tracked table is never touched by `dolt clean`**, with or without `-x` and whatever tables
are named: only candidates that are not in the staged root are removed. -/
theorem clean_tracked_untouched {respect : Bool} {ps : List Pat} {nonlocal names : List Str}
    {st w w' : Root} (h : clean respect ps nonlocal names st w = .ok w') {n : Str} (hn : st.has n = true) :
    w'.get? n = w.get? n := by
  obtain ⟨cands, rfl⟩ := clean_ok h
  rw [get?_filter_names, if_neg]
  simp [hn]

/-- corollary: a tracked table is never touched by clean (the form without table arguments, as in
`clean_exact`) -/
theorem clean_keeps_tracked {respect : Bool} {ps : List Pat} {nl : List Str} {st w w' : Root}
    (h : clean respect ps nl [] st w = .ok w') {n : Str} (hn : st.has n = true) :
    w'.get? n = w.get? n :=
  clean_tracked_untouched h hn

example : (clean true [⟨"i*".toList, true⟩] [] [] [⟨"t".toList, 1⟩]
    [⟨"t".toList, 2⟩, ⟨"i1".toList, 5⟩, ⟨"u".toList, 7⟩]).toOption
      = some [⟨"t".toList, 2⟩, ⟨"i1".toList, 5⟩] ∧
    (clean false [⟨"i*".toList, true⟩] [] [] [⟨"t".toList, 1⟩]
    [⟨"t".toList, 2⟩, ⟨"i1".toList, 5⟩, ⟨"u".toList, 7⟩]).toOption = some [⟨"t".toList, 2⟩] := by
  decide +kernel

/-! ## 9. table RENAME (roots with identities, `Model/IgnoreRename.lean`) -/

/-- `StageTables` without `--force` on roots with identities: the first named table with
conflicting patterns is reported, else the staged root becomes `stagedAfter` of the named tables
decided "not ignored". -/
theorem stageTablesR_spec (ps : List Pat) (tbls : List Str) (st w : TRoot)
    (hex : ∀ n ∈ tbls, st.has n = true ∨ w.has n = true) :
    ((∃ n ∈ tbls, decideName ps n = .conflict) →
      ∃ n ∈ tbls, decideName ps n = .conflict ∧ stageTablesR false ps tbls st w = .error (.conflict n)) ∧
    ((∀ n ∈ tbls, decideName ps n ≠ .conflict) →
      ∃ st', stageTablesR false ps tbls st w = .ok st' ∧
        ∀ n, st'.get? n =
          stagedAfter (tbls.filter (fun n => decideName ps n == .dontIgnore)) st w n) := by
  obtain ⟨h1, h2⟩ := stageWith_spec ps tbls (v := (validateTablesT · st w)) (moveTablesR · w st)
    (validateTablesT_ok fun n hn => hex n (List.mem_filter.mp hn).1)
  exact ⟨h1, fun h => ⟨_, h2 h, get?_moveTablesR _ w st⟩⟩

/-- the names `add -A` actually moves: tables of either root decided "not ignored" -/
def stagedNames (ps : List Pat) (st w : TRoot) : List Str :=
  (unionNamesT st w).filter (fun n => decideName ps n == .dontIgnore)

theorem mem_stagedNames (ps : List Pat) (st w : TRoot) (n : Str) :
    n ∈ stagedNames ps st w ↔
      ((st.has n = true ∨ w.has n = true) ∧ decideName ps n = .dontIgnore) := by
  simp [stagedNames, List.mem_filter, mem_unionNamesT]

/-- `dolt add -A` / staging half of `dolt commit -A` with renames, pointwise over all names -/
theorem stageAllR_spec (ps : List Pat) (st w : TRoot) :
    ((∃ n ∈ unionNamesT st w, decideName ps n = .conflict) →
      ∃ n ∈ unionNamesT st w, decideName ps n = .conflict ∧
        stageAllR false ps st w = .error (.conflict n)) ∧
    ((∀ n ∈ unionNamesT st w, decideName ps n ≠ .conflict) →
      ∃ st', stageAllR false ps st w = .ok st' ∧
        ∀ n, st'.get? n = stagedAfter (stagedNames ps st w) st w n) :=
  stageTablesR_spec ps (unionNamesT st w) st w (fun n hn => (mem_unionNamesT st w n).mp hn)

theorem stageAllR_ok {ps : List Pat} {st w st' : TRoot} (h : stageAllR false ps st w = .ok st') (n : Str) :
    st'.get? n = stagedAfter (stagedNames ps st w) st w n := by
  rw [stageTablesR_ok h]; exact get?_moveTablesR _ w st n

/-- **Ignored names and renames** (`staging_excludes_ignored` extended): after a successful
`add -A` / `commit -A` the staged entry of a name decided "ignore" is unchanged -- unless that table
was renamed in the working set to a name that is *not* ignored, in which case the rename is staged
and the old name leaves the staged root.  In particular a name that is not in the staged root and
is decided "ignore" is never staged, whether it is a new table or the new name of a renamed one. -/
theorem staging_excludes_ignored_rename {ps : List Pat} {st w st' : TRoot}
    (h : stageAllR false ps st w = .ok st') {n : Str} (hn : decideName ps n = .ignore) :
    st'.get? n =
      match renamedTo st w n with
      | some new => if decideName ps new = .dontIgnore then none else st.get? n
      | none => st.get? n := by
  rw [stageAllR_ok h n]
  cases hr : renamedTo st w n with
  | none => simp [stagedAfter, mem_stagedNames, hn, hr]
  | some new =>
    obtain ⟨hso, hwo, hwn, _⟩ := renamedTo_some hr
    simp [stagedAfter, mem_stagedNames, hn, hr, hso, hwo, hwn]

/-- corollary: an ignored name that is not in the staged root stays out of it (new table or
rename target alike) -/
theorem ignored_new_name_never_staged {ps : List Pat} {st w st' : TRoot}
    (h : stageAllR false ps st w = .ok st') {n : Str} (hn : decideName ps n = .ignore)
    (hs : st.has n = false) : st'.get? n = none := by
  rw [staging_excludes_ignored_rename h hn, renamedTo_none_of_not_staged hs]
  exact get?_none_of_not_hasT hs

/-- **What `add -A` / `commit -A` do with a renamed tracked table: only the new name decides.**
`old` (tracked) was renamed to `new` in the working set.  If `new` is decided "not ignored" the
rename is staged -- `old` leaves the staged root, `new` enters with the working value -- even when
`old` itself matches an ignore pattern.  If `new` is ignored nothing is staged: the staged root
keeps `old` as it was and does not get `new` -- even when `old` is not ignored. -/
theorem staging_rename {ps : List Pat} {st w st' : TRoot}
    (h : stageAllR false ps st w = .ok st') {old new : Str} (hr : renamedTo st w old = some new) :
    (decideName ps new = .dontIgnore → st'.get? old = none ∧ st'.get? new = w.get? new) ∧
    (decideName ps new = .ignore → st'.get? old = st.get? old ∧ st'.get? new = none) := by
  obtain ⟨hso, hwo, hwn, hsn⟩ := renamedTo_some hr
  rw [stageAllR_ok h old, stageAllR_ok h new]
  constructor <;> intro hd <;>
    simp [stagedAfter, mem_stagedNames, hr, hso, hwo, hwn, hsn, hd, get?_none_of_not_hasT hsn]

example : (stageAllR false [⟨"i*".toList, true⟩] [⟨"t".toList, 7, 1⟩, ⟨"u".toList, 8, 2⟩]
      [⟨"i1".toList, 7, 1⟩, ⟨"v".toList, 8, 3⟩]).toOption
    = some [⟨"t".toList, 7, 1⟩, ⟨"v".toList, 8, 3⟩] ∧
    renamedTo [⟨"t".toList, 7, 1⟩, ⟨"u".toList, 8, 2⟩] [⟨"i1".toList, 7, 1⟩, ⟨"v".toList, 8, 3⟩] "t".toList
      = some "i1".toList := by decide +kernel

/-- without any rename in the working set the rename-aware machine is the plain one: every name
that is not renamed away gets exactly what `stageAll_spec` says -/
theorem staging_no_rename {ps : List Pat} {st w st' : TRoot}
    (h : stageAllR false ps st w = .ok st') {n : Str} (hr : renamedTo st w n = none) :
    st'.get? n = if decideName ps n = .dontIgnore then w.get? n else st.get? n := by
  rw [stageAllR_ok h n]
  by_cases hd : decideName ps n = .dontIgnore
  · cases hw : w.has n <;> cases hs : st.has n <;>
      simp [stagedAfter, mem_stagedNames, hr, hd, get?_none_of_not_hasT, hw, hs]
  · simp [stagedAfter, mem_stagedNames, hr, hd]

/-- **`dolt clean` on roots with identities** (`clean_exact` extended): clean is blind to renames --
"untracked" is decided by the *name* alone. -/
theorem cleanR_exact (respect : Bool) (ps : List Pat) (nl : List Str) (st w : TRoot) :
    ((respect = true ∧ ∃ n ∈ w.names, decideName ps n = .conflict) →
      ∃ n, cleanR respect ps nl [] st w = .error (.conflict n) ∧ decideName ps n = .conflict) ∧
    (¬ (respect = true ∧ ∃ n ∈ w.names, decideName ps n = .conflict) →
      ∃ w', cleanR respect ps nl [] st w = .ok w' ∧
        ∀ n, w'.get? n =
          if w.has n = true ∧ st.has n = false ∧ (respect = false ∨ decideName ps n ≠ .ignore) ∧
             (nl.any (fun p => matchesName p n)) = false
          then none else w.get? n) := by
  obtain ⟨h1, h2⟩ := clean_exact respect ps nl st.plain w.plain
  rw [plain_names] at h1 h2
  refine ⟨fun h => ?_, fun h => ?_⟩
  · obtain ⟨n, he, hc⟩ := h1 h
    exact ⟨n, by rw [cleanR, he], hc⟩
  · obtain ⟨w', he, hs⟩ := h2 h
    refine ⟨_, by rw [cleanR, he], fun n => ?_⟩
    -- an entry survives iff its name does in the plain root
    rw [get?_filterT (fun m => w'.has m), Root.has, hs n, plain_has, plain_has, plain_get?]
    split
    · rfl
    · cases w.get? n <;> rfl

/-- **Stated outright: a tracked table that was renamed in the working set is removed by
`dolt clean`** (under its new name it is "untracked"), unless the new name is ignored and `-x` is
not given (or it matches dolt_nonlocal_tables).  The staged root still holds the table under its
old name, so committed data survives; uncommitted changes to it are lost like those of any
untracked table. -/
theorem clean_removes_renamed {respect : Bool} {ps : List Pat} {st w w' : TRoot}
    (h : cleanR respect ps [] [] st w = .ok w') {old new : Str} (hr : renamedTo st w old = some new)
    (hi : respect = false ∨ decideName ps new ≠ .ignore) : w'.get? new = none := by
  obtain ⟨_, _, hwn, hsn⟩ := renamedTo_some hr
  rw [ok_of_spec (cleanR_exact respect ps [] st w) h new, if_pos ⟨hwn, hsn, hi, rfl⟩]

example : (cleanR true [] [] [] [⟨"t".toList, 7, 1⟩] [⟨"r".toList, 7, 2⟩]).toOption = some [] ∧
    renamedTo [⟨"t".toList, 7, 1⟩] [⟨"r".toList, 7, 2⟩] "t".toList = some "r".toList := by decide +kernel

end DoltVerif.C46
