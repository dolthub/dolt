import DoltVerif.Gen.BigValues
import DoltVerif.Model.BigValues
/-! Tie: the facts `Model/BigValues.lean` uses are those regenerated from the Go source. -/
namespace DoltVerif.Tie.BigValues
open DoltVerif DoltVerif.BigValues

theorem consts :
    Gen.BigValues.ByteLen = addrLen ∧ Gen.BigValues.maxVarIntLength = maxVarIntLength ∧
    Gen.BigValues.DefaultFixedChunkLength = 4000 ∧ Gen.BigValues.DefaultTupleLengthTarget = 2048 := by decide +kernel

/-- default fan-out 200 and the sizes at which the default tree grows a level -/
theorem default_shape :
    Gen.BigValues.DefaultFixedChunkLength / Gen.BigValues.ByteLen = 200 ∧
    topLevelOf 4000 4001 = 1 ∧ topLevelOf 4000 799999 = 1 ∧ topLevelOf 4000 800000 = 2 := by decide +kernel

/-- NULL = empty, inline = first byte 0, out of band = first byte ≠ 0 -/
theorem header_tests :
    Gen.BigValues.isNullBody = "{ return len(v) == 0 }" ∧
    Gen.BigValues.isInlinedBody = "{ if v.IsNull() { return false } return v[0] == 0 }" ∧
    Gen.BigValues.isOutOfBandBody = "{ if v.IsNull() { return false } return v[0] != 0 }" := ⟨rfl, rfl, rfl⟩

/-- out of band = varint(len) ++ address -/
theorem out_of_band_layout :
    Gen.BigValues.convertBytesToOutOfBandBody =
      "{ blobLength := uint64(len(value)) lengthSize, dest := makeVarInt(blobLength, dest) blobHash, err := vs.WriteBytes(ctx, value) if err != nil { return nil, err } dest = append(dest[:lengthSize], blobHash[:]...) return dest, nil }" := rfl

/-- `putOutOfBand target len = (len + 1 > target)` -/
theorem put_threshold :
    Gen.BigValues.putInlineSizeStmt = "inlineSize := int64(len(v) + 1)" ∧
    Gen.BigValues.putOutOfBandCond = "inlineSize > int64(tb.tupleLengthTarget)" := ⟨rfl, rfl⟩

/-- one `r.Read` per leaf (no `io.ReadFull`), fan-out and level loop of `Init`, `Chunk` = one
`Write` of the top writer -/
theorem blob_builder_shape :
    Gen.BigValues.leafWriteCalls = ["r.Read", "lw.bb.write"] ∧
    Gen.BigValues.initFanOut = "numAddrs := b.chunkSize / hash.ByteLen" ∧
    Gen.BigValues.initLevelLoop = "for dataSize > 0 { dataSize = dataSize / numAddrs b.topLevel += 1 }" ∧
    Gen.BigValues.chunkCalls = ["b.wr.Write"] := ⟨rfl, rfl, rfl, rfl⟩

/-- `compareChunkDiffer` calls `Next` once and compares that pair — the shape `compareAdaptive`
models (and the source of the recorded finding) -/
theorem compare_shape :
    Gen.BigValues.compareChunkDifferCalls = ["d.Next", "bytes.Compare"] ∧
    Gen.BigValues.compareChunkDifferHasLoop = false ∧
    Gen.BigValues.compareAdaptiveCalls =
      ["ns.CompareJsonAdaptiveValues", "val.InlineValueBytes", "val.InlineValueBytes", "bytes.Compare",
       "newBlobChunkDiffer", "compareChunkDiffer"] := ⟨rfl, rfl, rfl⟩

/-- every production caller of `SerializeBytesToAddr` passes a `bytes.Reader` (which fills the
buffer until EOF): the `FullReads` hypothesis of the blob theorems holds for all of them -/
theorem readers_are_bytes_readers :
    (∀ a ∈ Gen.BigValues.serializeBytesReaderArgs, a = "bytes.NewReader") ∧
    Gen.BigValues.serializeBytesReaderArgs.length = Gen.BigValues.serializeBytesReaders.length := by decide +kernel

/-- the JSON path modelled by `jsonChunks`: marshal, one `appendJsonToBuffer`, one `processBuffer`
(candidate segment `buffer[chunkStart:valueOffset]`, cut iff `crossesBoundary`, then
`chunkStart = valueOffset`; afterwards the buffer is re-sliced from `chunkStart`), and `Done`
writing the remaining buffer as the final blob -/
theorem json_chunker_shape :
    Gen.BigValues.serializeJsonCalls =
      ["types.MarshallJson", "newEmptyJsonChunker", "jsonChunker.appendJsonToBuffer", "jsonChunker.processBuffer",
       "jsonChunker.Done"] ∧
    Gen.BigValues.jsonProcessBufferBody =
      "{ chunkStart := 0 err = j.jScanner.AdvanceToNextLocation() for err != io.EOF { if err != nil { return err } key := j.jScanner.currentPath.key value := j.jScanner.jsonBuffer[chunkStart:j.jScanner.valueOffset] if crossesBoundary(key, value) { err := j.createNewLeafChunk(ctx, key, value) if err != nil { return err } chunkStart = j.jScanner.valueOffset } err = j.jScanner.AdvanceToNextLocation() } if chunkStart > 0 { newValueOffset := j.jScanner.valueOffset - chunkStart newScanner := ScanJsonFromMiddle(j.jScanner.jsonBuffer[chunkStart:], j.jScanner.currentPath) newScanner.valueOffset = newValueOffset j.jScanner = &newScanner } return nil }" ∧
    Gen.BigValues.jsonDoneNoCursor =
      "if j.jCur == nil { // The remaining buffer becomes the final blob err := j.createNewLeafChunk(ctx, endOfDocumentKey, j.jScanner.jsonBuffer) if err != nil { return nil, err } return j.chunker.Done(ctx) }" :=
  ⟨rfl, rfl, rfl⟩

end DoltVerif.Tie.BigValues
