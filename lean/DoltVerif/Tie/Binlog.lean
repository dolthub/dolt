import DoltVerif.Gen.Binlog
import DoltVerif.Model.Binlog
/-! Tie: the facts `Model/Binlog.lean` uses are exactly those regenerated from the Go source
(`binlog_type_serialization.go`, `binlog_row_serialization.go`) and from the vitess version the
repository pins (`replication_constants.go`). -/
namespace DoltVerif.Tie.Binlog
open DoltVerif DoltVerif.Binlog

/-- numeric values of the `mysql.Type*` constants the metadata methods return -/
theorem type_codes :
    Gen.Binlog.mysqlTypeTiny = tTiny ∧ Gen.Binlog.mysqlTypeShort = tShort ∧ Gen.Binlog.mysqlTypeInt24 = tInt24 ∧
    Gen.Binlog.mysqlTypeLong = tLong ∧ Gen.Binlog.mysqlTypeLongLong = tLongLong ∧ Gen.Binlog.mysqlTypeFloat = tFloat ∧
    Gen.Binlog.mysqlTypeDouble = tDouble ∧ Gen.Binlog.mysqlTypeYear = tYear ∧ Gen.Binlog.mysqlTypeDate = tDate ∧
    Gen.Binlog.mysqlTypeTime2 = tTime2 ∧ Gen.Binlog.mysqlTypeDateTime2 = tDateTime2 ∧
    Gen.Binlog.mysqlTypeTimestamp2 = tTimestamp2 ∧ Gen.Binlog.mysqlTypeNewDecimal = tNewDecimal ∧
    Gen.Binlog.mysqlTypeBit = tBit ∧ Gen.Binlog.mysqlTypeEnum = tEnum ∧ Gen.Binlog.mysqlTypeSet = tSet ∧
    Gen.Binlog.mysqlTypeString = tString ∧ Gen.Binlog.mysqlTypeVarchar = tVarchar ∧ Gen.Binlog.mysqlTypeBlob = tBlob ∧
    Gen.Binlog.mysqlTypeJSON = tJSON ∧ Gen.Binlog.mysqlTypeGeometry = tGeometry := by decide +kernel

/-- the query-type → serializer dispatch table the model's `ColType` constructors stand for -/
theorem dispatch : Gen.Binlog.typeSerializersMap =
    [("query.Type_FLOAT32", "floatSerializer"), ("query.Type_FLOAT64", "floatSerializer"),
     ("query.Type_VARCHAR", "stringSerializer"), ("query.Type_CHAR", "stringSerializer"),
     ("query.Type_VARBINARY", "stringSerializer"), ("query.Type_BINARY", "stringSerializer"),
     ("query.Type_YEAR", "yearSerializer"), ("query.Type_DATETIME", "datetimeSerializer"),
     ("query.Type_TIMESTAMP", "timestampSerializer"), ("query.Type_DATE", "dateSerializer"),
     ("query.Type_TIME", "timeSerializer"),
     ("query.Type_INT8", "integerSerializer"), ("query.Type_INT16", "integerSerializer"),
     ("query.Type_INT24", "integerSerializer"), ("query.Type_INT32", "integerSerializer"),
     ("query.Type_INT64", "integerSerializer"), ("query.Type_UINT8", "integerSerializer"),
     ("query.Type_UINT16", "integerSerializer"), ("query.Type_UINT24", "integerSerializer"),
     ("query.Type_UINT32", "integerSerializer"), ("query.Type_UINT64", "integerSerializer"),
     ("query.Type_DECIMAL", "decimalSerializer"), ("query.Type_BIT", "bitSerializer"),
     ("query.Type_ENUM", "enumSerializer"), ("query.Type_SET", "setSerializer"),
     ("query.Type_BLOB", "blobSerializer"), ("query.Type_TEXT", "textSerializer"),
     ("query.Type_JSON", "jsonSerializer"), ("query.Type_GEOMETRY", "geometrySerializer")] := rfl

/-- `integerSerializer.metadata`: which type byte each width gets (both signs alike) -/
theorem integer_metadata : Gen.Binlog.metadata_integerSerializer =
    [("query.Type_INT8", "mysql.TypeTiny | 0"), ("query.Type_INT16", "mysql.TypeShort | 0"),
     ("query.Type_INT24", "mysql.TypeInt24 | 0"), ("query.Type_INT32", "mysql.TypeLong | 0"),
     ("query.Type_INT64", "mysql.TypeLongLong | 0"), ("query.Type_UINT8", "mysql.TypeTiny | 0"),
     ("query.Type_UINT16", "mysql.TypeShort | 0"), ("query.Type_UINT24", "mysql.TypeInt24 | 0"),
     ("query.Type_UINT32", "mysql.TypeLong | 0"), ("query.Type_UINT64", "mysql.TypeLongLong | 0"),
     ("default", "0 | 0")] := rfl

theorem integer_metadata_model : ∀ sg,
    colMeta (.int .w1 sg) = (Gen.Binlog.mysqlTypeTiny, 0) ∧ colMeta (.int .w2 sg) = (Gen.Binlog.mysqlTypeShort, 0) ∧
    colMeta (.int .w3 sg) = (Gen.Binlog.mysqlTypeInt24, 0) ∧ colMeta (.int .w4 sg) = (Gen.Binlog.mysqlTypeLong, 0) ∧
    colMeta (.int .w8 sg) = (Gen.Binlog.mysqlTypeLongLong, 0) := by decide +kernel

theorem scalar_metadata :
    Gen.Binlog.metadata_floatSerializer =
      [("query.Type_FLOAT32", "mysql.TypeFloat | uint16(4)"), ("query.Type_FLOAT64", "mysql.TypeDouble | uint16(8)"), ("default", "0 | 0")] ∧
    Gen.Binlog.metadata_yearSerializer = [("", "mysql.TypeYear | 0")] ∧
    Gen.Binlog.metadata_dateSerializer = [("", "mysql.TypeDate | 0")] ∧
    Gen.Binlog.metadata_timeSerializer = [("", "mysql.TypeTime2 | uint16(6)")] ∧
    Gen.Binlog.metadata_datetimeSerializer = [("", "mysql.TypeDateTime2 | uint16(dtType.Precision())")] ∧
    Gen.Binlog.metadata_timestampSerializer = [("", "mysql.TypeTimestamp2 | uint16(dtType.Precision())")] ∧
    Gen.Binlog.metadata_decimalSerializer =
      [("", "mysql.TypeNewDecimal | (uint16(decimalType.Precision()) << 8) | uint16(decimalType.Scale())")] ∧
    Gen.Binlog.metadata_bitSerializer = [("", "mysql.TypeBit | uint16(numBytes)<<8 | uint16(numBits)")] ∧
    Gen.Binlog.metadata_enumSerializer =
      [("numElements <= 0xFF", "mysql.TypeString | mysql.TypeEnum<<8 | 1"), ("else", "mysql.TypeString | mysql.TypeEnum<<8 | 2")] ∧
    Gen.Binlog.metadata_setSerializer = [("", "mysql.TypeString | mysql.TypeSet<<8 | numBytes")] ∧
    Gen.Binlog.metadata_geometrySerializer = [("", "mysql.TypeGeometry | uint16(4)")] := by and_intros <;> rfl

theorem string_metadata :
    Gen.Binlog.metadata_stringSerializer =
      [("query.Type_VARCHAR,query.Type_VARBINARY", "mysql.TypeVarchar | uint16(maxFieldLengthInBytes)"),
       ("query.Type_CHAR,query.Type_BINARY", "mysql.TypeString | ((mysql.TypeString << 8) ^ upperBits) | lowerBits"),
       ("default", "0 | 0")] := rfl

/-- the length-prefix width thresholds of BLOB/TEXT (`metadata` and `encodeBlobBytes` agree) and of JSON -/
theorem blob_metadata :
    Gen.Binlog.metadata_blobSerializer =
      [("blobType.MaxByteLength() > 0xFFFFFF", "mysql.TypeBlob | uint16(4)"), ("blobType.MaxByteLength() > 0xFFFF", "mysql.TypeBlob | uint16(3)"),
       ("blobType.MaxByteLength() > 0xFF", "mysql.TypeBlob | uint16(2)"), ("else", "mysql.TypeBlob | uint16(1)")] ∧
    Gen.Binlog.metadata_textSerializer = Gen.Binlog.metadata_blobSerializer ∧
    Gen.Binlog.metadata_jsonSerializer =
      [("maxByteLength > 0xFFFFFF", "mysql.TypeJSON | uint16(4)"), ("maxByteLength > 0xFFFF", "mysql.TypeJSON | uint16(3)"),
       ("maxByteLength > 0xFF", "mysql.TypeJSON | uint16(2)"), ("else", "mysql.TypeJSON | uint16(1)")] ∧
    Gen.Binlog.lits__encodeBlobBytes = [16777215, 4, 65535, 4, 3, 255, 2] ∧
    Gen.Binlog.lits__encodeBytes = [1, 255, 2, 1, 0, 2] := by and_intros <;> rfl

/-- `digitsToBytes` = the model's table = decimal.c's `dig2bytes` -/
theorem digits_table :
    Gen.Binlog.digitsToBytes = (List.range 10).map digitsToBytes ∧
    Gen.Binlog.digitsToBytes = (List.range 10).map dig2bytes := by decide +kernel

/-- the integer literals of the temporal packers (offsets 0x800000 / 0x8000000000 / 0x1000000,
shift widths, the 13-months-per-year multiplier, the 1900 year base, the fsp switch) and their
byte orders -/
theorem packing_constants :
    Gen.Binlog.lits_timeSerializer_serialize =
      [0, 1, 1000000, 60, 60, 60, 60, 60, 1000000, 0, 60, 0, 1, 60, 0, 1, 16777216, 12, 6, 8388608, 1, 4, 1, 16, 8] ∧
    Gen.Binlog.endian_timeSerializer_serialize = ["binary.BigEndian.PutUint32"] ∧
    Gen.Binlog.lits_dateSerializer_serialize = [9, 5, 4, 3] ∧
    Gen.Binlog.endian_dateSerializer_serialize = ["binary.LittleEndian.PutUint32"] ∧
    Gen.Binlog.lits_datetimeSerializer_serialize =
      [13, 5, 12, 6, 17, 549755813888, 8, 3, 1000, 1, 2, 10000, 3, 4, 100, 8, 100, 5, 6, 16, 8] ∧
    Gen.Binlog.endian_datetimeSerializer_serialize = ["binary.BigEndian.PutUint64"] ∧
    Gen.Binlog.lits_timestampSerializer_serialize = [4, 1000, 1, 2, 10000, 3, 4, 100, 8, 100, 5, 6, 16, 8] ∧
    Gen.Binlog.endian_timestampSerializer_serialize = ["binary.BigEndian.PutUint32"] ∧
    Gen.Binlog.lits_yearSerializer_serialize = [0, 0, 1900] ∧
    Gen.Binlog.lits_bitSerializer_serialize = [7, 8, 8] ∧
    Gen.Binlog.endian_bitSerializer_serialize = ["binary.BigEndian.PutUint64"] ∧
    Gen.Binlog.lits_bitSerializer_metadata = [8, 8, 8] ∧
    Gen.Binlog.lits_setSerializer_serialize = [7, 8, 8] ∧
    Gen.Binlog.endian_setSerializer_serialize = ["binary.LittleEndian.PutUint64"] ∧
    Gen.Binlog.lits_enumSerializer_serialize = [255, 2] ∧
    Gen.Binlog.endian_enumSerializer_serialize = ["binary.LittleEndian.PutUint16"] ∧
    Gen.Binlog.lits__encodeDecimalBits = [0, 0, 9, 9, 0, 9, 4] ∧
    Gen.Binlog.endian__encodeDecimalBits = ["binary.BigEndian.PutUint32"] ∧
    Gen.Binlog.lits_jsonSerializer_serialize = [4] ∧
    Gen.Binlog.endian_jsonSerializer_serialize = ["binary.LittleEndian.PutUint32"] ∧
    Gen.Binlog.lits__appendGeometryWithLengthPrefix = [4, 4] := by and_intros <;> rfl

theorem partial_decimal_literals : Gen.Binlog.lits__encodePartialDecimalBits =
    [0, 0, 0, 1, 0, 1, 2, 0, 8, 1, 255, 2, 3, 0, 16, 1, 8, 255, 2, 255, 3, 4, 0, 24, 1, 16, 255, 2, 8, 255, 3, 255, 4, 0] := rfl

/-- `encodeJsonObject` writes a key entry as the offset followed by `byte(len), byte(len>>8)` (the
repaired form, /repo 22b8e06) — what `jsonKeyEntry` transliterates — and
`calculateInitialObjectKeysOffset` has the constants of `initialObjectKeysOffset`. -/
theorem json_key_entry :
    Gen.Binlog.jsonKeyEntryWrites =
      ["appendForEncoding(keyEntriesBuffer, nextKeysOffset, largeEncoding)",
       "append(keyEntriesBuffer, byte(len(encodedValue)), byte(len(encodedValue)>>8))"] ∧
    Gen.Binlog.lits__calculateInitialObjectKeysOffset = [2, 2, 4, 3, 4, 4, 6, 5] ∧
    (∀ n : Fin 8, initialObjectKeysOffset n.val false = 2 + 2 + n.val * 4 + n.val * 3 ∧
                  initialObjectKeysOffset n.val true = 4 + 4 + n.val * 6 + n.val * 5) :=
  ⟨rfl, rfl, by decide +kernel⟩

/-- `serializeRowToBinlogBytes`: one server bitmap, a NULL flag for a missing/NULL column without
any bytes, otherwise deserialize → serialize → append -/
theorem row_serialization_calls : Gen.Binlog.rowSerializationCalls =
    ["mysql.NewServerBitmap", "nullBitmap.Set", "deserializer.deserialize", "nullBitmap.Set", "serializer.serialize", "append"] := rfl

end DoltVerif.Tie.Binlog
