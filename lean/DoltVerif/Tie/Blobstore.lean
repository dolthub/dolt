import DoltVerif.Gen.Blobstore
import DoltVerif.Model.Blobstore
/-! Tie: the facts `Model/Blobstore.lean` transliterates are exactly those regenerated from the Go source. -/
namespace DoltVerif.Tie.Blobstore
open DoltVerif DoltVerif.Blobstore

/-- the statements of the three range functions, in order (the model follows them line by line) -/
theorem range_source :
    Gen.Blobstore.isAllRangeStmts = ["return br.offset == 0 && br.length == 0"]
    ∧ Gen.Blobstore.positiveRangeStmts = ["offset := br.offset", "length := br.length", "if offset < 0",
        "offset = size + offset", "if offset+length > size || length == 0", "length = size - offset",
        "return BlobRange{offset, length}"]
    ∧ Gen.Blobstore.asHttpRangeHeaderStmts = ["if br.isAllRange()", "return \"\"", "if br.length == 0 || br.offset < 0",
        "return fmt.Sprintf(\"bytes=%d\", br.offset)", "return fmt.Sprintf(\"bytes=%d-%d\", br.offset, br.offset+br.length-1)"]
    ∧ Gen.Blobstore.newBlobRangeStmts = ["if length < 0", "return BlobRange{offset, length}"] := by and_intros <;> rfl
/-- the model's values on a sample that takes every branch of `positiveRange` -/
theorem range_branches :
    (BlobRange.mk (-3) 0).positiveRange 10 = ⟨7, 3⟩ ∧ (BlobRange.mk 2 20).positiveRange 10 = ⟨2, 8⟩
    ∧ (BlobRange.mk 2 3).positiveRange 10 = ⟨2, 3⟩ ∧ (BlobRange.mk 0 0).isAllRange = true := by decide +kernel
/-- local store: lock, (deferred unlock), read version, compare, put — one critical section -/
theorem local_cap_order : Gen.Blobstore.localCapCalls = ["fLock", "lck.Unlock", "bs.Get", "bs.Put"]
    ∧ Gen.Blobstore.localCapUnlockDeferred = true
    ∧ Gen.Blobstore.localCapConds = ["err != nil", "err != nil", "!IsNotFoundError(err)", "expectedVersion != ver"] := by and_intros <;> rfl
/-- local store: the version is the file's mtime string, on read and after a write; a write is
copy → sleep 10 ms → rename → stat -/
theorem local_version : Gen.Blobstore.localGetVersion = ["info.ModTime().String()"]
    ∧ Gen.Blobstore.localPutVersion = ["info.ModTime().String()"]
    ∧ Gen.Blobstore.localPutCalls = ["io.Copy", "time.Sleep", "file.Rename", "os.Stat"]
    ∧ Gen.Blobstore.localPutSleep = ["time.Millisecond * 10"] := by and_intros <;> rfl
theorem local_range_source : Gen.Blobstore.localRangeStmts = ["seekType := 1", "if br.offset < 0", "info, err := f.Stat()",
    "if err != nil", "return nil, err", "seekType = 0", "br = br.positiveRange(info.Size())",
    "_, err := f.Seek(br.offset, seekType)", "if err != nil", "return nil, err", "if br.length != 0",
    "return &localBlobRangeReadCloser{br: br, rc: f}, nil", "return f, nil"] := rfl
/-- in-memory store: mutex, compare (absent ⇔ expected ""), put with a fresh UUID version -/
theorem inmem_cap : Gen.Blobstore.inmemCapCalls = ["bs.mutex.Lock", "bs.mutex.Unlock", "bs.put"]
    ∧ Gen.Blobstore.inmemCapStmts = ["key := ManifestKey", "ver, ok := bs.versions[key]",
        "check := !ok && expectedVersion == \"\" || ok && expectedVersion == ver", "if !check",
        "return \"\", CheckAndPutError{key, expectedVersion, ver}", "return bs.put(ctx, key, bytes.NewReader(contents))"]
    ∧ Gen.Blobstore.inmemPutStmts = ["ver := uuid.New().String()", "data, err := io.ReadAll(reader)", "if err != nil",
        "return \"\", err", "bs.blobs[key] = data", "bs.versions[key] = ver", "return ver, nil"]
    ∧ Gen.Blobstore.inmemGetSlices = ["val[posBR.offset:]", "val[posBR.offset : posBR.offset+posBR.length]"] := by and_intros <;> rfl
/-- git-backed store: `CheckAndPutManifest` runs `build` inside the retry loop (fetch → build → update
ref → push with a lease on the *fetched* head → retry on lease failure), and the comparison of the
expected with the fetched manifest version is a top-level statement of `build` — executed on
EVERY attempt, not guarded by the cached-plan test.  This is the `checkEvery = true` instance of
`Blobstore.capRetry`, for which `C42.capRetry_is_cap` holds. -/
theorem git_cap_revalidates :
    Gen.Blobstore.gitCapClosureTopLevel = ["actualKeyVersion, err := gbs.currentKeyVersion(ctx, remoteHead, ok, key)",
      "if err != nil", "if expectedVersion != actualKeyVersion", "if cachedPlan == nil", "return"]
    ∧ Gen.Blobstore.gitCapVersionChecks = ["expectedVersion != actualKeyVersion | enclosed by: "]
    ∧ Gen.Blobstore.gitRetryLoopCalls = ["gbs.writeMu.Lock", "gbs.fetchAlignAndMergeForWrite", "build", "gbs.api.UpdateRef",
        "gbs.api.PushRefWithLease", "backoff.Retry"]
    ∧ Gen.Blobstore.gitPushLeaseArgs = ["ctx", "gbs.remoteName", "gbs.localRef", "gbs.remoteRef", "remoteHead"] := by and_intros <;> rfl
/-- NBS on a blobstore commits its manifest through CheckAndPutManifest -/
theorem nbs_uses_cap : Gen.Blobstore.bsManifestCapCalls = ["updateBSWithChecker:bs.CheckAndPutManifest"] := rfl

end DoltVerif.Tie.Blobstore
