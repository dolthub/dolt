import DoltVerif.Gen.BranchControl
import DoltVerif.Model.BranchControl
/-! Tie: the facts `Model/BranchControl.lean` uses are exactly those regenerated from the Go source.
Constants are compared with the model's; code shapes (switch cases, branch conditions, call orders,
collations) are compared with the literal shape the transliteration was written from, so that an
edit of the Go code that changes any of them fails here. -/
namespace DoltVerif.Tie.BranchControl
open DoltVerif

theorem consts :
    Gen.BranchControl.singleMatch = BranchControl.singleMatch ∧
    Gen.BranchControl.anyMatch = BranchControl.anyMatch ∧
    Gen.BranchControl.columnMarker = BranchControl.columnMarker := by decide +kernel

theorem perm_bits :
    Gen.BranchControl.Permissions_Admin = BranchControl.permAdmin ∧
    Gen.BranchControl.Permissions_Write = BranchControl.permWrite ∧
    Gen.BranchControl.Permissions_Merge = BranchControl.permMerge ∧
    Gen.BranchControl.Permissions_Read = BranchControl.permRead ∧
    Gen.BranchControl.Permissions_None = 0 := by decide +kernel

/-- column order of `parse4`: database, branch, host under ai_ci, user under bin -/
theorem sorters :
    Gen.BranchControl.sortFuncs = ["aiciSorter", "aiciSorter", "sql.Collation_utf8mb4_0900_bin.Sorter()", "aiciSorter"] ∧
    Gen.BranchControl.aiciSorter = "sql.Collation_utf8mb4_0900_ai_ci.Sorter()" := ⟨rfl, rfl⟩

/-- `parseGo`: `\` escapes, `%` ↦ anyMatch, `_` ↦ singleMatch, else the sorter — in both parsers -/
theorem parse_cases :
    Gen.BranchControl.parseExpressionCases =
      [("'\\\\'", "escaped = true"), ("'%'", "orders = append(orders, anyMatch)"),
       ("'_'", "orders = append(orders, singleMatch)"), ("default", "orders = append(orders, sortFunc(r))")] ∧
    Gen.BranchControl.nodeParseExpressionCases =
      [("'\\\\'", "escaped = true"), ("'%'", "allSortOrders = append(allSortOrders, anyMatch)"),
       ("'_'", "allSortOrders = append(allSortOrders, singleMatch)"),
       ("default", "allSortOrders = append(allSortOrders, sortFunc(r))")] := ⟨rfl, rfl⟩

/-- `foldGo`: the two switches and the loop conditions of `FoldExpression` -/
theorem fold_cases :
    Gen.BranchControl.foldConsiderCases =
      [("'\\\\'", "newStrRunes = append(newStrRunes, '%', r); skipNext = true"),
       ("'_'", "newStrRunes = append(newStrRunes, r, '%')"),
       ("'%'", "newStrRunes = append(newStrRunes, r)"),
       ("default", "newStrRunes = append(newStrRunes, '%', r)")] ∧
    Gen.BranchControl.foldPlainCases =
      [("'\\\\'", "newStrRunes = append(newStrRunes, r); skipNext = true"),
       ("'%'", "considerNext = true"), ("default", "newStrRunes = append(newStrRunes, r)")] ∧
    Gen.BranchControl.foldLoopConds = ["skipNext", "considerNext", "considerNext", "str == newStr"] := by and_intros <;> rfl

/-- `matchesStep`, `isAtEnd`, `matchFlat` -/
theorem matches_shape :
    Gen.BranchControl.matchesCaseLabels = ["singleMatch", "anyMatch", "default"] ∧
    Gen.BranchControl.matchesConds =
      ["len(matchExpr.SortOrders) == 0", "sortOrder < singleMatch",
       "len(matchExpr.SortOrders) > 1 && matchExpr.SortOrders[1] == sortOrder",
       "sortOrder == matchExpr.SortOrders[0]"] ∧
    Gen.BranchControl.isAtEnd =
      "return len(matchExpr.SortOrders) == 0 || (len(matchExpr.SortOrders) == 1 && matchExpr.SortOrders[0] == anyMatch)" ∧
    Gen.BranchControl.matchCalls =
      ["utf8.DecodeRuneInString", "testExpr.Matches", "extra.IsValid", "testExpr.Matches", "extra.IsValid", "match.IsAtEnd"] := by and_intros <;> rfl

/-- `processMatch` -/
theorem processMatch_shape :
    Gen.BranchControl.processMatchCaseLabels = ["singleMatch", "anyMatch", "default"] ∧
    Gen.BranchControl.processMatchConds =
      ["sortOrder < singleMatch", "len(node.SortOrders) > 1", "node.SortOrders[1] == sortOrder", "ok",
       "sortOrder != columnMarker", "sortOrder == node.SortOrders[0]"] := ⟨rfl, rfl⟩

/-- `longestLoop` / `closePerms` -/
theorem matchIgnoring_shape :
    Gen.BranchControl.matchIgnoringConds =
      ["int64(result.RowIndex) == rowToIgnore", "result.Length > length", "result.Length == length",
       "perms&Permissions_Admin == Permissions_Admin", "perms&Permissions_Write == Permissions_Write",
       "perms&Permissions_Merge == Permissions_Merge"] := rfl

/-- `normCols`: database, branch, host are folded then lower-cased; user only folded -/
theorem access_norm :
    Gen.BranchControl.accessInsertNorm =
      ["database = strings.ToLower(FoldExpression(database))", "branch = strings.ToLower(FoldExpression(branch))",
       "user = FoldExpression(user)", "host = strings.ToLower(FoldExpression(host))"] ∧
    Gen.BranchControl.accessDeleteNorm = Gen.BranchControl.accessInsertNorm := ⟨rfl, rfl⟩

/-- `Namespace.canCreate`: database → branch → (longest) → user → host, with these collations -/
theorem canCreate_shape :
    Gen.BranchControl.canCreateMatchCalls =
      ["tbl.Databases database sql.Collation_utf8mb4_0900_ai_ci", "filteredBranches branch sql.Collation_utf8mb4_0900_ai_ci",
       "filteredUsers user sql.Collation_utf8mb4_0900_bin", "filteredHosts host sql.Collation_utf8mb4_0900_ai_ci"] ∧
    Gen.BranchControl.canCreateCalls =
      ["Match", "tbl.filterBranches", "Match", "tbl.filterUsers", "Match", "tbl.filterHosts", "Match"] ∧
    Gen.BranchControl.canCreateConds =
      ["len(filteredIndexes) == 0", "len(matchedSet) == 0", "len(matchedValue.Branch) > longest",
       "len(matchedValue.Branch) >= longest"] := by and_intros <;> rfl

/-- `addGo` / `removeGo` / `stepTrie`+`finish`: the branch conditions of `MatchNode.Add`, `Remove`
(incl. the parent merge only when the parent has no data of its own) and `Match` -/
theorem trie_shape :
    Gen.BranchControl.addConds =
      ["remainingRootSortOrders[0] == sortOrder",
       "len(remainingRootSortOrders) > 1 && i < allSortOrdersMaxIndex",
       "len(remainingRootSortOrders) > 1 && i == allSortOrdersMaxIndex",
       "len(remainingRootSortOrders) == 1 && i < allSortOrdersMaxIndex", "ok"] ∧
    Gen.BranchControl.removeConds =
      ["remainingRootSortOrders[0] == sortOrder",
       "len(remainingRootSortOrders) > 1 && i < allSortOrdersMaxIndex",
       "len(remainingRootSortOrders) > 1 && i == allSortOrdersMaxIndex",
       "len(remainingRootSortOrders) == 1 && i < allSortOrdersMaxIndex", "ok",
       "root.Data != nil", "len(root.Children) == 1", "len(root.Children) == 0", "rootParent != nil",
       "len(rootParent.Children) == 1 && rootParent.Data == nil"] ∧
    Gen.BranchControl.nodeMatchConds =
      ["len(node.SortOrders) == 0", "ok", "ok", "ok", "node.Data != nil", "len(node.SortOrders) == 0",
       "len(node.SortOrders) == 1 && node.SortOrders[0] == anyMatch"] := by and_intros <;> rfl

end DoltVerif.Tie.BranchControl
