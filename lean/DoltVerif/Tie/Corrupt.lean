import DoltVerif.Gen.Corrupt
import DoltVerif.Model.CorruptTable
import DoltVerif.Model.CorruptFormats
/-! Tie (C10): the layout constants and bounds-guard lists the panic-faithful models are written
against are exactly those regenerated from the Go source on every run. -/
namespace DoltVerif.Tie.Corrupt
open DoltVerif DoltVerif.Corrupt

theorem table_constants :
    Gen.Corrupt.uint32Size = Table.uint32Size ∧ Gen.Corrupt.uint64Size = Table.uint64Size ∧
    Gen.Corrupt.magicNumberSize = Table.magicNumberSize ∧ Gen.Corrupt.footerSize = Table.footerSize ∧
    Gen.Corrupt.prefixTupleSize = Table.prefixTupleSize ∧ Gen.Corrupt.checksumSize = Table.checksumSize ∧
    Gen.Corrupt.ordinalSize = Table.ordinalSize ∧ Gen.Corrupt.lengthSize = Table.lengthSize ∧
    Gen.Corrupt.offsetSize = Table.offsetSize ∧ Gen.Corrupt.doltMagicSize = Table.doltMagicSize ∧
    Gen.Corrupt.PrefixLen = Table.prefixLen ∧ Gen.Corrupt.SuffixLen = Table.suffixLen := by decide +kernel

theorem table_magic :
    Gen.Corrupt.magicNumberBytes = Table.magic.map (·.toNat) ∧
    Gen.Corrupt.doltMagicNumberBytes = Table.doltMagic.map (·.toNat) := by decide +kernel

theorem index_size_formula :
    Gen.Corrupt.indexSizeBody = "return uint64(numChunks) * (hash.SuffixLen + lengthSize + prefixTupleSize)" ∧
    Table.indexSize 1 = Gen.Corrupt.SuffixLen + Gen.Corrupt.lengthSize + Gen.Corrupt.prefixTupleSize := ⟨rfl, rfl⟩

/-- the one length guard of `newOnHeapTableIndex` precedes its slice expressions; the accessors
`entrySuffixMatches` / `offsetAt` have no guard on the ordinal; `lookup` compares only `ord == count`. -/
theorem table_guards :
    Gen.Corrupt.guardsNewOnHeapTableIndex.head? = some "len(indexBuff) != int(indexSize(count)+footerSize)" ∧
    Gen.Corrupt.guardsEntrySuffixMatches = [] ∧
    Gen.Corrupt.guardsOffsetAt = ["ord < chunks1"] ∧
    Gen.Corrupt.guardsLookup = ["err != nil", "ord == ti.count"] ∧
    Gen.Corrupt.guardsNewCompressedChunk = ["chksum != crc(compressedData)"] ∧
    Gen.Corrupt.parseTableIndexAllocatesUint32Product = true ∧
    Gen.Corrupt.iterateDiscardsReadFullError = false ∧ Gen.Corrupt.iterateReturnsReadFullError = true ∧
    Gen.Corrupt.iterateBufferIs4MiB = true ∧
    Gen.Corrupt.iterateGrowsBuffer = true ∧
    Table.iterBufSize = 4 * 1024 * 1024 := by and_intros <;> rfl

theorem journal_constants :
    Gen.Corrupt.journalRecLenSz = Journal.lenSz ∧ Gen.Corrupt.journalRecTagSz = Journal.tagSz ∧
    Gen.Corrupt.journalRecKindSz = Journal.kindSz ∧ Gen.Corrupt.journalRecAddrSz = Journal.addrSz ∧
    Gen.Corrupt.journalRecChecksumSz = Journal.checksumSz ∧ Gen.Corrupt.journalRecTimestampSz = Journal.timestampSz ∧
    Gen.Corrupt.kindJournalRecTag = Journal.kindTag ∧ Gen.Corrupt.addrJournalRecTag = Journal.addrTag ∧
    Gen.Corrupt.payloadJournalRecTag = Journal.payloadTag ∧ Gen.Corrupt.timestampJournalRecTag = Journal.timestampTag ∧
    Gen.Corrupt.lookupSz = JIndex.lookupSz ∧ Gen.Corrupt.lookupMetaSz = JIndex.lookupMetaSz := by decide +kernel

/-- `validateJournalRecord` has exactly these three guards, in this order (the ones `Journal.validate` is written
with), and `readJournalRecord` has no `if` at all (no length check before `buf[journalRecAddrSz:]` / `readUint64`). -/
theorem journal_guards :
    Gen.Corrupt.guardsValidateJournalRecord =
      ["len(buf) < (journalRecLenSz + journalRecChecksumSz)", "int(off) > len(buf)", "!crcMatches"] ∧
    Gen.Corrupt.guardsReadJournalRecord = [] := ⟨rfl, rfl⟩

/-- manifest: field-count guards; every hash field goes through `hash.MaybeParse`, none through the panicking `hash.Parse` -/
theorem manifest_facts :
    Gen.Corrupt.prefixLen = Manifest.prefixLen ∧ Gen.Corrupt.StringLen = Manifest.hashStringLen ∧
    Gen.Corrupt.StorageVersionBytes = [0x35] ∧ Gen.Corrupt.storageVersion4Bytes = [0x34] ∧
    Gen.Corrupt.guardsParseV5Manifest = ["err != nil", "len(slices) < prefixLen-1 || len(slices)%2 != 0", "err != nil", "!ok", "!ok", "!ok"] ∧
    Gen.Corrupt.guardsParseV4Manifest = ["err != nil", "len(slices) < 3 || len(slices)%2 == 0", "err != nil", "!ok", "!ok"] ∧
    Gen.Corrupt.hashCallsParseV5Manifest = ["hash.MaybeParse(slices[1])", "hash.MaybeParse(slices[3])", "hash.MaybeParse(slices[2])"] ∧
    Gen.Corrupt.hashCallsParseV4Manifest = ["hash.MaybeParse(slices[1])", "hash.MaybeParse(slices[2])"] := by and_intros <;> rfl

theorem archive_facts :
    Gen.Corrupt.afrIndexLenOffset = Archive.indexLenOffset ∧ Gen.Corrupt.afrByteSpanOffset = Archive.byteSpanOffset ∧
    Gen.Corrupt.afrChunkCountOffset = Archive.chunkCountOffset ∧ Gen.Corrupt.afrMetaLenOffset = Archive.metaLenOffset ∧
    Gen.Corrupt.afrDataChkSumOffset = Archive.dataChkSumOffset ∧
    Gen.Corrupt.archiveFormatVersionMax = Archive.versionMax ∧
    Gen.Corrupt.archiveVersionGiantIndexSupport = Archive.versionGiantIndex ∧
    Gen.Corrupt.archiveFileSignatureBytes = Archive.signature.map (·.toNat) ∧
    Gen.Corrupt.guardsBuildArchiveFooter.take 3 =
      ["f.fileSignature != archiveFileSignature", "f.formatVersion > archiveFormatVersionMax",
       "f.formatVersion < archiveVersionGiantIndexSupport"] := by and_intros <;> rfl

end DoltVerif.Tie.Corrupt
