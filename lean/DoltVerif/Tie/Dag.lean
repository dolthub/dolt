import DoltVerif.Gen.Dag
import DoltVerif.Model.Dag
/-! Tie (family Dag, C18/C19): the source-text facts regenerated from /repo are exactly the ones
`Model/Dag.lean` was transliterated from.  A changed guard, loop bound, comparison or call order in
the Go code changes the regenerated list and the corresponding theorem stops type-checking. -/
namespace DoltVerif.Tie.Dag
open DoltVerif

/-- `Dag.mkCommit`: height = maxHeight(parent heights) + heightStep -/
theorem heightStep : Gen.Dag.heightStep = Dag.heightStep := rfl
/-- `Dag.maxHeight`: `if h > maxheight` (strict, start 0) -/
theorem commitFlatbufferIfs : Gen.Dag.commitFlatbufferIfs = ["h > maxheight", "len(opts.Meta.Signature) != 0"] := rfl
theorem commitFlatbufferHeightCalls : Gen.Dag.commitFlatbufferHeightCalls = ["serial.CommitAddHeight(builder, maxheight+1)", "serial.CommitAddParentAddrs(builder, parentaddrsoff)", "serial.CommitAddParentClosure(builder, pcaddroff)"] := rfl
/-- heights come from the stored parents (`loadParents`), closure from `parentClosure` -/
theorem newCommitHeightSources : Gen.Dag.newCommitHeightSources = ["parents[i].Height()", "writeFbCommitParentClosure(ctx, cs, vrw, ns, parents, opts.Parents)", "commit_flatbuffer(r.TargetHash(), opts, heights, parentClosureAddr)"] := rfl
/-- `Dag.parentClosure`: no parents -> empty; only `AddedDiff` keys are added -/
theorem closureIfs : Gen.Dag.closureIfs = ["len(parents) == 0", "err != nil", "!types.IsNull(vs[i])", "err != nil", "fileId != serial.CommitClosureFileID", "err != nil", "err != nil", "diff.Type == tree.AddedDiff", "err != nil && !errors.Is(err, io.EOF)", "err != nil", "err != nil"] := rfl
/-- `Dag.parentClosure`: diffs from i = 1, parents themselves from i = 0 -/
theorem closureFors : Gen.Dag.closureFors = ["i := 1; i < len(closures); i++", "i := 0; i < len(parents); i++"] := rfl
/-- `Dag.parentClosure`: editor of closures[0]; diff(closures[0], closures[i]); Add key(parent height, parent addr) -/
theorem closureCalls : Gen.Dag.closureCalls = ["prolly.NewEmptyCommitClosure(ns)", "closures[0].Editor()", "prolly.DiffCommitClosures(.. func ..)", "editor.Add(ctx, prolly.CommitClosureKey(diff.Key))", "editor.Add(ctx, prolly.NewCommitClosureKey(ns.Pool(), parents[i].Height(), parentAddrs[i]))", "prolly.NewCommitClosureKey(ns.Pool(), parents[i].Height(), parentAddrs[i])", "editor.Flush(ctx)"] := rfl
/-- `Dag.klt`: heights first, then address bytes -/
theorem keyCompareIfs : Gen.Dag.keyCompareIfs = ["lh == rh", "lh < rh"] := rfl
theorem keyCompareReturns : Gen.Dag.keyCompareReturns = ["bytes.Compare(left[prefixWidth:], right[prefixWidth:]), nil", "-1, nil", "1, nil"] := rfl
theorem keyLessReturns : Gen.Dag.keyLessReturns = ["cmp < 0"] := rfl
theorem prefixWidth : Gen.Dag.prefixWidth = 8 := rfl
theorem keyHeightReturns : Gen.Dag.keyHeightReturns = ["binary.LittleEndian.Uint64(k)"] := rfl
/-- `Dag.findCommonAncestor` / `Dag.mergeWalk`: nil iterator -> parents list; h1 == h2 -> found; pi1 < pi2 -> advance pi2 else pi1 -/
theorem fcaIfs : Gen.Dag.fcaIfs = ["err != nil", "pi1 == nil", "err != nil", "pi2 == nil", "h1 == h2", "err != nil", "pi1.Less(ctx, vr1.Format(), pi2)", "!pi2.Next(ctx)", "!pi1.Next(ctx)"] := rfl
theorem fcaReturns : Gen.Dag.fcaReturns = ["hash.Hash{}, false, err", "findCommonAncestorUsingParentsList(ctx, c1, c2, vr1, vr2, ns1, ns2)", "hash.Hash{}, false, err", "findCommonAncestorUsingParentsList(ctx, c1, c2, vr1, vr2, ns1, ns2)", "hash.Hash{}, false, err", "h1, true, nil", "hash.Hash{}, false, firstError(pi1.Err(), pi2.Err())", "hash.Hash{}, false, firstError(pi1.Err(), pi2.Err())"] := rfl
theorem closureIterIfs : Gen.Dag.closureIterIfs = ["err != nil", "cc.IsEmpty()", "err != nil"] := rfl
/-- `Dag.descKeys`: own key first, then IterAllReverse -/
theorem closureIterCalls : Gen.Dag.closureIterCalls = ["cc.IsEmpty()", "cc.IterAllReverse(ctx)", "prolly.NewCommitClosureKey(ns.Pool(), c.Height(), c.Addr())"] := rfl
theorem closureIterLessReturns : Gen.Dag.closureIterLessReturns = ["i.curr.Less(ctx, other.curr)"] := rfl
/-- `Dag.viaParentsLoop` branch structure -/
theorem plIfs : Gen.Dag.plIfs = ["c1Ht == c2Ht", "ok", "err != nil", "err != nil", "c1Ht > c2Ht", "err != nil", "err != nil"] := rfl
theorem plFors : Gen.Dag.plFors = ["; !c1Q.Empty() && !c2Q.Empty(); "] := rfl
theorem plCalls : Gen.Dag.plCalls = ["c1Q.MaxHeight()", "c2Q.MaxHeight()", "c1Q.PopCommitsOfHeight(c1Ht)", "c2Q.PopCommitsOfHeight(c2Ht)", "findCommonCommit(c1Parents, c2Parents)", "parentsToQueue(ctx, c1Parents, &c1Q, vr1)", "parentsToQueue(ctx, c2Parents, &c2Q, vr2)", "parentsToQueue(ctx, c1Q.PopCommitsOfHeight(c1Ht), &c1Q, vr1)", "c1Q.PopCommitsOfHeight(c1Ht)", "parentsToQueue(ctx, c2Q.PopCommitsOfHeight(c2Ht), &c2Q, vr2)", "c2Q.PopCommitsOfHeight(c2Ht)"] := rfl
theorem plReturns : Gen.Dag.plReturns = ["common.Addr(), true, nil", "hash.Hash{}, false, err", "hash.Hash{}, false, err", "hash.Hash{}, false, err", "hash.Hash{}, false, err", "hash.Hash{}, false, nil"] := rfl
theorem fccIfs : Gen.Dag.fccIfs = ["present", "len(common) == 0"] := rfl
/-- `Dag.findCommonCommit`: ascending address order, first element -/
theorem fccReturns : Gen.Dag.fccReturns = ["out", "nil, false", "common[i].Addr().Less(common[j].Addr())", "common[0], true"] := rfl
theorem heapLessIfs : Gen.Dag.heapLessIfs = ["r[i].Height() == r[j].Height()"] := rfl
/-- heap pops greatest height first (`Dag.maxH` + filter) -/
theorem heapLessReturns : Gen.Dag.heapLessReturns = ["r[i].Addr().Less(r[j].Addr())", "r[i].Height() > r[j].Height()"] := rfl
theorem popFors : Gen.Dag.popFors = ["; !r.Empty() && r.MaxHeight() == h; "] := rfl
theorem ptqIfs : Gen.Dag.ptqIfs = ["ok", "err != nil"] := rfl
theorem ptqCalls : Gen.Dag.ptqCalls = ["GetCommitParents(ctx, vr, c.NomsValue())", "heap.Push(q, r)"] := rfl
/-- `Dag.getAncestor`: inst >= NumParents -> ErrInvalidAncestorSpec -/
theorem getAncestorIfs : Gen.Dag.getAncestorIfs = ["err != nil", "as == nil || len(as.Instructions) == 0", "inst >= hardInst.NumParents()", "err != nil", "!ok"] := rfl
theorem getAncestorReturns : Gen.Dag.getAncestorReturns = ["nil, err", "optInst, nil", "nil, ErrInvalidAncestorSpec", "nil, err", "optInst, nil"] := rfl
theorem getAncestorCalls : Gen.Dag.getAncestorCalls = ["hardInst.NumParents()", "hardInst.GetParent(ctx, inst)"] := rfl
theorem getParentFirst : Gen.Dag.getParentFirst = ["NewCommit(ctx, c.vrw, c.ns, parent)"] := rfl
/-- `Dag.canFastForward` decision order -/
theorem canFFIfs : Gen.Dag.canFFIfs = ["err != nil", "!ok", "ancestor == nil", "ancestor.dCommit.Addr() == c.dCommit.Addr()", "ancestor.dCommit.Addr() == new.dCommit.Addr()", "ancestor.dCommit.Addr() == new.dCommit.Addr()"] := rfl
theorem canFFReturns : Gen.Dag.canFFReturns = ["false, err", "false, fmt.Errorf(\"Unexpected Ghost Commit\")", "false, errors.New(\"cannot perform fast forward merge; commits have no common ancestor\")", "true, ErrUpToDate", "true, nil", "false, ErrIsAhead", "false, nil"] := rfl
theorem ancestorAddrCalls : Gen.Dag.ancestorAddrCalls = ["datas.FindCommonAncestor(ctx, c1, c2, vrw1, vrw2, ns1, ns2)"] := rfl
theorem ancestorAddrReturns : Gen.Dag.ancestorAddrReturns = ["hash.Hash{}, err", "hash.Hash{}, ErrNoCommonAncestor", "ancestorAddr, nil"] := rfl

end DoltVerif.Tie.Dag
