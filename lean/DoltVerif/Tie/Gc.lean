import DoltVerif.Gen.Gc
/-! Tie for C08: the phase order, root-set construction and keeper rule the model uses are the
ones regenerated from the Go source (`Gen/Gc.lean`). -/
namespace DoltVerif.Tie.Gc
open DoltVerif

/-- the model's phase steps, named after the Go calls they stand for, in model order -/
def modelPhaseOrder : List String :=
  ["BeginGC", "Root", "Insert",                 -- Step.begin (root joins the new-gen roots)
   "gc",                                        -- Step.markOld
   "transitionToNewGenGC", "InsertAll",         -- Step.toNewGen
   "gc",                                        -- Step.markNew / drain / finalize
   "SwapChunksInStore"]                         -- Step.swap

/-- `ValueStore.GC` (generational branch) makes the calls in the model's order (deferred EndGC,
the safepoint's BeginGC/CancelSafepoint, AddChunksToStore and the full-mode second swap removed) -/
theorem phase_order :
    (Gen.Gc.valueStoreGcPhases.filter fun c => c != "EndGC" && c != "CancelSafepoint" && c != "AddChunksToStore").eraseDups
      = ["BeginGC", "Root", "Insert", "gc", "transitionToNewGenGC", "InsertAll", "SwapChunksInStore"]
    ∧ Gen.Gc.valueStoreGcPhases =
      ["BeginGC", "EndGC", "BeginGC", "CancelSafepoint", "Root", "Insert", "gc", "transitionToNewGenGC",
       "InsertAll", "AddChunksToStore", "gc", "SwapChunksInStore", "SwapChunksInStore"]
    ∧ Gen.Gc.valueStoreGcPrologue = ["transitionToOldGenGC", "transitionToNoGC"]
    ∧ Gen.Gc.newGenGcFinalizesWithTransitionToFinalizing = true :=
  ⟨by decide +kernel, rfl, rfl, rfl⟩

/-- one sweep = mark roots, drain the keeper's set, finalize (blocking writers), mark the final set -/
theorem sweep_order :
    Gen.Gc.sweepOrder = ["MarkAndSweepChunks", "SaveHashes", "EstablishPreFinalizeSafepoint",
      "readAndResetNewGenToVisit", "SaveHashes", "finalize", "SaveHashes",
      "EstablishPostFinalizeSafepoint", "Finalize"] := rfl

/-- the keeper refuses (blocks) only in the finalizing state, otherwise records the address -/
theorem keeper_rule :
    Gen.Gc.keeperConditions = ["lvs.gcState == gcState_NoGC", "lvs.gcState == gcState_Finalizing && lvs.gcOut == 0"]
    ∧ Gen.Gc.keeperCalls = ["panic", "Insert"] := ⟨rfl, rfl⟩

/-- `DoltDB.GC`: prune first, then every remaining dataset head is a root of exactly one generation -/
theorem root_set :
    Gen.Gc.doltdbGcCalls = ["pruneUnreferencedDatasets", "Datasets", "IterAll", "Insert", "Insert", "GC"]
    ∧ Gen.Gc.everyDatasetIsARoot = true
    ∧ Gen.Gc.oldGenRefTypes = ["BranchRefType", "RemoteRefType", "InternalRefType"]
    ∧ Gen.Gc.pruneCondition = "!ref.IsRef(dsID) && !ref.IsWorkingSet(dsID)" := by and_intros <;> rfl

end DoltVerif.Tie.Gc
