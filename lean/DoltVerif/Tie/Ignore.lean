import DoltVerif.Gen.Ignore
import DoltVerif.Model.Ignore
/-!
Tie: the facts `Model/Ignore.lean` uses are exactly those regenerated from the Go source.  The class a `?` stands for is
*re-derived* from the string literals and the order of the `strings.Replace` calls in `compilePattern` /
`getMoreSpecificPatterns`: each `strings.Replace` runs over the whole string, so the later replacements also rewrite the
text an earlier one inserts.  Reordered back (class `[^.*.*]`, the D1 defect repaired by 4a3abdc), these theorems fail.
-/
namespace DoltVerif.Tie.Ignore
open DoltVerif DoltVerif.Ignore

/-- what the text inserted for `old` finally becomes in the regular expression: the replacement's
new text, rewritten by the replacements that follow it -/
def finalFor (old : String) : List (String × String) → Option Str
  | [] => none
  | r :: rest => if r.1 == old then some (applyReplacements rest r.2.toList) else finalFor old rest

/-- compilePattern: `\?` -> `.`, `\*` -> `.*`, `%` -> `.*`, anchored by `^`...`$` -/
theorem compile_shape :
    Gen.Ignore.compilePatternReplacements = [("\\?", "."), ("\\*", ".*"), ("%", ".*")]
    ∧ Gen.Ignore.compilePatternLiterals = ["^", "$"]
    ∧ Gen.Ignore.compilePatternCalls =
        ["regexp.QuoteMeta", "strings.Replace", "strings.Replace", "strings.Replace", "regexp.Compile"] := by and_intros <;> rfl

theorem compile_q_text :
    finalFor "\\?" Gen.Ignore.compilePatternReplacements = some ".".toList := by decide +kernel

/-- in `MatchTablePattern` a `?` is the regex atom `.` = the model's `dotOk` -/
theorem compile_q_class (c : Char) :
    (finalFor "\\?" Gen.Ignore.compilePatternReplacements).bind (atomClass · c) = some (dotOk c) := by
  rw [compile_q_text]; rfl

/-- getMoreSpecificPatterns: the wildcards first, `\?` -> `[^\*%]` last (fix 4a3abdc) -/
theorem moreSpecific_shape :
    Gen.Ignore.getMoreSpecificPatternsReplacements = [("\\*", ".*"), ("%", ".*"), ("\\?", "[^\\*%]")]
    ∧ Gen.Ignore.getMoreSpecificPatternsLiterals = ["^", "$"]
    ∧ Gen.Ignore.getMoreSpecificPatternsCalls =
        ["regexp.QuoteMeta", "strings.Replace", "strings.Replace", "strings.Replace", "regexp.Compile"] := by and_intros <;> rfl

/-- ... so nothing rewrites the class afterwards: it stays `[^\*%]` -/
theorem moreSpecific_q_text :
    finalFor "\\?" Gen.Ignore.getMoreSpecificPatternsReplacements = some "[^\\*%]".toList := by decide +kernel

/-- in the "more specific" test a `?` is the class `[^\*%]` = the model's `qOk` (everything except
`*` and `%`; newline is *in* the class) -/
theorem moreSpecific_q_class (c : Char) :
    (finalFor "\\?" Gen.Ignore.getMoreSpecificPatternsReplacements).bind (atomClass · c) = some (qOk c) := by
  rw [moreSpecific_q_text]
  have e : atomClass "[^\\*%]".toList c = some (!(['*', '%'] : List Char).contains c) := rfl
  show atomClass "[^\\*%]".toList c = _
  rw [e]
  congr 1
  simp only [qOk, List.contains_cons, List.contains_nil, bne]
  cases h1 : (c == '*') <;> cases h2 : (c == '%') <;> rfl

/-- the text inserted for the wildcards (`\*` and `%`, both `.*`) is not rewritten by the later
replacements in either function -/
theorem star_text :
    finalFor "\\*" Gen.Ignore.compilePatternReplacements = some ".*".toList
    ∧ finalFor "%" Gen.Ignore.compilePatternReplacements = some ".*".toList
    ∧ finalFor "\\*" Gen.Ignore.getMoreSpecificPatternsReplacements = some ".*".toList
    ∧ finalFor "%" Gen.Ignore.getMoreSpecificPatternsReplacements = some ".*".toList := by decide +kernel

theorem normalize_shape :
    Gen.Ignore.normalizePatternReplacements = [("*", "%"), ("%%", "%")]
    ∧ Gen.Ignore.normalizePatternCalls = ["strings.Replace", "strings.Replace"] := ⟨rfl, rfl⟩

/-- order of the tests in IsTableNameIgnored and resolveConflictingPatterns (DontIgnore is tested
before Ignore in both) -/
theorem decision_order :
    Gen.Ignore.isTableNameIgnoredTests =
      [("isDoltRebaseTable(tableName)", "Ignore"), ("len(trueMatches) == 0", "DontIgnore"),
       ("len(falseMatches) == 0", "Ignore")]
    ∧ Gen.Ignore.resolveTests =
      [("len(trueMatchesToRemove) == len(trueMatches)", "DontIgnore"),
       ("len(falseMatchesToRemove) == len(falseMatches)", "Ignore")] := ⟨rfl, rfl⟩

theorem rebase_name :
    Gen.Ignore.rebaseTableName.toList = rebaseTableName
    ∧ Gen.Ignore.rebaseTests = [("strings.EqualFold(tableName.Name, RebaseTableName)", "true")] := ⟨rfl, rfl⟩

theorem result_enum :
    Gen.Ignore.resultIgnore = 0 ∧ Gen.Ignore.resultDontIgnore = 1
    ∧ Gen.Ignore.resultIgnorePatternConflict = 2 ∧ Gen.Ignore.resultErrorOccurred = 3 := by decide +kernel

/-- StageTables stages `filteredTables.DontIgnore` (all named tables go through the filter);
StageAllTables names the union of staged and working; add -A passes `!--force`, commit -A `true` -/
theorem staging_wiring :
    Gen.Ignore.stageTablesCalls = ["doltdb.FilterIgnoredTables", "len", "stageTables"]
    ∧ Gen.Ignore.stageTablesTblsAssigned = ["filteredTables.DontIgnore"]
    ∧ Gen.Ignore.stageAllUnionArgs = ["ctx", "roots.Staged", "roots.Working"]
    ∧ Gen.Ignore.stageAllStageArgs = ["ctx", "roots", "tbls", "filterIgnoredTables"]
    ∧ Gen.Ignore.addAllArgs = ["ctx", "roots", "!apr.Contains(cli.ForceFlag)"]
    ∧ Gen.Ignore.commitAllArgs = ["ctx", "roots", "true"]
    ∧ Gen.Ignore.stageModifiedCalls =
        ["diff.GetStagedUnstagedTableDeltas", "strings.HasPrefix", "tableDelta.IsAdd", "append", "stageTables"] := by and_intros <;> rfl

/-- clean: "tracked" = tables of the *staged* root; ignore rules respected unless `-x`;
ExcludeIgnoredTables precedes the nonlocal filter, RemoveTables comes last -/
theorem clean_wiring :
    Gen.Ignore.cleanTrackedArgs = ["ctx", "roots.Staged"]
    ∧ Gen.Ignore.cleanRespectExpr = "!apr.Contains(cli.ExcludeIgnoreRulesFlag)"
    ∧ Gen.Ignore.cleanArgs =
        ["ctx", "roots", "apr.Args", "apr.ContainsAll(cli.DryRunFlag)", "false", "respectIgnoreRules"]
    ∧ Gen.Ignore.cleanCalls =
        ["make", "resolve.TableName", "fmt.Errorf", "len", "roots.Working.GetAllTableNames",
         "doltdb.ExcludeIgnoredTables", "doltdb.GetNonlocalTablePatterns", "append",
         "doltdb.CompileTablePatterns", "compiled.TableMatchesAny", "GetAllTableNames", "delete", "make",
         "len", "append", "roots.Working.RemoveTables", "fmt.Errorf"] := by and_intros <;> rfl

end DoltVerif.Tie.Ignore
