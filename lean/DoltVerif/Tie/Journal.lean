import DoltVerif.Gen.Journal
import DoltVerif.Model.JournalIndex
/-! Tie: the facts the journal models (C03, C04, C41) use are exactly those regenerated from the Go
source (`xlate` family `Journal`).  Everything here is `rfl`/`decide` over `Gen/Journal.lean`. -/
namespace DoltVerif.Tie.Journal
open DoltVerif DoltVerif.Journal

/-! ### C03: record layout -/

theorem rec_constants :
    Gen.Journal.rootHashJournalRecKind = kindRoot ∧ Gen.Journal.chunkJournalRecKind = kindChunk ∧
    Gen.Journal.kindJournalRecTag = tagKind.toNat ∧ Gen.Journal.addrJournalRecTag = tagAddr.toNat ∧
    Gen.Journal.payloadJournalRecTag = tagPayload.toNat ∧ Gen.Journal.timestampJournalRecTag = tagTimestamp.toNat ∧
    Gen.Journal.journalRecLenSz = lenSz ∧ Gen.Journal.journalRecAddrSz = addrSz ∧
    Gen.Journal.journalRecChecksumSz = checksumSz ∧ Gen.Journal.journalRecTimestampSz = timestampSz ∧
    Gen.Journal.journalRecTagSz = 1 ∧ Gen.Journal.journalRecKindSz = 1 := by decide +kernel

theorem rec_sizes :
    Gen.Journal.rootHashRecordSize = (rootRecSz : Int) ∧ Gen.Journal.chunkPayloadOff = (chunkPayloadOff : Int) ∧
    Gen.Journal.chunkRecordConstTail = (checksumSz : Int) ∧ rootRecSz = 40 ∧ chunkRecSz 0 = 32 := by decide +kernel

/-- field order of `writeChunkRecord` / `writeRootHashRecord` = the order in the model's bodies -/
theorem writer_field_order :
    Gen.Journal.writeChunkRecordOrder = ["kindJournalRecTag", "chunkJournalRecKind", "addrJournalRecTag", "payloadJournalRecTag"] ∧
    Gen.Journal.writeRootHashRecordOrder = ["kindJournalRecTag", "rootHashJournalRecKind", "timestampJournalRecTag", "addrJournalRecTag"] := ⟨rfl, rfl⟩

theorem model_chunk_layout (a p : Bytes) :
    encodeChunk a p =
      (be32 (Gen.Journal.chunkPayloadOff.toNat + p.length + Gen.Journal.journalRecChecksumSz) ++
        [UInt8.ofNat Gen.Journal.kindJournalRecTag, UInt8.ofNat Gen.Journal.chunkJournalRecKind] ++
        [UInt8.ofNat Gen.Journal.addrJournalRecTag] ++ a ++ [UInt8.ofNat Gen.Journal.payloadJournalRecTag] ++ p) ++
      be32 (crc32c (be32 (Gen.Journal.chunkPayloadOff.toNat + p.length + Gen.Journal.journalRecChecksumSz) ++
        [UInt8.ofNat Gen.Journal.kindJournalRecTag, UInt8.ofNat Gen.Journal.chunkJournalRecKind] ++
        [UInt8.ofNat Gen.Journal.addrJournalRecTag] ++ a ++ [UInt8.ofNat Gen.Journal.payloadJournalRecTag] ++ p)).toNat := rfl

theorem model_root_layout (a : Bytes) (ts : Nat) :
    encodeRoot a ts =
      (be32 Gen.Journal.rootHashRecordSize.toNat ++
        [UInt8.ofNat Gen.Journal.kindJournalRecTag, UInt8.ofNat Gen.Journal.rootHashJournalRecKind] ++
        [UInt8.ofNat Gen.Journal.timestampJournalRecTag] ++ be64 ts ++ [UInt8.ofNat Gen.Journal.addrJournalRecTag] ++ a) ++
      be32 (crc32c (be32 Gen.Journal.rootHashRecordSize.toNat ++
        [UInt8.ofNat Gen.Journal.kindJournalRecTag, UInt8.ofNat Gen.Journal.rootHashJournalRecKind] ++
        [UInt8.ofNat Gen.Journal.timestampJournalRecTag] ++ be64 ts ++ [UInt8.ofNat Gen.Journal.addrJournalRecTag] ++ a)).toNat := rfl

/-- the tag dispatch of `readJournalRecord`: four known tags, everything else an error -/
theorem reader_cases :
    Gen.Journal.readJournalRecordCases =
      ["kindJournalRecTag", "addrJournalRecTag", "timestampJournalRecTag", "payloadJournalRecTag", "unknownJournalRecTag", "default"] := rfl

theorem validate_flow :
    Gen.Journal.validateFlow =
      ["if len(buf) < (journalRecLenSz + journalRecChecksumSz)", "call readUint32", "if int(off) > len(buf)",
       "call crc", "call readUint32", "if !crcMatches"] := rfl

theorem crc_is_castagnoli : Gen.Journal.crcTable = "crc32.MakeTable(crc32.Castagnoli)" := rfl

/-! ### C03: recovery -/

/-- the order of early exits of `processJournalRecordsReader` that `Journal.scan` transliterates:
peek 4, `l == 0`, `l > journalWriterBuffSize`, peek l, validate, read, callback, advance -/
theorem scan_flow :
    Gen.Journal.scanFlow =
      ["set recovered = false", "call bufio.NewReaderSize", "if ctx.Err() != nil", "if err != nil", "call rdr.Peek",
       "call readUint32", "if l == 0", "set recovered = true", "if l > journalWriterBuffSize", "if warningsCb != nil",
       "set recovered = true", "if err != nil", "call rdr.Peek", "set recovered = true", "if validationErr != nil",
       "call validateJournalRecord", "if warningsCb != nil", "set recovered = true", "if err != nil",
       "call readJournalRecord", "if err != nil", "call cb", "if err != nil", "call io.ReadFull"] := rfl

/-- `processJournalRecords`: scan, then (only in the recovery state) the data-loss check, then
truncate + sync only for a real file with `tryTruncate` -/
theorem recover_flow :
    Gen.Journal.recoverFlow =
      ["if err != nil", "call r.Seek", "call processJournalRecordsReader", "if err != nil && err != io.EOF",
       "if recovered", "call possibleDataLossCheck", "if dErr != nil", "if warningsCb != nil", "if dataLossFound",
       "call NewJournalDataLossError", "if err != nil", "call r.Seek", "if ok && tryTruncate", "call f.Truncate",
       "if err != nil", "call f.Sync", "if err != nil"] := rfl

theorem dataloss_flow :
    Gen.Journal.dataLossFlow =
      ["call io.ReadFull", "call readUint32", "if sz > 0 && sz <= journalWriterBuffSize", "if int(sz) <= len(buf[idx:])",
       "call validateJournalRecord", "if e == nil", "call readJournalRecord", "if err != nil", "if firstRootFound",
       "if record.kind == rootHashJournalRecKind", "if !atEOF", "if !atEOF"] ∧
    Gen.Journal.dataLossLoopCond = ["idx <= len(buf)-rootHashRecordSize()"] ∧
    Gen.Journal.dataLossWindow = ["journalWriterBuffSize * 2"] := by and_intros <;> rfl

theorem buff_size : Gen.Journal.journalWriterBuffSize = 5 * 1024 * 1024 := rfl

/-! ### C03: writer — flush, then fsync, before the commit returns -/

theorem commit_flow :
    Gen.Journal.wr_commitRootHashUnlocked_flow =
      ["call wr.getBytes", "if err != nil", "call writeRootHashRecord", "if err != nil", "call wr.flush",
       "call wr.journal.Sync", "if err != nil", "if wr.ranges.novelCount() > wr.maxNovel", "if err != nil",
       "call wr.flushIndexRecord"] ∧
    Gen.Journal.wr_commitRootHash_flow = ["call wr.commitRootHashUnlocked"] := ⟨rfl, rfl⟩

theorem write_chunk_flow :
    Gen.Journal.wr_writeCompressedChunk_flow =
      ["call wr.getBytes", "if err != nil", "call writeChunkRecord", "call wr.ranges.put", "if err != nil",
       "call writeIndexLookup", "call crc32.Update",
       "if wr.unsyncd > journalMaybeSyncThreshold && !wr.currentRoot.IsEmpty()", "call wr.commitRootHashUnlocked"] ∧
    Gen.Journal.wr_getBytes_flow = ["if n > c", "if n > c-l", "if err != nil", "call wr.flush"] ∧
    Gen.Journal.wr_flush_flow = ["if err != nil", "call wr.journal.WriteAt"] ∧
    Gen.Journal.journalMaybeSyncThreshold = 64 * 1024 * 1024 ∧
    Gen.Journal.journalIndexDefaultMaxNovel = 16384 := by and_intros <;> rfl

/-! ### C04: index layout, what the batch checksum covers, read-only guards -/

theorem index_constants :
    Gen.Journal.indexRecChunk = idxTagLookup.toNat ∧ Gen.Journal.indexRecMeta = idxTagMeta.toNat ∧
    Gen.Journal.lookupSz = lookupSz ∧ Gen.Journal.lookupMetaSz = metaSz := by decide +kernel

/-- field order of the index records = the order of `encodeLookup` / `encodeMeta` / `readLookup` / `readMeta` -/
theorem index_field_order :
    Gen.Journal.writeIndexLookupSeq = ["w.WriteByte(indexRecChunk)", "w.Write(l.a[:])", "put(l.r.Offset)", "w.Write(offsetBuf[:])", "put(l.r.Length)", "w.Write(lengthBuf[:])"] ∧
    Gen.Journal.writeJournalIndexMetaSeq = ["w.WriteByte(indexRecMeta)", "put(uint64(start))", "w.Write(startBuf)", "put(uint64(end))", "w.Write(endBuf)", "put(checksum)", "w.Write(checksumBuf)", "w.Write(root[:])"] ∧
    Gen.Journal.readIndexLookupSeq = ["io.ReadFull(addr[:])", "io.ReadFull(offsetBuf[:])", "io.ReadFull(lengthBuf[:])"] ∧
    Gen.Journal.readIndexMetaSeq = ["io.ReadFull(startBuf[:])", "io.ReadFull(endBuf[:])", "io.ReadFull(checksumBuf[:])", "io.ReadFull(addr[:])"] ∧
    Gen.Journal.processIndexCases = ["indexRecChunk", "indexRecMeta", "default"] := by and_intros <;> rfl

/-- every `crc32.Update` of the batch checksum is fed the addr16 only (`a[:]` / `l.a[:]`): this is the
fact `batchCrc` models and `index_ranges_unprotected` exploits.  Extending the checksum to the
ranges changes this list and breaks this obligation. -/
theorem batch_crc_covers_addr16_only :
    Gen.Journal.batchCrcUpdates = ["wr.batchCrc <- a[:]", "wr.batchCrc <- a[:]", "batchCrc <- l.a[:]"] := rfl

theorem read_index_flow :
    Gen.Journal.readJournalIndexFlow =
      ["if err != nil", "call processIndexRecords", "if m.checkSum != batchChecksum", "if m.batchStart != prev",
       "if err != nil", "call peekRootHashAt", "if h != m.latestHash", "if !ok", "call wr.ranges.putCached",
       "if err != nil", "if canWrite", "if err != nil", "call wr.truncateIndex", "call wr.ranges.flatten"] := rfl

/-- every file-modifying call reachable from `bootstrapJournal` / `loadJournalIndex` /
`readJournalIndex` / `corruptIndexRecovery` sits under `canWrite` (the second `os.OpenFile` is the
`O_RDONLY` one of the read-only branch), and the truncation switch of `processJournalRecords` is
`canWrite` -/
theorem bootstrap_write_guards :
    Gen.Journal.bootstrapWriteGuards =
      [("bootstrapJournal:processJournalRecords", "not(err != nil)"),
       ("bootstrapJournal:writeIndexLookup", "not(err != nil) && canWrite"),
       ("bootstrapJournal:crc32.Update", "not(err != nil) && canWrite && not(err != nil)"),
       ("bootstrapJournal:wr.flushIndexRecord", "not(err != nil) && not(err != nil) && canWrite && wr.ranges.novelCount() > wr.maxNovel"),
       ("loadJournalIndex:os.OpenFile", "not(err != nil) && canWrite"),
       ("loadJournalIndex:bufio.NewWriterSize", "not(err != nil) && canWrite && not(err != nil)"),
       ("loadJournalIndex:os.OpenFile", "not(err != nil) && not(canWrite) && not(!exists)"),
       ("readJournalIndex:wr.truncateIndex", "not(err != nil) && not(err != nil) && canWrite"),
       ("corruptIndexRecovery:wr.truncateIndex", "canWrite")] ∧
    Gen.Journal.bootstrapProcessArgs = ["canWrite", "wr.indexed"] := ⟨rfl, rfl⟩

/-! ### C41: lock acquisition and read-only guards of journal.go -/

/-- `newJournalLock`: try / timed lock; on timeout close the lock and return `ErrDatabaseLocked`
(fail-fast) or read-only mode with a nil lock; Exclusive only together with a held lock -/
theorem lock_flow :
    Gen.Journal.newJournalLockFlow =
      ["call fslock.New", "if err != nil", "if timeout == 0", "call lock.TryLock", "if errors.Is(err, fslock.ErrLocked)",
       "call lock.LockWithTimeout", "if errors.Is(err, fslock.ErrTimeout)", "call lock.Close", "if failOnTimeout",
       "if err != nil", "call lock.Close"] ∧
    Gen.Journal.newJournalLockReturns =
      ["return nil, chunks.ExclusiveAccessMode_ReadOnly, err",
       "return nil, chunks.ExclusiveAccessMode_ReadOnly, ErrDatabaseLocked",
       "return nil, chunks.ExclusiveAccessMode_ReadOnly, nil",
       "return nil, chunks.ExclusiveAccessMode_ReadOnly, err",
       "return lock, chunks.ExclusiveAccessMode_Exclusive, nil"] ∧
    Gen.Journal.readOnlyBody = "{ return jm.lock == nil }" ∧
    Gen.Journal.journalManifestFirstStmt = ["Update: if jm.readOnly()", "UpdateGCGen: if jm.readOnly()"] := by and_intros <;> rfl

/-- every write path of journal.go and the condition that dominates it: `Persist`, `ConjoinAll`,
`PruneTableFiles`, `CopyTableFile`, `Update`, `UpdateGCGen` return early when `readOnly()`;
`Close` and `bootstrapJournalWriter` write only under `!readOnly()` / `canCreate`;
`trueUpBackingManifest` returns before `backing.Update` when read-only.  (`createJournalWriter` and
`deleteJournalAndIndexFiles` are reached only through the guarded `createProtectedJournalWriter` /
`dropJournalWriter` calls listed here.) -/
theorem journal_write_guards :
    Gen.Journal.journalWriteGuards =
      [("bootstrapJournalWriter:j.createProtectedJournalWriter", "not(err != nil) && canCreate && !ok"),
       ("bootstrapJournalWriter:j.wr.bootstrapJournal", "not(err != nil) && canCreate && !ok && not(err != nil)"),
       ("bootstrapJournalWriter:j.wr.commitRootHash", "not(err != nil) && canCreate && !ok && not(err != nil) && not(err != nil) && not(err != nil) && ok"),
       ("bootstrapJournalWriter:j.wr.bootstrapJournal", "not(err != nil) && not(canCreate && !ok) && not(err != nil) && not(!ok)"),
       ("bootstrapJournalWriter:j.wr.commitRootHash", "not(err != nil) && not(canCreate && !ok) && not(err != nil) && not(!ok) && not(err != nil) && root.IsEmpty() && not(err != nil) && ok && canCreate"),
       ("createProtectedJournalWriter:createJournalWriter", ""),
       ("trueUpBackingManifest:backing.Update", "not(err != nil) && not(!ok) && not(backing.readOnly())"),
       ("Persist:j.wr.writeCompressedChunk", "not(j.backing.readOnly()) && not(err != nil)"),
       ("ConjoinAll:j.persister.ConjoinAll", "not(j.backing.readOnly())"),
       ("PruneTableFiles:j.persister.PruneTableFiles", "not(j.backing.readOnly())"),
       ("CopyTableFile:j.persister.CopyTableFile", "not(j.backing.readOnly())"),
       ("Update:j.flushToBackingManifest", "not(j.backing.readOnly()) && not(j.wr == nil) && not(j.contents.gcGen != next.gcGen) && not(j.contents.lock != lastLock) && !equalSpecs(j.contents.specs, next.specs)"),
       ("Update:j.wr.commitRootHash", "not(j.backing.readOnly()) && not(j.wr == nil) && not(j.contents.gcGen != next.gcGen) && not(j.contents.lock != lastLock)"),
       ("UpdateGCGen:j.flushToBackingManifest", "not(j.backing.readOnly()) && not(j.wr == nil) && not(j.contents.lock != lastLock)"),
       ("UpdateGCGen:j.dropJournalWriter", "not(j.backing.readOnly()) && not(j.wr == nil) && not(j.contents.lock != lastLock) && not(err != nil) && not(err != nil) && !containsJournalSpec(latest.specs)"),
       ("dropJournalWriter:deleteJournalAndIndexFiles", "not(curr == nil) && not(err != nil)"),
       ("Close:j.flushToBackingManifest", "j.wr != nil && !j.backing.readOnly()")] := by rfl

end DoltVerif.Tie.Journal
