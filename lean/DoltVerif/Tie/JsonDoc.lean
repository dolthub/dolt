import DoltVerif.Gen.JsonDoc
import DoltVerif.Model.JsonDocMerge
/-! Tie: the facts the JsonDoc model was transliterated from are exactly those regenerated from the Go
source of dolt (tree/json_*.go, merge) and of the go-mysql-server module dolt builds against.
Constants are compared with the model's; code shapes (branch conditions, switch labels, helper
bodies) with the literal shape the transliteration was written from. -/
namespace DoltVerif.Tie.JsonDoc
open DoltVerif

/-- scanner states in `compareTypes` order, the key markers of `encodeKey`, the scanner's end-of-buffer byte -/
theorem consts :
    Gen.JsonDoc.startOfValue = 0 ∧ Gen.JsonDoc.objectInitialElement = 1 ∧ Gen.JsonDoc.arrayInitialElement = 2 ∧
    Gen.JsonDoc.endOfValue = 3 ∧ Gen.JsonDoc.middleOfStringValue = 4 ∧
    JsonDoc.encodeKey [JsonDoc.objElem [], JsonDoc.arrElem 0] =
      [0, UInt8.ofNat Gen.JsonDoc.beginObjectKey, UInt8.ofNat Gen.JsonDoc.beginArrayKey, 0] ∧
    Gen.JsonDoc.endOfFile = 255 := by decide +kernel

/-- go-mysql-server's mode constants (the model's `Mode` constructors in this order) -/
theorem modes :
    [Gen.JsonDoc.mode_SET, Gen.JsonDoc.mode_INSERT, Gen.JsonDoc.mode_REPLACE, Gen.JsonDoc.mode_REMOVE,
     Gen.JsonDoc.mode_ARRAY_APPEND, Gen.JsonDoc.mode_ARRAY_INSERT] = [0, 1, 2, 3, 4, 5] := rfl

theorem shape_compareLocConds : Gen.JsonDoc.compareLocConds = ["c < 0", "c > 0", "left.size() < right.size()", "right.size() == left.size()+1", "left.getScannerState() == objectInitialElement", "rightIsArray", "left.getScannerState() != endOfValue", "left.size() > right.size()", "left.size() == right.size()+1", "right.getScannerState() == objectInitialElement", "leftIsArray", "right.getScannerState() != endOfValue"] := rfl

theorem shape_compareTypesConds : Gen.JsonDoc.compareTypesConds = ["left >= jsonPathTypeNumElements || right >= jsonPathTypeNumElements", "left == startOfValue && right != startOfValue", "left == endOfValue && right != endOfValue", "right == startOfValue && left != startOfValue", "right == endOfValue && left != endOfValue"] := rfl

theorem shape_lastElemConds : Gen.JsonDoc.lastElemConds = ["state == arrayInitialElement", "state == objectInitialElement"] := rfl

theorem shape_nextArrayConds : Gen.JsonDoc.nextArrayConds = [] := rfl

theorem shape_firstArrayConds : Gen.JsonDoc.firstArrayConds = ["s.current() == ']'"] := rfl

theorem shape_keyStringConds : Gen.JsonDoc.keyStringConds = ["err != nil"] := rfl

theorem shape_advanceToConds : Gen.JsonDoc.advanceToConds = ["err != nil", "!isInChunk", "err != nil", "ordering.err != nil", "err != nil", "err != nil", "err != nil", "err == io.EOF", "err != nil", "err != nil", "cmp > 0", "forRemoval"] := rfl

theorem shape_insertIntoConds : Gen.JsonDoc.insertIntoConds = ["cursorPath.size() == 0 && cursorPath.getScannerState() == startOfValue", "cursorLastPathElement.isArrayIndex && !keyLastPathElement.isArrayIndex", "keyLastPathElement.isArrayIndex && !cursorLastPathElement.isArrayIndex", "arrayIndex == 0", "err != nil", "err != nil", "err != nil", "err != nil", "err != nil", "cursorPath.getScannerState() != arrayInitialElement && cursorPath.getScannerState() != objectInitialElement", "err != nil", "cmp < 0 && cursorPath.getScannerState() == startOfValue", "err != nil", "err != nil", "!jsonChunker.jScanner.firstElementOrEndOfEmptyValue()", "!keyLastPathElement.isArrayIndex", "err != nil", "err != nil"] := rfl

theorem shape_removeConds : Gen.JsonDoc.removeConds = ["err != nil", "!found", "err != nil", "err != nil", "isInitialElement && jsonCursor.jsonScanner.current() == ','", "err != nil"] := rfl

theorem shape_setConds : Gen.JsonDoc.setConds = ["err != nil", "!lastKeyPathElement.isArrayIndex || lastKeyPathElement.getArrayIndex() != 0", "err != nil", "found"] := rfl

theorem shape_replaceConds : Gen.JsonDoc.replaceConds = ["err != nil", "err != nil", "!lastKeyPathElement.isArrayIndex || lastKeyPathElement.getArrayIndex() != 0", "err != nil", "!found"] := rfl

theorem shape_fallbackConds : Gen.JsonDoc.fallbackConds = ["err == unknownLocationKeyError || err == unsupportedPathError || err == jsonParseError", "err != unsupportedPathError", "ok", "err != nil"] := rfl

theorem shape_doneConds : Gen.JsonDoc.doneConds = ["j.jCur == nil", "err != nil", "j.jScanner.currentPath.getScannerState() == endOfValue && len(jsonBytes) > 0 && jsonBytes[0] != '}' && jsonBytes[0] != ']' && jsonBytes[0] != ','", "err != nil", "len(j.jScanner.jsonBuffer) == 0", "err != nil", "!cur.Valid()", "err != nil"] := rfl

theorem shape_threeWayConds : Gen.JsonDoc.threeWayConds = ["err != nil", "differ.rightIsDone", "differ.leftIsDone", "cmp != 0 && tree.JsonKeysModifySameArray(leftKey, rightKey)", "cmp > 0", "tree.IsJsonKeyPrefix(leftKey, rightKey)", "cmp < 0", "tree.IsJsonKeyPrefix(rightKey, leftKey)", "differ.leftCurrentDiff.From == nil", "err != nil", "valueCmp == 0", "differ.leftCurrentDiff.To == nil && differ.rightCurrentDiff.To == nil", "differ.leftCurrentDiff.To == nil || differ.rightCurrentDiff.To == nil", "err != nil", "conflict"] := rfl

theorem shape_pathLexConds : Gen.JsonDoc.pathLexConds = ["len(pathBytes) == 0 || pathBytes[0] != '$'", "pathBytes[i] == '['", "pathBytes[i] == '.'", "pathBytes[i] != byte(']')", "isUnsupportedJsonArrayIndex(indexBytes)", "err != nil", "pathBytes[i] == '\"'", "pathBytes[i] == '.' || pathBytes[i] == '['", "tok == i", "isUnsupportedJsonPathKey(pathBytes[tok:i])", "pathBytes[i] == '\"'", "tok+1 == i", "isUnsupportedJsonPathKey(pathKey)", "pathBytes[i] == '\\\\'", "state == lexStateKey", "tok == i", "isUnsupportedJsonPathKey(pathBytes[tok:i])", "state != lexStatePath"] := rfl

theorem shape_advanceCases : Gen.JsonDoc.advanceCases = ["startOfValue", "objectInitialElement", "arrayInitialElement", "endOfValue", "middleOfStringValue", "default"] := rfl

theorem shape_acceptValueCases : Gen.JsonDoc.acceptValueCases = ["'\"'", "'['", "'{'", "'}'", "']'", "','", "endOfFile", "default"] := rfl

theorem shape_keyValueCases : Gen.JsonDoc.keyValueCases = ["'\"'", "'}'", "default"] := rfl

theorem shape_nextKeyValueCases : Gen.JsonDoc.nextKeyValueCases = ["','", "'}'", "default"] := rfl

theorem shape_mergeOpCases : Gen.JsonDoc.mergeOpCases = ["tree.DiffOpRightAdd", "tree.DiffOpConvergentAdd", "tree.DiffOpRightModify", "tree.DiffOpConvergentModify", "tree.DiffOpDivergentModifyResolved", "tree.DiffOpRightDelete", "tree.DiffOpConvergentDelete", "tree.DiffOpLeftAdd", "tree.DiffOpLeftModify", "tree.DiffOpLeftDelete", "tree.DiffOpDivergentModifyConflict", "tree.DiffOpDivergentDeleteConflict", "default"] := rfl

theorem shape_escapeKeyBody : Gen.JsonDoc.escapeKeyBody = "{ return bytes.Replace(key, []byte(`\"`), []byte(`\\\"`), -1) }" := rfl

theorem shape_unescapeKeyBody : Gen.JsonDoc.unescapeKeyBody = "{ return bytes.Replace(key, []byte(`\\\"`), []byte(`\"`), -1) }" := rfl

theorem shape_IsJsonKeyPrefixBody : Gen.JsonDoc.IsJsonKeyPrefixBody = "{ return bytes.HasPrefix(path, prefix) && (path[len(prefix)] == beginArrayKey || path[len(prefix)] == beginObjectKey) }" := rfl

theorem shape_JsonKeysModifySameArrayBody : Gen.JsonDoc.JsonKeysModifySameArrayBody = "{ i := 0 for i < len(leftKey) && i < len(rightKey) && leftKey[i] == rightKey[i] { if leftKey[i] == beginArrayKey { return true } i++ } return false }" := rfl

theorem shape_callsArrayInsert : Gen.JsonDoc.callsArrayInsert = ["i.ToInterface"] := rfl

theorem shape_callsArrayAppend : Gen.JsonDoc.callsArrayAppend = ["i.ToInterface"] := rfl

theorem shape_gmsWalkConds : Gen.JsonDoc.gmsWalkConds = ["path == \"\"", "ok", "path[0] == '.'", "!ok", "mode == ARRAY_INSERT", "path[0] == '['", "right == -1", "ok"] := rfl

theorem shape_gmsObjectConds : Gen.JsonDoc.gmsObjectConds = ["err != nil", "remainingPath == \"\"", "mode == ARRAY_APPEND", "!ok", "err != nil", "changed", "mode == ARRAY_INSERT", "mode == SET || (!destructive && mode == INSERT) || (destructive && mode == REPLACE)", "destructive && mode == REMOVE", "err != nil", "changed"] := rfl

theorem shape_gmsArrayConds : Gen.JsonDoc.gmsArrayConds = ["err != nil", "index.underflow && (mode != SET)", "len(arr) > index.index && !index.overflow", "remaining == \"\" && mode != ARRAY_APPEND", "mode == SET || mode == REPLACE", "mode == REMOVE", "mode == ARRAY_INSERT", "err != nil", "changed", "mode == SET || mode == INSERT || mode == ARRAY_INSERT"] := rfl

theorem shape_gmsTreatAsArrayConds : Gen.JsonDoc.gmsTreatAsArrayConds = ["err != nil", "parsedIndex.underflow", "mode == SET || mode == INSERT", "parsedIndex.overflow", "mode == SET || mode == INSERT", "mode == SET || mode == REPLACE", "mode == ARRAY_APPEND"] := rfl

theorem shape_gmsParseIndexConds : Gen.JsonDoc.gmsParseIndexConds = ["indexStr == \"last\"", "lastIndex < 0", "len(parts) == 2", "part1 == \"last\"", "err != nil || lastMinus < 0", "reducedIdx < 0", "err != nil", "val > lastIndex"] := rfl

theorem shape_gmsWalkCases : Gen.JsonDoc.gmsWalkCases = ["SET", "REPLACE", "INSERT", "ARRAY_APPEND", "ARRAY_INSERT", "REMOVE", "default"] := rfl

end DoltVerif.Tie.JsonDoc
