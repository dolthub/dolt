import DoltVerif.Gen.ManifestOrder
import DoltVerif.Model.ManOrder
/-! Tie: the order / guard / layout facts the ManStore model (C02, C07) assumes are the ones regenerated
from the Go source. -/
namespace DoltVerif.Tie.ManifestOrder
open DoltVerif DoltVerif.ManOrder

/-- (i) `fileManifest.Update`: `tryFileLock` first, `Unlock` deferred, `updateWithChecker` inside; there is no
early, non-deferred unlock -/
theorem update_lock_region :
    project Gen.ManifestOrder.fileManifestUpdate lockRegion = lockRegion
    ∧ Gen.ManifestOrder.fileManifestUpdate.contains "call:fm.lock.Unlock" = false := by decide +kernel

theorem updateGCGen_lock_region :
    project Gen.ManifestOrder.fileManifestUpdateGCGen lockRegion = lockRegion
    ∧ Gen.ManifestOrder.fileManifestUpdateGCGen.contains "call:fm.lock.Unlock" = false := by decide +kernel

/-- `LockManifest` (grace prune) takes the same lock and reads the manifest under it -/
theorem lockManifest_reads_under_lock :
    before Gen.ManifestOrder.fileManifestLockManifest "call:tryFileLock" "call:parseIfExists" = true := by decide +kernel

/-- (ii) `updateManifest` compares `nbs.upstream.root` with `last` before anything else -/
theorem cas_guard_first :
    Gen.ManifestOrder.updateManifest.take 2 = ["if:nbs.upstream.root != last", "return:errLastRootMismatch"] := rfl

/-- the events `prepare` / `commitResume` transliterate occur in the model's order -/
theorem updateManifest_skeleton :
    project Gen.ManifestOrder.updateManifest updateManifestSkeleton = updateManifestSkeleton := by decide +kernel

/-- (iii) the new lock is `generateLockHash(current, specs, appendixSpecs, nil)`, the CAS token passed to
`Update` is the cached `nbs.upstream.lock`, and `newContents.root = current` -/
theorem new_lock_and_token :
    Gen.ManifestOrder.updateManifestLockHashArgs = ["current", "specs", "appendixSpecs", "nil"]
    ∧ Gen.ManifestOrder.updateManifestUpdateArgs[2]? = some "nbs.upstream.lock"
    ∧ Gen.ManifestOrder.updateManifestUpdateArgs[3]? = some "newContents"
    ∧ Gen.ManifestOrder.updateManifestNewContents.lookup "root" = some "current"
    ∧ Gen.ManifestOrder.updateManifestNewContents.lookup "lock" = some "generateLockHash(current, specs, appendixSpecs, nil)"
    ∧ Gen.ManifestOrder.updateManifestNewContents.lookup "specs" = some "specs" := by and_intros <;> rfl

/-- (iv) outside the lock-failure closure, `nbs.upstream` is assigned only after the returned lock has been
compared with the new lock, which is after `manifest.Update` -/
theorem upstream_assigned_after_match :
    allAfter Gen.ManifestOrder.updateManifest "if:newContents.lock != upstream.lock" "assign:nbs.upstream" = true
    ∧ before Gen.ManifestOrder.updateManifest "call:nbs.manifest.Update" "if:newContents.lock != upstream.lock" = true := by decide +kernel

/-- the shortcut of `commit`: condition, what "possibly novel" means, that it only rebases, and the mutex -/
theorem commit_shortcut :
    next Gen.ManifestOrder.commit "if:!anyPossiblyNovelChunks && current == last" "call:nbs.rebase" = true
    ∧ Gen.ManifestOrder.commitAnyPossiblyNovel = "nbs.memtable != nil || len(nbs.tables.novel) > 0"
    ∧ before Gen.ManifestOrder.commit "call:nbs.mu.Lock" "if:!anyPossiblyNovelChunks && current == last" = true
    ∧ Gen.ManifestOrder.commit.contains "defer:nbs.mu.Unlock" = true
    ∧ before Gen.ManifestOrder.commit "if:!anyPossiblyNovelChunks && current == last" "call:nbs.updateManifest" = true := by decide +kernel

/-- `rebase` short-circuits on an equal lock and assigns `nbs.upstream` only after the tables were opened -/
theorem rebase_order :
    before Gen.ManifestOrder.nbs_rebase "call:nbs.manifest.ParseIfExists" "if:contents.lock == nbs.upstream.lock" = true
    ∧ before Gen.ManifestOrder.nbs_rebase "call:nbs.tables.rebase" "assign:nbs.upstream" = true := by decide +kernel

/-- byte layout fed to the lock hash = the model's `lockPreimage` layout; hashes are 20 bytes -/
theorem lock_hash_layout :
    Gen.ManifestOrder.lockHashWrites = lockHashLayout ∧ Gen.ManifestOrder.hashByteLen = 20
    ∧ Gen.ManifestOrder.lockHashParams = ["root", "specs", "appendix", "extra"] := by and_intros <;> rfl

/-- journal manifest: the in-memory lock is compared before the root record is written, `j.contents` is
assigned after it -/
theorem journal_update_is_cas :
    before Gen.ManifestOrder.journalUpdate "if:j.contents.lock != lastLock" "call:j.wr.commitRootHash" = true
    ∧ before Gen.ManifestOrder.journalUpdate "call:j.wr.commitRootHash" "assign:j.contents" = true := by decide +kernel

/-! C07 -/

/-- the ref check runs before the memtable is persisted -/
theorem refcheck_before_persist :
    before Gen.ManifestOrder.tableSetAppend "call:checker" "call:ts.p.Persist" = true := by decide +kernel

/-- in `updateManifest`: flush (with its ref check) → has-cache update → root check → `manifest.Update` -/
theorem dangling_checks_before_update :
    before Gen.ManifestOrder.updateManifest "call:nbs.tables.append" "call:nbs.addPendingRefsToHasCache" = true
    ∧ before Gen.ManifestOrder.updateManifest "call:nbs.addPendingRefsToHasCache" "call:nbs.errorIfDangling" = true
    ∧ before Gen.ManifestOrder.updateManifest "call:nbs.errorIfDangling" "call:nbs.manifest.Update" = true := by decide +kernel

/-- a dangling-ref error drops the memtable, and that is all the handler does -/
theorem dangling_drops_memtable :
    Gen.ManifestOrder.nbs_handlePossibleDanglingRefError =
      ["if:errors.Is(err, ErrDanglingRef)", "call:errors.Is", "assign:nbs.memtable"] := rfl

/-- the has-cache is fed from pending refs that were found (`e.has`) and, in `addChunk`, only after `append`
succeeded -/
theorem hascache_after_landing :
    Gen.ManifestOrder.nbs_addPendingRefsToHasCache = ["for:nbs.memtable.pendingRefs", "if:e.has", "call:nbs.hasCache.Add"]
    ∧ before Gen.ManifestOrder.nbs_addChunk "call:nbs.tables.append" "call:nbs.addPendingRefsToHasCache" = true
    ∧ before Gen.ManifestOrder.nbs_addChunk "call:nbs.handlePossibleDanglingRefError" "call:nbs.addPendingRefsToHasCache" = true :=
  ⟨rfl, by decide +kernel⟩

/-- `errorIfDangling`: empty root exempt, has-cache consulted first, cache fed after the checker passed -/
theorem errorIfDangling_order :
    Gen.ManifestOrder.nbs_errorIfDangling.head? = some "if:!root.IsEmpty()"
    ∧ before Gen.ManifestOrder.nbs_errorIfDangling "call:nbs.hasCache.Get" "call:checker" = true
    ∧ before Gen.ManifestOrder.nbs_errorIfDangling "call:checker" "call:nbs.hasCache.Add" = true := by decide +kernel

/-- `refCheck` looks in the memtable, then in the table set -/
theorem refCheck_sources :
    before Gen.ManifestOrder.nbs_refCheck "call:nbs.memtable.hasMany" "call:nbs.tables.hasMany" = true := by decide +kernel

end DoltVerif.Tie.ManifestOrder
