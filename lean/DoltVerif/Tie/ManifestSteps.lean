import DoltVerif.Gen.ManifestSteps
import DoltVerif.Model.ManOrder
import DoltVerif.Model.ManFs
import DoltVerif.Model.ManText
/-! Tie (C05): the step orders of `updateWithChecker` and of the grace prune, and the manifest text layout, as
regenerated from the Go source. -/
namespace DoltVerif.Tie.ManifestSteps
open DoltVerif DoltVerif.ManOrder

/-- temp file → write → Sync → (Close) → hook → read manifest → lock compare → validate → Rename → dir fsync -/
theorem updateWithChecker_order :
    project Gen.ManifestSteps.updateWithChecker updateWithCheckerSkeleton = updateWithCheckerSkeleton := by decide +kernel

/-- the content is synced before the rename, the directory after it; nothing is renamed before `validate` -/
theorem sync_rename_syncdir :
    before Gen.ManifestSteps.updateWithChecker "call:temp.Sync" "call:file.Rename" = true
    ∧ before Gen.ManifestSteps.updateWithChecker "call:file.Rename" "call:file.SyncDirectoryHandle" = true
    ∧ before Gen.ManifestSteps.updateWithChecker "call:validate" "call:file.Rename" = true
    ∧ before Gen.ManifestSteps.updateWithChecker "if:lastLock != upstream.lock" "call:validate" = true
    ∧ (Gen.ManifestSteps.updateWithChecker.filter (· == "call:file.Rename")).length = 1 := by decide +kernel

/-- `fileManifest.Update`'s checker: gcGen comparison, then `checkNewSpecsPresent`, inside the lock region -/
theorem update_checker :
    before Gen.ManifestSteps.fileManifestUpdate "call:tryFileLock" "call:updateWithChecker" = true
    ∧ Gen.ManifestSteps.fileManifestUpdate.contains "closure:call:checkNewSpecsPresent" = true
    ∧ Gen.ManifestSteps.fileManifestUpdate.contains "closure:if:contents.gcGen != upstream.gcGen" = true := by decide +kernel

/-- `checkNewSpecsPresent` stats every spec the upstream manifest does not already carry -/
theorem checkNewSpecsPresent_stats :
    Gen.ManifestSteps.checkNewSpecsPresent.contains "call:tableFileOrArchiveExists" = true
    ∧ before Gen.ManifestSteps.checkNewSpecsPresent "call:upstream.getSpecSet" "call:tableFileOrArchiveExists" = true := by decide +kernel

/-- grace prune: snapshot → quiescence veto → (under the manifest lock) mtime re-check → keepers → stat → unlink -/
theorem prune_order :
    project Gen.ManifestSteps.pruneDirAsOf pruneDirSkeleton = pruneDirSkeleton
    ∧ project Gen.ManifestSteps.unlinkUnderManifestLock unlinkUnderLockSkeleton = unlinkUnderLockSkeleton
    ∧ project Gen.ManifestSteps.unlinkCandidates unlinkCandidatesSkeleton = unlinkCandidatesSkeleton := by decide +kernel

/-- the keep set = this handle's upstream references ∪ specs and appendix of the manifest read under the lock -/
theorem prune_keep_set :
    before Gen.ManifestSteps.pruneUnreferencedWithGrace "call:nbs.upstreamReferences" "closure:call:locker.LockManifest" = true
    ∧ before Gen.ManifestSteps.pruneUnreferencedWithGrace "closure:call:locker.LockManifest" "closure:call:addSpecsAndAppendix" = true := by decide +kernel

/-- a table file is written to a temp file and renamed into place; no directory fsync of its own -/
theorem table_file_landing :
    before Gen.ManifestSteps.ftp_writeAndProtect "call:tempfiles.MovableTempFileProvider.NewFile" "call:file.Rename" = true
    ∧ Gen.ManifestSteps.ftp_writeAndProtect.contains "call:file.SyncDirectoryHandle" = false := by decide +kernel

/-- manifest text: `:`-joined, field order version:nbf:lock:root:gcGen then (name:count)* -/
theorem text_layout :
    Gen.ManifestSteps.writeManifestFields =
      ["StorageVersion", "contents.nbfVers", "contents.lock.String()", "contents.root.String()", "contents.gcGen.String()"]
    ∧ Gen.ManifestSteps.manifestSep = ":" ∧ Gen.ManifestSteps.prefixLen = 5
    ∧ Gen.ManifestSteps.StorageVersion = "5" ∧ Gen.ManifestSteps.storageVersion4 = "4"
    ∧ Gen.ManifestSteps.parseV5Slices.lookup "specs" = some "slices[prefixLen-1:]"
    ∧ (Gen.ManifestSteps.parseV5Slices.lookup "lock" = some "slices[1]")
    ∧ (Gen.ManifestSteps.parseV5Slices.lookup "root" = some "slices[2]")
    ∧ (Gen.ManifestSteps.parseV5Slices.lookup "gcGen" = some "slices[3]")
    ∧ Gen.ManifestSteps.parseV5Fields.lookup "nbfVers" = some "slices[0]" :=
  ⟨rfl, rfl, rfl, rfl, rfl, by decide +kernel⟩

/-- the writer actor's program counter values, in program order, are (after) exactly these source events, in
source order: `tryFileLock` in `fileManifest.Update`, then inside `updateWithChecker` NewFile, writeManifest,
Sync, parseManifest, the lock compare, validate, Rename, SyncDirectoryHandle -/
theorem writer_program_is_source_order :
    project (Gen.ManifestSteps.fileManifestUpdate.takeWhile (· != "call:updateWithChecker") ++ Gen.ManifestSteps.updateWithChecker)
      (ManFs.writerProgram.map ManFs.WPc.label) = ManFs.writerProgram.map ManFs.WPc.label := by decide +kernel

/-- every failure return of `updateWithChecker` before the rename runs with the temp file's removal and the
LOCK's release deferred (the model's `leave`) -/
theorem writer_failure_paths :
    before Gen.ManifestSteps.updateWithChecker "defer:file.Remove" "call:writeHook" = true
    ∧ before Gen.ManifestSteps.fileManifestUpdate "defer:fm.lock.Unlock" "call:updateWithChecker" = true
    ∧ Gen.ManifestSteps.fileManifestUpdate.contains "call:fm.lock.Unlock" = false := by decide +kernel

/-- the grace pruner's program: snapshot (`os.ReadDir`), `lock(ctx)`, `unlinkCandidates` -/
theorem pruner_program_is_source_order :
    project (Gen.ManifestSteps.pruneDirAsOf.takeWhile (· != "call:unlinkUnderManifestLock") ++ Gen.ManifestSteps.unlinkUnderManifestLock)
      (ManFs.prunerProgram.map ManFs.PPc.label) = ManFs.prunerProgram.map ManFs.PPc.label := by decide +kernel

/-- `pUnlink`'s guard: the keep test precedes the unlink, inside the candidate loop -/
theorem pruner_unlink_guard :
    before Gen.ManifestSteps.unlinkCandidates "if:!c.isTemp && keep.Has(c.addr)" "call:file.Remove" = true
    ∧ Gen.ManifestSteps.unlinkCandidates.head? = some "for:candidates" := by decide +kernel

/-- the unlocked unlinkers (the model's cleaner actor) really take no manifest lock -/
theorem legacy_prune_takes_no_manifest_lock :
    Gen.ManifestSteps.ftp_PruneTableFiles.contains "call:file.Remove" = true
    ∧ Gen.ManifestSteps.ftp_PruneTableFiles.any (fun e => e == "call:tryFileLock" || e == "call:lock" || e == "call:locker.LockManifest") = false := by decide +kernel

/-- the text model `Model/ManText.lean` uses the source's field order, separator, version, prefix length and slice
positions -/
theorem text_model :
    Gen.ManifestSteps.writeManifestFields = ManText.headFieldNames
    ∧ Gen.ManifestSteps.manifestSep.toList = [ManText.sep]
    ∧ Gen.ManifestSteps.StorageVersion.toList = ManText.storageVersion
    ∧ Gen.ManifestSteps.prefixLen = ManText.prefixLen
    ∧ Gen.ManifestSteps.parseV5Slices.lookup "nbfVers" = some "slices[0]"
    ∧ Gen.ManifestSteps.parseV5Slices.lookup "lock" = some "slices[1]"
    ∧ Gen.ManifestSteps.parseV5Slices.lookup "root" = some "slices[2]"
    ∧ Gen.ManifestSteps.parseV5Slices.lookup "gcGen" = some "slices[3]"
    ∧ Gen.ManifestSteps.parseV5Slices.lookup "specs" = some "slices[prefixLen-1:]" :=
  ⟨rfl, rfl, rfl, rfl, by decide +kernel⟩

/-- the journal manifest's `Update` (the model's journal writer): the same `updateWithChecker`, no `tryFileLock` per call,
and a checker that compares gcGen only — no `checkNewSpecsPresent` -/
theorem journal_update_shape :
    Gen.ManifestSteps.journalManifestUpdate.contains "call:updateWithChecker" = true
    ∧ Gen.ManifestSteps.journalManifestUpdate.contains "call:tryFileLock" = false
    ∧ Gen.ManifestSteps.journalManifestUpdate.contains "closure:if:contents.gcGen != upstream.gcGen" = true
    ∧ Gen.ManifestSteps.journalManifestUpdate.any (fun e => e == "closure:call:checkNewSpecsPresent" || e == "call:checkNewSpecsPresent") = false := by decide +kernel

end DoltVerif.Tie.ManifestSteps
