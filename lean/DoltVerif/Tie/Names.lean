import DoltVerif.Gen.Names
import DoltVerif.Model.Names
/-! Tie: the facts `Model/Names.lean` uses are exactly those regenerated from the Go source. -/
namespace DoltVerif.Tie.Names
open DoltVerif

theorem action_codes : Gen.Names.refnameActionsPrefix = Names.actionCodes := rfl
theorem table_len : Gen.Names.refnameActionsLen = 256 := rfl
theorem code_ok : Gen.Names.refnameOk = 0 ∧ Names.actionOfCode Gen.Names.refnameOk = .ok := by decide +kernel
theorem code_eof : Names.actionOfCode Gen.Names.refnameEof = .eof := by decide +kernel
theorem code_dot : Names.actionOfCode Gen.Names.refnameDot = .dot := by decide +kernel
theorem code_leftCurly : Names.actionOfCode Gen.Names.refnameLeftCurly = .leftCurly := by decide +kernel
theorem code_illegal : Names.actionOfCode Gen.Names.refnameIllegal = .illegal := by decide +kernel
/-- the seven alternatives that `Names.invalidBranchNameRegex` implements as direct predicates -/
theorem branch_regex_alternatives :
    Gen.Names.invalidBranchNameAlternatives =
      ["\\A\\z", "\\AHEAD\\z", "\\A-\\z", "\\A[0-9a-v]{32}\\z", "\\/\\/", "\\A\\/", "\\/\\z"]
    ∧ Gen.Names.invalidBranchNameJoin = "|"
    ∧ Gen.Names.invalidBranchNameCalls = ["regexp.MustCompile", "strings.Join"] := by and_intros <;> rfl
theorem hash_regex : Gen.Names.hashRegex = ["^[0-9a-v]{32}$"] := rfl

end DoltVerif.Tie.Names
