import DoltVerif.Gen.NbsLayout
import DoltVerif.Model.NbsFiles
/-! Tie: the layout constants, index formulas, archive footer offsets and the guards of the lookup
loops that `Model/NbsFiles.lean` transliterates are exactly those regenerated from the Go source (`Gen/NbsLayout.lean`). -/
namespace DoltVerif.Tie.NbsLayout
open DoltVerif DoltVerif.NbsFiles

theorem table_constants :
    Gen.NbsLayout.uint64Size = uint64Size ∧ Gen.NbsLayout.uint32Size = uint32Size ∧
    Gen.NbsLayout.ordinalSize = ordinalSize ∧ Gen.NbsLayout.lengthSize = lengthSize ∧
    Gen.NbsLayout.footerSize = footerSize ∧ Gen.NbsLayout.prefixTupleSize = prefixTupleSize ∧
    Gen.NbsLayout.checksumSize = checksumSize ∧ Gen.NbsLayout.PrefixLen = prefixLen ∧
    Gen.NbsLayout.SuffixLen = suffixLen ∧ Gen.NbsLayout.ByteLen = addrLen ∧
    Gen.NbsLayout.offsetSize = 8 ∧ Gen.NbsLayout.magicNumberSize = magicNumber.length := by decide +kernel

theorem magic_bytes :
    Gen.NbsLayout.magicNumberBytes = magicNumber.map (·.toNat) ∧
    Gen.NbsLayout.doltMagicNumberBytes = doltMagic.map (·.toNat) := by decide +kernel

theorem index_formulas :
    Gen.NbsLayout.indexSizeFormula = "uint64(numChunks) * (hash.SuffixLen + lengthSize + prefixTupleSize)" ∧
    Gen.NbsLayout.lengthsOffsetFormula = "uint64(numChunks) * prefixTupleSize" ∧
    Gen.NbsLayout.suffixesOffsetFormula = "uint64(numChunks) * (prefixTupleSize + lengthSize)" ∧
    (∀ n, indexSize n = n * (suffixLen + lengthSize + prefixTupleSize)) ∧
    (∀ n, lengthsOffset n = n * prefixTupleSize) ∧
    (∀ n, suffixesOffset n = n * (prefixTupleSize + lengthSize)) :=
  ⟨rfl, rfl, rfl, fun _ => rfl, fun _ => rfl, fun _ => rfl⟩

/-- `writeFooter` writes a uint32, a uint64 and a `copy` (the magic), in this order; that the uint32 is the
count and the uint64 the uncompressed size, as in `serializeIndex`, is not part of the generated fact -/
theorem footer_order : Gen.NbsLayout.writeFooterCalls =
    ["binary.BigEndian.PutUint32", "binary.BigEndian.PutUint64", "copy"] := rfl

/-- guards of the loops transliterated by `findFrom`, `scanRun`, `lookupOrdinal`, `lookup` -/
theorem lookup_guards :
    Gen.NbsLayout.findPrefixConds = ["idx < j", "tmp < prefix"] ∧
    Gen.NbsLayout.lookupOrdinalConds = ["idx < ti.count", "ti.prefixAt(idx) == prefix", "err != nil"] ∧
    Gen.NbsLayout.lookupConds = ["err != nil", "ord == ti.count"] := by and_intros <;> rfl

/-- guards of `hasMany` / `findOffsets`: binary search on the carried `filterIdx`, the early exit
`filterIdx >= filterLen`, the prefix mismatch test, and the equal-prefix scan -/
theorem batched_guards :
    Gen.NbsLayout.hasManyConds = ["filterIdx < j", "tr.prefixes[h] < addr.prefix", "filterIdx >= filterLen",
      "addr.prefix != tr.prefixes[filterIdx]", "j < filterLen", "addr.prefix == tr.prefixes[j]", "err != nil", "keeper != nil"] ∧
    Gen.NbsLayout.findOffsetsConds = ["filterIdx < j", "tr.prefixes[h] < req.prefix", "filterIdx >= filterLen",
      "req.prefix != tr.prefixes[filterIdx]", "j < filterLen", "req.prefix == tr.prefixes[j]", "err != nil", "keeper != nil", "err != nil"] := ⟨rfl, rfl⟩

theorem archive_search_guards :
    Gen.NbsLayout.prollyBinSearchConds = ["items == 0", "target > hi", "lo >= target", "lft < rht", "slice[idx] < target", "lft < items", "lo >= target"] ∧
    Gen.NbsLayout.findIndexConds = ["possibleMatch < 0", "uint32(possibleMatch) >= ar.footer.chunkCount", "idx < ar.footer.chunkCount",
      "ar.indexReader.getPrefix(idx) == prefix", "ar.indexReader.getSuffix(idx) == suffix(targetSfx)"] := ⟨rfl, rfl⟩

/-- the journal's cached map is keyed by 16 bytes and `get`/`flatten` go through `toAddr16` -/
theorem journal_addr16 :
    Gen.NbsLayout.addr16Type = "[16]byte" ∧ Gen.NbsLayout.rangeIndex_get_calls = ["toAddr16"] ∧
    "toAddr16" ∈ Gen.NbsLayout.rangeIndex_flatten_calls := by decide +kernel

/-- archive footer layout: the offsets as written in archive.go, and the model's values for them
(`sha512.Size = 64`) -/
theorem archive_footer :
    Gen.NbsLayout.archiveConsts =
      [("archiveFileSignature", "\"DOLTARC\""), ("archiveCheckSumSize", "sha512.Size * 3"),
       ("archiveFooterSize", "uint64Size + uint32Size + uint32Size + uint32Size + archiveCheckSumSize + 1 + archiveFileSigSize"),
       ("afrIndexLenOffset", "0"), ("afrByteSpanOffset", "afrIndexLenOffset + uint64Size"),
       ("afrChunkCountOffset", "afrByteSpanOffset + uint32Size"), ("afrMetaLenOffset", "afrChunkCountOffset + uint32Size"),
       ("afrDataChkSumOffset", "afrMetaLenOffset + uint32Size"), ("afrIndexChkSumOffset", "afrDataChkSumOffset + sha512.Size"),
       ("afrMetaChkSumOffset", "afrIndexChkSumOffset + sha512.Size"), ("afrVersionOffset", "afrMetaChkSumOffset + sha512.Size"),
       ("afrSigOffset", "afrVersionOffset + 1"), ("archiveVersionInitial", "uint8(1)"),
       ("archiveVersionSnappySupport", "uint8(2)"), ("archiveVersionGiantIndexSupport", "uint8(3)"),
       ("archiveFormatVersionMax", "archiveVersionGiantIndexSupport")] ∧
    archiveFooterSize = 8 + 4 + 4 + 4 + 64 * 3 + 1 + 7 ∧ afrByteSpanOffset = 8 ∧ afrChunkCountOffset = 12 ∧
    afrMetaLenOffset = 16 ∧ afrDataChkSumOffset = 20 ∧ afrVersionOffset = 20 + 3 * 64 ∧ afrSigOffset = 213 ∧
    archiveFormatVersionMax = 3 ∧ archiveVersionGiantIndexSupport = 3 := by and_intros <;> rfl

/-- format versions 1 and 2 have a footer 4 bytes shorter than version 3, and the data, index and
metadata spans are all computed from the footer's *actual* size — as `ArcFooter.actualFooterSize` /
`ArcFooter.indexOffset` in the model do -/
theorem archive_footer_per_version :
    Gen.NbsLayout.actualFooterSizeReturns = ["archiveFooterSize - 4", "archiveFooterSize"] ∧
    Gen.NbsLayout.actualFooterSizeConds = ["f.formatVersion < archiveVersionGiantIndexSupport"] ∧
    Gen.NbsLayout.dataSpanUsesActualFooterSize = true ∧ Gen.NbsLayout.totalIndexSpanUsesActualFooterSize = true ∧
    Gen.NbsLayout.metadataSpanUsesActualFooterSize = true ∧
    (∀ f : ArcFooter, f.actualFooterSize =
      if f.formatVersion < archiveVersionGiantIndexSupport then archiveFooterSize - 4 else archiveFooterSize) :=
  ⟨rfl, rfl, rfl, rfl, rfl, fun _ => rfl⟩

end DoltVerif.Tie.NbsLayout
