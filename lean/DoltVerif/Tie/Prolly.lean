import DoltVerif.Gen.Prolly
import DoltVerif.Model.TestSplitter
/-! Tie: the facts the chunker / mutable-map models rest on are those regenerated from the Go source. -/
namespace DoltVerif.Tie.Prolly
open DoltVerif

/-- `keySplitter` is chunk-local: `Append` writes only fields that `Reset` rewrites, reads
besides them only `salt` (never written after construction), touches no package variable, and
`CrossedBoundary` just returns the flag.  Hence the state after `Reset` is a constant of the
level: the model's `Splitter.init`. -/
theorem keySplitter_chunk_local :
    Gen.Prolly.keySplitterAppendWrites.all (· ∈ Gen.Prolly.keySplitterResetWrites) = true
    ∧ Gen.Prolly.keySplitterAppendReads.all (fun f => f ∈ Gen.Prolly.keySplitterResetWrites || f == "salt") = true
    ∧ "salt" ∉ Gen.Prolly.keySplitterAppendWrites
    ∧ Gen.Prolly.keySplitterGlobalWrites = []
    ∧ Gen.Prolly.keySplitterAppendCalls = ["len", "uint32", "weibullCheck", "xxHash32"]
    ∧ Gen.Prolly.keySplitterCrossedBoundaryBody = "{ return ks.crossedBoundary }"
    ∧ Gen.Prolly.defaultSplitterFactory = "newKeySplitter" := by decide +kernel

/-- the same for `rollingHashSplitter` (`bz` is replaced by a fresh hasher in `Reset`) -/
theorem rollingHashSplitter_chunk_local :
    Gen.Prolly.rollingHashSplitterAppendWrites.all (· ∈ Gen.Prolly.rollingHashSplitterResetWrites) = true
    ∧ Gen.Prolly.rollingHashSplitterAppendReads.all
        (fun f => f ∈ Gen.Prolly.rollingHashSplitterResetWrites || f == "salt") = true
    ∧ "salt" ∉ Gen.Prolly.rollingHashSplitterAppendWrites
    ∧ "window" ∉ Gen.Prolly.rollingHashSplitterAppendWrites
    ∧ Gen.Prolly.rollingHashSplitterGlobalWrites = []
    ∧ Gen.Prolly.rollingHashSplitterCrossedBoundaryBody = "{ return sns.crossedBoundary }" := by decide +kernel

/-- the control skeleton of `chunker.append` that `LevelCfg.stepItem` transliterates -/
theorem append_skeleton :
    Gen.Prolly.chunker_append_calls =
      ["tc.isLeaf", "tc.builder.count", "tc.builder.hasCapacity", "tc.handleChunkBoundary",
       "tc.builder.addItems", "tc.splitter.Append", "tc.isLeaf", "tc.builder.count",
       "tc.splitter.CrossedBoundary", "tc.handleChunkBoundary"]
    ∧ Gen.Prolly.appendGuards =
      [("degenerate", "!tc.isLeaf() && tc.builder.count() == 1"),
       ("overflow", "!tc.builder.hasCapacity(key, value)"),
       ("degenerate", "!tc.isLeaf() && tc.builder.count() == 1")]
    ∧ Gen.Prolly.appendConds =
      ["overflow && degenerate", "overflow", "err != nil", "err != nil",
       "tc.splitter.CrossedBoundary() && !degenerate", "err != nil"] := by and_intros <;> rfl

/-- a chunk boundary writes the node, hands its summary to the parent and resets the splitter;
the builder size is reset by `build` -/
theorem boundary_resets :
    Gen.Prolly.chunker_handleChunkBoundary_calls =
      ["tc.builder.count", "writeNewNode", "tc.appendToParent", "tc.splitter.Reset"]
    ∧ Gen.Prolly.chunker_appendToParent_calls = ["tc.createParentChunker", "tc.parent.append"]
    ∧ Gen.Prolly.builderSizeWrites = ["addItems: nb.size += len(key) + len(value)", "build: nb.size = 0"]
    ∧ Gen.Prolly.newChunker_calls = ["defaultSplitterFactory", "newNodeBuilder", "sc.processPrefix"] := by and_intros <;> rfl

/-- capacity rule: `size + len(key) + len(value) <= MaxVectorOffset = 2^16 - 1` -/
theorem capacity :
    Gen.Prolly.hasCapacityBody = "{ sum := nb.size + len(key) + len(value) return sum <= int(message.MaxVectorOffset) }"
    ∧ Gen.Prolly.maxVectorOffsetSrc = "uint64(math.MaxUint16)"
    ∧ (⟨16, 96, 5, 3, 65535⟩ : Prolly.Test.Params).cap = 2 ^ 16 - 1 := by and_intros <;> rfl

/-- resynchronisation: the chunker stops copying old items exactly when the last `append`
split and the old cursor is at a node end (`Region` skipping in `LevelCfg.incr`) -/
theorem resync_conditions :
    "for !(split && tc.cur.atNodeEnd())" ∈ Gen.Prolly.advanceToConds
    ∧ "if ok && tc.cur.atNodeEnd()" ∈ Gen.Prolly.finalizeCursorConds
    ∧ "for tc.cur.Valid()" ∈ Gen.Prolly.finalizeCursorConds
    ∧ Gen.Prolly.getCanonicalRootConds = ["err != nil", "err != nil", "child.IsLeaf() || child.Count() > 1"]
    ∧ Gen.Prolly.chunker_Done_calls =
        ["tc.finalizeCursor", "tc.parent.anyPending", "tc.builder.count", "tc.handleChunkBoundary",
         "tc.parent.Done", "tc.isLeaf", "tc.builder.count", "writeNewNode", "tc.isLeaf", "getCanonicalRoot"] :=
  ⟨by decide +kernel, by decide +kernel, by decide +kernel, rfl, rfl⟩

/-- the production size window of `keySplitter` (not used by the proofs, which hold for every
splitter; recorded because the capacity defect needs `maxChunkSize < MaxVectorOffset`) -/
theorem key_splitter_window :
    Gen.Prolly.minChunkSize = 512 ∧ Gen.Prolly.maxChunkSize = 16384 ∧ Gen.Prolly.maxChunkSize < 2 ^ 16 - 1 := by decide +kernel

/-- `MutableMap.Put` flushes when more than `maxPending` keys are pending; `Delete` never
flushes; default threshold 64Ki (`MutMap.put/delete`) -/
theorem mutable_flush_rule :
    Gen.Prolly.mutable_Put_calls = ["mut.tuples.Put", "mut.tuples.Edits.Count", "mut.flushPending"]
    ∧ Gen.Prolly.mutable_Put_conds = ["err != nil", "mut.tuples.Edits.Count() > mut.maxPending"]
    ∧ Gen.Prolly.mutable_Delete_calls = ["mut.tuples.Delete"]
    ∧ Gen.Prolly.mutable_Delete_conds = []
    ∧ Gen.Prolly.defaultMaxPending = 64 * 1024 := by and_intros <;> rfl

/-- `Checkpoint`/`Revert`/`flushPending` skeleton (`MutMap.checkpoint/revert/flush`) -/
theorem mutable_checkpoint_rule :
    Gen.Prolly.mutable_Checkpoint_calls = ["mut.tuples.Edits.Checkpoint"]
    ∧ Gen.Prolly.mutable_Revert_calls = ["mut.tuples.Edits.Revert"]
    ∧ Gen.Prolly.mutable_Revert_conds = ["mut.stash != nil"]
    ∧ Gen.Prolly.mutable_flushPending_calls =
        ["mut.tuples.Edits.HasCheckpoint", "mut.tuples.Copy", "cp.Edits.Revert", "tmpGMM.flushPending",
         "mut.flusher.GetDefaultSerializer", "mut.flusher.ApplyMutationsWithSerializer", "mut.tuples.Edits.Truncate"]
    ∧ Gen.Prolly.mutable_flushPending_conds = ["mut.tuples.Edits.HasCheckpoint()", "deep", "err != nil", "err != nil"] := by and_intros <;> rfl

/-- the skip list's checkpoint is a position in its append-only node log, `1` meaning "none"
(`EditLog.checkpoint/hasCheckpoint/revert/truncate`) -/
theorem skiplist_checkpoint :
    Gen.Prolly.skip_Checkpoint_body = "{ l.checkpoint = l.nextNodeId() }"
    ∧ Gen.Prolly.skip_HasCheckpoint_body = "{ return l.checkpoint > nodeId(1) }"
    ∧ Gen.Prolly.skip_Revert_body =
        "{ cp := l.checkpoint keepers := l.nodes[1:cp] l.Truncate() for _, nd := range keepers { if err := l.Put(ctx, nd.key, nd.val); err != nil { return err } } l.checkpoint = cp return nil }"
    ∧ Gen.Prolly.skip_Truncate_body =
        "{ l.nodes = l.nodes[:1] // point sentinel.prev at itself s := l.nodePtr(sentinelId) s.next = tower{} s.prev = sentinelId l.checkpoint = nodeId(1) l.count = 0 }" :=
  ⟨rfl, rfl, rfl, rfl⟩

end DoltVerif.Tie.Prolly
