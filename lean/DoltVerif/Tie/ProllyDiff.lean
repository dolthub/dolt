import DoltVerif.Gen.ProllyDiff
import DoltVerif.Model.ProllyDiff
/-! Tie (C13): the facts `Model/ProllyDiff.lean` was transliterated from are exactly those regenerated
from the Go source: DiffType constants, the call order inside every modelled function, and the
comment-free, whitespace-normalised text of the small pure predicates and loops.  An edit to any of
these functions makes the corresponding theorem fail; the check then searches for a failing input
with the harness. -/
namespace DoltVerif.Tie.ProllyDiff
open DoltVerif

/-- the model's `DiffType` constructors in Go's numbering -/
def diffTypeCode : ProllyDiff.DiffType → Nat
  | .added => 1 | .modified => 2 | .removed => 3

theorem diffType_codes : Gen.ProllyDiff.NoDiff = 0 ∧ diffTypeCode .added = Gen.ProllyDiff.AddedDiff ∧
    diffTypeCode .modified = Gen.ProllyDiff.ModifiedDiff ∧ diffTypeCode .removed = Gen.ProllyDiff.RemovedDiff := by decide +kernel

theorem nextCalls_pinned : Gen.ProllyDiff.nextCalls =
    ["td.from.Valid", "td.from.compare", "td.to.Valid", "td.to.compare", "td.from.CurrentKey", "td.to.CurrentKey", "td.order.Compare", "K", "K", "sendRemoved", "sendAdded", "equalcursorValues", "sendModified", "td.from.advance", "td.to.advance", "skipCommon", "td.from.Valid", "td.from.compare", "sendRemoved", "td.to.Valid", "td.to.compare", "sendAdded"] := rfl

theorem nextSrc_pinned : Gen.ProllyDiff.nextSrc =
    "{ for td.from.Valid() && td.from.compare(td.fromStop) < 0 && td.to.Valid() && td.to.compare(td.toStop) < 0 { f := td.from.CurrentKey() t := td.to.CurrentKey() cmp, cmpErr := td.order.Compare(ctx, K(f), K(t)) if cmpErr != nil { return Diff{}, cmpErr } switch { case cmp < 0: return sendRemoved(ctx, td.from, advanceCursors) case cmp > 0: return sendAdded(ctx, td.to, advanceCursors) case cmp == 0: if td.considerAllRowsModified || !equalcursorValues(td.from, td.to) { return sendModified(ctx, td.from, td.to, advanceCursors) } if err = td.from.advance(ctx); err != nil { return Diff{}, err } if err = td.to.advance(ctx); err != nil { return Diff{}, err } if err = skipCommon(ctx, td.from, td.to); err != nil { return Diff{}, err } } } if td.from.Valid() && td.from.compare(td.fromStop) < 0 { return sendRemoved(ctx, td.from, advanceCursors) } if td.to.Valid() && td.to.compare(td.toStop) < 0 { return sendAdded(ctx, td.to, advanceCursors) } return Diff{}, io.EOF }" := rfl

theorem skipCommonCalls_pinned : Gen.ProllyDiff.skipCommonCalls =
    ["from.Valid", "to.Valid", "equalItems", "equalParents", "skipCommonParents", "from.atNodeEnd", "to.atNodeEnd", "from.advance", "to.advance"] := rfl

theorem skipCommonSrc_pinned : Gen.ProllyDiff.skipCommonSrc =
    "{ parentsAreNew := true for from.Valid() && to.Valid() { if !equalItems(from, to) { return nil } if parentsAreNew { if equalParents(from, to) { if err = skipCommonParents(ctx, from, to); err != nil { return err } continue } parentsAreNew = false } parentsAreNew = from.atNodeEnd() || to.atNodeEnd() if err = from.advance(ctx); err != nil { return err } if err = to.advance(ctx); err != nil { return err } } return err }" := rfl

theorem skipCommonParentsCalls_pinned : Gen.ProllyDiff.skipCommonParentsCalls =
    ["skipCommon", "from.parent.Valid", "from.fetchNode", "from.skipToNodeStart", "from.invalidateAtEnd", "to.parent.Valid", "to.fetchNode", "to.skipToNodeStart", "to.invalidateAtEnd"] := rfl

theorem skipCommonParentsSrc_pinned : Gen.ProllyDiff.skipCommonParentsSrc =
    "{ err = skipCommon(ctx, from.parent, to.parent) if err != nil { return err } if from.parent.Valid() { if err = from.fetchNode(ctx); err != nil { return err } from.skipToNodeStart() } else { from.invalidateAtEnd() } if to.parent.Valid() { if err = to.fetchNode(ctx); err != nil { return err } to.skipToNodeStart() } else { to.invalidateAtEnd() } return }" := rfl

theorem equalItemsCalls_pinned : Gen.ProllyDiff.equalItemsCalls =
    ["bytes.Equal", "from.CurrentKey", "to.CurrentKey", "bytes.Equal", "from.currentValue", "to.currentValue"] := rfl

theorem equalItemsSrc_pinned : Gen.ProllyDiff.equalItemsSrc =
    "{ return bytes.Equal(from.CurrentKey(), to.CurrentKey()) && bytes.Equal(from.currentValue(), to.currentValue()) }" := rfl

theorem equalParentsCalls_pinned : Gen.ProllyDiff.equalParentsCalls =
    ["equalItems"] := rfl

theorem equalParentsSrc_pinned : Gen.ProllyDiff.equalParentsSrc =
    "{ if from.parent != nil && to.parent != nil { eq = equalItems(from.parent, to.parent) } return }" := rfl

theorem equalcursorValuesCalls_pinned : Gen.ProllyDiff.equalcursorValuesCalls =
    ["bytes.Equal", "from.currentValue", "to.currentValue"] := rfl

theorem equalcursorValuesSrc_pinned : Gen.ProllyDiff.equalcursorValuesSrc =
    "{ return bytes.Equal(from.currentValue(), to.currentValue()) }" := rfl

theorem sendRemovedCalls_pinned : Gen.ProllyDiff.sendRemovedCalls =
    ["from.CurrentKey", "from.currentValue", "from.advance"] := rfl

theorem sendRemovedSrc_pinned : Gen.ProllyDiff.sendRemovedSrc =
    "{ diff = Diff{ Type: RemovedDiff, Key: from.CurrentKey(), From: from.currentValue(), } if advanceCursors { if err = from.advance(ctx); err != nil { return Diff{}, err } } return }" := rfl

theorem sendAddedCalls_pinned : Gen.ProllyDiff.sendAddedCalls =
    ["to.CurrentKey", "to.currentValue", "to.advance"] := rfl

theorem sendAddedSrc_pinned : Gen.ProllyDiff.sendAddedSrc =
    "{ diff = Diff{ Type: AddedDiff, Key: to.CurrentKey(), To: to.currentValue(), } if advanceCursors { if err = to.advance(ctx); err != nil { return Diff{}, err } } return }" := rfl

theorem sendModifiedCalls_pinned : Gen.ProllyDiff.sendModifiedCalls =
    ["from.CurrentKey", "from.currentValue", "to.currentValue", "from.advance", "to.advance"] := rfl

theorem sendModifiedSrc_pinned : Gen.ProllyDiff.sendModifiedSrc =
    "{ diff = Diff{ Type: ModifiedDiff, Key: from.CurrentKey(), From: from.currentValue(), To: to.currentValue(), } if advanceCursors { if err = from.advance(ctx); err != nil { return Diff{}, err } if err = to.advance(ctx); err != nil { return Diff{}, err } } return }" := rfl

theorem differFromRootsCalls_pinned : Gen.ProllyDiff.differFromRootsCalls =
    ["from.empty", "newCursorAtStart", "to.empty", "newCursorAtStart", "newCursorPastEnd", "newCursorPastEnd"] := rfl

theorem differFromCursorsCalls_pinned : Gen.ProllyDiff.differFromCursorsCalls =
    ["newCursorFromSearchFn", "newCursorFromSearchFn", "newCursorFromSearchFn", "newCursorFromSearchFn"] := rfl

theorem advanceCalls_pinned : Gen.ProllyDiff.advanceCalls =
    ["cur.hasNext", "cur.invalidateAtEnd", "cur.parent.advance", "cur.parent.outOfBounds", "cur.invalidateAtEnd", "cur.fetchNode", "cur.skipToNodeStart"] := rfl

theorem advanceSrc_pinned : Gen.ProllyDiff.advanceSrc =
    "{ if cur.hasNext() { cur.idx++ return nil } if cur.parent == nil { cur.invalidateAtEnd() return nil } err := cur.parent.advance(ctx) if err != nil { return err } if cur.parent.outOfBounds() { cur.invalidateAtEnd() return nil } err = cur.fetchNode(ctx) if err != nil { return err } cur.skipToNodeStart() return nil }" := rfl

theorem validCalls_pinned : Gen.ProllyDiff.validCalls =
    ["cur.nd.Count", "cur.nd.bytes", "cur.nd.Count"] := rfl

theorem validSrc_pinned : Gen.ProllyDiff.validSrc =
    "{ return cur.nd != nil && cur.nd.Count() != 0 && cur.nd.bytes() != nil && cur.idx >= 0 && cur.idx < cur.nd.Count() }" := rfl

theorem hasNextCalls_pinned : Gen.ProllyDiff.hasNextCalls =
    ["int", "cur.nd.Count"] := rfl

theorem hasNextSrc_pinned : Gen.ProllyDiff.hasNextSrc =
    "{ return cur.idx < int(cur.nd.Count())-1 }" := rfl

theorem atNodeEndCalls_pinned : Gen.ProllyDiff.atNodeEndCalls =
    ["int", "cur.nd.Count"] := rfl

theorem atNodeEndSrc_pinned : Gen.ProllyDiff.atNodeEndSrc =
    "{ lastKeyIdx := int(cur.nd.Count()) - 1 return cur.idx == lastKeyIdx }" := rfl

theorem outOfBoundsCalls_pinned : Gen.ProllyDiff.outOfBoundsCalls =
    ["cur.nd.Count"] := rfl

theorem outOfBoundsSrc_pinned : Gen.ProllyDiff.outOfBoundsSrc =
    "{ return cur.idx < 0 || cur.idx >= cur.nd.Count() }" := rfl

theorem keepInBoundsCalls_pinned : Gen.ProllyDiff.keepInBoundsCalls =
    ["cur.skipToNodeStart", "int", "cur.nd.Count", "cur.skipToNodeEnd"] := rfl

theorem keepInBoundsSrc_pinned : Gen.ProllyDiff.keepInBoundsSrc =
    "{ if cur.idx < 0 { cur.skipToNodeStart() } lastKeyIdx := int(cur.nd.Count()) - 1 if cur.idx > lastKeyIdx { cur.skipToNodeEnd() } }" := rfl

theorem invalidateAtEndCalls_pinned : Gen.ProllyDiff.invalidateAtEndCalls =
    ["cur.nd.Count"] := rfl

theorem invalidateAtEndSrc_pinned : Gen.ProllyDiff.invalidateAtEndSrc =
    "{ cur.idx = cur.nd.Count() }" := rfl

theorem compareCursorsCalls_pinned : Gen.ProllyDiff.compareCursorsCalls =
    [] := rfl

theorem compareCursorsSrc_pinned : Gen.ProllyDiff.compareCursorsSrc =
    "{ diff = 0 for { d := left.idx - right.idx if d != 0 { diff = d } if left.parent == nil || right.parent == nil { break } left, right = left.parent, right.parent } return }" := rfl

theorem newCursorAtStartCalls_pinned : Gen.ProllyDiff.newCursorAtStartCalls =
    ["cur.isLeaf", "fetchChild", "cur.currentRef"] := rfl

theorem newCursorPastEndCalls_pinned : Gen.ProllyDiff.newCursorPastEndCalls =
    ["newCursorAtEnd", "cur.advance", "int", "cur.nd.Count", "panic"] := rfl

theorem newCursorFromSearchFnCalls_pinned : Gen.ProllyDiff.newCursorFromSearchFnCalls =
    ["search", "cur.isLeaf", "cur.keepInBounds", "fetchChild", "cur.currentRef", "search"] := rfl

theorem newCursorFromSearchFnSrc_pinned : Gen.ProllyDiff.newCursorFromSearchFnSrc =
    "{ cur = &cursor{nd: nd, nrw: ns} cur.idx, err = search(ctx, cur.nd) if err != nil { return cur, err } for !cur.isLeaf() { cur.keepInBounds() nd, err = fetchChild(ctx, ns, cur.currentRef()) if err != nil { return cur, err } parent := cur cur = &cursor{nd: nd, parent: parent, nrw: ns} cur.idx, err = search(ctx, cur.nd) if err != nil { return cur, err } } return }" := rfl

theorem searchForKeyCalls_pinned : Gen.ProllyDiff.searchForKeyCalls =
    ["nd.keys.IsEmpty", "int", "nd.Count", "int", "uint", "order.Compare", "K", "nd.GetKey"] := rfl

theorem diffKeyRangeCalls_pinned : Gen.ProllyDiff.diffKeyRangeCalls =
    ["len", "newCursorAtStart", "newCursorAtStart", "newCursorAtKey", "newCursorAtKey", "len", "newCursorPastEnd", "newCursorPastEnd", "newCursorAtKey", "newCursorAtKey", "differ.Next", "cb"] := rfl

theorem diffOrderedTreesCalls_pinned : Gen.ProllyDiff.diffOrderedTreesCalls =
    ["DifferFromRoots", "differ.Next", "cb"] := rfl

theorem makeDiffCallBackCalls_pinned : Gen.ProllyDiff.makeDiffCallBackCalls =
    ["from.valDesc.Equals", "from.valDesc.Compare", "val.Tuple", "val.Tuple", "innerCb"] := rfl

theorem makeDiffCallBackSrc_pinned : Gen.ProllyDiff.makeDiffCallBackSrc =
    "{ if !from.valDesc.Equals(to.valDesc) { return innerCb } return func(ctx context.Context, diff tree.Diff) error { if diff.Type == tree.ModifiedDiff { cmp, err := from.valDesc.Compare(ctx, val.Tuple(diff.From), val.Tuple(diff.To)) if err != nil { return err } if cmp == 0 { return nil } } return innerCb(ctx, diff) } }" := rfl

theorem rangeDiffMapsCalls_pinned : Gen.ProllyDiff.rangeDiffMapsCalls =
    ["<*ast.IndexListExpr>", "rangeStartSearchFn", "rangeStopSearchFn", "from.NodeStore", "to.NodeStore", "makeDiffCallBack", "differ.Next", "dcb"] := rfl

theorem aboveStartCalls_pinned : Gen.ProllyDiff.aboveStartCalls =
    ["r.Desc.Comparator", "r.Desc.GetField", "order.CompareValues"] := rfl

theorem aboveStartSrc_pinned : Gen.ProllyDiff.aboveStartSrc =
    "{ order := r.Desc.Comparator() for i := range r.Fields { bound := r.Fields[i].Lo if !bound.Binding { return true, nil } field := r.Desc.GetField(i, t) typ := r.Desc.Types[i] cmp, err := order.CompareValues(ctx, i, field, bound.Value, typ) if err != nil { return false, err } if cmp < 0 { return false, nil } if r.Fields[i].BoundsAreEqual && cmp == 0 { continue } return cmp > 0 || bound.Inclusive, nil } return true, nil }" := rfl

theorem belowStopCalls_pinned : Gen.ProllyDiff.belowStopCalls =
    ["r.Desc.Comparator", "r.Desc.GetField", "order.CompareValues"] := rfl

theorem belowStopSrc_pinned : Gen.ProllyDiff.belowStopSrc =
    "{ order := r.Desc.Comparator() for i := range r.Fields { bound := r.Fields[i].Hi if !bound.Binding { return true, nil } field := r.Desc.GetField(i, t) typ := r.Desc.Types[i] cmp, err := order.CompareValues(ctx, i, field, bound.Value, typ) if err != nil { return false, err } if cmp > 0 { return false, nil } if r.Fields[i].BoundsAreEqual && cmp == 0 { continue } return cmp < 0 || bound.Inclusive, nil } return true, nil }" := rfl

theorem rangeStartSearchFnCalls_pinned : Gen.ProllyDiff.rangeStartSearchFnCalls =
    ["sort.Search", "nd.Count", "val.Tuple", "nd.GetKey", "rng.aboveStart"] := rfl

theorem rangeStopSearchFnCalls_pinned : Gen.ProllyDiff.rangeStopSearchFnCalls =
    ["sort.Search", "nd.Count", "val.Tuple", "nd.GetKey", "rng.belowStop"] := rfl

end DoltVerif.Tie.ProllyDiff
