import DoltVerif.Gen.ProllyMerge
import DoltVerif.Model.ProllyMerge
/-! Tie (C14): the facts `Model/ProllyMerge.lean` was transliterated from are exactly those regenerated
from the Go source: the DiffOp numbering, the state numbering of `ThreeWayDiffer.Next`, the call order
inside every modelled function and the comment-free, whitespace-normalised text of each of them except
`NewThreeWayDiffer` and `ThreeWayMerge` (call order only). -/
namespace DoltVerif.Tie.ProllyMerge
open DoltVerif

/-- the model's `DiffOp` constructors in Go's iota numbering -/
def diffOpCode : ProllyMerge.DiffOp → Nat
  | .leftAdd => 0 | .rightAdd => 1 | .leftDelete => 2 | .rightDelete => 3 | .leftModify => 4 | .rightModify => 5
  | .convergentAdd => 6 | .convergentDelete => 7 | .convergentModify => 8 | .divergentModifyResolved => 9
  | .divergentDeleteConflict => 10 | .divergentModifyConflict => 11 | .divergentDeleteResolved => 12

theorem diffOp_codes :
    diffOpCode .leftAdd = Gen.ProllyMerge.DiffOpLeftAdd ∧ diffOpCode .rightAdd = Gen.ProllyMerge.DiffOpRightAdd ∧
    diffOpCode .leftDelete = Gen.ProllyMerge.DiffOpLeftDelete ∧ diffOpCode .rightDelete = Gen.ProllyMerge.DiffOpRightDelete ∧
    diffOpCode .leftModify = Gen.ProllyMerge.DiffOpLeftModify ∧ diffOpCode .rightModify = Gen.ProllyMerge.DiffOpRightModify ∧
    diffOpCode .convergentAdd = Gen.ProllyMerge.DiffOpConvergentAdd ∧ diffOpCode .convergentDelete = Gen.ProllyMerge.DiffOpConvergentDelete ∧
    diffOpCode .convergentModify = Gen.ProllyMerge.DiffOpConvergentModify ∧
    diffOpCode .divergentModifyResolved = Gen.ProllyMerge.DiffOpDivergentModifyResolved ∧
    diffOpCode .divergentDeleteConflict = Gen.ProllyMerge.DiffOpDivergentDeleteConflict ∧
    diffOpCode .divergentModifyConflict = Gen.ProllyMerge.DiffOpDivergentModifyConflict ∧
    diffOpCode .divergentDeleteResolved = Gen.ProllyMerge.DiffOpDivergentDeleteResolved := by decide +kernel

theorem state_codes : Gen.ProllyMerge.dsUnknown = 0 ∧ Gen.ProllyMerge.dsInit = 1 ∧ Gen.ProllyMerge.dsDiffFinalize = 2 ∧
    Gen.ProllyMerge.dsCompare = 3 ∧ Gen.ProllyMerge.dsNewLeft = 4 ∧ Gen.ProllyMerge.dsNewRight = 5 ∧
    Gen.ProllyMerge.dsMatch = 6 ∧ Gen.ProllyMerge.dsMatchFinalize = 7 := by decide +kernel

theorem twNextCalls_pinned : Gen.ProllyMerge.twNextCalls =
    ["d.lIter.Next", "errors.Is", "d.rIter.Next", "errors.Is", "d.lIter.order.Compare", "K", "K", "d.newLeftEdit", "d.lIter.Next", "errors.Is", "d.newRightEdit", "d.rIter.Next", "errors.Is", "d.newConvergentEdit", "d.resolveCb", "val.Tuple", "val.Tuple", "val.Tuple", "d.newDivergentDeleteConflict", "d.newDivergentDeleteResolved", "bytes.Equal", "d.newConvergentEdit", "d.resolveCb", "val.Tuple", "val.Tuple", "val.Tuple", "d.newDivergentClashConflict", "d.newDivergentResolved", "Item", "d.lIter.Next", "errors.Is", "d.rIter.Next", "errors.Is", "panic", "fmt.Sprintf"] := rfl

theorem twNextSrc_pinned : Gen.ProllyMerge.twNextSrc =
    "{ var err error var res ThreeWayDiff nextState := dsInit for { switch nextState { case dsInit: if !d.lDone { if d.lDiff.Key == nil { d.lDiff, err = d.lIter.Next(ctx) if errors.Is(err, io.EOF) { d.lDone = true } else if err != nil { return ThreeWayDiff{}, err } } } if !d.rDone { if d.rDiff.Key == nil { d.rDiff, err = d.rIter.Next(ctx) if errors.Is(err, io.EOF) { d.rDone = true } else if err != nil { return ThreeWayDiff{}, err } } } nextState = dsDiffFinalize case dsDiffFinalize: if d.lDone && d.rDone { return ThreeWayDiff{}, io.EOF } else if d.lDone { nextState = dsNewRight } else if d.rDone { nextState = dsNewLeft } else { nextState = dsCompare } case dsCompare: cmp, cmpErr := d.lIter.order.Compare(ctx, K(d.lDiff.Key), K(d.rDiff.Key)) if cmpErr != nil { return ThreeWayDiff{}, cmpErr } switch { case cmp < 0: nextState = dsNewLeft case cmp == 0: nextState = dsMatch case cmp > 0: nextState = dsNewRight default: } case dsNewLeft: res = d.newLeftEdit(d.lDiff.Key, d.lDiff.To, d.lDiff.Type) d.lDiff, err = d.lIter.Next(ctx) if errors.Is(err, io.EOF) { d.lDone = true } else if err != nil { return ThreeWayDiff{}, err } return res, nil case dsNewRight: res = d.newRightEdit(d.rDiff.Key, d.rDiff.From, d.rDiff.To, d.rDiff.Type) d.rDiff, err = d.rIter.Next(ctx) if errors.Is(err, io.EOF) { d.rDone = true } else if err != nil { return ThreeWayDiff{}, err } return res, nil case dsMatch: if d.lDiff.To == nil && d.rDiff.To == nil { res = d.newConvergentEdit(d.lDiff.Key, d.lDiff.To, d.lDiff.Type) } else if d.lDiff.To == nil || d.rDiff.To == nil { _, ok, err := d.resolveCb(ctx, val.Tuple(d.lDiff.To), val.Tuple(d.rDiff.To), val.Tuple(d.lDiff.From)) if err != nil { return ThreeWayDiff{}, err } if !ok { res = d.newDivergentDeleteConflict(d.lDiff.Key, d.lDiff.From, d.lDiff.To, d.rDiff.To) } else { res = d.newDivergentDeleteResolved(d.lDiff.Key, d.lDiff.From, d.lDiff.To, d.rDiff.To) } } else if d.lDiff.Type == d.rDiff.Type && bytes.Equal(d.lDiff.To, d.rDiff.To) { res = d.newConvergentEdit(d.lDiff.Key, d.lDiff.To, d.lDiff.Type) } else { resolved, ok, err := d.resolveCb(ctx, val.Tuple(d.lDiff.To), val.Tuple(d.rDiff.To), val.Tuple(d.lDiff.From)) if err != nil { return ThreeWayDiff{}, err } if !ok { res = d.newDivergentClashConflict(d.lDiff.Key, d.lDiff.From, d.lDiff.To, d.rDiff.To) } else { res = d.newDivergentResolved(d.lDiff.Key, d.lDiff.To, d.rDiff.To, Item(resolved)) } } nextState = dsMatchFinalize case dsMatchFinalize: d.lDiff, err = d.lIter.Next(ctx) if errors.Is(err, io.EOF) { d.lDone = true } else if err != nil { return ThreeWayDiff{}, err } d.rDiff, err = d.rIter.Next(ctx) if errors.Is(err, io.EOF) { d.rDone = true } else if err != nil { return ThreeWayDiff{}, err } return res, nil default: panic(fmt.Sprintf(\"unknown threeWayDiffState: %d\", nextState)) } } }" := rfl

theorem newThreeWayDifferCalls_pinned : Gen.ProllyMerge.newThreeWayDifferCalls =
    ["DifferFromRoots", "DifferFromRoots"] := rfl

theorem newLeftEditCalls_pinned : Gen.ProllyMerge.newLeftEditCalls =
    ["panic", "val.Tuple", "val.Tuple"] := rfl

theorem newLeftEditSrc_pinned : Gen.ProllyMerge.newLeftEditSrc =
    "{ var op DiffOp switch typ { case AddedDiff: op = DiffOpLeftAdd case ModifiedDiff: op = DiffOpLeftModify case RemovedDiff: op = DiffOpLeftDelete default: panic(\"unknown diff type\") } return ThreeWayDiff{ Op: op, Key: val.Tuple(key), Left: val.Tuple(left), } }" := rfl

theorem newRightEditCalls_pinned : Gen.ProllyMerge.newRightEditCalls =
    ["panic", "val.Tuple", "val.Tuple", "val.Tuple"] := rfl

theorem newRightEditSrc_pinned : Gen.ProllyMerge.newRightEditSrc =
    "{ var op DiffOp switch typ { case AddedDiff: op = DiffOpRightAdd case ModifiedDiff: op = DiffOpRightModify case RemovedDiff: op = DiffOpRightDelete default: panic(\"unknown diff type\") } return ThreeWayDiff{ Op: op, Key: val.Tuple(key), Base: val.Tuple(base), Right: val.Tuple(right), } }" := rfl

theorem newConvergentEditCalls_pinned : Gen.ProllyMerge.newConvergentEditCalls =
    ["panic", "val.Tuple", "val.Tuple"] := rfl

theorem newConvergentEditSrc_pinned : Gen.ProllyMerge.newConvergentEditSrc =
    "{ var op DiffOp switch typ { case AddedDiff: op = DiffOpConvergentAdd case ModifiedDiff: op = DiffOpConvergentModify case RemovedDiff: op = DiffOpConvergentDelete default: panic(\"unknown diff type\") } return ThreeWayDiff{ Op: op, Key: val.Tuple(key), Left: val.Tuple(left), } }" := rfl

theorem newDivergentResolvedCalls_pinned : Gen.ProllyMerge.newDivergentResolvedCalls =
    ["val.Tuple", "val.Tuple", "val.Tuple", "val.Tuple"] := rfl

theorem newDivergentResolvedSrc_pinned : Gen.ProllyMerge.newDivergentResolvedSrc =
    "{ return ThreeWayDiff{ Op: DiffOpDivergentModifyResolved, Key: val.Tuple(key), Left: val.Tuple(left), Right: val.Tuple(right), Merged: val.Tuple(merged), } }" := rfl

theorem newDivergentDeleteConflictCalls_pinned : Gen.ProllyMerge.newDivergentDeleteConflictCalls =
    ["val.Tuple", "val.Tuple", "val.Tuple", "val.Tuple"] := rfl

theorem newDivergentDeleteConflictSrc_pinned : Gen.ProllyMerge.newDivergentDeleteConflictSrc =
    "{ return ThreeWayDiff{ Op: DiffOpDivergentDeleteConflict, Key: val.Tuple(key), Base: val.Tuple(base), Left: val.Tuple(left), Right: val.Tuple(right), } }" := rfl

theorem newDivergentDeleteResolvedCalls_pinned : Gen.ProllyMerge.newDivergentDeleteResolvedCalls =
    ["val.Tuple", "val.Tuple", "val.Tuple", "val.Tuple"] := rfl

theorem newDivergentDeleteResolvedSrc_pinned : Gen.ProllyMerge.newDivergentDeleteResolvedSrc =
    "{ return ThreeWayDiff{ Op: DiffOpDivergentDeleteResolved, Key: val.Tuple(key), Base: val.Tuple(base), Left: val.Tuple(left), Right: val.Tuple(right), } }" := rfl

theorem newDivergentClashConflictCalls_pinned : Gen.ProllyMerge.newDivergentClashConflictCalls =
    ["val.Tuple", "val.Tuple", "val.Tuple", "val.Tuple"] := rfl

theorem newDivergentClashConflictSrc_pinned : Gen.ProllyMerge.newDivergentClashConflictSrc =
    "{ return ThreeWayDiff{ Op: DiffOpDivergentModifyConflict, Key: val.Tuple(key), Base: val.Tuple(base), Left: val.Tuple(left), Right: val.Tuple(right), } }" := rfl

theorem threeWayMergeCalls_pinned : Gen.ProllyMerge.threeWayMergeCalls =
    ["PatchGeneratorFromRoots", "PatchGeneratorFromRoots", "errgroup.WithContext", "NewPatchBuffer", "eg.Go", "func", "recover", "fmt.Errorf", "string", "debug.Stack", "func", "patches.Close", "SendPatches", "eg.Go", "func", "recover", "fmt.Errorf", "string", "debug.Stack", "ApplyPatches", "eg.Wait"] := rfl

theorem sendPatchesCalls_pinned : Gen.ProllyMerge.sendPatchesCalls =
    ["l.Next", "getNextAndSplitIfAtEnd", "l.getLevel", "r.getLevel", "compareWithNilAsMin", "K", "K", "l.Next", "compareWithNilAsMin", "K", "K", "buf.SendPatch", "getNextAndSplitIfAtEnd", "bytes.Equal", "compareWithNilAsMin", "K", "K", "buf.SendPatch", "l.Next", "getNextAndSplitIfAtEnd", "compareWithNilAsMin", "K", "K", "l.split", "r.split", "compareWithNilAsMin", "K", "K", "l.Next", "order.Compare", "K", "K", "buf.SendPatch", "getNextAndSplitIfAtEnd", "r.split", "compareWithNilAsMin", "K", "K", "buf.SendPatch", "getNextAndSplitIfAtEnd", "order.Compare", "K", "K", "l.Next", "l.split", "order.Compare", "K", "K", "l.Next", "buf.SendPatch", "getNextAndSplitIfAtEnd", "bytes.Equal", "resolveCollision", "buf.SendPatch", "l.Next", "getNextAndSplitIfAtEnd", "buf.SendPatch", "getNextAndSplitIfAtEnd"] := rfl

theorem sendPatchesSrc_pinned : Gen.ProllyMerge.sendPatchesSrc =
    "{ var ( left, right Patch lDiffType, rDiffType DiffType lok, rok = true, true ) left, lDiffType, lok, err = l.Next(ctx) if err != nil { return err } right, rDiffType, rok, err = getNextAndSplitIfAtEnd(ctx, &r) if err != nil { return err } order := l.order for lok && rok { leftLevel, _ := l.getLevel() rightLevel, _ := r.getLevel() if leftLevel > 0 && rightLevel > 0 { if cmp, err := compareWithNilAsMin(ctx, order, K(left.EndKey), K(right.KeyBelowStart)); err != nil { return err } else if cmp <= 0 { left, lDiffType, lok, err = l.Next(ctx) if err != nil { return err } } else if cmp, err := compareWithNilAsMin(ctx, order, K(right.EndKey), K(left.KeyBelowStart)); err != nil { return err } else if cmp <= 0 { err = buf.SendPatch(ctx, right) if err != nil { return err } right, rDiffType, rok, err = getNextAndSplitIfAtEnd(ctx, &r) if err != nil { return err } } else if bytes.Equal(left.To, right.To) { cmp, err := compareWithNilAsMin(ctx, order, K(left.KeyBelowStart), K(right.KeyBelowStart)) if err != nil { return err } if cmp > 0 { err = buf.SendPatch(ctx, right) if err != nil { return err } } left, lDiffType, lok, err = l.Next(ctx) if err != nil { return err } right, rDiffType, rok, err = getNextAndSplitIfAtEnd(ctx, &r) if err != nil { return err } } else { cmp, err := compareWithNilAsMin(ctx, order, K(left.KeyBelowStart), K(right.KeyBelowStart)) if err != nil { return err } if cmp <= 0 { left, lDiffType, lok, err = l.split(ctx) if err != nil { return err } } if cmp >= 0 { right, rDiffType, rok, err = r.split(ctx) if err != nil { return err } } } continue } if rightLevel > 0 { if cmp, err := compareWithNilAsMin(ctx, order, K(left.EndKey), K(right.KeyBelowStart)); err != nil { return err } else if cmp <= 0 { left, lDiffType, lok, err = l.Next(ctx) if err != nil { return err } } else if cmp, err := order.Compare(ctx, K(left.EndKey), K(right.EndKey)); err != nil { return err } else if cmp > 0 { err = buf.SendPatch(ctx, right) if err != nil { return err } right, rDiffType, rok, err = getNextAndSplitIfAtEnd(ctx, &r) if err != nil { return err } } else { right, rDiffType, rok, err = r.split(ctx) if err != nil { return err } } continue } if leftLevel > 0 { if cmp, err := compareWithNilAsMin(ctx, order, K(right.EndKey), K(left.KeyBelowStart)); err != nil { return err } else if cmp <= 0 { err = buf.SendPatch(ctx, right) if err != nil { return err } right, rDiffType, rok, err = getNextAndSplitIfAtEnd(ctx, &r) if err != nil { return err } } else if cmp, err := order.Compare(ctx, K(right.EndKey), K(left.EndKey)); err != nil { return err } else if cmp > 0 { left, lDiffType, lok, err = l.Next(ctx) if err != nil { return err } } else { left, lDiffType, lok, err = l.split(ctx) if err != nil { return err } } continue } cmp, cmpErr := order.Compare(ctx, K(left.EndKey), K(right.EndKey)) if cmpErr != nil { return cmpErr } switch { case cmp < 0: left, lDiffType, lok, err = l.Next(ctx) if err != nil { return err } case cmp > 0: err = buf.SendPatch(ctx, right) if err != nil { return err } right, rDiffType, rok, err = getNextAndSplitIfAtEnd(ctx, &r) if err != nil { return err } case cmp == 0: if !bytes.Equal(left.To, right.To) { resolvedPatch, ok := resolveCollision(left, lDiffType, right, rDiffType, cb) if ok { err = buf.SendPatch(ctx, resolvedPatch) if err != nil { return err } } } left, lDiffType, lok, err = l.Next(ctx) if err != nil { return err } right, rDiffType, rok, err = getNextAndSplitIfAtEnd(ctx, &r) if err != nil { return err } } } if lok { return nil } for rok { err = buf.SendPatch(ctx, right) if err != nil { return err } right, rDiffType, rok, err = getNextAndSplitIfAtEnd(ctx, &r) if err != nil { return err } } return nil }" := rfl

theorem resolveCollisionCalls_pinned : Gen.ProllyMerge.resolveCollisionCalls =
    ["cb"] := rfl

theorem resolveCollisionSrc_pinned : Gen.ProllyMerge.resolveCollisionSrc =
    "{ leftDiff := Diff{ Key: left.EndKey, From: left.From, To: left.To, Type: lDiffType, } rightDiff := Diff{ Key: right.EndKey, From: right.From, To: right.To, Type: rDiffType, } resolved, ok := cb(leftDiff, rightDiff) return Patch{ From: resolved.From, EndKey: resolved.Key, To: resolved.To, Level: 0, }, ok }" := rfl

theorem getNextAndSplitIfAtEndCalls_pinned : Gen.ProllyMerge.getNextAndSplitIfAtEndCalls =
    ["patchGenerator.Next", "patchGenerator.to.atEnd", "patchGenerator.split"] := rfl

theorem getNextAndSplitIfAtEndSrc_pinned : Gen.ProllyMerge.getNextAndSplitIfAtEndSrc =
    "{ patch, diffType, isMore, err = patchGenerator.Next(ctx) if err != nil { return Patch{}, NoDiff, false, err } for patchGenerator.to.atEnd() && patch.Level > 0 && diffType != RemovedDiff { patch, diffType, isMore, err = patchGenerator.split(ctx) if err != nil || !isMore { return Patch{}, NoDiff, false, err } } return patch, diffType, isMore, nil }" := rfl

theorem compareWithNilAsMinCalls_pinned : Gen.ProllyMerge.compareWithNilAsMinCalls =
    ["order.Compare"] := rfl

theorem compareWithNilAsMinSrc_pinned : Gen.ProllyMerge.compareWithNilAsMinSrc =
    "{ if left == nil && right == nil { return 0, nil } if left == nil { return -1, nil } if right == nil { return 1, nil } return order.Compare(ctx, left, right) }" := rfl

theorem getLevelCalls_pinned : Gen.ProllyMerge.getLevelCalls =
    ["d.to.Valid", "d.to.level", "d.from.level"] := rfl

theorem getLevelSrc_pinned : Gen.ProllyMerge.getLevelSrc =
    "{ if d.to.Valid() { return d.to.level() } return d.from.level() }" := rfl

theorem patchGeneratorFromRootsCalls_pinned : Gen.ProllyMerge.patchGeneratorFromRootsCalls =
    ["from.empty", "newCursorAtRoot", "to.empty", "newCursorAtRoot", "fc.nd.Level", "tc.nd.Level", "fetchChild", "fc.currentRef"] := rfl

theorem patchGeneratorFromRootsSrc_pinned : Gen.ProllyMerge.patchGeneratorFromRootsSrc =
    "{ var fc, tc *cursor if !from.empty() { fc = newCursorAtRoot(ctx, fromNs, from) } else { fc = &cursor{} } if !to.empty() { tc = newCursorAtRoot(ctx, toNs, to) for fc.nd.Level() > tc.nd.Level() { fromChild, err := fetchChild(ctx, fc.nrw, fc.currentRef()) if err != nil { return PatchGenerator[K, O]{}, err } fc = &cursor{ nd: fromChild, idx: 0, parent: fc, nrw: fc.nrw, } } } else { tc = &cursor{} } return PatchGenerator[K, O]{ from: fc, to: tc, order: order, }, nil }" := rfl

theorem pgNextCalls_pinned : Gen.ProllyMerge.pgNextCalls =
    ["td.advanceFromPreviousPatch", "td.findNextPatch"] := rfl

theorem pgNextSrc_pinned : Gen.ProllyMerge.pgNextSrc =
    "{ if td.previousDiffType != NoDiff { patch, diffType, isMore, err = td.advanceFromPreviousPatch(ctx) } if err != nil || diffType != NoDiff { return patch, diffType, true, err } return td.findNextPatch(ctx) }" := rfl

theorem advanceToNextDiffCalls_pinned : Gen.ProllyMerge.advanceToNextDiffCalls =
    ["td.to.Valid", "td.to.CurrentKey", "td.from.advance", "td.to.advance", "skipCommonVisitingParents"] := rfl

theorem advanceToNextDiffSrc_pinned : Gen.ProllyMerge.advanceToNextDiffSrc =
    "{ if td.to.Valid() { td.previousKey = td.to.CurrentKey() } err = td.from.advance(ctx) if err != nil { return err } err = td.to.advance(ctx) if err != nil { return err } var lastSeenKey Item lastSeenKey, td.from, td.to, err = skipCommonVisitingParents(ctx, td.from, td.to) if err != nil { return err } if lastSeenKey != nil { td.previousKey = lastSeenKey } return nil }" := rfl

theorem advanceFromPreviousPatchCalls_pinned : Gen.ProllyMerge.advanceFromPreviousPatchCalls =
    ["td.to.CurrentKey", "td.to.atNodeEnd", "td.to.advance", "td.from.CurrentKey", "td.from.atNodeEnd", "td.from.advance", "td.to.CurrentKey", "td.to.advance", "td.from.CurrentKey", "compareWithNilAsMin", "K", "K", "td.to.Valid", "td.sendRemovedRange", "td.sendModifiedRange", "td.from.advance", "td.from.Valid", "td.to.Valid", "td.sendAddedRange", "td.order.Compare", "K", "td.from.CurrentKey", "K", "td.from.advance", "td.from.CurrentKey", "td.from.atNodeEnd", "td.to.Valid", "td.from.advance", "td.to.CurrentKey", "td.to.atNodeEnd", "td.from.Valid", "td.to.advance", "td.advanceToNextDiff"] := rfl

theorem advanceFromPreviousPatchSrc_pinned : Gen.ProllyMerge.advanceFromPreviousPatchSrc =
    "{ if td.previousPatchLevel > 0 { switch td.previousDiffType { case AddedDiff: td.previousKey = td.to.CurrentKey() for td.to.atNodeEnd() && td.to.parent != nil { td.to = td.to.parent } err = td.to.advance(ctx) if err != nil { return Patch{}, NoDiff, false, err } case RemovedDiff: td.previousKey = td.from.CurrentKey() for td.from.atNodeEnd() && td.from.parent != nil { td.from = td.from.parent } err = td.from.advance(ctx) if err != nil { return Patch{}, NoDiff, false, err } case ModifiedDiff: td.previousKey = td.to.CurrentKey() err = td.to.advance(ctx) if err != nil { return Patch{}, NoDiff, false, err } currentKey := td.from.CurrentKey() if currentKey != nil { cmp, cmpErr := compareWithNilAsMin(ctx, td.order, K(currentKey), K(td.previousKey)) if cmpErr != nil { return Patch{}, NoDiff, false, cmpErr } for cmp != 0 { if cmp > 0 { if !td.to.Valid() { return td.sendRemovedRange(), RemovedDiff, true, nil } patch, diffType, err = td.sendModifiedRange() return patch, diffType, true, err } err = td.from.advance(ctx) if err != nil { return Patch{}, NoDiff, false, err } if !td.from.Valid() { if !td.to.Valid() { return Patch{}, NoDiff, false, nil } patch, diffType, err = td.sendAddedRange() return patch, diffType, true, err } cmp, cmpErr = td.order.Compare(ctx, K(td.from.CurrentKey()), K(td.previousKey)) if cmpErr != nil { return Patch{}, NoDiff, false, cmpErr } } err = td.from.advance(ctx) if err != nil { return Patch{}, NoDiff, false, err } } } } else { switch td.previousDiffType { case RemovedDiff: td.previousKey = td.from.CurrentKey() for td.from.atNodeEnd() && td.from.parent != nil && !td.to.Valid() { td.from = td.from.parent } err = td.from.advance(ctx) if err != nil { return Patch{}, NoDiff, false, err } case AddedDiff: td.previousKey = td.to.CurrentKey() for td.to.atNodeEnd() && td.to.parent != nil && !td.from.Valid() { td.to = td.to.parent } err = td.to.advance(ctx) if err != nil { return Patch{}, NoDiff, false, err } case ModifiedDiff: err = td.advanceToNextDiff(ctx) if err != nil { return Patch{}, NoDiff, false, err } } } return Patch{}, NoDiff, true, nil }" := rfl

theorem findNextPatchCalls_pinned : Gen.ProllyMerge.findNextPatchCalls =
    ["td.from.Valid", "td.to.Valid", "td.to.level", "td.from.CurrentKey", "td.to.CurrentKey", "td.order.Compare", "K", "K", "equalcursorValues", "td.sendModifiedRange", "td.sendModifiedKey", "td.advanceToNextDiff", "td.sendModifiedRange", "td.sendRemovedKey", "td.sendAddedKey", "td.from.Valid", "td.from.nd.Level", "td.sendRemovedRange", "td.sendRemovedKey", "td.to.Valid", "td.to.nd.Level", "td.sendAddedRange", "td.sendAddedKey"] := rfl

theorem findNextPatchSrc_pinned : Gen.ProllyMerge.findNextPatchSrc =
    "{ for td.from.Valid() && td.to.Valid() { level, err := td.to.level() if err != nil { return Patch{}, NoDiff, false, err } f := td.from.CurrentKey() t := td.to.CurrentKey() cmp, cmpErr := td.order.Compare(ctx, K(f), K(t)) if cmpErr != nil { return Patch{}, NoDiff, false, cmpErr } if cmp == 0 { if !equalcursorValues(td.from, td.to) { if level > 0 { patch, diffType, err = td.sendModifiedRange() return patch, diffType, true, err } else { return td.sendModifiedKey(), ModifiedDiff, true, nil } } err = td.advanceToNextDiff(ctx) if err != nil { return Patch{}, NoDiff, false, err } } else if level > 0 { patch, diffType, err = td.sendModifiedRange() return patch, diffType, true, err } else if cmp < 0 { return td.sendRemovedKey(), RemovedDiff, true, nil } else { return td.sendAddedKey(), AddedDiff, true, nil } } if td.from.Valid() { if td.from.nd.Level() > 0 { return td.sendRemovedRange(), RemovedDiff, true, nil } return td.sendRemovedKey(), RemovedDiff, true, nil } if td.to.Valid() { if td.to.nd.Level() > 0 { patch, diffType, err = td.sendAddedRange() return patch, diffType, true, err } return td.sendAddedKey(), AddedDiff, true, nil } return Patch{}, NoDiff, false, nil }" := rfl

theorem pgSplitCalls_pinned : Gen.ProllyMerge.pgSplitCalls =
    ["fmt.Errorf", "fetchChild", "td.from.currentRef", "td.from.nd.Level", "td.sendRemovedRange", "td.sendRemovedKey", "fetchChild", "td.to.currentRef", "td.to.nd.Level", "td.sendAddedRange", "td.sendAddedKey", "td.to.currentRef", "fetchChild", "toChild.LoadSubtrees", "td.from.nd.Level", "td.to.nd.Level", "td.from.currentRef", "fetchChild", "compareWithNilAsMin", "K", "td.from.CurrentKey", "K", "td.from.advance", "td.findNextPatch", "fmt.Errorf"] := rfl

theorem pgSplitSrc_pinned : Gen.ProllyMerge.pgSplitSrc =
    "{ if td.previousPatchLevel == 0 { return Patch{}, NoDiff, false, fmt.Errorf(\"can't split a patch that's already at the leaf level\") } switch td.previousDiffType { case RemovedDiff: fromChild, err := fetchChild(ctx, td.from.nrw, td.from.currentRef()) if err != nil { return Patch{}, NoDiff, false, err } td.from = &cursor{ nd: fromChild, idx: 0, parent: td.from, nrw: td.from.nrw, } if td.from.nd.Level() > 0 { return td.sendRemovedRange(), RemovedDiff, true, nil } else { return td.sendRemovedKey(), RemovedDiff, true, nil } case AddedDiff: toChild, err := fetchChild(ctx, td.to.nrw, td.to.currentRef()) if err != nil { return Patch{}, NoDiff, false, err } td.to = &cursor{ nd: toChild, idx: 0, parent: td.to, nrw: td.to.nrw, } if td.to.nd.Level() > 0 { patch, diffType, err = td.sendAddedRange() return patch, diffType, true, err } else { return td.sendAddedKey(), AddedDiff, true, nil } case ModifiedDiff: toRef := td.to.currentRef() toChild, err := fetchChild(ctx, td.to.nrw, toRef) if err != nil { return Patch{}, NoDiff, false, err } toChild, err = toChild.LoadSubtrees() if err != nil { return Patch{}, NoDiff, false, err } if td.from.nd.Level() == td.to.nd.Level() { fromRef := td.from.currentRef() fromChild, err := fetchChild(ctx, td.from.nrw, fromRef) if err != nil { return Patch{}, NoDiff, false, err } td.from = &cursor{ nd: fromChild, idx: 0, parent: td.from, nrw: td.from.nrw, } for { cmp, cmpErr := compareWithNilAsMin(ctx, td.order, K(td.from.CurrentKey()), K(td.previousKey)) if cmpErr != nil { return Patch{}, NoDiff, false, cmpErr } if cmp > 0 { break } err = td.from.advance(ctx) if err != nil { return Patch{}, NoDiff, false, err } } } td.to = &cursor{ nd: toChild, idx: 0, parent: td.to, nrw: td.to.nrw, } return td.findNextPatch(ctx) default: return Patch{}, NoDiff, false, fmt.Errorf(\"unexpected Diff type: this shouldn't be possible\") } }" := rfl

theorem sendRemovedKeyCalls_pinned : Gen.ProllyMerge.sendRemovedKeyCalls =
    ["newLeafPatch", "td.from.CurrentKey", "td.from.currentValue"] := rfl

theorem sendRemovedKeySrc_pinned : Gen.ProllyMerge.sendRemovedKeySrc =
    "{ patch = newLeafPatch(td.from.CurrentKey(), td.from.currentValue(), nil) td.previousDiffType = RemovedDiff td.previousPatchLevel = 0 return patch }" := rfl

theorem sendAddedKeyCalls_pinned : Gen.ProllyMerge.sendAddedKeyCalls =
    ["newLeafPatch", "td.to.CurrentKey", "td.to.currentValue"] := rfl

theorem sendAddedKeySrc_pinned : Gen.ProllyMerge.sendAddedKeySrc =
    "{ patch = newLeafPatch(td.to.CurrentKey(), nil, td.to.currentValue()) td.previousDiffType = AddedDiff td.previousPatchLevel = 0 return patch }" := rfl

theorem sendModifiedKeyCalls_pinned : Gen.ProllyMerge.sendModifiedKeyCalls =
    ["newLeafPatch", "td.to.CurrentKey", "td.from.currentValue", "td.to.currentValue"] := rfl

theorem sendModifiedKeySrc_pinned : Gen.ProllyMerge.sendModifiedKeySrc =
    "{ patch = newLeafPatch(td.to.CurrentKey(), td.from.currentValue(), td.to.currentValue()) td.previousDiffType = ModifiedDiff td.previousPatchLevel = 0 return patch }" := rfl

theorem sendModifiedRangeCalls_pinned : Gen.ProllyMerge.sendModifiedRangeCalls =
    ["td.to.nd.Level", "td.from.Valid", "td.from.currentValue", "td.to.currentSubtreeSize", "newModifiedPatch", "td.to.CurrentKey", "td.to.currentValue"] := rfl

theorem sendModifiedRangeSrc_pinned : Gen.ProllyMerge.sendModifiedRangeSrc =
    "{ var subtreeCount uint64 level := td.to.nd.Level() var fromValue Item if td.from.Valid() { fromValue = td.from.currentValue() } subtreeCount, err = td.to.currentSubtreeSize() if err != nil { return Patch{}, NoDiff, err } patch = newModifiedPatch(td.previousKey, td.to.CurrentKey(), fromValue, td.to.currentValue(), subtreeCount, level) td.previousDiffType = ModifiedDiff td.previousPatchLevel = level return patch, ModifiedDiff, nil }" := rfl

theorem sendAddedRangeCalls_pinned : Gen.ProllyMerge.sendAddedRangeCalls =
    ["td.to.nd.Level", "td.to.currentSubtreeSize", "newAddedPatch", "td.to.CurrentKey", "td.to.currentValue"] := rfl

theorem sendAddedRangeSrc_pinned : Gen.ProllyMerge.sendAddedRangeSrc =
    "{ level := td.to.nd.Level() subtreeCount, err := td.to.currentSubtreeSize() if err != nil { return Patch{}, NoDiff, err } patch = newAddedPatch(td.previousKey, td.to.CurrentKey(), td.to.currentValue(), subtreeCount, level) td.previousDiffType = AddedDiff td.previousPatchLevel = level return patch, AddedDiff, nil }" := rfl

theorem sendRemovedRangeCalls_pinned : Gen.ProllyMerge.sendRemovedRangeCalls =
    ["td.from.nd.Level", "newRemovedPatch", "td.from.CurrentKey", "td.from.currentValue"] := rfl

theorem sendRemovedRangeSrc_pinned : Gen.ProllyMerge.sendRemovedRangeSrc =
    "{ level := td.from.nd.Level() patch = newRemovedPatch(td.previousKey, td.from.CurrentKey(), td.from.currentValue(), level) td.previousDiffType = RemovedDiff td.previousPatchLevel = level return patch }" := rfl

theorem skipCommonVisitingParentsCalls_pinned : Gen.ProllyMerge.skipCommonVisitingParentsCalls =
    ["from.Valid", "to.Valid", "equalItems", "equalParents", "skipCommonVisitingParents", "from.atNodeEnd", "to.atNodeEnd", "from.CurrentKey", "from.advance", "to.advance"] := rfl

theorem skipCommonVisitingParentsSrc_pinned : Gen.ProllyMerge.skipCommonVisitingParentsSrc =
    "{ parentsAreNew := true for from.Valid() && to.Valid() { if !equalItems(from, to) { return lastSeenKey, from, to, nil } if parentsAreNew { if equalParents(from, to) { return skipCommonVisitingParents(ctx, from.parent, to.parent) } parentsAreNew = false } parentsAreNew = from.atNodeEnd() || to.atNodeEnd() lastSeenKey = from.CurrentKey() if err = from.advance(ctx); err != nil { return lastSeenKey, from, to, err } if err = to.advance(ctx); err != nil { return lastSeenKey, from, to, err } } return lastSeenKey, from, to, err }" := rfl

theorem applyPatchesCalls_pinned : Gen.ProllyMerge.applyPatchesCalls =
    ["edits.NextPatch", "newCursorAtKey", "K", "newCursorAtStart", "newChunker", "cur.clone", "applyLeafPatch", "applyNodePatch", "K", "K", "edits.NextPatch", "order.Compare", "K", "K", "assertTrue", "chkr.Done"] := rfl

theorem applyPatchesSrc_pinned : Gen.ProllyMerge.applyPatchesSrc =
    "{ newMutation, err := edits.NextPatch(ctx) if err != nil { return nil, err } if newMutation.EndKey == nil { return root, nil } var cur *cursor if newMutation.KeyBelowStart != nil { cur, err = newCursorAtKey(ctx, ns, root, K(newMutation.KeyBelowStart), order) } else { cur, err = newCursorAtStart(ctx, ns, root) } if err != nil { return nil, err } chkr, err := newChunker(ctx, cur.clone(), 0, ns, serializer) if err != nil { return nil, err } for { if newMutation.Level == 0 { err = applyLeafPatch(ctx, order, chkr, cur, newMutation.EndKey, newMutation.To) } else { err = applyNodePatch(ctx, order, chkr, cur, K(newMutation.KeyBelowStart), K(newMutation.EndKey), newMutation.To, newMutation.SubtreeCount, newMutation.Level) } if err != nil { return nil, err } prevMutation := newMutation newMutation, err = edits.NextPatch(ctx) if err != nil { return nil, err } nextKey := newMutation.EndKey if nextKey == nil { break } else if prevMutation.EndKey != nil { cmp, cmpErr := order.Compare(ctx, K(nextKey), K(prevMutation.EndKey)) if cmpErr != nil { return nil, cmpErr } assertTrue(cmp >= 0, \"expected patches to be sorted by key, but got %v before %v\", prevMutation, newMutation) } } return chkr.Done(ctx) }" := rfl

theorem applyLeafPatchCalls_pinned : Gen.ProllyMerge.applyLeafPatchCalls =
    ["Seek", "K", "cur.Valid", "order.Compare", "K", "K", "cur.CurrentKey", "cur.currentValue", "equalValues", "bytes.Equal", "cur.CurrentKey", "chkr.advanceTo", "chkr.AddPair", "chkr.UpdatePair", "chkr.DeletePair"] := rfl

theorem applyLeafPatchSrc_pinned : Gen.ProllyMerge.applyLeafPatchSrc =
    "{ err = Seek(ctx, cur, K(newKey), order) if err != nil { return err } var oldValue Item if cur.Valid() { cmp, cmpErr := order.Compare(ctx, K(newKey), K(cur.CurrentKey())) if cmpErr != nil { return cmpErr } if cmp == 0 { oldValue = cur.currentValue() } if equalValues(newValue, oldValue) && bytes.Equal(newKey, cur.CurrentKey()) { return nil } } if oldValue == nil && newValue == nil { return nil } err = chkr.advanceTo(ctx, cur) if err != nil { return err } if oldValue == nil { err = chkr.AddPair(ctx, newKey, newValue) } else { if newValue != nil { err = chkr.UpdatePair(ctx, newKey, newValue) } else { err = chkr.DeletePair(ctx, newKey, oldValue) } } return err }" := rfl

theorem applyNodePatchCalls_pinned : Gen.ProllyMerge.applyNodePatchCalls =
    ["Seek", "K", "chkr.advanceTo", "cur.Valid", "order.Compare", "K", "K", "cur.CurrentKey", "chkr.AddPair", "cur.CurrentKey", "cur.currentValue", "insertNode", "hash.New", "Seek", "K", "chkr.cur.Valid", "order.Compare", "K", "K", "chkr.cur.CurrentKey", "chkr.skip"] := rfl

theorem applyNodePatchSrc_pinned : Gen.ProllyMerge.applyNodePatchSrc =
    "{ if fromKey != nil { err = Seek(ctx, cur, K(fromKey), order) if err != nil { return err } err = chkr.advanceTo(ctx, cur) if cur.Valid() { cmp, cmpErr := order.Compare(ctx, K(fromKey), K(cur.CurrentKey())) if cmpErr != nil { return cmpErr } if cmp == 0 { err = chkr.AddPair(ctx, cur.CurrentKey(), cur.currentValue()) if err != nil { return err } } } } if err != nil { return err } if addr != nil { err = insertNode(ctx, chkr, fromKey, toKey, hash.New(addr), subtree, level, order) if err != nil { return err } } err = Seek(ctx, chkr.cur, K(toKey), order) if err != nil { return err } if chkr.cur.Valid() { cmp, cmpErr := order.Compare(ctx, K(toKey), K(chkr.cur.CurrentKey())) if cmpErr != nil { return cmpErr } if cmp == 0 { err = chkr.skip(ctx) if err != nil { return err } } } return nil }" := rfl

theorem atEndCalls_pinned : Gen.ProllyMerge.atEndCalls =
    ["cur.atNodeEnd", "cur.parent.atNodeEnd"] := rfl

theorem atEndSrc_pinned : Gen.ProllyMerge.atEndSrc =
    "{ return cur.atNodeEnd() && (cur.parent == nil || cur.parent.atNodeEnd()) }" := rfl

end DoltVerif.Tie.ProllyMerge
