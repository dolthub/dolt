import DoltVerif.Gen.Puller
/-!
Tie (C35): the order facts `Model/Puller.lean` builds on are those regenerated from the Go source.

`xstep` runs: pre-check → pull (plan) → WriteTableFile per file → ONE AddTableFilesToManifest →
ref update (setHead | ffCheck; ffCas).  Each theorem below ties one of these edges to the source.
-/
namespace DoltVerif.Tie.Puller
open DoltVerif

/-- `first` occurs, none of `later` occurs before the first occurrence of `first`, and each of `later` occurs -/
def allAfter (first : String) (later : List String) (calls : List String) : Bool :=
  match calls.idxOf? first with
  | none => false
  | some i => (calls.take i).all (fun c => !later.contains c) && later.all (fun l => calls.contains l)

/-- actions.Push: CanFastForward pre-check, then PullChunks, and only then the ref update. -/
theorem push_data_before_ref :
    allAfter "destDB.PullChunks" ["destDB.SetHeadAndWorkingSetToCommit", "destDB.FastForwardWithWorkspaceCheck"]
      Gen.Puller.pushCalls = true
    ∧ Gen.Puller.pushCalls.head? = some "destDB.CanFastForward" := by decide +kernel

theorem push_tag_data_before_ref : Gen.Puller.pushTagCalls = ["destDB.PullChunks", "destDB.SetHead"] := rfl

/-- fetch: PullChunks before every update of a remote-tracking ref. -/
theorem fetch_data_before_ref :
    allAfter "dbData.Ddb.PullChunks" ["dbData.Ddb.SetHead", "dbData.Ddb.SetHeadToCommit", "dbData.Ddb.FastForward"]
      Gen.Puller.fetchCalls = true := by decide +kernel

theorem follow_tags_data_before_ref : Gen.Puller.fetchFollowTagsCalls = ["FetchTag", "destDB.SetHead"] := rfl

/-- backup sync: clone or PullChunks, then CommitRoot. -/
theorem sync_roots_data_before_root :
    allAfter "destDb.PullChunks" ["destDb.CommitRoot"] Gen.Puller.syncRootsCalls = true := by decide +kernel

/-- the table-file writer touches the destination in exactly two places: WriteTableFile per file
(invisible) and ONE AddTableFilesToManifest after all uploads returned without error
(`Phase.planned fs k` → `addFiles d fs`). -/
theorem writer_single_add :
    Gen.Puller.writerDestCalls =
      ["uploadAndFinalizeThread:w.cfg.DestStore.AddTableFilesToManifest", "uploadTempTableFile:w.cfg.DestStore.WriteTableFile"]
    ∧ Gen.Puller.finalizeCalls = ["w.uploadFilesAndAccumulateUpdates", "w.cfg.DestStore.AddTableFilesToManifest"]
    ∧ Gen.Puller.finalizeGuards = ["err != nil"] ∧ Gen.Puller.uploadGuards = ["err != nil"] := by and_intros <;> rfl

/-- Puller.Pull returns the errgroup's Wait: the writer's Run (uploads + AddTableFilesToManifest)
has returned before Pull returns (`PullChunks` = the whole of `planned … → added`). -/
theorem pull_waits_for_writer :
    Gen.Puller.pullReturns = "eg.Wait()" ∧ Gen.Puller.pullCalls.contains "p.wr.Run" = true
    ∧ Gen.Puller.pullCalls.getLast? = some "eg.Wait" :=
  ⟨rfl, by decide +kernel, rfl⟩

/-- `pull`: the two sanity checks of NewPuller and the empty-chunk abort of Pull. -/
theorem puller_guards :
    Gen.Puller.newPullerNotFoundGuards = ["missing.Size() != 0"]
    ∧ Gen.Puller.newPullerUpToDateGuards = ["missing.Size() == 0"]
    ∧ Gen.Puller.pullMissingChunkGuards = ["cChk.IsEmpty()"]
    ∧ Gen.Puller.pullHashUpToDateGuards = ["err == pull.ErrDBUpToDate"]
    ∧ Gen.Puller.pullHashCalls = ["pull.NewPuller", "puller.Pull"] := by and_intros <;> rfl

/-- `cloneRun`: write every file, add them, then set the root. -/
theorem clone_order :
    Gen.Puller.cloneSinkCalls = ["sinkTS.WriteTableFile", "sinkTS.AddTableFilesToManifest", "sinkTS.Commit"] := rfl

/-- `ffCheck` / `ffCas`: new head must be found, ancestor check before the update, and the update
re-validates the head that was read (`curr != currentHeadAddr → ErrMergeNeeded`). -/
theorem fast_forward_guards :
    Gen.Puller.ffNotFoundGuards = ["newHead == nil"]
    ∧ Gen.Puller.ffMergeNeededGuards = ["!found || mergeNeeded(currentHeadAddr, ancestorHash)", "curr != currentHeadAddr"]
    ∧ Gen.Puller.ffAlreadyCommittedGuards = ["curr == h"]
    ∧ Gen.Puller.ffCalls = ["db.readHead", "FindCommonAncestor", "db.update", "ae.Update", "ae.Update"] := by and_intros <;> rfl

/-- `setHead`: the address must be readable in the destination before the dataset map is edited. -/
theorem set_head_guards :
    Gen.Puller.setHeadNotInStoreGuards = ["newHead == nil"]
    ∧ allAfter "db.readHead" ["db.update", "ae.Update"] Gen.Puller.setHeadCalls = true :=
  ⟨rfl, by decide +kernel⟩

/-- `database.update`: read root, edit, compare-and-swap; retried only on the optimistic-lock failure. -/
theorem update_is_cas_loop :
    Gen.Puller.updateCalls = ["db.rt.Root", "editFB", "db.tryCommitChunks"]
    ∧ Gen.Puller.updateRetryGuards.getLast? = some "err != ErrOptimisticLockFailed" := ⟨rfl, rfl⟩

/-- `addFiles`: reference check before the manifest update, skipped only while the root is empty,
and the public entry point passes the store's own `refCheck`. -/
theorem add_files_refcheck :
    Gen.Puller.addTableFilesCalls =
      ["nbs.openChunkSourcesForManifestUpdateAndRebase", "refCheckAllSources", "nbs.updateManifestAddFiles"]
    ∧ Gen.Puller.refCheckGuard = ["!sources.root.IsEmpty()"]
    ∧ Gen.Puller.addTableFilesPublicArgs = ["ctx", "fileIdToNumChunks", "getAddrs", "nbs.refCheck", "nil"] := by and_intros <;> rfl

end DoltVerif.Tie.Puller
