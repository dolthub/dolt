import DoltVerif.Gen.QueryExec
import DoltVerif.Model.Query
/-! Tie (C26): the facts `Model/Query.lean` transliterates are the ones in the current source:
which cuts bind, their bound types (go-mysql-server), how Inclusive / BoundsAreEqual / IsContiguous
are computed, that empty ranges are pruned, the text of the three Range predicates, IterRange's
post-filter condition, the merge join's three-way switch and fillMatchBuf test, the count guard. -/
namespace DoltVerif.Tie.Query
open DoltVerif DoltVerif.Query

def lookup (k : String) (l : List (String × String)) : String := ((l.find? (·.1 == k)).map (·.2)).getD "?"

/-- `cutIsBinding` = `rangeCutIsBinding` -/
theorem cut_is_binding :
    Gen.QueryExec.rangeCutIsBinding = [("Below,Above,AboveNull", "true"), ("BelowNull,AboveAll", "false")] ∧
    cutIsBinding (.below 0) = true ∧ cutIsBinding (.above 0) = true ∧ cutIsBinding .aboveNull = true ∧
    cutIsBinding .belowNull = false ∧ cutIsBinding .aboveAll = false := by and_intros <;> rfl

/-- `lowerClosed` / `upperClosed` = go-mysql-server's `TypeAsLowerBound/UpperBound() == Closed` for every cut -/
theorem cut_bound_types :
    (lookup "BelowNull.TypeAsLowerBound" Gen.QueryExec.cutBoundTypes == "Closed") = lowerClosed .belowNull ∧
    (lookup "AboveNull.TypeAsLowerBound" Gen.QueryExec.cutBoundTypes == "Closed") = lowerClosed .aboveNull ∧
    (lookup "Below.TypeAsLowerBound" Gen.QueryExec.cutBoundTypes == "Closed") = lowerClosed (.below 0) ∧
    (lookup "Above.TypeAsLowerBound" Gen.QueryExec.cutBoundTypes == "Closed") = lowerClosed (.above 0) ∧
    (lookup "AboveAll.TypeAsLowerBound" Gen.QueryExec.cutBoundTypes == "Closed") = lowerClosed .aboveAll ∧
    (lookup "BelowNull.TypeAsUpperBound" Gen.QueryExec.cutBoundTypes == "Closed") = upperClosed .belowNull ∧
    (lookup "AboveNull.TypeAsUpperBound" Gen.QueryExec.cutBoundTypes == "Closed") = upperClosed .aboveNull ∧
    (lookup "Below.TypeAsUpperBound" Gen.QueryExec.cutBoundTypes == "Closed") = upperClosed (.below 0) ∧
    (lookup "Above.TypeAsUpperBound" Gen.QueryExec.cutBoundTypes == "Closed") = upperClosed (.above 0) ∧
    (lookup "AboveAll.TypeAsUpperBound" Gen.QueryExec.cutBoundTypes == "Closed") = upperClosed .aboveAll ∧
    Gen.QueryExec.cutBoundTypes.length = 10 := by decide +kernel

/-- the per-column bound construction and the BoundsAreEqual / contiguity loop `toField`/`contigLoop` follow -/
theorem range_building :
    Gen.QueryExec.prunesEmptyRanges = true ∧ Gen.QueryExec.usesRangeCutIsBinding = true ∧
    Gen.QueryExec.boundLiterals = 
      ["Binding: true", "Inclusive: bound == sql.Closed", "Binding: true", "Inclusive: bound == sql.Closed || nv != v"] ∧
    Gen.QueryExec.fieldAssignments = 
      ["skipRangeMatchCallback := true", "skipRangeMatchCallback = false", "skipRangeMatchCallback = false", "if rangeCutIsBinding(expr.LowerBound)", "if rangeCutIsBinding(expr.UpperBound)", "fields[i].BoundsAreEqual = cmp == 0", "if !field.Hi.Binding || !field.Lo.Binding", "fields[i].BoundsAreEqual = false", "nilBound := field.Lo.Value == nil && field.Hi.Value == nil", "if foundDiscontinuity || nilBound", "isContiguous = false", "foundDiscontinuity = foundDiscontinuity || !fields[i].BoundsAreEqual || nilBound"] ∧
    Gen.QueryExec.getRangeCutValueHead = "if _, ok := cut.(sql.AboveNull); ok { return nil, nil }" := by and_intros <;> rfl

theorem range_aboveStart : Gen.QueryExec.range_aboveStart = 
      "{ order := r.Desc.Comparator() for i := range r.Fields { bound := r.Fields[i].Lo if !bound.Binding { return true, nil } field := r.Desc.GetField(i, t) typ := r.Desc.Types[i] cmp, err := order.CompareValues(ctx, i, field, bound.Value, typ) if err != nil { return false, err } if cmp < 0 { return false, nil } if r.Fields[i].BoundsAreEqual && cmp == 0 { continue } return cmp > 0 || bound.Inclusive, nil } return true, nil }" := rfl
theorem range_belowStop : Gen.QueryExec.range_belowStop = 
      "{ order := r.Desc.Comparator() for i := range r.Fields { bound := r.Fields[i].Hi if !bound.Binding { return true, nil } field := r.Desc.GetField(i, t) typ := r.Desc.Types[i] cmp, err := order.CompareValues(ctx, i, field, bound.Value, typ) if err != nil { return false, err } if cmp > 0 { return false, nil } if r.Fields[i].BoundsAreEqual && cmp == 0 { continue } return cmp < 0 || bound.Inclusive, nil } return true, nil }" := rfl
theorem range_matches : Gen.QueryExec.range_Matches = 
      "{ order := r.Desc.Comparator() for i := range r.Fields { field := r.Desc.GetField(i, t) typ := r.Desc.Types[i] if r.Fields[i].BoundsAreEqual { v := r.Fields[i].Lo.Value cmp, err := order.CompareValues(ctx, i, field, v, typ) if err != nil { return false, err } if cmp == 0 { continue } return false, nil } lo := r.Fields[i].Lo if lo.Binding { cmp, err := order.CompareValues(ctx, i, field, lo.Value, typ) if err != nil { return false, err } if cmp < 0 || (cmp == 0 && !lo.Inclusive) { return false, nil } } hi := r.Fields[i].Hi if hi.Binding { cmp, err := order.CompareValues(ctx, i, field, hi.Value, typ) if err != nil { return false, err } if cmp > 0 || (cmp == 0 && !hi.Inclusive) { return false, nil } } } return true, nil }" := rfl

/-- `IterRange`: key-range path or tree path, post-filter unless contiguous and precise -/
theorem iter_range :
    Gen.QueryExec.iterRangeConds = 
      ["err != nil", "ok", "err != nil", "!rng.SkipRangeMatchCallback || !rng.IsContiguous"] ∧ Gen.QueryExec.iterRangeCalls = 
      ["rng.KeyRangeLookup", "m.Pool", "m.NodeStore", "m.IterKeyRange", "treeIterFromRange"] := ⟨rfl, rfl⟩

theorem merge_join_shape :
    Gen.QueryExec.mergeCompareCases = ["-1:l.leftIter.Next", "0:l.fillMatchBuf", "+1:l.rightIter.Next"] ∧ Gen.QueryExec.fillMatchBufConds = ["err != nil", "errors.Is(err, io.EOF)", "cmpErr != nil", "cmp == 0"] := ⟨rfl, rfl⟩

/-- the count fast path is built only without a source filter; NULLs are skipped only for nullable columns -/
theorem count_guard :
    Gen.QueryExec.countGuard = "err == nil && srcSchema != nil && srcFilter == nil" ∧ Gen.QueryExec.countNextConds = 
      ["l.done", "err == io.EOF", "err != nil", "l.nullable", "l.isKeyRef && k.FieldIsNull(l.idx) || v.FieldIsNull(l.idx)"] := ⟨rfl, rfl⟩

end DoltVerif.Tie.Query
