import DoltVerif.Gen.RefStore
/-! Tie (family RefStore, C20/C21): guards (branch condition → error, in source order) and map
writes of every edit closure, and the shape of the optimistic loop, exactly as `Model/RefStore.lean`
transliterates them.  A changed, dropped or reordered guard or write in the Go code changes the
regenerated list and the corresponding theorem stops type-checking. -/
namespace DoltVerif.Tie.RefStore
open DoltVerif

/-- `RefStore.edit (.commit ..)`: curr ≠ expected → mergeNeeded; curr ≠ 0 ∧ curr = h → alreadyCommitted -/
theorem doCommitGuards : Gen.RefStore.doCommitGuards = [("curr != datasetCurrentAddr", "ErrMergeNeeded"), ("curr != (hash.Hash{}) && curr == h", "ErrAlreadyCommitted")] := rfl
/-- `put m ds h` -/
theorem doCommitWrites : Gen.RefStore.doCommitWrites = ["ae.Update(ctx, datasetID, h)"] := rfl
/-- ancestor pre-check (`RefStore.ffPre`), then `RefStore.edit (.ff ..)` and `wsCleanCheck` -/
theorem doFastForwardGuards : Gen.RefStore.doFastForwardGuards = [("ok && !found || mergeNeeded(currentHeadAddr, ancestorHash)", "ErrMergeNeeded"), ("curr != currentHeadAddr", "ErrMergeNeeded"), ("curr != (hash.Hash{}) && curr == h", "ErrAlreadyCommitted"), ("workingSetPath != \"\" && hasWS && ok && !allowDirtyWorking && stagedHash != workingSetHash", "ErrDirtyWorkspace"), ("workingSetPath != \"\" && hasWS && ok && stagedHash != targetRootHash", "ErrDirtyWorkspace"), ("workingSetPath != \"\" && hasWS && !(ok)", "errors.New(\"Modern Dolt Database required.\")")] := rfl
theorem doFastForwardWrites : Gen.RefStore.doFastForwardWrites = ["ae.Update(ctx, ds.ID(), h)", "ae.Update(ctx, workingSetPath, newWSHash)"] := rfl
/-- `RefStore.edit (.setHead ..)`: type change; unreadable working set -/
theorem doSetHeadGuards : Gen.RefStore.doSetHeadGuards = [("curr != (hash.Hash{}) && currType != headType", "fmt.Errorf(\"cannot change type of head; currently points at %s but new value would point at %s\", currType, headType)"), ("workingSetPath != \"\" && hasWS && !(ok)", "errors.New(\"Modern Dolt Database required.\")")] := rfl
theorem doSetHeadWrites : Gen.RefStore.doSetHeadWrites = ["ae.Update(ctx, ds.ID(), h)", "ae.Update(ctx, workingSetPath, newWSHash)"] := rfl
/-- `RefStore.edit (.tag ..)`: present → tagExists -/
theorem doTagGuards : Gen.RefStore.doTagGuards = [("curr != (hash.Hash{})", "fmt.Errorf(\"tag %s already exists and cannot be altered after creation\", datasetID)")] := rfl
theorem doTagWrites : Gen.RefStore.doTagWrites = ["ae.Update(ctx, datasetID, tagAddr)"] := rfl
/-- `RefStore.edit (.updateWS ..)`: curr ≠ prev → optimisticLock -/
theorem doUpdateWorkingSetGuards : Gen.RefStore.doUpdateWorkingSetGuards = [("curr != currHash", "ErrOptimisticLockFailed")] := rfl
theorem doUpdateWorkingSetWrites : Gen.RefStore.doUpdateWorkingSetWrites = ["ae.Update(ctx, datasetID, addr)"] := rfl
/-- `RefStore.edit (.delete ..)`: curr ≠ firstHash → mergeNeeded; `wsCleanCheck` with allowDirty = false -/
theorem doDeleteGuards : Gen.RefStore.doDeleteGuards = [("curr != firstHash", "ErrMergeNeeded"), ("workingsetIDstr != \"\" && hasWs && ok && stagedHash != workingSetHash", "ErrDirtyWorkspace"), ("workingsetIDstr != \"\" && hasWs && ok && stagedHash != targetRootHash", "ErrDirtyWorkspace"), ("workingsetIDstr != \"\" && hasWs && !(ok)", "errors.New(\"Modern Dolt Database required.\")")] := rfl
/-- `put (put m ds 0) w 0` -/
theorem doDeleteWrites : Gen.RefStore.doDeleteWrites = ["ae.Delete(ctx, datasetIDstr)", "ae.Delete(ctx, workingsetIDstr)"] := rfl
/-- `RefStore.edit (.commitWS ..)`: working set first, then head -/
theorem CommitWithWorkingSetGuards : Gen.RefStore.CommitWithWorkingSetGuards = [("currWS != prevWsHash", "ErrOptimisticLockFailed"), ("currDS != currDSHash", "ErrMergeNeeded")] := rfl
/-- both keys written by one edit: `put (put m cds h) wds wsAddr` -/
theorem CommitWithWorkingSetWrites : Gen.RefStore.CommitWithWorkingSetWrites = ["ae.Update(ctx, commitDS.ID(), commitValRef.TargetHash())", "ae.Update(ctx, workingSetDS.ID(), wsAddr)"] := rfl
/-- `RefStore.buildParents` -/
theorem BuildNewCommitGuards : Gen.RefStore.BuildNewCommitGuards = [("opts.Force && !opts.AmendedCommit.IsEmpty()", "errors.New(\"datas: the Force and AmendedCommit commit options are mutually exclusive\")"), ("!opts.AmendedCommit.IsEmpty() && !hasHead", "fmt.Errorf(\"cannot amend head of dataset '%s': dataset has no head: %w\", ds.ID(), ErrMergeNeeded)"), ("!opts.AmendedCommit.IsEmpty() && headAddr != opts.AmendedCommit", "fmt.Errorf(\"cannot amend head of dataset '%s': is at %s but expected %s: %w\", ds.ID(), headAddr, opts.AmendedCommit, ErrMergeNeeded)"), ("!(!opts.AmendedCommit.IsEmpty()) && hasHead && !opts.Force && !(len(opts.Parents) == 0) && !hasParentHash(opts, headAddr)", "ErrMergeNeeded")] := rfl
theorem BuildNewCommitWrites : Gen.RefStore.BuildNewCommitWrites = [] := rfl
theorem tryCommitChunksGuards : Gen.RefStore.tryCommitChunksGuards = [("!success", "ErrOptimisticLockFailed")] := rfl
theorem tryCommitChunksWrites : Gen.RefStore.tryCommitChunksWrites = [] := rfl
theorem updateGuards : Gen.RefStore.updateGuards = [] := rfl
theorem updateWrites : Gen.RefStore.updateWrites = [] := rfl
/-- `RefStore.step`: read = `rt.Root`; attempt = edit + `tryCommitChunks(new, root)` -/
theorem updateCalls : Gen.RefStore.updateCalls = ["db.rt.Root(ctx)", "db.loadDatasetsRefmap(ctx, root)", "editFB(ctx, datasets)", "db.WriteValue(ctx, types.SerialMessage(data))", "db.tryCommitChunks(ctx, newRootHash, root)"] := rfl
/-- an edit error ends the operation; only ErrOptimisticLockFailed of the CAS loops -/
theorem updateIfs : Gen.RefStore.updateIfs = ["err != nil", "err != nil", "err != nil", "err != nil", "err != ErrOptimisticLockFailed"] := rfl
theorem updateFors : Gen.RefStore.updateFors = ["; ; "] := rfl
/-- the CAS: `rt.Commit(new, last)` -/
theorem tryCommitCalls : Gen.RefStore.tryCommitCalls = ["db.rt.Commit(ctx, newRootHash, currentRootHash)"] := rfl
theorem tryCommitIfs : Gen.RefStore.tryCommitIfs = ["err != nil", "!success"] := rfl
theorem writeCommitCalls : Gen.RefStore.writeCommitCalls = ["ds.MaybeHeadAddr()", "db.doCommit(ctx, ds.ID(), currentAddr, val)"] := rfl
theorem commitWSCalls : Gen.RefStore.commitWSCalls = ["commitDS.MaybeHeadAddr()", "hasParentHash(opts, headHash)", "db.BuildNewCommit(ctx, commitDS, val, opts)", "commitDS.MaybeHeadAddr()", "db.update(.. func ..)"] := rfl
theorem ffPreCalls : Gen.RefStore.ffPreCalls = ["ds.MaybeHeadAddr()", "FindCommonAncestor(ctx, currCommit, newCommit, db, db, db.ns, db.ns)", "mergeNeeded(currentHeadAddr, ancestorHash)", "db.update(.. func ..)"] := rfl
theorem mergeNeededReturns : Gen.RefStore.mergeNeededReturns = ["currentAddr != ancestorAddr"] := rfl

end DoltVerif.Tie.RefStore
