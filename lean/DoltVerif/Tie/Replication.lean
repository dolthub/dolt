import DoltVerif.Gen.Replication
/-!
Tie (C45): the step structure of `Model/Replication.lean` is the one the Go source has.
-/
namespace DoltVerif.Tie.Replication
open DoltVerif

/-- position of the first occurrence; `l.length` when there is none (so `pos a l < pos b l` alone does not say that
`b` occurs) -/
def pos (x : String) (l : List String) : Nat := (l.idxOf? x).getD l.length

/-- `exec`, in source order: the root is read, `h.mu` is locked, `nextHead := root` (only when it differs), the
replicate thread is signalled, and after that the wait is registered; `h.role != RolePrimary` is among the guards
that return nil. -/
theorem execute_order :
    let ev := Gen.Replication.executeEvents
    pos "db.NomsRoot" ev < pos "h.mu.Lock" ev ∧ pos "h.mu.Lock" ev < pos "h.nextHead=root" ev ∧
    pos "h.nextHead=root" ev < pos "h.cond.Signal" ev ∧ pos "h.cond.Signal" ev < pos "h.progressNotifier.Wait" ev ∧
    pos "h.progressNotifier.Wait" ev < ev.length ∧
    Gen.Replication.executeNextHeadGuards = ["root != h.nextHead"] ∧
    Gen.Replication.executeNotPrimaryGuards.contains "h.role != RolePrimary" = true := by decide +kernel

/-- `begin` / `finishOk`, in source order: `toPush := nextHead` and BeginAttempt before the unlock, PullChunks, then
Commit on the standby, then `lastPushedHead := toPush` (only if still primary and no error) and
RecordSuccess; nothing else in the file writes `lastPushedHead` except setRole's reset. -/
theorem attempt_order :
    let ev := Gen.Replication.attemptEvents
    pos "toPush=h.nextHead" ev < pos "h.progressNotifier.BeginAttempt" ev ∧
    pos "h.progressNotifier.BeginAttempt" ev < pos "h.mu.Unlock" ev ∧
    pos "h.mu.Unlock" ev < pos "destDB.PullChunks" ev ∧ pos "destDB.PullChunks" ev < pos "cs.Commit" ev ∧
    pos "cs.Commit" ev < pos "h.lastPushedHead=toPush" ev ∧
    pos "h.lastPushedHead=toPush" ev < pos "h.progressNotifier.RecordSuccess" ev ∧
    pos "h.progressNotifier.RecordSuccess" ev < ev.length ∧
    Gen.Replication.lastPushedGuards = ["h.role == RolePrimary", "err == nil"] ∧
    Gen.Replication.lastPushedWriters =
      ["attemptReplicate:h.lastPushedHead=toPush", "setRole:h.lastPushedHead=hash.Hash{}"] := by decide +kernel

/-- `caughtUp`, `init` and the waiter hand-over (`begin` captures the waiters, a failure gives them back). -/
theorem caught_up_and_waiters :
    Gen.Replication.isCaughtUpBody =
      "{ if h.role != RolePrimary { return true } if h.nextHead == (hash.Hash{}) { return false } return h.nextHead == h.lastPushedHead }" ∧
    Gen.Replication.primaryNeedsInitBody = "{ return h.role == RolePrimary && h.nextHead == (hash.Hash{}) }" ∧
    Gen.Replication.shouldReplicateCalls = ["h.isCaughtUp"] ∧
    Gen.Replication.beginAttemptBody = "{ chs := p.chs p.chs = nil return &Attempt{chs: chs} }" ∧
    Gen.Replication.recordFailureBody = "{ if a.chs != nil { p.chs = append(p.chs, a.chs...) } }" :=
  ⟨rfl, rfl, rfl, rfl, rfl⟩

/-- `completeGraceful`: read-only first, then wait for the hooks, refuse when one is not caught up;
`setRole` zeroes both heads and cancels the running attempt. -/
theorem graceful_order :
    Gen.Replication.gracefulCalls = ["c.setProviderIsStandby", "c.killRunningQueries", "c.waitForHooksToReplicate"] ∧
    Gen.Replication.gracefulNotCaughtUpGuards = ["!state.caughtUp"] ∧
    Gen.Replication.setRoleEvents =
      ["h.mu.Lock", "h.nextHead=hash.Hash{}", "h.lastPushedHead=hash.Hash{}", "h.role=role", "h.cancelReplicate", "h.cond.Signal"] ∧
    pos "c.gracefulTransitionToStandby" Gen.Replication.setRoleAndEpochCalls < pos "h.setRole" Gen.Replication.setRoleAndEpochCalls :=
  ⟨rfl, rfl, rfl, by decide +kernel⟩

/-- the cluster hook replicates working-set updates too (the unit is the whole root) and never
re-replicates a write received as a standby; push-on-write replicates branch heads only. -/
theorem hook_scopes :
    Gen.Replication.commithookExecuteForWorkingSets = "{ return true }" ∧
    Gen.Replication.commithookExecuteForReplicaWrite = "{ return false }" ∧
    Gen.Replication.pushHookExecuteForWorkingSets = "{ return false }" := by and_intros <;> rfl

/-- machine B, `hook b ok`: PullChunks then a forced SetHead; an error is written to the log. -/
theorem push_dataset_order :
    Gen.Replication.pushDatasetCalls = ["ds.MaybeHeadAddr", "destDB.PullChunks", "destDB.SetHead"] ∧
    Gen.Replication.pushHookCalls = ["pushDataset", "ph.out.Write"] ∧
    Gen.Replication.pushHookWarnGuards = ["ph.out != nil && err != nil"] := by and_intros <;> rfl

/-- hooks run only after the database operation succeeded -/
theorem hooks_after_commit :
    Gen.Replication.hooksDbCommitWithWorkingSetCalls = ["db.Database.CommitWithWorkingSet", "db.ExecuteCommitHooks"] ∧
    Gen.Replication.hooksDbCommitWithWorkingSetGuards = ["err == nil"] ∧
    Gen.Replication.hooksDbCommitCalls = ["db.Database.Commit", "db.ExecuteCommitHooks"] ∧
    Gen.Replication.hooksDbCommitGuards = ["err == nil"] ∧
    Gen.Replication.hooksDbSetHeadGuards = ["err == nil"] ∧ Gen.Replication.hooksDbFastForwardGuards = ["err == nil"] := by and_intros <;> rfl

/-- machine B, `commit b` is disabled while b's hook is pending: the SQL commit path takes a lock
keyed by database and working-set ref and releases it in a defer, i.e. after the hooks ran. -/
theorem commit_under_branch_lock :
    Gen.Replication.doCommitLockCalls = ["sess.Provider().TxLocks().Lock", "sess.Provider().TxLocks().Unlock"] ∧
    Gen.Replication.doCommitLockID = ["normalizedDbName + \"\\u0000\" + workingSet.Ref().String()"] ∧
    Gen.Replication.doCommitDeferred.contains "sess.Provider().TxLocks().Unlock" = true :=
  ⟨rfl, rfl, by decide +kernel⟩

end DoltVerif.Tie.Replication
