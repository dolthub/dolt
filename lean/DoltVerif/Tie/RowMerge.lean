import DoltVerif.Gen.RowMerge
import DoltVerif.Model.RowMerge
/-! Tie: the decision structure `Model/RowMerge*.lean` transliterates is exactly the one regenerated
from the Go source (xlate family RowMerge).  Every theorem is `decide`/`rfl`; when dolt's source
changes shape one of them stops type-checking. -/
namespace DoltVerif.Tie.RowMerge
open DoltVerif DoltVerif.RowMerge

/-- processBaseColumn: the left-deleted branch reads the right schema with the right index, the
right-deleted branch reads the **left** schema with the left index (the `fix:` of §11(f)), the
column-dropped branch reads the schema of the side that kept the column. -/
theorem type_lookups :
    Gen.RowMerge.processBaseColumnTypeLookups =
      [("rightType", "m.rightSchema[rightColIdx]"), ("leftType", "m.leftSchema[leftColIdx]"),
       ("modifiedSchema", "m.rightSchema"), ("modifiedSchema", "m.leftSchema"),
       ("sqlType", "modifiedSchema[modifiedColIdx]")] := rfl

/-- … and that is the choice the model makes. -/
theorem model_pick_is_left (m : VM) : leftTypeSchemaInRightDeleteBranch m = m.leftSch := rfl

/-- `canFastMergeProllyTrees`: the model's `canFast` is the conjunction of the conditions that can
be false for tables of the modelled universe (no unique keys, checks, NOT NULL columns, indexes). -/
theorem can_fast_guard :
    Gen.RowMerge.canFastGuard =
      ["!keyless", "!needsUniquenessValidation", "!needsCheckValidation", "!needsNullValidation",
       "!needsSecondaryIndexMerge", "!needsSchemaMigration", "!diffInfo.RightSchemaChange",
       "!diffInfo.LeftSchemaChange"]
    ∧ Gen.RowMerge.needsSchemaMigration = ["mergeInfo.RightNeedsRewrite", "mergeInfo.LeftNeedsRewrite"] := ⟨rfl, rfl⟩

theorem can_fast_model (c : Cfg) :
    canFast c = (!c.vm.keyless && !c.flags.leftNeedsRewrite && !c.flags.rightNeedsRewrite &&
      !c.flags.leftSchemaChange && !c.flags.rightSchemaChange) := rfl

def opOfName : String → Option Op
  | "LeftAdd" => some .leftAdd | "RightAdd" => some .rightAdd | "LeftDelete" => some .leftDelete
  | "RightDelete" => some .rightDelete | "LeftModify" => some .leftModify
  | "RightModify" => some .rightModify | "ConvergentAdd" => some .convergentAdd
  | "ConvergentDelete" => some .convergentDelete | "ConvergentModify" => some .convergentModify
  | "DivergentModifyResolved" => some .divergentModifyResolved
  | "DivergentDeleteConflict" => some .divergentDeleteConflict
  | "DivergentModifyConflict" => some .divergentModifyConflict
  | "DivergentDeleteResolved" => some .divergentDeleteResolved
  | _ => none

/-- every DiffOp constant of three_way_differ.go is an `Op` of the model -/
theorem diff_ops : (Gen.RowMerge.diffOps.map opOfName).all Option.isSome = true
    ∧ Gen.RowMerge.diffOps.length = 13 := by decide +kernel

def counterOf (name : String) : Stats :=
  match name with
  | "Adds" => { adds := 1 }
  | "Modifications" => { modifications := 1 }
  | "Deletes" => { deletes := 1 }
  | _ => {}

/-- the row path's `switch diff.Op`: for every case and every op of the case, the model's `statOf`
increments exactly the counters the source increments unconditionally in that case
("DataConflicts" is recomputed from the artifact map by mergeProllyTable and is not part of
`statOf`) -/
theorem row_path_counters :
    (Gen.RowMerge.rowPathCaseOps.zip Gen.RowMerge.rowPathCaseCounters).all (fun (ops, ctrs) =>
      ops.all (fun o =>
        match opOfName o with
        | some op => statOf op {} == (ctrs.filter (· != "DataConflicts")).foldl (fun s c =>
            { adds := s.adds + (counterOf c).adds, modifications := s.modifications + (counterOf c).modifications,
              deletes := s.deletes + (counterOf c).deletes, dataConflicts := 0 }) {}
        | none => o == "default")) = true
    ∧ Gen.RowMerge.rowPathCaseOps.length = Gen.RowMerge.rowPathCaseCounters.length := by decide +kernel

theorem row_path_cases_shape :
    Gen.RowMerge.rowPathCases.map (·.1) =
      ["LeftAdd,LeftModify", "DivergentModifyConflict,DivergentDeleteConflict", "RightAdd",
       "RightModify", "RightDelete,DivergentDeleteResolved", "DivergentModifyResolved",
       "ConvergentAdd,ConvergentModify,ConvergentDelete", "default"] := rfl

/-- the chunk-level path increments no row counter at all (only DataConflicts, which both paths
overwrite with the artifact count) — the source of known finding `fastmerge-stats` (C30) -/
theorem fast_path_counters : Gen.RowMerge.fastPathCounters = ["DataConflicts"] := rfl

/-- conflicts are recorded for the two divergent conflicts and (keyless) the convergent edits -/
theorem conflict_merger_accepts :
    Gen.RowMerge.conflictMergerAccepts =
      ["DivergentModifyConflict", "DivergentDeleteConflict", "ConvergentAdd", "ConvergentModify",
       "ConvergentDelete"] := rfl

/-- ThreeWayDiffer.Next, dsMatch: the three conditions `mergeKeySlowG` tests, in order, with the
byte comparison; and `leftAndRightSchemasDiffer` is not consulted (known finding
merge-reorder-rawbytes: `rowDiff`/`rawEq` in the model compare stored tuples across schemas). -/
theorem ds_match :
    Gen.RowMerge.dsMatchConds =
      ["d.lDiff.To == nil && d.rDiff.To == nil", "d.lDiff.To == nil || d.rDiff.To == nil",
       "d.lDiff.Type == d.rDiff.Type && bytes.Equal(d.lDiff.To, d.rDiff.To)"]
    ∧ Gen.RowMerge.nextReadsSchemasDiffer = 0 := ⟨rfl, rfl⟩

theorem try_merge_shape :
    Gen.RowMerge.tryMergeFirstStmt = "if m.keyless { return nil, false, nil }"
    ∧ Gen.RowMerge.tryMergeLoops = ["i < len(m.baseToRightMapping)", "i < m.numCols"] := ⟨rfl, rfl⟩

def flagsOfNames (ns : List String) : Flags :=
  ns.foldl (fun f n =>
    match n with
    | "LeftNeedsRewrite" => { f with leftNeedsRewrite := true }
    | "RightNeedsRewrite" => { f with rightNeedsRewrite := true }
    | "LeftSchemaChange" => { f with leftSchemaChange := true }
    | "RightSchemaChange" => { f with rightSchemaChange := true }
    | _ => f) {}

private def a : Col := ⟨1, .int⟩

/-- mergeColumns: the flags of the five one-sided / both-dropped cases are the ones
`mergeOneColumn` sets -/
theorem merge_columns_flags :
    Gen.RowMerge.mergeColumnsCases.map (·.1) =
      ["anc == nil && ours == nil && theirs != nil", "anc == nil && ours != nil && theirs == nil",
       "anc != nil && ours == nil && theirs != nil", "anc != nil && ours != nil && theirs == nil",
       "ours == nil && theirs == nil", "ours != nil && theirs != nil"]
    ∧ (Gen.RowMerge.mergeColumnsFlags.map flagsOfNames).take 5 =
      [ (mergeOneColumn none none (some a)).toOption.map (·.2) |>.getD {},
        (mergeOneColumn none (some a) none).toOption.map (·.2) |>.getD {},
        (mergeOneColumn (some a) none (some a)).toOption.map (·.2) |>.getD {},
        (mergeOneColumn (some a) (some a) none).toOption.map (·.2) |>.getD {},
        (mergeOneColumn (some a) none none).toOption.map (·.2) |>.getD {} ] := ⟨rfl, rfl⟩

theorem rewrite_decisions :
    Gen.RowMerge.mergeProllyTableRewrites =
      [("mergeInfo.LeftNeedsRewrite", "!valueMerger.leftMapping.IsIdentityMapping() || (!keyless && !tm.leftSch.GetValueDescriptor(tm.ns).Equals(mergedValDesc))"),
       ("mergeInfo.RightNeedsRewrite", "!valueMerger.rightMapping.IsIdentityMapping() || (!keyless && !tm.rightSch.GetValueDescriptor(tm.ns).Equals(mergedValDesc))")] := rfl

/-- MaybeShortCircuit: the order of the table-hash tests `mergeTableG` follows -/
theorem short_circuit_order :
    Gen.RowMerge.shortCircuitHashConds =
      ["leftExists && rightExists && ancExists && leftHash == rightHash && leftHash == baseHash",
       "leftExists && rightExists && leftHash == rightHash && !schema.IsKeyless(tm.leftSch)",
       "rightHash == baseHash", "!opts.IsCherryPick && leftHash == baseHash"] := rfl

/-- keyless writer: Insert = cardinality+1 then Put; Delete = cardinality−1 then Put or Delete;
Update = Delete then Insert (`Keyless.insert/delete/update`) -/
theorem keyless_writer :
    Gen.RowMerge.keylessWriter =
      [("Insert", "cardint64(1) k.mut.Put"), ("Delete", "cardint64(-1) k.mut.Put k.mut.Delete"),
       ("Update", "k.Delete k.Insert")] := rfl

/-- conflict resolution: schema checks, only `!ours` rewrites rows; a conflicted key takes their
tuple or is deleted (`resolve`, `applyTheirs`) -/
theorem resolve_shape :
    Gen.RowMerge.resolveConds =
      ["ours && !schema.ColCollsAreEqual(sch.GetAllCols(), ourSch.GetAllCols()) => ",
       "!ours && !schema.ColCollsAreEqual(sch.GetAllCols(), theirSch.GetAllCols()) => ",
       "!ours => resolveProllyConflicts"]
    ∧ Gen.RowMerge.resolveRowUpdate.take 2 = ["len(theirRow) == 0 => mutMap.Delete", "else => mutMap.Put"] := ⟨rfl, rfl⟩

end DoltVerif.Tie.RowMerge
