import DoltVerif.Gen.SchemaFields
import DoltVerif.Gen.TagPurity
import DoltVerif.Model.SchemaSer
/-!
Tie (C37): the attribute ↔ flatbuffer-field table of `Model/SchemaSer.lean` is witnessed row by row
by the write/read flow regenerated from `serialization.go`; the attribute universe of the model
exhausts the Go structs; constants; purity facts of `AutoGenerateTag`.
-/
namespace DoltVerif.Tie.SchemaSer
open DoltVerif DoltVerif.SchemaSer

/-- every row of the model's attribute table is written by Serialize from the named schema
attribute into the named field, and the named sink of Deserialize is rebuilt from that field -/
theorem rows_covered :
    attrTable.all (rowCovered Gen.SchemaFields.writes Gen.SchemaFields.reads) = true := by decide +kernel

def sinks : List String := attrTable.map (·.sink)

/-- every field of Go's `schema.Column` is a sink of some row (a new field breaks this) -/
theorem column_fields_exhausted :
    Gen.SchemaFields.columnStructFields.all (fun f => sinks.contains ("Column." ++ f)) = true := by decide +kernel
theorem index_props_exhausted :
    Gen.SchemaFields.indexPropsFields.all (fun f =>
      sinks.contains ("IndexProperties." ++ (if f.startsWith "embedded:" then (f.drop 9).toString else f))) = true := by decide +kernel
theorem fulltext_props_exhausted :
    Gen.SchemaFields.fullTextPropsFields.all (fun f => sinks.contains ("FullTextProperties." ++ f)) = true := by decide +kernel
theorem vector_props_exhausted :
    Gen.SchemaFields.vectorPropsFields.all (fun f => sinks.contains ("VectorProperties." ++ f)) = true := by decide +kernel
theorem check_methods : Gen.SchemaFields.checkMethods = ["Name", "Expression", "Enforced", "IsNotValid"] := rfl
/-- every setter of the `schema.Schema` interface is a sink -/
theorem schema_setters_exhausted :
    (Gen.SchemaFields.schemaMethods.filter (·.startsWith "Set")).all (fun m => sinks.contains ("Schema." ++ m)) = true := by decide +kernel

/-- every field declared in schema.fbs is written by some Serialize function -/
theorem all_fbs_fields_written :
    Gen.SchemaFields.fbsFields.all (fun f =>
      Gen.SchemaFields.writes.any (fun w => w.2.1 == f.1 && w.2.2.1 == f.2.1)) = true := by decide +kernel

/-- the flatbuffer fields no Deserialize sink depends on — exactly the compatibility/marker fields
and the storage-layout vectors; any other written-but-unread field would be an attribute lost -/
def unreadFields : List (String × String) :=
  (Gen.SchemaFields.fbsFields.filter (fun f =>
    !Gen.SchemaFields.reads.any (fun d => d.2.2.contains (f.1 ++ "." ++ f.2.1) || d.2.2.contains ("if:" ++ f.1 ++ "." ++ f.2.1)))).map
    (fun f => (f.1, f.2.1))
theorem unread_fields : unreadFields =
    [("TableSchema", "HasFeaturesAfterTryAccessors"), ("Column", "DisplayOrder"), ("Column", "UsesAdaptiveEncoding"),
     ("Column", "AdaptiveEncodingBreakingChange"), ("Index", "ValueColumns"), ("Index", "PrimaryKey")] := by decide +kernel

theorem consts :
    Gen.SchemaFields.keylessIdCol = keylessIdCol ∧ Gen.SchemaFields.keylessCardCol = keylessCardCol ∧
    Gen.SchemaFields.fbsTargetRowSizeDefault = defaultTargetRowSize ∧
    Gen.SchemaFields.defaultTupleLengthTarget = defaultTargetRowSize ∧
    Gen.SchemaFields.distanceL2Squared = distanceL2Squared := by and_intros <;> rfl

theorem tag_consts :
    Gen.TagPurity.reservedTagMin = reservedTagMin ∧ Gen.TagPurity.maxTagInit = maxTagInit ∧
    Gen.TagPurity.maxTagFactor = maxTagFactor := by decide +kernel

/-- The complete list of non-local identifiers of `AutoGenerateTag` and of everything it calls:
no package-level variable, no clock, no global random source (`rand.New(rand.NewSource(seed))`
only), no map iteration (the only `range` is over the slice parameter `existingColKinds`), no
goroutine/channel/defer.  The map parameter is consulted through `Contains`/`Size` only. -/
theorem tag_purity :
    Gen.TagPurity.tagFuncs = ["AutoGenerateTag", "deterministicRandomTagGenerator", "simpleString"] ∧
    Gen.TagPurity.free_AutoGenerateTag =
      ["builtin:int64", "builtin:panic", "builtin:uint64", "const:ReservedTagMin",
       "func:deterministicRandomTagGenerator", "method:Contains", "method:Int63n", "method:Size"] ∧
    Gen.TagPurity.free_deterministicRandomTagGenerator =
      ["builtin:append", "builtin:byte", "builtin:int64", "builtin:uint8", "func:simpleString",
       "pkg:binary.LittleEndian", "pkg:binary.LittleEndian.Uint64", "pkg:rand.New", "pkg:rand.NewSource",
       "pkg:sha512.Sum512"] ∧
    Gen.TagPurity.free_simpleString = ["method:ReplaceAllString", "pkg:regexp.MustCompile", "pkg:strings.ToLower"] ∧
    Gen.TagPurity.ranges_AutoGenerateTag = [] ∧
    Gen.TagPurity.ranges_deterministicRandomTagGenerator = ["existingColKinds"] ∧
    Gen.TagPurity.ranges_simpleString = [] ∧
    Gen.TagPurity.concurrency_AutoGenerateTag = [] ∧
    Gen.TagPurity.concurrency_deterministicRandomTagGenerator = [] ∧
    Gen.TagPurity.concurrency_simpleString = [] ∧
    Gen.TagPurity.params_deterministicRandomTagGenerator =
      ["tableName:string", "newColName:string", "existingColKinds:[]types.NomsKind", "newColKind:types.NomsKind"] ∧
    Gen.TagPurity.params_AutoGenerateTag =
      ["existingTags:TagMapping", "tableName:string", "existingColKinds:[]types.NomsKind", "newColName:string",
       "newColKind:types.NomsKind"] := by and_intros <;> rfl

theorem tag_mapping_methods :
    Gen.TagPurity.tagMappingType = "map[uint64]string" ∧
    Gen.TagPurity.tagMapping_Contains = "{ _, ok = tm[tag] return }" ∧
    Gen.TagPurity.tagMapping_Size = "{ return len(tm) }" := by and_intros <;> rfl

/-- `simpleString` = strip `[^a-zA-Z0-9]+`, then lower-case; the seed is built by the call
sequence the model's `seedBytes` follows (kinds, new kind, table, column; SHA-512; LE uint64). -/
theorem seed_shape :
    Gen.TagPurity.simpleStringLits = ["[^a-zA-Z0-9]+", ""] ∧
    Gen.TagPurity.simpleStringCalls = ["regexp.MustCompile", "strings.ToLower", "reg.ReplaceAllString"] ∧
    Gen.TagPurity.seedCalls = ["append", "uint8", "append", "uint8", "simpleString", "simpleString", "append", "[]byte",
      "append", "[]byte", "sha512.Sum512", "rand.New", "rand.NewSource", "int64", "binary.LittleEndian.Uint64"] ∧
    Gen.TagPurity.autoGenCalls = ["uint64", "existingTags.Size", "panic", "deterministicRandomTagGenerator", "uint64",
      "randGen.Int63n", "int64", "existingTags.Contains"] := by and_intros <;> rfl

end DoltVerif.Tie.SchemaSer
