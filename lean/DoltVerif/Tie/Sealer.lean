import DoltVerif.Gen.Sealer
import DoltVerif.Model.Sealer
/-! Tie: the facts `Model/Sealer.lean` uses are exactly those regenerated from the Go source. -/
namespace DoltVerif.Tie.Sealer
open DoltVerif DoltVerif.Sealer

/-- the one literal prefix (Seal writes it, Unseal tests and trims it) -/
theorem sealed_prefix : Gen.Sealer.sealedPrefixLits.map str = [sealedPrefix, sealedPrefix, sealedPrefix] := rfl
/-- AAD = nbfStr ":" expStr, on both sides -/
theorem aad_layout : Gen.Sealer.sealAAD = ["nbfStr", "lit::", "expStr"] ∧ Gen.Sealer.openAAD = Gen.Sealer.sealAAD
    ∧ ∀ a b, aadOf a b = a ++ str ":" ++ b := by
  refine ⟨rfl, rfl, ?_⟩
  intro a b; simp [aadOf, str]
/-- the sealed plaintext is `(&url.URL{Path: u.EscapedPath(), RawQuery: u.RawQuery}).String()`, the nonce the 12 random bytes -/
theorem plaintext : Gen.Sealer.sealPlaintextArg = ["requestURI"]
    ∧ Gen.Sealer.sealRequestURIFields = [("Path", "u.EscapedPath()"), ("RawQuery", "u.RawQuery")]
    ∧ Gen.Sealer.sealRequestURIMethod = "String" ∧ Gen.Sealer.sealNonceArg = ["nonceBytes[:]"]
    ∧ Gen.Sealer.openArgs = ["nonce", "reqBytes"] := by and_intros <;> rfl
theorem window : Gen.Sealer.nbfOffsetMs = -nbfBackMs ∧ Gen.Sealer.expOffsetMs = expAheadMs := by decide +kernel
theorem nonce_len : Gen.Sealer.nonceLen = nonceLen := rfl
/-- the four query keys; `url.Values.Encode` sorts them, the model lists them sorted -/
theorem query_keys : Gen.Sealer.sealQueryKeys.map str = [str "req", str "nbf", str "exp", str "nonce"]
    ∧ ∀ P k now now2 n ep rq, (sealUrl P k now now2 n ep rq).query.map (·.1) = [str "exp", str "nbf", str "nonce", str "req"] := by
  refine ⟨rfl, ?_⟩
  intro P k now now2 n ep rq; rfl
/-- the error returns of Unseal in source order.  `Sealer.Err` / `unsealUrl` list them in this order
less the two `internal error` returns (cipher construction from the key), which the model leaves
out; that correspondence is read off, the statement below is only the Go side. -/
theorem unseal_check_order : Gen.Sealer.unsealErrors =
    ["bad request: cannot unseal URL whose path does not start with /single_symmetric_key_sealed_request/",
     "bad request: cannot unseal URL which does not include an nbf",
     "bad request: cannot unseal URL which does not include an exp",
     "bad request: cannot unseal URL which does not include a nonce",
     "bad request: cannot unseal URL which does not include a req",
     "bad request: error parsing nbf as int64: %w",
     "bad request: error parsing exp as int64: %w",
     "bad request: error parsing nonce as base64 URL encoded: %w",
     "bad request: nbf is invalid",
     "bad request: exp is invalid",
     "internal error: error making aes cipher with key: %w",
     "internal error: error making gcm mode opener with key: %w",
     "bad request: nonce has an invalid length",
     "bad request: error parsing req as base64 URL encoded: %w",
     "bad request: error opening sealed url: %w",
     "bad request: error parsing unsealed request uri: %w",
     "bad request: unsealed request path did not equal request path in sealed request"] := rfl
/-- the tests themselves, including the path-equality check and the window comparisons -/
theorem unseal_conds : Gen.Sealer.unsealConds =
    ["!strings.HasPrefix(u.Path, \"/single_symmetric_key_sealed_request/\")", "!q.Has(\"nbf\")", "!q.Has(\"exp\")",
     "!q.Has(\"nonce\")", "!q.Has(\"req\")", "err != nil", "err != nil", "err != nil",
     "time.Now().Before(time.UnixMilli(nbf))", "time.Now().After(time.UnixMilli(exp))",
     "err != nil", "err != nil", "len(nonce) != aesgcm.NonceSize()", "err != nil", "err != nil", "err != nil",
     "strings.TrimPrefix(u.Path, \"/single_symmetric_key_sealed_request/\") != requestURL.EscapedPath()"] := rfl
theorem unseal_result : Gen.Sealer.unsealResult = ["ret.Path = requestURL.Path", "ret.RawQuery = requestURL.RawQuery"] := rfl

/-- file handler: unseal, trim, then per method -/
theorem handler_prelude : Gen.Sealer.handlerPathInit = "path := strings.TrimLeft(req.URL.Path, \"/\")"
    ∧ Gen.Sealer.handlerCallsBeforeSwitch = ["fh.sealer.Unseal", "strings.TrimLeft"] := ⟨rfl, rfl⟩
/-- GET: Clean, then the three string tests (a disjunction), LastIndex, suffix strip, MaybeParse, Abs, read -/
theorem get_branch : Gen.Sealer.getCalls = ["filepath.Clean", "strings.HasPrefix", "strings.Contains", "strings.HasSuffix",
      "strings.LastIndex", "strings.HasSuffix", "hash.MaybeParse", "fh.fs.Abs", "readTableFile"]
    ∧ Gen.Sealer.getDotDotTests = [("strings.HasPrefix(path)", "../"), ("strings.Contains(path)", "/../"), ("strings.HasSuffix(path)", "/..")]
    ∧ Gen.Sealer.getDotDotTestsAreDisjunction = true
    ∧ Gen.Sealer.getArchiveSuffixStrip = ["fileName,nbs.ArchiveFileSuffix"] := by and_intros <;> rfl
/-- POST/PUT: no Clean; LastIndex, validateFileName, writeTableFile -/
theorem post_branch : Gen.Sealer.postCalls = ["strings.LastIndex", "validateFileName", "writeTableFile"] := rfl
theorem file_names : Gen.Sealer.hashStringLen = 32 ∧ Gen.Sealer.hashPatternParts = ["^([0-9a-v]{", "})$"]
    ∧ str Gen.Sealer.archiveFileSuffix = archiveSuffix
    ∧ Gen.Sealer.validateFileNameInts = [32, 32, 32]
    ∧ Gen.Sealer.validateFileNameCalls = ["len", "hash.MaybeParse", "len", "len", "strings.HasSuffix", "hash.MaybeParse"]
    ∧ Gen.Sealer.maybeParseCalls = ["pattern.FindStringSubmatch", "New", "decode"] := by and_intros <;> rfl

end DoltVerif.Tie.Sealer
