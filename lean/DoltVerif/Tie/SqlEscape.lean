import DoltVerif.Gen.SqlEscape
import DoltVerif.Model.SqlEscape
/-! Tie (C36): the escape table, blank set, hex/identifier constants and the value dispatch of the
model are the ones in the source that is compiled (vendored vitess / go-mysql-server + sqlfmt). -/
namespace DoltVerif.Tie.SqlEscape
open DoltVerif DoltVerif.SqlEscape

/-- the model's `encodeChar` over all 256 bytes = vitess `encodeRef` -/
theorem encode_table : Gen.SqlEscape.encodeRef = encodePairs := by decide +kernel
/-- `SQLDecodeMap` is built as the inverse of `SQLEncodeMap` in `init`; the model's `decodeChar` is
that inverse over all 256 bytes -/
theorem decode_is_inverse :
    (List.range 256).all (fun i => decodeChar (UInt8.ofNat i) ==
      ((Gen.SqlEscape.encodeRef.find? (fun p => p.2 == i)).map (fun p => UInt8.ofNat p.1))) = true := by decide +kernel
theorem map_init : Gen.SqlEscape.mapInit =
    "{ for i := range SQLEncodeMap { SQLEncodeMap[i] = DontEscape SQLDecodeMap[i] = DontEscape } for i := range SQLEncodeMap { if to, ok := encodeRef[byte(i)]; ok { SQLEncodeMap[byte(i)] = to SQLDecodeMap[to] = byte(i) } } }"
    ∧ Gen.SqlEscape.dontEscape = 255 := ⟨rfl, rfl⟩
/-- `encodeBytesSQL` writes `'`, a backslash before an escape letter, `'` -/
theorem writer_shape : Gen.SqlEscape.encodeBytesSQLBytes = [39, 92, 39] ∧
    Gen.SqlEscape.encodeSQLCalls = ["b.Write", "v.IsQuoted", "encodeBytesSQL", "encodeBytesSQLBits", "b.Write"] ∧
    Gen.SqlEscape.quoteAndEscapeStringCalls = ["sqltypes.NewValue", "[]byte", "panic", "v.EncodeSQL", "buf.String"] := by and_intros <;> rfl
/-- `scanString` consults `SQLDecodeMap` after a backslash; `skipBlank` skips exactly the model's blanks -/
theorem reader_shape : Gen.SqlEscape.scanStringUsesDecodeMap = 1 ∧ Gen.SqlEscape.scanStringBytes = [92, 92, 92, 64] ∧
    Gen.SqlEscape.skipBlankBytes = [32, 10, 13, 9] ∧
    (List.range 256).all (fun i => isBlank (UInt8.ofNat i) == Gen.SqlEscape.skipBlankBytes.contains i) = true := by decide +kernel
theorem hex_shape : Gen.SqlEscape.hexEncodeBytesLits = ["0x"] ∧ Gen.SqlEscape.hexEncodeBytesCalls = ["hex.EncodeToString"] ∧
    Gen.SqlEscape.digitValBytes = [48, 57, 48, 97, 102, 97, 65, 70, 65] ∧ Gen.SqlEscape.isLetterBytes = [97, 122, 65, 90, 95] := by and_intros <;> rfl
theorem ident_shape : Gen.SqlEscape.quoteIdentifierLits = ["`%s`", "`", "``"] ∧
    Gen.SqlEscape.quoteIdentifierCalls = ["fmt.Sprintf", "strings.ReplaceAll"] := ⟨rfl, rfl⟩
/-- which SQL types are written through which literal writer (`Cell.str` ↔ quoteAndEscapeString,
`Cell.bin` ↔ hexEncodeBytes); types listed under `singleQuote` / `default` are the type-specific text
forms that are compared by correspondence only -/
theorem value_dispatch : Gen.SqlEscape.valueDispatch =
    [("UINT8", ""), ("TIME,YEAR,DATETIME,TIMESTAMP,DATE", "singleQuote"), ("BINARY,VARBINARY,VECTOR", "hexEncodeBytes"),
     ("TEXT", "quoteAndEscapeString"), ("JSON,ENUM,SET,BLOB", "quoteAndEscapeString"), ("VARCHAR,CHAR", "quoteAndEscapeString"),
     ("GEOMETRY", "singleQuote"), ("default", "")] := rfl
theorem tuple_shape : Gen.SqlEscape.tupleLits = ["", "expected %d values for table schema, got %d", "(", "NULL", "", ")"] ∧
    Gen.SqlEscape.tupleRunes = [44] := ⟨rfl, rfl⟩

/-- CSV field layer: the writer quotes when the *first rune* is `unicode.IsSpace` (decoded with
`utf8.DecodeRuneInString`), the reader trims with the same `unicode.IsSpace`; an unquoted empty field
is NULL; the special strings and the quote doubling are the model's. -/
theorem csv_shape :
    Gen.SqlEscape.csvNeedsQuotesCalls = ["strings.Contains", "strings.ContainsAny", "utf8.DecodeRuneInString", "unicode.IsSpace"] ∧
    Gen.SqlEscape.csvNeedsQuotesLits = ["", "\\.", "\"\x0d\n"] ∧
    Gen.SqlEscape.csvWriteRowLits = ["", "\"\x0d\n", "\"\"", "\x0d\n", "\x0d\n"] ∧
    Gen.SqlEscape.csvReaderTrims = ["rs.line by unicode.IsSpace"] ∧
    Gen.SqlEscape.csvParseFieldKeep = ["len(field) != 0"] ∧
    Gen.SqlEscape.csvParseQuotedBytes = [34, 34, 34] := by and_intros <;> rfl

end DoltVerif.Tie.SqlEscape
