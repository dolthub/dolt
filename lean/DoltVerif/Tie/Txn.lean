import DoltVerif.Gen.Txn
/-! Tie: the shape facts of the Go transaction code that `Model/Txn.lean` transliterates, regenerated
from /repo on every run (xlate family `Txn`).  Each theorem fails to type-check when the source
no longer has the shape the model assumes. -/
namespace DoltVerif.Tie.Txn
open DoltVerif

/-- `doCommit`: the start state is resolved at the tx-start root; inside the retry loop the branch
lock is taken *before* the existing working set is read; `validateWorkingSetForCommit` precedes the
write on both paths (ff and merge); `mergeRoots` only on the second.  The model's `doCommit` is one
atomic step in this order. -/
theorem doCommit_order : Gen.Txn.doCommitCalls =
    ["startPoint.db.ResolveWorkingSetAtRoot", "sess.Provider().TxLocks().Lock", "sess.Provider().TxLocks().Unlock",
     "startPoint.db.ResolveWorkingSet", "existingWs.HashOf", "tx.validateAmendedHead", "workingAndStagedEqual",
     "tx.validateWorkingSetForCommit", "writeFn", "tx.mergeRoots", "tx.validateWorkingSetForCommit", "writeFn"] := rfl

/-- the fast-forward test is `isFF` (working and staged both equal to the start state) -/
theorem ff_condition : Gen.Txn.ffCondition = "newWorkingSet || workingAndStagedEqual(existingWs, startState)" := rfl

/-- both writes are compare-and-swap against the hash read under the lock; a failed CAS loops -/
theorem cas_on_hash_read_under_lock :
    Gen.Txn.writeFnWorkingSetAndHash = ["workingSet@existingWSHash", "mergedWorkingSet@existingWSHash"] ∧
    Gen.Txn.optimisticLockChecks = ["err == datas.ErrOptimisticLockFailed", "err == datas.ErrOptimisticLockFailed"] ∧
    Gen.Txn.maxTxCommitRetries = 5 := by and_intros <;> rfl

/-- `mergedWorking`/`mergedStaged`: ours = existing, theirs = the committing session, base = start
state; each merge skipped when `rootsEqual(existing, ours)` -/
theorem merge_argument_order :
    Gen.Txn.mergeRootsArgs =
      ["existingWorkingSet.WorkingRoot() | workingSet.WorkingRoot() | startState.WorkingRoot()",
       "existingWorkingSet.StagedRoot() | workingSet.StagedRoot() | startState.StagedRoot()"] ∧
    Gen.Txn.mergeRootsGuards =
      ["!rootsEqual(existingWorkingSet.WorkingRoot(), workingSet.WorkingRoot())",
       "!rootsEqual(existingWorkingSet.StagedRoot(), workingSet.StagedRoot())"] := ⟨rfl, rfl⟩

/-- `validateWorkingSetForCommit` inspects the *working* root only (the staged merge is never
validated — the source of the known finding), and a conflict after a non-ff merge rolls back with
the retryable error -/
theorem validate_inspects_working_root_only :
    Gen.Txn.validateInspects =
      ["workingRoot := workingSet.WorkingRoot()", "doltdb.HasConflicts(workingRoot)", "doltdb.HasConstraintViolations(workingRoot)"] ∧
    Gen.Txn.validateNotFfBody = "{ return tx.rollbackAndErr(ctx, retryTransactionError(\"\")) }" := ⟨rfl, rfl⟩

/-- `doltCommit` merges a moved HEAD into the staged root: ours = staged, theirs = current head,
base = head at tx start -/
theorem dolt_commit_head_merge :
    Gen.Txn.doltCommitHeadMergeArgs = ["pending.Roots.Staged | curRootVal | pending.Roots.Head"] := rfl

/-- `startTx`: a transaction records one noms root per database when it starts, after clearing the
session's cached branch states; `Rollback` only clears them -/
theorem snapshot_at_start :
    Gen.Txn.newTransactionSnapshots = ["db.DbData().Ddb.NomsRoot"] ∧
    Gen.Txn.startTransactionCalls = ["d.clear", "NewDoltTransaction", "d.clear", "ctx.SetTransaction"] ∧
    Gen.Txn.rollbackCalls = ["d.clear"] := by and_intros <;> rfl

/-- C25: every DML call of the table writer fans out to each secondary index writer and to the
primary writer (`Model/TxnIdx.lean` applies a row change to the primary map and to every index) -/
theorem writer_fan_out :
    Gen.Txn.writerInsertCalls = ["w.primary.ValidateKeyViolations", "wr.ValidateKeyViolations", "wr.Insert", "w.primary.Insert"] ∧
    Gen.Txn.writerDeleteCalls = ["wr.Delete", "w.primary.Delete"] ∧
    Gen.Txn.writerUpdateCalls = ["wr.Update", "w.primary.Update"] ∧
    Gen.Txn.writerInsertSecondaryLoops = 2 ∧ Gen.Txn.writerDeleteSecondaryLoops = 1 ∧
    Gen.Txn.writerUpdateSecondaryLoops = 1 := by and_intros <;> rfl

end DoltVerif.Tie.Txn
