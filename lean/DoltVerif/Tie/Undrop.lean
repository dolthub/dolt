import DoltVerif.Gen.Undrop
import DoltVerif.Model.Undrop
/-! Tie (family Undrop, C47): holding directory name, step order and guards of the dropped-database
manager and of the provider around it, as `Model/Undrop.lean` transliterates them. -/
namespace DoltVerif.Tie.Undrop
open DoltVerif

/-- `droppedDatabaseDirectoryName`; that `Undrop.holding` is its bytes is `holdingNameBytes` -/
theorem holdingName : Gen.Undrop.holdingName = ".dolt_dropped_databases" := rfl
/-- `Undrop.holding` is that name, byte for byte -/
theorem holdingNameBytes : Gen.Undrop.holdingNameBytes = Undrop.holding := rfl
/-- `Undrop.doltDir` = `dbfactory.DoltDir` -/
theorem doltDirBytes : Gen.Undrop.doltDirBytes = Undrop.doltDir := rfl
/-- `Undrop.managerDrop`: root check, initHolding, MkDirs (root case), prepareToMove, then MoveDir — no Delete -/
theorem mgrDropDatabaseCalls : Gen.Undrop.mgrDropDatabaseCalls = ["dd.fs.Abs(\"\")", "dd.fs.Exists(dbfactory.DoltDir)", "dd.initializeDeletedDatabaseDirectory()", "dd.fs.MkDirs(newSubdirectory)", "dbfactory.DirToDBName(file)", "dd.prepareToMoveDroppedDatabase(ctx, destinationDirectory)", "dd.fs.MoveDir(dropDbLoc, destinationDirectory)"] := rfl
theorem mgrDropDatabaseGuards : Gen.Undrop.mgrDropDatabaseGuards = [] := rfl
theorem mgrDropDatabaseIfs : Gen.Undrop.mgrDropDatabaseIfs = ["err != nil", "rootDbLoc == dropDbLoc", "!doltDirExists", "err != nil", "isRootDatabase", "err != nil", "err != nil"] := rfl
/-- `Undrop.undropDb`: validate before the move -/
theorem mgrUndropDatabaseCalls : Gen.Undrop.mgrUndropDatabaseCalls = ["dd.validateUndropDatabase(ctx, name)", "dd.fs.MoveDir(sourcePath, destinationPath)", "dd.fs.WithWorkingDir(exactCaseName)"] := rfl
theorem mgrUndropDatabaseGuards : Gen.Undrop.mgrUndropDatabaseGuards = [] := rfl
theorem mgrUndropDatabaseIfs : Gen.Undrop.mgrUndropDatabaseIfs = ["err != nil", "err != nil", "err != nil"] := rfl
/-- `Undrop.purge`: Delete only inside the Iter over the holding directory -/
theorem mgrPurgeAllDroppedDatabasesCalls : Gen.Undrop.mgrPurgeAllDroppedDatabasesCalls = ["dd.fs.Exists(droppedDatabaseDirectoryName)", "dd.fs.Delete(path, true)", "dd.fs.Iter(droppedDatabaseDirectoryName, false, callback)"] := rfl
theorem mgrPurgeAllDroppedDatabasesGuards : Gen.Undrop.mgrPurgeAllDroppedDatabasesGuards = [("strings.Contains(path, droppedDatabaseDirectoryName) == false", "true"), ("", "err != nil"), ("iterErr != nil", "iterErr")] := rfl
theorem mgrPurgeAllDroppedDatabasesIfs : Gen.Undrop.mgrPurgeAllDroppedDatabasesIfs = ["!exists", "strings.Contains(path, droppedDatabaseDirectoryName) == false", "iterErr != nil"] := rfl
theorem mgrinitializeDeletedDatabaseDirectoryCalls : Gen.Undrop.mgrinitializeDeletedDatabaseDirectoryCalls = ["dd.fs.Exists(droppedDatabaseDirectoryName)", "dd.fs.MkDirs(droppedDatabaseDirectoryName)"] := rfl
theorem mgrinitializeDeletedDatabaseDirectoryGuards : Gen.Undrop.mgrinitializeDeletedDatabaseDirectoryGuards = [] := rfl
theorem mgrinitializeDeletedDatabaseDirectoryIfs : Gen.Undrop.mgrinitializeDeletedDatabaseDirectoryIfs = ["exists && !isDir", "exists"] := rfl
theorem mgrListDroppedDatabasesCalls : Gen.Undrop.mgrListDroppedDatabasesCalls = ["dd.initializeDeletedDatabaseDirectory()", "dd.fs.Iter(droppedDatabaseDirectoryName, false, callback)"] := rfl
theorem mgrListDroppedDatabasesGuards : Gen.Undrop.mgrListDroppedDatabasesGuards = [("", "false")] := rfl
theorem mgrListDroppedDatabasesIfs : Gen.Undrop.mgrListDroppedDatabasesIfs = ["err != nil", "err != nil"] := rfl
/-- `Undrop.validateUndrop`: list, first fold match, case-insensitive path check -/
theorem mgrvalidateUndropDatabaseCalls : Gen.Undrop.mgrvalidateUndropDatabaseCalls = ["dd.ListDroppedDatabases(ctx)", "hasCaseInsensitiveMatch(availableDatabases, name)", "dd.fs.Abs(exactCaseName)", "hasCaseInsensitivePath(dd.fs, destinationPath)"] := rfl
theorem mgrvalidateUndropDatabaseGuards : Gen.Undrop.mgrvalidateUndropDatabaseGuards = [("!found", "fmt.Errorf(\"no database named '%s' found to undrop. %s\", name, errors.CreateUndropErrorMessage(availableDatabases))"), ("ok", "fmt.Errorf(\"unable to undrop database '%s'; \"+ \"another database already exists with the same case-insensitive name\", exactCaseName)")] := rfl
theorem mgrvalidateUndropDatabaseIfs : Gen.Undrop.mgrvalidateUndropDatabaseIfs = ["err != nil", "!found", "err != nil", "err != nil", "ok"] := rfl
/-- `Undrop.prepareToMove`: Exists, `<target>.backup.<ms>`, Exists, MoveDir -/
theorem mgrprepareToMoveDroppedDatabaseCalls : Gen.Undrop.mgrprepareToMoveDroppedDatabaseCalls = ["dd.fs.Exists(targetPath)", "fmt.Sprintf(\"%s.backup.%d\", targetPath, time.Now().UnixMilli())", "dd.fs.Exists(newPath)", "dd.fs.MoveDir(targetPath, newPath)"] := rfl
theorem mgrprepareToMoveDroppedDatabaseGuards : Gen.Undrop.mgrprepareToMoveDroppedDatabaseGuards = [] := rfl
theorem mgrprepareToMoveDroppedDatabaseIfs : Gen.Undrop.mgrprepareToMoveDroppedDatabaseIfs = ["!exists", "exists", "err != nil"] := rfl
/-- `Undrop.firstFoldMatch`: exact name first (`s == target`), then the first `EqualFold` match -/
theorem hasCaseInsensitiveMatchIfs : Gen.Undrop.hasCaseInsensitiveMatchIfs = ["s == target", "strings.EqualFold(target, s)"] := rfl
/-- the exact-match loop returns immediately -/
theorem hasCaseInsensitiveMatchReturns : Gen.Undrop.hasCaseInsensitiveMatchReturns = ["true, s", "found, exactCaseName"] := rfl
theorem hasCaseInsensitiveMatchCalls : Gen.Undrop.hasCaseInsensitiveMatchCalls = ["strings.EqualFold(target, s)"] := rfl
/-- `Undrop.firstFoldMatch`: the first match wins (`break`) -/
theorem hasCaseInsensitiveMatchBreaks : Gen.Undrop.hasCaseInsensitiveMatchBreaks = 1 := rfl
theorem hasCaseInsensitivePathIfs : Gen.Undrop.hasCaseInsensitivePathIfs = ["strings.EqualFold(filepath.Base(path), filepath.Base(target))", "err != nil"] := rfl
theorem hasCaseInsensitivePathReturns : Gen.Undrop.hasCaseInsensitivePathReturns = ["found", "false, err", "found, nil"] := rfl
theorem hasCaseInsensitivePathCalls : Gen.Undrop.hasCaseInsensitivePathCalls = ["fs.Iter(.. func ..)", "filepath.Dir(target)", "strings.EqualFold(filepath.Base(path), filepath.Base(target))", "filepath.Base(path)", "filepath.Base(target)"] := rfl
theorem hasCaseInsensitivePathBreaks : Gen.Undrop.hasCaseInsensitivePathBreaks = 0 := rfl
/-- `Undrop.dropDb`: unregistered before the manager moves the directory -/
theorem providerDropOrder : Gen.Undrop.providerDropOrder = ["formatDbMapKeyName(name)", "delete(p.databases, dbName)", "delete(p.databases, dbKey)", "delete(p.deletingDatabases, dbKey)", "p.droppedDatabaseManager.DropDatabase(ctx, name, dropDbLoc)"] := rfl
/-- `Undrop.undropDb`: registered after the move -/
theorem providerUndropOrder : Gen.Undrop.providerUndropOrder = ["p.checkDatabaseNameAvailableLocked(name, false /* checkDisk */)", "p.droppedDatabaseManager.UndropDatabase(ctx, name)", "p.registerNewDatabase(ctx, exactCaseName, newEnv)"] := rfl
theorem providerPurgeCalls : Gen.Undrop.providerPurgeCalls = ["p.droppedDatabaseManager.PurgeAllDroppedDatabases(ctx)"] := rfl
/-- `Undrop.findLive`: case-insensitive provider key -/
theorem dbMapKeyReturns : Gen.Undrop.dbMapKeyReturns = ["strings.ToLower(dbName)", "strings.ToLower(dbName) + doltdb.DbRevisionDelimiter + rev"] := rfl
/-- the only function of dropped_databases.go that deletes anything is the purge -/
theorem functionsThatDelete : Gen.Undrop.functionsThatDelete = ["PurgeAllDroppedDatabases"] := rfl

end DoltVerif.Tie.Undrop
