import DoltVerif.Gen.ValCodec
import DoltVerif.Model.ValCodec
/-! Tie: the constants, tables and source shapes `Model/ValCodec.lean` uses are those regenerated from the Go
source (`go/store/val/{codec,tuple,tuple_compare,tuple_descriptor,tuple_builder}.go`, `gen/fb/serial/encoding.go`).
Not regenerated: the decimal special tokens (`types.DecimalNaN/PosInf/NegInf`, go-mysql-server). -/
namespace DoltVerif.Tie.ValCodec
open DoltVerif DoltVerif.ValCodec

/-- every `Encoding` constant of codec.go except `NullEnc` is an encoding of the model, with the
same byte value, in the same order, and there is no other -/
theorem encodings :
    Gen.ValCodec.encodings = ("NullEnc", 0) :: Enc.all.map (fun e => (e.goName, e.code)) := rfl

/-- `sizeFromType` is the model's `fixedSize` (in particular `CellEnc` and the variable-width
encodings are absent, so `makeFixedAccess` stops at them) -/
theorem size_table :
    Gen.ValCodec.sizeFromType = Enc.all.filterMap (fun e => e.fixedSize.map (fun n => (e.goName, n))) := rfl

theorem raw_sizes : Gen.ValCodec.cellSize = 17 ∧ Gen.ValCodec.hash128Size = 16 := by decide +kernel

theorem year_consts :
    (Gen.ValCodec.minYear : Int) = minYear ∧ (Gen.ValCodec.maxYear : Int) = maxYear ∧
    Gen.ValCodec.zeroToken = zeroToken.toNat := by decide +kernel

theorem date_consts :
    Gen.ValCodec.yearShift = yearShift ∧ Gen.ValCodec.monthShift = monthShift ∧
    Gen.ValCodec.monthMask = monthMask ∧ Gen.ValCodec.dayMask = dayMask := by decide +kernel

theorem str_term : Gen.ValCodec.strTerm = 0 ∧ writeByteString [] = [0] := by decide +kernel

theorem tuple_limits :
    Gen.ValCodec.MaxTupleFields = maxTupleFields ∧ Gen.ValCodec.MaxTupleDataSize = maxTupleDataSize ∧
    Gen.ValCodec.countSize = countSize := by decide +kernel

/-- the comparer each case of the Go `switch typ.Enc` calls is the one `compareEnc` uses;
encodings without a case fall to `default: panic` -/
theorem compare_dispatch :
    ∀ e ∈ Enc.all, (Gen.ValCodec.compareDispatch.lookup e.goName).getD "panic" = e.comparer := by decide +kernel

theorem compare_dispatch_default : Gen.ValCodec.compareDispatch.lookup "default" = some "panic" := by decide +kernel

/-- no case of the Go switch names an encoding the model does not know -/
theorem compare_dispatch_closed :
    ∀ p ∈ Gen.ValCodec.compareDispatch, p.1 = "default" ∨ p.1 ∈ Enc.all.map Enc.goName := by decide +kernel

/-- which `read*` feeds each comparer (both sides the same reader, applied to `left`/`right`) -/
def expectedReader : Enc → String
  | .int8 => "readInt8" | .uint8 => "readUint8" | .int16 => "readInt16" | .uint16 => "ReadUint16"
  | .int32 => "readInt32" | .uint32 => "ReadUint32" | .int64 => "readInt64" | .uint64 => "readUint64"
  | .float32 => "readFloat32" | .float64 => "readFloat64" | .bit64 => "readBit64"
  | .decimal => "readDecimal" | .year => "readYear" | .date => "readDate" | .time => "readTime"
  | .datetime => "readDatetime" | .enum => "readEnum" | .set => "readSet" | .string => "readString"
  | .bytes => "readByteString" | .hash128 => "readHash128"
  | .geomAddr | .bytesAddr | .commitAddr | .jsonAddr | .stringAddr => "readAddr"
  | .cell => "readCell"
  | _ => "-"

theorem compare_readers :
    ∀ e ∈ Enc.all, (Gen.ValCodec.compareReaders.lookup e.goName).getD "-" = expectedReader e := by decide +kernel

/-- the integer/float comparers are literally `if l == r {0} else if l < r {-1} else {1}` (= `cmp3`) -/
theorem three_way :
    Gen.ValCodec.threeWayComparers =
      ["compareInt8", "compareUint8", "compareInt16", "compareUint16", "compareInt32", "compareUint32",
       "compareInt64", "compareUint64", "compareFloat32", "compareFloat64"] := rfl

/-- these delegate (`compareDatetime` and `compareDecimal` are in neither list): bit64/set → uint64,
year → int16, time → int64, enum → uint16, date → datetime (instants),
strings/hashes/addresses/cells → `bytes.Compare` -/
theorem delegating :
    Gen.ValCodec.delegatingComparers =
      [("compareBit64", "compareUint64(l, r)"), ("compareYear", "compareInt16(l, r)"),
       ("compareDate", "compareDatetime(l, r)"), ("compareTime", "compareInt64(l, r)"),
       ("compareEnum", "compareUint16(l, r)"), ("compareSet", "compareUint64(l, r)"),
       ("compareString", "bytes.Compare([]byte(l), []byte(r))"), ("compareByteString", "bytes.Compare(l, r)"),
       ("compareHash128", "bytes.Compare(l, r)"), ("compareAddr", "l.Compare(r)"),
       ("compareCell", "bytes.Compare(l[:], r[:])")] := rfl

/-- NULLs first, `bytes.Equal` on the nil side (so nil = empty) — the shape `compareField` follows -/
theorem null_guard :
    Gen.ValCodec.compareNullGuard =
      "if left == nil || right == nil { if bytes.Equal(left, right) { return 0, nil } else if left == nil { return -1, nil } else { return 1, nil } }" := rfl

/-- `NewTuple` trims the NULL suffix before anything else; `trimNullSuffix` tests `!= nil` -/
theorem new_tuple_trims :
    Gen.ValCodec.newTupleFirstStmt = "values = trimNullSuffix(values)" ∧
    Gen.ValCodec.trimNullSuffixBody =
      "{ n := len(values) for i := len(values) - 1; i >= 0; i-- { if values[i] != nil { break } n-- } return values[:n] }" := ⟨rfl, rfl⟩

/-- what the fixed-offset loop of `Compare` assumes — `left[start:stop]` is the field, i.e. the
column is present with exactly its width — and who guarantees it: `makeFixedAccess` only covers
the leading columns that are NOT NULL *and* have a `sizeFromType` (`fixedAccessAux`), and `Build`
refuses a NULL in a NOT NULL column before delegating to `BuildPermissive` (`nullCheck`,
`Builder.build`).  `C15.fastOk_of_build` derives `FastOk` from these two and the field widths
(`C15.WellSized`). -/
theorem fast_path_guard :
    Gen.ValCodec.makeFixedAccessLoop =
      "for _, typ := range types { if typ.Nullable { break } sz, ok := sizeFromType(typ) if !ok { break } off += sz acc = append(acc, off) }" ∧
    Gen.ValCodec.builderBuildBody =
      "{ for i, typ := range tb.Desc.Types { if !typ.Nullable && tb.fields[i] == nil { panic(\"cannot write NULL to non-NULL field: \" + strconv.Itoa(i)) } } return tb.BuildPermissive(ctx, pool) }" ∧
    Gen.ValCodec.compareFastLoop =
      "for i := 0; i < off; i++ { stop = desc.fast[i] cmp, err = compare(ctx, desc.Types[i], left[start:stop], right[start:stop], d.vs) if err != nil { return 0, err } if cmp != 0 { return cmp, nil } start = stop }" :=
  ⟨rfl, rfl, rfl⟩

end DoltVerif.Tie.ValCodec
