import DoltVerif.Gen.VcsOps
import DoltVerif.Model.VcsOpsQuery
/-!
Tie: the facts about the Go source that `Model/VcsOps*.lean` builds in are exactly those regenerated
from `/repo` by `xlate` (family VcsOps) on every run.
-/
namespace DoltVerif.Tie.VcsOps
open DoltVerif

/-- `cherry_pick.cherryPick` merges (ours := the working root, theirs := the picked commit's root,
base := the root of the picked commit's parent number 0) — the roles `Db.cherryRoot` uses. -/
theorem cherry_pick_roles :
    Gen.VcsOps.cherryMergeOursTheirsBase =
      ["roots.Working",
       "dSess.GetDoltDB(ctx,dbName).Resolve(ctx,doltdb.NewCommitSpec(cherryStr),dSess.GetDbData(ctx,dbName).Rsr.CWBHeadRef(ctx)).ToCommit().GetRootValue(ctx)",
       "dSess.GetDoltDB(ctx,dbName).ResolveParent(ctx,dSess.GetDoltDB(ctx,dbName).Resolve(ctx,doltdb.NewCommitSpec(cherryStr),dSess.GetDbData(ctx,dbName).Rsr.CWBHeadRef(ctx)).ToCommit(),0).ToCommit().GetRootValue(ctx)"]
    ∧ Gen.VcsOps.cherryIsCherryPick = VcsOps.cherryPickIsCherry
    ∧ Gen.VcsOps.cherryCleanGuardFirst = true := ⟨rfl, rfl, rfl⟩

/-- the refusals `Db.cherryRoot` / `Db.cherryPick` model: merge commits, root commits, no change -/
theorem cherry_pick_refusals :
    Gen.VcsOps.cherryRefusals =
      ["cherry-picking a merge commit is not supported",
       "cherry-picking a commit without parents is not supported",
       "no changes were made, nothing to commit"] := rfl

/-- `revert.revertCommit` swaps base and theirs: (ours := working root, theirs := root of parent 0,
base := the reverted commit's root), not a cherry-pick merge — the roles `Db.revert` uses. -/
theorem revert_roles :
    Gen.VcsOps.revertMergeOursTheirsBase =
      ["root", "ddb.ResolveParent(ctx,commit,0).ToCommit().GetRootValue(ctx)", "commit.GetRootValue(ctx)"]
    ∧ Gen.VcsOps.revertRootArg = "roots.Working"
    ∧ Gen.VcsOps.revertIsCherryPick = VcsOps.revertIsCherry := ⟨rfl, rfl, rfl⟩

/-- `--abort`: staged := HEAD, working := the recorded pre-merge working root (`Db.abortMerge`) -/
theorem abort_restores :
    Gen.VcsOps.abortStagedRoot = "roots.Head"
    ∧ Gen.VcsOps.abortWorkingRoot = "workingSet.MergeState().PreMergeWorkingRoot()" := ⟨rfl, rfl⟩

/-- rebase: every non-drop step is a cherry-pick; exactly squash and fixup amend (`Db.rebaseStep`) -/
theorem rebase_actions :
    Gen.VcsOps.rebaseActions =
      [("RebaseActionPick", "pick"), ("RebaseActionSquash", "squash"), ("RebaseActionFixup", "fixup"),
       ("RebaseActionDrop", "drop"), ("RebaseActionReword", "reword")]
    ∧ Gen.VcsOps.rebaseAmendActions = ["rebase.RebaseActionSquash", "rebase.RebaseActionFixup"]
    ∧ Gen.VcsOps.rebaseStepIsCherryPick = true
    ∧ Gen.VcsOps.rebaseStepCalls.contains "handleRebaseCherryPick" = true := ⟨rfl, rfl, rfl, by decide +kernel⟩

/-- the stored procedures the harness calls are bound to the implementations the model follows -/
theorem procedure_table :
    Gen.VcsOps.procedures =
      [("dolt_add", "doltAdd"), ("dolt_branch", "doltBranch"), ("dolt_checkout", "doltCheckout"),
       ("dolt_cherry_pick", "doltCherryPick"), ("dolt_commit", "doltCommit"), ("dolt_rebase", "doltRebase"),
       ("dolt_merge", "doltMerge"), ("dolt_reset", "doltReset"), ("dolt_revert", "doltRevert"),
       ("dolt_stash", "doltStash"), ("dolt_tag", "doltTag")] := rfl

/-- stash: push stores the staged root after staging the modified tables and before resetting the
working root; pop merges (ours := working, theirs := stash, base := the stash's head commit) and
restages only the recorded added tables (`Db.stashPush` / `Db.stashPop`).  The last conjunct is the
model's own `stashPopIsCherry`: no regenerated fact says that `handleMerge` is not a cherry-pick merge. -/
theorem stash_shape :
    Gen.VcsOps.stashStoredRoot = "roots.Staged" ∧ Gen.VcsOps.stashPushOrder = true
    ∧ Gen.VcsOps.stashPopOursTheirsBase = ["curWorkingRoot", "stashRoot", "parentRoot"]
    ∧ Gen.VcsOps.stashPopRestages = "doltdb.ToTableNames(meta.TablesToStage,doltdb.DefaultSchemaName)"
    ∧ VcsOps.stashPopIsCherry = false := ⟨rfl, rfl, rfl, rfl, rfl⟩

/-- reset --hard: working := MoveUntrackedTables(working, staged, target), staged := target
(`Db.resetHard` / `moveUntracked`) -/
theorem reset_hard_shape :
    Gen.VcsOps.resetHardMoveUntrackedArgs = ["roots.Working", "roots.Staged", "roots.Head"]
    ∧ Gen.VcsOps.resetHardResult = ["Head=roots.Head", "Working=newWorking", "Staged=roots.Head"] := ⟨rfl, rfl⟩

/-- checkout with the working set: the decision chain of `moveModifiedTables` (`moveModified`) and the
skipped empty hash of `writeTableHashes` (`writeHashes` — the reason a dropped table reappears) -/
theorem checkout_move_shape :
    Gen.VcsOps.moveModifiedConds =
      ["err != nil", "err != nil", "err != nil", "err != nil", "oldHash == changedHash", "oldHash == newHash",
       "force", "err != nil", "!exists", "err != nil", "err != nil", "oldHash == emptyHash", "force",
       "oldHash != changedHash"]
    ∧ Gen.VcsOps.writeTableHashesSkipsEmptyHash = true := ⟨rfl, rfl⟩

/-- dolt_patch orders the table deltas by their *to* name (`patch`: dropped tables first) -/
theorem patch_order :
    Gen.VcsOps.patchSortKey = "tableDeltas[i].ToName.Less(tableDeltas[j].ToName)" := rfl

end DoltVerif.Tie.VcsOps
