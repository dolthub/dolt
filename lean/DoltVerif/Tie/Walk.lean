import DoltVerif.Gen.Fbs
import DoltVerif.Gen.Walk
import DoltVerif.Gen.Loads
import DoltVerif.Model.Walk
/-!
Tie for C09: shape facts about the regenerated tables and the totality of the hand-written
classification over the regenerated schema.  Everything here is `decide` over finite tables.
-/
namespace DoltVerif.Tie.Walk
open DoltVerif DoltVerif.Walk

/-- the translator could type every accessor it met (no ambiguous receiver was skipped) -/
theorem no_unresolved : Gen.Walk.unresolved = [] ∧ Gen.Loads.unresolved = [] := by decide +kernel

/-- every `[ubyte]` / `string` / `[string]` field of every chunk-store table of the *current*
schema is classified (address / embedded message / tuple items / reviewed data) -/
theorem classification_total :
    ∀ f ∈ byteFields Gen.Fbs.tables,
      f ∈ addressFields ∨ f ∈ embeddedFields ∨ f ∈ tupleFields ∨ f ∈ dataFields := by decide +kernel

/-- … and the classification mentions no field that does not exist (any more) -/
theorem classification_exact :
    ∀ f ∈ addressFields ++ embeddedFields ++ tupleFields ++ dataFields,
      f ∈ byteFields Gen.Fbs.tables := by decide +kernel

theorem classification_disjoint :
    (∀ f ∈ addressFields, f ∉ embeddedFields ∧ f ∉ tupleFields ∧ f ∉ dataFields) ∧
    (∀ f ∈ embeddedFields, f ∉ tupleFields ∧ f ∉ dataFields) ∧
    (∀ f ∈ tupleFields, f ∉ dataFields ∨ f = ("CommitClosure", "key_items")) := by decide +kernel

/-- every `.fbs` file identifier is the value of a Go file-id constant -/
theorem file_ids_known :
    ∀ p ∈ Gen.Fbs.fileIds, p.1 ∈ Gen.Fbs.goFileIds.map (·.2) := by decide +kernel

theorem walked_exist :
    ∀ f ∈ walkedFields Gen.Walk.direct Gen.Walk.msgDirect, f ∈ byteFields Gen.Fbs.tables := by decide +kernel

/-- every field the loaders build a hash from is classified as an address field (the data-flow
extraction and the hand classification agree) -/
theorem loads_are_address_fields :
    ∀ f ∈ loadFields Gen.Loads.extracts Gen.Loads.workingSetReads, f ∈ addressFields := by decide +kernel

/-- the message walkers that read addresses at offsets use the schema's offsets field -/
theorem offset_walks :
    ("ProllyTreeNode", "value_items", "value_address_offsets") ∈ Gen.Walk.msgDirect ∧
    ("MergeArtifacts", "key_items", "key_address_offsets") ∈ Gen.Walk.msgDirect ∧
    ("CommitClosure", "key_items", "level0") ∈ Gen.Walk.msgDirect := by decide +kernel

end DoltVerif.Tie.Walk
